-- root of the library: everything that `lake build Shentu` must check
import Shentu.Base.Coins
import Shentu.Base.J
import Shentu.Model.Bank
import Shentu.Model.Oracle
import Shentu.Proofs.Tactics
import Shentu.Proofs.Guards
import Shentu.Proofs.Keys
import Shentu.Proofs.Runs
import Shentu.Proofs.Lists
import Shentu.Proofs.ShieldLoops
import Shentu.Proofs.ShieldMachine
import Shentu.Proofs.BankLemmas
import Shentu.Proofs.CoinsCanon
import Shentu.Proofs.OracleLemmas
import Shentu.Proofs.OracleEffect
import Shentu.Proofs.OracleStep
import Shentu.Props.C14
import Shentu.Props.C15
import Shentu.Base.Dec
import Shentu.Model.Cert
import Shentu.Model.Gov
import Shentu.Proofs.GovLemmas
import Shentu.Proofs.GovStep
import Shentu.Props.C11
import Shentu.Props.C12
import Shentu.Props.C13
import Shentu.Arith.BigOps
import Shentu.Arith.Spec
import Shentu.Proofs.EVMLemmas
import Shentu.Props.C16
import Shentu.Base.Keccak
import Shentu.EVM.Impl
import Shentu.Proofs.MonadLemmas
import Shentu.Proofs.VmLoop
import Shentu.Props.C17
import Shentu.Model.Vesting
import Shentu.Model.Cvm
import Shentu.Props.C01
import Shentu.Props.C18
import Shentu.Props.C19
import Shentu.Props.C18vm
import Shentu.Model.Shield
import Shentu.Model.Staking
import Shentu.Props.C09
import Shentu.Proofs.ShieldLimitLemmas
import Shentu.Proofs.ShieldOps
import Shentu.Proofs.ShieldWrites
import Shentu.Props.C06
import Shentu.Proofs.ShieldCollBasic
import Shentu.Proofs.ShieldExpiry
import Shentu.Proofs.ShieldCollGhost
import Shentu.Proofs.ShieldCollInv
import Shentu.Proofs.ShieldCollOps
import Shentu.Proofs.ShieldCollPayout
import Shentu.Proofs.ShieldCollQueue
import Shentu.Proofs.ShieldCollSteps
import Shentu.Proofs.DecRound
import Shentu.Proofs.ShieldFundLemmas
import Shentu.Proofs.ShieldFundMoney
import Shentu.Proofs.ShieldFundPayout
import Shentu.Proofs.ShieldPoolClaim
import Shentu.Proofs.ShieldPoolExpire
import Shentu.Proofs.ShieldPoolInv
import Shentu.Proofs.ShieldPoolLists
import Shentu.Proofs.ShieldPoolOps
import Shentu.Proofs.ShieldStores
import Shentu.Proofs.ShieldPurchase
import Shentu.Props.C02
import Shentu.Props.C03a
import Shentu.Props.C03b
import Shentu.Props.C04
import Shentu.Props.C04b
import Shentu.Props.C04c
import Shentu.Props.C05
import Shentu.Props.C07
import Shentu.Props.C10
import Shentu.Props.C20
import Shentu.Props.C20order
import Shentu.Props.ShieldTie
import Shentu.Proofs.HaltGov
import Shentu.Proofs.HaltOracle
import Shentu.Proofs.HaltOracleOps
import Shentu.Proofs.HaltShieldBasic
import Shentu.Proofs.HaltShieldExpire
import Shentu.Proofs.HaltShieldOps
import Shentu.Proofs.HaltShieldPayout
import Shentu.Props.C08
import Shentu.Props.C01m
import Shentu.Props.C01s
import Shentu.Props.C01vm
import Shentu.Props.C01run
import Shentu.Proofs.C13HLemmas
import Shentu.Proofs.C13HGov
import Shentu.Props.C13H
import Shentu.Proofs.C11HLemmas
import Shentu.Proofs.C11HSteps
import Shentu.Proofs.C11HHistory
import Shentu.Props.C11H
import Shentu.Proofs.C19HDefs
import Shentu.Proofs.VestingLemmas
import Shentu.Proofs.C19HVm
import Shentu.Proofs.C19HSteps
import Shentu.Proofs.C19HHistory
import Shentu.Props.C19H
import Shentu.Proofs.C12TSum
import Shentu.Proofs.C12TTally
import Shentu.Proofs.C12TShares
import Shentu.Proofs.C12THist
import Shentu.Proofs.C12TVotes
import Shentu.Props.C12T
import Shentu.Model.UbdQueue
import Shentu.Proofs.C09qDefs
import Shentu.Proofs.C09qStore
import Shentu.Proofs.C09qStep
import Shentu.Proofs.C09qBlock
import Shentu.Proofs.C09qDelay
import Shentu.Proofs.C09qPay
import Shentu.Proofs.C09qSpec
import Shentu.Props.C09q
import Shentu.Model.Genesis
import Shentu.Model.GenesisCert
import Shentu.Model.GenesisGov
import Shentu.Proofs.C20GShieldSorted
import Shentu.Proofs.C20GLemmas
import Shentu.Proofs.C20GOracleInv
import Shentu.Proofs.C20GCertLemmas
import Shentu.Proofs.C20GGovImport
import Shentu.Proofs.C20GGovEquiv
import Shentu.Proofs.C20GGovInv
import Shentu.Props.C20G
import Shentu.Props.C20GCert
import Shentu.Props.C20GGov
import Shentu.Proofs.C15HTask
import Shentu.Proofs.C15HPay
import Shentu.Proofs.C15HRun
import Shentu.Props.C15H
import Shentu.Proofs.C14FSteps
import Shentu.Props.C14F
import Shentu.Proofs.ReimbSplit
import Shentu.Props.C04r
import Shentu.Model.CvmTx
import Shentu.Proofs.VmRuns
import Shentu.Proofs.C01txLists
import Shentu.Proofs.C01txMain
import Shentu.Proofs.C01txExamples
import Shentu.Props.C01tx
import Shentu.Props.C01txLib
import Shentu.Model.CvmGas
import Shentu.Props.C17g
import Shentu.Proofs.C19vmRun
import Shentu.Props.C19vm
import Shentu.EVM.MemSpec
import Shentu.Proofs.C16mBytes
import Shentu.Proofs.C16mMem
import Shentu.Proofs.C16mJump
import Shentu.Proofs.C16mExec
import Shentu.Proofs.C16mRep
import Shentu.Props.C16m
import Shentu.Proofs.C09q2Ledger
import Shentu.Props.C09q2
import Shentu.Proofs.C16m2Gas
import Shentu.Props.C16m2
import Shentu.Proofs.C05HLemmas
import Shentu.Props.C05H
import Shentu.Proofs.C04HLog
import Shentu.Proofs.C04HLemmas
import Shentu.Props.C04H
import Shentu.Proofs.C07PLemmas
import Shentu.Props.C07P
