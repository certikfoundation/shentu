/-
  Reference semantics of the EVM arithmetic, comparison, bitwise and shift instructions on 256-bit
  words, following the Ethereum Yellow Paper (Appendix H.2, 0s/10s) and ethereum/execution-specs
  (`vm/instructions/arithmetic.py`, `comparison.py`, `bitwise.py`).  Hand-written, core Lean only,
  independent of the Go sources.  Operands are listed in stack order: first argument = top of stack (μs[0]).
-/
namespace Shentu.Arith.Spec

abbrev Word := BitVec 256

/-- Boolean results are pushed as the words 1 / 0 -/
def ofBool (b : Bool) : Word := if b then 1 else 0

/-- the word whose two's complement value is `i` (`U256.from_signed`; wraps modulo 2^256) -/
def ofSigned (i : Int) : Word := BitVec.ofInt 256 i

/-- ADD: μs[0] + μs[1] modulo 2^256 -/
def add (x y : Word) : Word := x + y
/-- MUL: μs[0] × μs[1] modulo 2^256 -/
def mul (x y : Word) : Word := x * y
/-- SUB: μs[0] − μs[1] modulo 2^256 -/
def sub (x y : Word) : Word := x - y
/-- DIV: 0 if μs[1] = 0, otherwise ⌊μs[0] ÷ μs[1]⌋ -/
def div (x y : Word) : Word := if y = 0 then 0 else BitVec.ofNat 256 (x.toNat / y.toNat)
/-- SDIV: 0 if μs[1] = 0; −2^255 if μs[0] = −2^255 ∧ μs[1] = −1; otherwise sgn(μs[0] ÷ μs[1]) ⌊|μs[0] ÷ μs[1]|⌋
    (signed operands, truncation towards zero) -/
def sdiv (x y : Word) : Word :=
  if y = 0 then 0
  else if x.toInt = -2 ^ 255 ∧ y.toInt = -1 then ofSigned (-2 ^ 255)
  else ofSigned (x.toInt.sign * y.toInt.sign * (x.toInt.natAbs / y.toInt.natAbs : Nat))
/-- MOD: 0 if μs[1] = 0, otherwise μs[0] mod μs[1] -/
def mod (x y : Word) : Word := if y = 0 then 0 else BitVec.ofNat 256 (x.toNat % y.toNat)
/-- SMOD: 0 if μs[1] = 0, otherwise sgn(μs[0]) (|μs[0]| mod |μs[1]|)  (the result has the sign of the dividend) -/
def smod (x y : Word) : Word :=
  if y = 0 then 0 else ofSigned (x.toInt.sign * (x.toInt.natAbs % y.toInt.natAbs : Nat))
/-- ADDMOD: 0 if μs[2] = 0, otherwise (μs[0] + μs[1]) mod μs[2], the sum not being reduced modulo 2^256 -/
def addmod (x y z : Word) : Word := if z = 0 then 0 else BitVec.ofNat 256 ((x.toNat + y.toNat) % z.toNat)
/-- MULMOD: 0 if μs[2] = 0, otherwise (μs[0] × μs[1]) mod μs[2], the product not being reduced modulo 2^256 -/
def mulmod (x y z : Word) : Word := if z = 0 then 0 else BitVec.ofNat 256 ((x.toNat * y.toNat) % z.toNat)
/-- EXP: μs[0] ^ μs[1] modulo 2^256 -/
def exp (x y : Word) : Word := BitVec.ofNat 256 (x.toNat ^ y.toNat)
/-- SIGNEXTEND(b, x): if b < 31, bit `t = 8(b+1) − 1` of x is copied to all higher bits (x is read as a signed
    (b+1)-byte integer); otherwise x is unchanged -/
def signextend (b x : Word) : Word :=
  if b.toNat < 31 then BitVec.signExtend 256 (BitVec.setWidth (8 * (b.toNat + 1)) x) else x

/-- LT / GT: unsigned comparison -/
def lt (x y : Word) : Word := ofBool (decide (x.toNat < y.toNat))
def gt (x y : Word) : Word := ofBool (decide (x.toNat > y.toNat))
/-- SLT / SGT: comparison of the two's complement values -/
def slt (x y : Word) : Word := ofBool (decide (x.toInt < y.toInt))
def sgt (x y : Word) : Word := ofBool (decide (x.toInt > y.toInt))
def eq (x y : Word) : Word := ofBool (decide (x = y))
def iszero (x : Word) : Word := ofBool (decide (x = 0))

def and (x y : Word) : Word := x &&& y
def or (x y : Word) : Word := x ||| y
def xor (x y : Word) : Word := x ^^^ y
def not (x : Word) : Word := ~~~x

/-- BYTE(i, x): the i-th byte of x counted from the most significant one, 0 if i ≥ 32 -/
def byte (i x : Word) : Word :=
  if i.toNat < 32 then (x >>> (8 * (31 - i.toNat))) &&& 0xff#256 else 0

/-- SHL(shift, x): x · 2^shift modulo 2^256 (0 if shift ≥ 256) -/
def shl (s x : Word) : Word := if s.toNat ≥ 256 then 0 else x <<< s.toNat
/-- SHR(shift, x): ⌊x ÷ 2^shift⌋ (0 if shift ≥ 256) -/
def shr (s x : Word) : Word := if s.toNat ≥ 256 then 0 else x >>> s.toNat
/-- SAR(shift, x): ⌊x ÷ 2^shift⌋ on the signed value; for shift ≥ 256 the result is 0 (x ≥ 0) or −1 (x < 0) -/
def sar (s x : Word) : Word :=
  if s.toNat ≥ 256 then (if x.toInt ≥ 0 then 0 else ofSigned (-1)) else ofSigned (x.toInt / 2 ^ s.toNat)

/-! ### Sanity checks of the reference semantics (the corner cases the specification singles out) -/

example : add (BitVec.allOnes 256) 1 = 0 := by decide
example : sub 0 1 = BitVec.allOnes 256 := by decide
example : mul (BitVec.ofNat 256 (2 ^ 255)) 2 = 0 := by decide
example : div 7 0 = 0 ∧ mod 7 0 = 0 ∧ sdiv 7 0 = 0 ∧ smod 7 0 = 0 := by decide
example : sdiv (ofSigned (-2 ^ 255)) (ofSigned (-1)) = ofSigned (-2 ^ 255) := by decide
example : sdiv (ofSigned (-7)) 2 = ofSigned (-3) := by decide
example : smod (ofSigned (-7)) 2 = ofSigned (-1) ∧ smod 7 (ofSigned (-2)) = 1 := by decide
example : addmod (BitVec.allOnes 256) (BitVec.allOnes 256) 7 = 2 := by decide
example : mulmod (BitVec.allOnes 256) (BitVec.allOnes 256) 7 = 1 := by decide
example : signextend 0 0xff#256 = BitVec.allOnes 256 ∧ signextend 0 0x17f#256 = 0x7f#256 ∧ signextend 31 0xff#256 = 0xff#256 := by decide
example : slt (ofSigned (-1)) 0 = 1 ∧ lt (ofSigned (-1)) 0 = 0 := by decide
example : byte 31 0x1234#256 = 0x34#256 ∧ byte 30 0x1234#256 = 0x12#256 ∧ byte 32 0x1234#256 = 0 := by decide
example : shl 256 1 = 0 ∧ shr 256 (BitVec.allOnes 256) = 0 ∧ sar 256 (BitVec.allOnes 256) = BitVec.allOnes 256 := by decide
example : sar 1 (ofSigned (-3)) = ofSigned (-2) := by decide

theorem byte_toNat (i x : Word) :
    (byte i x).toNat = if i.toNat < 32 then x.toNat / 256 ^ (31 - i.toNat) % 256 else 0 := by
  unfold byte
  by_cases hi : i.toNat < 32
  · rw [if_pos hi, if_pos hi, BitVec.toNat_and, BitVec.toNat_ushiftRight, Nat.shiftRight_eq_div_pow,
      show (255#256).toNat = 2 ^ 8 - 1 by decide, Nat.and_two_pow_sub_one_eq_mod, Nat.pow_mul]
  · rw [if_neg hi, if_neg hi]; rfl

/-! ### The Yellow Paper's sign/absolute-value formulas are truncated (T-)division and remainder -/

private theorem sign_natCast_mul (m : Nat) (k : Int) (h : m = 0 → k = 0) : (m : Int).sign * k = k := by
  rcases Nat.eq_zero_or_pos m with h0 | h0
  · simp [h0, h h0]
  · rw [Int.sign_natCast_of_ne_zero (by omega)]; simp

theorem tdiv_eq_sign_mul (a b : Int) : Int.tdiv a b = a.sign * b.sign * ((a.natAbs / b.natAbs : Nat) : Int) := by
  have key : ∀ m n : Nat, (m : Int).sign * (n : Int).sign * ((m / n : Nat) : Int) = ((m / n : Nat) : Int) := by
    intro m n
    rw [Int.mul_assoc, sign_natCast_mul n _ (by intro h; simp [h]), sign_natCast_mul m _ (by intro h; simp [h])]
  rcases Int.natAbs_eq a with ha | ha <;> rcases Int.natAbs_eq b with hb | hb <;>
    generalize a.natAbs = m at * <;> generalize b.natAbs = n at * <;> subst ha hb <;>
    simp only [Int.tdiv_neg, Int.neg_tdiv, Int.sign_neg, ← Int.ofNat_tdiv, Int.neg_mul, Int.mul_neg, Int.neg_neg, key]

theorem tmod_eq_sign_mul (a b : Int) : Int.tmod a b = a.sign * ((a.natAbs % b.natAbs : Nat) : Int) := by
  have key : ∀ m n : Nat, (m : Int).sign * ((m % n : Nat) : Int) = ((m % n : Nat) : Int) := by
    intro m n
    rw [sign_natCast_mul m _ (by intro h; simp [h])]
  rcases Int.natAbs_eq a with ha | ha <;> rcases Int.natAbs_eq b with hb | hb <;>
    generalize a.natAbs = m at * <;> generalize b.natAbs = n at * <;> subst ha hb <;>
    simp only [Int.tmod_neg, Int.neg_tmod, Int.sign_neg, ← Int.ofNat_tmod, Int.neg_mul, key]

/-- SDIV is truncated division of the signed values, wrapped to a word (the special case −2^255 ÷ −1 is the wrap) -/
theorem sdiv_eq_tdiv (x y : Word) (hy : y ≠ 0) : sdiv x y = ofSigned (Int.tdiv x.toInt y.toInt) := by
  unfold sdiv
  rw [if_neg hy, ← tdiv_eq_sign_mul]
  split
  · next h => rw [h.1, h.2]; decide
  · rfl

/-- SMOD is the truncated remainder (sign of the dividend) of the signed values -/
theorem smod_eq_tmod (x y : Word) (hy : y ≠ 0) : smod x y = ofSigned (Int.tmod x.toInt y.toInt) := by
  unfold smod
  rw [if_neg hy, ← tmod_eq_sign_mul]

/-! ### Cross-check against Lean's `BitVec` library (SMT-LIB `bvsdiv`, `bvsrem`, `bvashr`): the signed operations
    above coincide with it, apart from the EVM's explicit zero-divisor convention -/

theorem sdiv_eq_bv (x y : Word) : sdiv x y = if y = 0 then 0 else x.sdiv y := by
  by_cases hy : y = 0
  · simp [sdiv, hy]
  · rw [if_neg hy, sdiv_eq_tdiv x y hy]
    apply BitVec.eq_of_toInt_eq
    rw [BitVec.toInt_sdiv, ofSigned, BitVec.toInt_ofInt]
theorem smod_eq_bv (x y : Word) : smod x y = if y = 0 then 0 else x.srem y := by
  by_cases hy : y = 0
  · simp [smod, hy]
  · rw [if_neg hy, smod_eq_tmod x y hy, ofSigned, ← BitVec.toInt_srem, BitVec.ofInt_toInt]
theorem sar_eq_bv (s x : Word) : sar s x = x.sshiftRight s.toNat := by
  have key : x.sshiftRight s.toNat = ofSigned (x.toInt / 2 ^ s.toNat) := by
    rw [ofSigned, ← BitVec.ofInt_toInt (x := x.sshiftRight s.toNat), BitVec.toInt_sshiftRight, Int.shiftRight_eq_div_pow]
    simp
  rw [key, sar]
  split
  · next h =>
    have hP : (2 : Int) ^ 256 ≤ 2 ^ s.toNat := by exact_mod_cast Nat.pow_le_pow_right (by decide : 0 < 2) h
    have hx := x.isLt
    have hxi := BitVec.toInt_eq_toNat_cond x
    generalize (2 : Int) ^ s.toNat = P at *
    split
    · next h0 => rw [Int.ediv_eq_zero_of_lt h0 (by split at hxi <;> omega)]; rfl
    · next h0 => rw [Int.ediv_eq_neg_one_of_neg_of_le (by omega) (by split at hxi <;> omega)]
  · rfl
end Shentu.Arith.Spec
