import Shentu.Proofs.HaltShieldBasic
/-
  C08, shield part: every message and every end of a claim preserves the fee books (`FeeBooks`).  The operations on the
  collateral book by `FeeFrameP.of_chain` (`HaltShieldBasic`); the purchases, the claim lock and its release and the reward
  withdrawal each by what they do to the fee sums.  (The end-blocker: `HaltShieldExpire`.)
-/
namespace Shentu.Halt
open Shentu Shentu.Shield Shentu.Shield.PoolLm

/-- With the purchase lists and the staking records as they were, the fee books ask of the three amounts only that the service-fee
    total has not shrunk and that neither pot is negative. -/
theorem FeeBooks.pots {s s' : State} (hb : FeeBooks s) (hl : s'.lists = s.lists) (ho : s'.origStakings = s.origStakings)
    (hq : s'.nextPurchase = s.nextPurchase) (hs : s.serviceFees.raw ≤ s'.serviceFees.raw) (hr : 0 ≤ s'.remaining.raw)
    (hbf : 0 ≤ s'.blockFees.raw) : FeeBooks s' := by
  refine ⟨hb.noFeeStake.congr hl ho, hb.origLt.congr ho hq, ?_, hr, hbf⟩
  have := hb.fees
  unfold FeesInv at this ⊢
  rw [feeSum_congr hl]; omega

theorem createReimbursement_frameP {e : Env} {l l' : Ledger} {s s' : State} {pid : Nat} {amount : Int} {b : Addr}
    (h : createReimbursement e l s pid amount b = .ok (l', s')) : FeeFrameP s s' := by
  obtain ⟨left, s1, _, hloop, _, rfl⟩ := createReimbursement_ok e l l' s s' pid amount b h
  exact (FeeFrameP.of_chain (reimburseLoop_chain hloop)).trans (FeeFrame.toP (.of_writes rfl))

/-- `MsgWithdrawRewards`: the fractional change goes back to `remaining`; it is not negative, because the whole part is
    paid out by a bank transfer, which refuses negative amounts -/
theorem withdrawRewards_feeBooks {e : Env} {l l' : Ledger} {s s' : State} {a : Addr}
    (h : withdrawRewards e l s a = .ok (l', s')) (hb : FeeBooks s) : FeeBooks s' := by
  obtain ⟨p, hf, ⟨_, rfl⟩ | ⟨hw0, hsend, rfl⟩⟩ := Limit.withdrawRewards_ok h
  · exact hb
  · have hnn : 0 ≤ Coins.amountOf [(e.bond, Dec.truncateInt p.rewards)] e.bond :=
      Coins.amountOf_nonneg_of_not_anyNegative _ (Ledger.send_not_anyNegative hsend) _
    have hpos : 0 < Dec.truncateInt p.rewards := by
      simp only [Coins.amountOf_cons, beq_self_eq_true, if_true, Coins.amountOf_nil] at hnn
      omega
    refine hb.pots rfl rfl rfl (Int.le_refl _) ?_ hb.money.blockFees
    show 0 ≤ (Dec.add s.remaining (Dec.sub p.rewards (Dec.ofInt (Dec.truncateInt p.rewards)))).raw
    rw [Dec.add_raw]
    have := Dec.change_nonneg p.rewards (Dec.nonneg_of_truncate_pos p.rewards hpos)
    have := hb.money.remaining
    omega

theorem withdrawRewards_rewards {e : Env} {l l' : Ledger} {s s' : State} {a : Addr}
    (h : withdrawRewards e l s a = .ok (l', s')) (hr : RewardsNonneg s) : RewardsNonneg s' := by
  obtain ⟨p, _, ⟨_, rfl⟩ | ⟨_, _, rfl⟩⟩ := Limit.withdrawRewards_ok h
  · exact hr
  · intro x hx
    rcases Keyed.mem_update Provider.addr hx with h1 | ⟨h1, _⟩
    · rw [h1]; exact Int.le_refl 0
    · exact hr x h1

theorem fundBlockRewards_feeBooks (e : Env) (l : Ledger) (s : State) (a : Addr) (amt : Int) (hamt : 0 ≤ amt)
    (hb : FeeBooks s) : FeeBooks (fundBlockRewards e l s a amt).2 := by
  refine hb.pots rfl rfl rfl (Int.le_refl _) hb.money.remaining ?_
  show 0 ≤ (Dec.add s.blockFees (Dec.ofInt amt)).raw
  rw [Dec.add_raw]
  have := Dec.ofInt_nonneg amt hamt
  have := hb.money.blockFees
  omega

theorem feeBooks_shifted {s : State} (hinv : ShieldInv s) (hb : FeeBooks s) {pool : Pool} {lst : PList} {pid : Nat} {a : Addr}
    {id : Nat} {f : Purchase → Purchase} {x : Purchase} (d : Int)
    (hfl : findList s pid a = some lst) (hx : lst.entries.find? (·.id == id) = some x)
    (hfees : (f x).fees = x.fees) (hid : (f x).id = x.id) : FeeBooks (shifted s pool lst id f d) := by
  have hl : (shifted s pool lst id f d).lists = Keyed.put listKey (pid, a) (some _) s.lists :=
    setList_lists s { lst with entries := replaceFirst (·.id == id) f lst.entries }
  refine ⟨hb.noFeeStake.of_from (.put hl ?_) rfl, hb.origLt.congr rfl rfl, ?_, hb.money.congr rfl rfl⟩
  · rw [hfl]
    exact forall_replaceFirst _ f hx (fun en h hpos => ⟨en, h, rfl, hpos⟩)
      (fun hpos => ⟨x, List.mem_of_find?_eq_some hx, hid.symm, hfees ▸ hpos⟩)
  · have := hb.fees
    unfold FeesInv at this ⊢
    rw [feeSum_put hinv (setEntries_key hfl _) hl, hfl, optEntries_some, optEntries_some]
    show _ - _ + sumI _ (replaceFirst (·.id == id) f lst.entries) ≤ s.serviceFees.raw
    rw [sumI_replaceFirst (fun en => en.fees.raw) _ f lst.entries x hx, hfees]
    omega

theorem secureCollaterals_feeBooks {e : Env} {s s' : State} {poolID : Nat} {purchaser : Addr} {purchaseID : Nat} {loss dur : Int}
    (h : secureCollaterals e s poolID purchaser purchaseID loss dur = .ok s') (hinv : ShieldInv s) (hb : FeeBooks s) :
    FeeBooks s' := by
  rcases secureCollaterals_ok h with ⟨pool, lst, pu, q, hfp, _, _, hfl, htgt, hle, rfl⟩
  exact (feeBooks_shifted hinv hb (pool := pool) (f := fun _ => lockedEntry e pu loss dur) (-loss) hfl (lockTarget_find htgt) rfl rfl).frame
    (.of_writes rfl)

theorem restoreShield_feeBooks {s : State} {poolID : Nat} {purchaser : Addr} {id : Nat} {loss : Int}
    (hinv : ShieldInv s) (hb : FeeBooks s) : FeeBooks (restoreShield s poolID purchaser id loss) := by
  obtain h | ⟨pool, lst, en, _, hfl, hen, h⟩ := restoreShield_cases s poolID purchaser id loss <;> rw [h]
  · exact hb
  · exact feeBooks_shifted hinv hb loss hfl hen rfl rfl

/-- the fees a new purchase records: what was paid as fees, nothing for a staked purchase -/
def entryFees (e : Env) (fees : Coins) : Dec := if Coins.isZero fees then Dec.zero else Dec.ofInt (Coins.amountOf fees e.bond)

theorem pcPaid_fees {e : Env} {l l' : Ledger} {s s1 : State} {poolID : Nat} {purchaser : Addr} {fees staking : Coins}
    (h : pcPaid e l s poolID purchaser fees staking = .ok (l', s1)) :
    s1.serviceFees.raw = s.serviceFees.raw + (entryFees e fees).raw ∧
    s1.remaining.raw = s.remaining.raw + (entryFees e fees).raw ∧
    (s1.origStakings = s.origStakings ∨ (entryFees e fees = Dec.zero ∧
      ∃ amt, s1.origStakings = (s.origStakings.filter (·.1 != s.nextPurchase)) ++ [(s.nextPurchase, amt)])) := by
  obtain ⟨-, rfl⟩ := pcPaid_ok_iff.mp h
  unfold entryFees
  cases Coins.isZero fees
  · exact ⟨rfl, rfl, Or.inl rfl⟩
  · exact ⟨(Int.add_zero _).symm, (Int.add_zero _).symm, Or.inr ⟨rfl, _, rfl⟩⟩

/-- `purchaseShield`: the new purchase gets either fees (added to both pots and to the entry) or a staking record under
    its fresh id, never both -/
theorem purchaseCore_feeBooks {e : Env} {l l' : Ledger} {s s' : State} {poolID : Nat} {shield : Coins} {purchaser : Addr}
    {fees staking : Coins} (h : purchaseCore e l s poolID shield purchaser fees staking = .ok (l', s'))
    (hinv : ShieldInv s) (hb : FeeBooks s) : FeeBooks s' := by
  rcases purchaseCore_ok h with ⟨pool, s1, _, _, _, hpaid, hs'⟩
  rw [pcFinish_paid hpaid] at hs'
  have ⟨hsf, hrem, horig⟩ := pcPaid_fees hpaid
  have hf0 : 0 ≤ (entryFees e fees).raw := pcEntry_fees_nonneg hpaid shield
  have hlists : s'.lists =
      Keyed.put listKey (poolID, purchaser) (some (listWith s poolID purchaser (pcEntry e s shield fees))) s.lists := by
    rw [hs']; exact setList_lists s _
  have hwritten : optEntries (some (listWith s poolID purchaser (pcEntry e s shield fees))) = _ := listWith_entries ..
  have hsum := feeSum_put hinv (some_key (listWith_key ..)) hlists
  rw [hwritten, sumI_append, sumI_cons, sumI_nil] at hsum
  have hentry : (pcEntry e s shield fees).fees = entryFees e fees := rfl
  obtain ⟨hn, ho⟩ := hb.noFeeStake.issued hb.origLt hinv.purchaseIdLt (entry := pcEntry e s shield fees) rfl (s' := s')
    (fun l' hl' en hen => by
      rcases mem_put_entries hlists hl' hen with h1 | h1
      · rw [hwritten] at h1
        exact (List.mem_append.mp h1).symm.imp List.mem_singleton.mp mem_optEntries_find
      · exact .inr h1)
    (by rw [hs']; exact horig.imp_right (And.imp_left fun hz => by rw [hentry, hz]; exact Int.le_refl 0))
    (by rw [hs'])
  refine ⟨hn, ho, ?_, ⟨?_, ?_⟩⟩
  · have := hb.fees
    unfold FeesInv at this ⊢
    rw [hsum, hentry, show s'.serviceFees = s1.serviceFees by rw [hs'], hsf]; omega
  · rw [show s'.remaining = s1.remaining by rw [hs'], hrem]
    have := hb.money.remaining
    omega
  · rw [show s'.blockFees = s.blockFees by rw [hs']]; exact hb.money.blockFees

theorem purchase_feeBooks {e : Env} {l l' : Ledger} {s s' : State} {poolID : Nat} {shield : Coins} {purchaser : Addr}
    {staking : Bool} (h : purchase e l s poolID shield purchaser staking = .ok (l', s'))
    (hinv : ShieldInv s) (hb : FeeBooks s) : FeeBooks s' := by
  obtain ⟨_, _, h⟩ := PoolLm.purchase_ok h
  exact purchaseCore_feeBooks h hinv hb

theorem createPool_feeBooks {e : Env} {l l' : Ledger} {s s' : State} {creator : Addr} {shield fees : Coins} {sponsor : String}
    {sponsorAddr : Addr} {limit : Int} (h : createPool e l s creator shield fees sponsor sponsorAddr limit = .ok (l', s'))
    (hinv : ShieldInv s) (hb : FeeBooks s) : FeeBooks s' := by
  refine purchaseCore_feeBooks (PoolLm.createPool_ok h).2.2 ?_ (hb.frame ?_)
  · exact hinv.newPool (np := { id := s.nextPool, shield := 0, limit := limit, active := true, sponsor := sponsor, sponsorAddr := sponsorAddr })
      rfl rfl rfl rfl rfl rfl rfl
  · exact .of_writes rfl

/-- `MsgUpdatePool`: the fee-only path adds to both pots without creating an entry (so the service-fee total can
    exceed the sum of the entries' fees) -/
theorem updatePool_feeBooks {e : Env} {l l' : Ledger} {s s' : State} {updater : Addr} {poolID : Nat} {shield fees : Coins}
    {limit : Int} (h : updatePool e l s updater poolID shield fees limit = .ok (l', s'))
    (hinv : ShieldInv s) (hb : FeeBooks s) : FeeBooks s' := by
  obtain ⟨_, _, pool, s1, hfp, hs1, hcase⟩ := PoolLm.updatePool_ok h
  have hb1 : FeeBooks s1 := by rw [hs1]; exact hb.frame (.of_writes rfl)
  rcases hcase with h | ⟨_, ⟨hsend, rfl⟩ | ⟨_, rfl⟩⟩
  · refine purchaseCore_feeBooks h ?_ hb1
    rw [hs1]; exact hinv.setPool_meta hfp (Limit.relimit_id pool limit) (Limit.relimit_shield pool limit)
  · have := Dec.ofInt_nonneg _ (Coins.amountOf_nonneg_of_not_anyNegative _ (Ledger.send_not_anyNegative hsend) e.bond)
    have := hb1.money.remaining
    exact hb1.pots rfl rfl rfl (by show _ ≤ (Dec.add _ _).raw; rw [Dec.add_raw]; omega)
      (by show 0 ≤ (Dec.add _ _).raw; rw [Dec.add_raw]; omega) hb1.money.blockFees
  · exact hb1

theorem claimEnds_feeBooks {e : Env} {l l' : Ledger} {s s' : State} {pid poolID : Nat} {restoreTo beneficiary : Addr}
    {purchaseID : Nat} {loss : Int} {o : ClaimOutcome}
    (h : claimEnds e l s pid poolID restoreTo beneficiary purchaseID loss o = .ok (l', s'))
    (hinv : ShieldInv s) (hb : FeeBooks s) : FeeBooks s' := by
  unfold claimEnds at h
  cases o with
  | vetoed => cases h; exact hb.frame (.of_writes rfl)
  | rejected => cases h; exact (restoreShield_feeBooks hinv hb).frame (.of_writes rfl)
  | paid => exact hb.frameP (createReimbursement_frameP h)
  | failed => cases h; exact hb

theorem claimEnds_rewards {e : Env} {l l' : Ledger} {s s' : State} {pid poolID : Nat} {restoreTo beneficiary : Addr}
    {purchaseID : Nat} {loss : Int} {o : ClaimOutcome}
    (h : claimEnds e l s pid poolID restoreTo beneficiary purchaseID loss o = .ok (l', s')) (hr : RewardsNonneg s) :
    RewardsNonneg s' := by
  unfold claimEnds at h
  cases o with
  | vetoed => cases h; exact hr.congr rfl
  | rejected => cases h; exact hr.congr (by rw [claimEnd, restoreShield_writes])
  | paid => exact hr.frameP (createReimbursement_frameP h)
  | failed => cases h; exact hr

end Shentu.Halt
