import Shentu.Model.Gov
import Shentu.Proofs.Lists
/-
  Sums over lists, and the accumulator `Gov.Results` of the tally read as a sum of (option, power) contributions.
-/
namespace Shentu.C12TH
open Shentu Shentu.Gov

def sumOn {α} (l : List α) (f : α → Int) : Int := (l.map f).sum

@[simp] theorem sumOn_nil {α} (f : α → Int) : sumOn ([] : List α) f = 0 := rfl
@[simp] theorem sumOn_cons {α} (x : α) (l : List α) (f : α → Int) : sumOn (x :: l) f = f x + sumOn l f := by
  simp [sumOn]
theorem sumOn_append {α} (l₁ l₂ : List α) (f : α → Int) : sumOn (l₁ ++ l₂) f = sumOn l₁ f + sumOn l₂ f := by
  simp [sumOn]
theorem sumOn_map {α β} (g : α → β) (l : List α) (f : β → Int) : sumOn (l.map g) f = sumOn l (fun x => f (g x)) := by
  simp [sumOn, Function.comp_def]
theorem sumOn_congr {α} (l : List α) (f g : α → Int) (h : ∀ x ∈ l, f x = g x) : sumOn l f = sumOn l g := by
  unfold sumOn; rw [List.map_congr_left h]
theorem sumOn_filter {α} (p : α → Bool) (l : List α) (f : α → Int) :
    sumOn (l.filter p) f = sumOn l (fun x => if p x then f x else 0) := by
  induction l with
  | nil => rfl
  | cons x xs ih => by_cases hp : p x <;> simp [hp, ih]
theorem sumOn_add {α} (l : List α) (f g : α → Int) : sumOn l (fun x => f x + g x) = sumOn l f + sumOn l g := by
  induction l with
  | nil => rfl
  | cons x xs ih => simp only [sumOn_cons, ih]; omega
theorem sumOn_le {α} (l : List α) (f g : α → Int) (h : ∀ x ∈ l, f x ≤ g x) : sumOn l f ≤ sumOn l g := by
  induction l with
  | nil => exact Int.le_refl _
  | cons x xs ih =>
    have := h x List.mem_cons_self
    have := ih (fun y hy => h y (List.mem_cons_of_mem _ hy))
    simp only [sumOn_cons]; omega
theorem sumOn_zero {α} (l : List α) (f : α → Int) (h : ∀ x ∈ l, f x = 0) : sumOn l f = 0 := by
  induction l with
  | nil => rfl
  | cons x xs ih => rw [sumOn_cons, h x List.mem_cons_self, ih (fun y hy => h y (List.mem_cons_of_mem _ hy))]; rfl
theorem sumOn_nonneg {α} (l : List α) (f : α → Int) (h : ∀ x ∈ l, 0 ≤ f x) : 0 ≤ sumOn l f := sum_map_nonneg f h
theorem sumOn_perm {α} {l₁ l₂ : List α} (p : l₁.Perm l₂) (f : α → Int) : sumOn l₁ f = sumOn l₂ f := sum_map_perm f p
theorem sumOn_flatMap {α β} (l : List α) (g : α → List β) (f : β → Int) :
    sumOn (l.flatMap g) f = sumOn l (fun x => sumOn (g x) f) := by
  induction l with
  | nil => rfl
  | cons x xs ih => simp [List.flatMap_cons, sumOn_append, ih]
theorem sumOn_filterMap {α β} (l : List α) (g : α → Option β) (h : β → Int) :
    sumOn (l.filterMap g) h = sumOn l (fun x => match g x with | some y => h y | none => 0) := by
  induction l with
  | nil => rfl
  | cons x xs ih =>
    simp only [List.filterMap_cons, sumOn_cons]
    cases g x <;> simp [ih]
theorem sumOn_filter_le {α} (p : α → Bool) (l : List α) (f : α → Int) (h : ∀ x ∈ l, 0 ≤ f x) :
    sumOn (l.filter p) f ≤ sumOn l f := by
  rw [sumOn_filter]
  apply sumOn_le
  intro x hx
  have := h x hx
  split <;> omega
theorem sumOn_filter_ite {α} (p q : α → Bool) (l : List α) (f : α → Int) :
    sumOn (l.filter p) (fun x => if q x then f x else 0) = sumOn (l.filter (fun x => q x && p x)) f := by
  rw [sumOn_filter, sumOn_filter]
  apply sumOn_congr
  intro x _
  cases p x <;> cases q x <;> rfl
theorem sumOn_split {α} (p : α → Bool) (l : List α) (f : α → Int) :
    sumOn l f = sumOn (l.filter p) f + sumOn (l.filter (fun x => !p x)) f := sum_filter_split p f l
theorem sumOn_mul_left {α} (c : Int) (l : List α) (f : α → Int) : sumOn l (fun x => c * f x) = c * sumOn l f := by
  induction l with
  | nil => simp
  | cons x xs ih => simp only [sumOn_cons, ih, Int.mul_add]
theorem sumOn_const {α} (c : Int) (l : List α) : sumOn l (fun _ => c) = c * l.length := by
  induction l with
  | nil => simp
  | cons x xs ih => simp only [sumOn_cons, ih, List.length_cons, Int.natCast_add, Int.mul_add]; simp; omega

theorem sumOn_mul_right {α} (c : Int) (l : List α) (f : α → Int) : sumOn l (fun x => f x * c) = sumOn l f * c := by
  simp only [Int.mul_comm _ c, sumOn_mul_left]

theorem sumOn_le_slack {α} (l : List α) (f g : α → Int) (c : Int) (h : ∀ x ∈ l, f x ≤ g x + c) :
    sumOn l f ≤ sumOn l g + l.length * c := by
  have := sumOn_le l f (fun x => g x + c) h
  rwa [sumOn_add, sumOn_const, Int.mul_comm] at this

theorem sumOn_comm {α β} (l : List α) (m : List β) (f : α → β → Int) :
    sumOn l (fun x => sumOn m (f x)) = sumOn m (fun y => sumOn l (fun x => f x y)) := by
  induction l with
  | nil => exact (sumOn_zero m _ (fun _ _ => rfl)).symm
  | cons x xs ih => simp only [sumOn_cons, ih, sumOn_add]

theorem sumOn_unique {α} (key : α → Addr) (l : List α) (f : α → Int) (hn : (l.map key).Nodup) (x : α) (hx : x ∈ l) :
    sumOn l (fun y => if key y == key x then f y else 0) = f x := by
  induction l with
  | nil => cases hx
  | cons y ys ih =>
    have hn' := List.nodup_cons.mp hn
    simp only [sumOn_cons]
    rcases List.mem_cons.mp hx with h | h
    · subst h
      rw [sumOn_zero, beq_self_eq_true, if_pos rfl, Int.add_zero]
      intro z hz
      have hne : key z ≠ key x := fun hh => hn'.1 (List.mem_map.mpr ⟨z, hz, hh⟩)
      simp [hne]
    · have hne : key y ≠ key x := fun hh => hn'.1 (List.mem_map.mpr ⟨x, h, hh.symm⟩)
      rw [if_neg (by simpa using hne), Int.zero_add]
      exact ih hn'.2 h

theorem addTo_eq (r : Results) (o : Nat) (p : Dec) :
    r.addTo o p =
      { yes := if o = 1 then Dec.add r.yes p else r.yes, abstain := if o = 2 then Dec.add r.abstain p else r.abstain,
        no := if o = 3 then Dec.add r.no p else r.no, veto := if o = 4 then Dec.add r.veto p else r.veto,
        total := Dec.add r.total p } := by
  unfold Results.addTo
  rcases o with _ | _ | _ | _ | _ | o <;> rfl

theorem addTo_comm (r : Results) (o1 o2 : Nat) (p1 p2 : Dec) :
    (r.addTo o1 p1).addTo o2 p2 = (r.addTo o2 p2).addTo o1 p1 := by
  have hadd : ∀ a b c : Dec, Dec.add (Dec.add a b) c = Dec.add (Dec.add a c) b := by
    intro a b c; simp only [Dec.add]; congr 1; omega
  -- each field is bumped under two independent conditions
  have hfield : ∀ (c1 c2 : Prop) [Decidable c1] [Decidable c2] (x : Dec),
      (if c2 then Dec.add (if c1 then Dec.add x p1 else x) p2 else if c1 then Dec.add x p1 else x) =
        if c1 then Dec.add (if c2 then Dec.add x p2 else x) p1 else if c2 then Dec.add x p2 else x := by
    intro c1 c2 _ _ x
    by_cases h1 : c1 <;> by_cases h2 : c2 <;> simp only [h1, h2, if_true, if_false, hadd]
  simp only [addTo_eq, hfield, hadd]

def addList (r : Results) (l : List (Nat × Dec)) : Results := l.foldl (fun r x => r.addTo x.1 x.2) r

@[simp] theorem addList_nil (r : Results) : addList r [] = r := rfl
@[simp] theorem addList_cons (r : Results) (x : Nat × Dec) (l : List (Nat × Dec)) :
    addList r (x :: l) = addList (r.addTo x.1 x.2) l := rfl
theorem addList_append (r : Results) (l₁ l₂ : List (Nat × Dec)) : addList r (l₁ ++ l₂) = addList (addList r l₁) l₂ :=
  List.foldl_append

/-- the accumulated power of one option (0 for a number that is not an option) -/
def get (r : Results) (o : Nat) : Dec :=
  match o with
  | 1 => r.yes | 2 => r.abstain | 3 => r.no | 4 => r.veto | _ => Dec.zero

theorem addTo_total (r : Results) (o : Nat) (p : Dec) : (r.addTo o p).total.raw = r.total.raw + p.raw := by
  rw [addTo_eq]; rfl

theorem addTo_get (r : Results) (o o' : Nat) (p : Dec) (ho : o = 1 ∨ o = 2 ∨ o = 3 ∨ o = 4) :
    (get (r.addTo o' p) o).raw = (get r o).raw + (if o' == o then p.raw else 0) := by
  rw [addTo_eq]
  rcases ho with h | h | h | h <;> subst h <;> simp only [get, beq_iff_eq] <;> split <;> simp [Dec.add]

theorem addList_total (r : Results) (l : List (Nat × Dec)) :
    (addList r l).total.raw = r.total.raw + sumOn l (fun x => x.2.raw) := by
  induction l generalizing r with
  | nil => simp
  | cons x xs ih => simp only [addList_cons, ih, addTo_total, sumOn_cons]; omega

theorem addList_get (r : Results) (l : List (Nat × Dec)) (o : Nat) (ho : o = 1 ∨ o = 2 ∨ o = 3 ∨ o = 4) :
    (get (addList r l) o).raw = (get r o).raw + sumOn (l.filter (fun x => x.1 == o)) (fun x => x.2.raw) := by
  induction l generalizing r with
  | nil => simp
  | cons x xs ih =>
    simp only [addList_cons, ih, addTo_get _ _ _ _ ho, List.filter_cons]
    by_cases hx : (x.1 == o) = true <;> simp [hx] <;> omega

end Shentu.C12TH
