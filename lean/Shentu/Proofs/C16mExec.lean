import Shentu.Proofs.C16mMem
import Shentu.Proofs.C16mJump
/-
  What single instructions of the interpreter model (`execRegular`, `execFree`, `copyToMem`, the stack primitives, `jumpTo`)
  leave behind, computed from their definitions.

  An instruction lemma first names the body of its opcode (`show`: the `match` of `execRegular` on a literal opcode
  evaluates) and then runs the pops of the operands with `pop_bind` / `pop2_bind` / `pop3_bind`.
-/
namespace Shentu.C16mH
open Shentu.EVM Shentu.EVM.MemSpec Shentu.C16mJ

theorem pushErr_none (e : Err) (s : Frame) (he : s.err = none) : (pushErr e s).val = (some (), { s with err := some e }) := by
  simp only [pushErr, he]

theorem pushErr_some (e e0 : Err) (s : Frame) (he : s.err = some e0) : (pushErr e s).val = (some (), s) := by
  simp only [pushErr, he]

theorem pushErr_err (e : Err) (s s1 : Frame) (h : (pushErr e s).val = (some (), s1)) : s1.err ≠ none := by
  obtain ⟨s2, h2, _, he⟩ := pushErr_val e s
  rw [h2] at h; cases h
  intro h0; rw [h0] at he; cases he

theorem pop_ok (s : Frame) (x : Nat) (r : List Nat) (hs : s.stack = x :: r) (hg : 1 ≤ s.gas) :
    (pop s).val = (some x, { s with gas := s.gas - 1, stack := r }) := by
  simp only [pop, bind, M.bind, useGas, getF, setStack, pure, M.pure, hg, if_true, hs]

theorem pop_empty (s : Frame) (hs : s.stack = []) (hg : 1 ≤ s.gas) (he : s.err = none) :
    (pop s).val = (some 0, { s with gas := s.gas - 1, err := some .dataStackUnderflow }) := by
  simp only [pop, bind, M.bind, useGas, getF, pushErr, pure, M.pure, hg, if_true, hs, he]

theorem push_ok (s : Frame) (w : Nat) (hg : 1 ≤ s.gas) :
    (push w s).val = (some (), { s with gas := s.gas - 1, stack := w :: s.stack }) := by
  simp only [push, bind, M.bind, useGas, getF, setStack, hg, if_true]

theorem pop_bind {β : Type} (f : Nat → M β) {s : Frame} {x : Nat} {r : List Nat} (hs : s.stack = x :: r) (hg : 1 ≤ s.gas) :
    ((pop >>= f) s).val = (f x { s with gas := s.gas - 1, stack := r }).val :=
  bind_val_some (pop_ok s x r hs hg)

theorem pop2_bind {β : Type} (f : Nat → Nat → M β) {s : Frame} {x y : Nat} {r : List Nat} (hs : s.stack = x :: y :: r)
    (hg : 2 ≤ s.gas) :
    ((pop >>= fun a => pop >>= f a) s).val = (f x y { s with gas := s.gas - 2, stack := r }).val := by
  rw [pop_bind _ hs (by omega), pop_bind _ rfl (Nat.le_sub_of_add_le hg)]
  rfl

theorem pop3_bind {β : Type} (f : Nat → Nat → Nat → M β) {s : Frame} {x y z : Nat} {r : List Nat}
    (hs : s.stack = x :: y :: z :: r) (hg : 3 ≤ s.gas) :
    ((pop >>= fun a => pop >>= fun b => pop >>= f a b) s).val = (f x y z { s with gas := s.gas - 3, stack := r }).val := by
  rw [pop_bind _ hs (by omega), pop2_bind _ rfl (Nat.le_sub_of_add_le hg)]
  rfl

theorem pop64_ok (s : Frame) (x : Nat) (r : List Nat) (hs : s.stack = x :: r) (hg : 1 ≤ s.gas) (hx : x < U64) :
    (pop64 s).val = (some x, { s with gas := s.gas - 1, stack := r }) := by
  unfold pop64
  rw [pop_bind _ hs hg, if_neg (Nat.not_le.2 hx)]
  rfl

theorem dup_ok (s : Frame) (n : Nat) (hn : n ≤ s.stack.length) (hg : 2 ≤ s.gas) :
    (dup n s).val = (some (), { s with gas := s.gas - 2, stack := s.stack.getD (n - 1) 0 :: s.stack }) := by
  have h1 : 1 ≤ s.gas := by omega
  have h2 : 1 ≤ s.gas - 1 := by omega
  have h3 : ¬ s.stack.length < n := by omega
  simp only [dup, push, bind, M.bind, useGas, getF, setStack, h1, h2, h3, if_true, if_false, Nat.sub_sub]

theorem dup_underflow (s : Frame) (n : Nat) (hn : s.stack.length < n) (hg : 1 ≤ s.gas) (he : s.err = none) :
    (dup n s).val = (some (), { s with gas := s.gas - 1, err := some .dataStackUnderflow }) := by
  simp only [dup, bind, M.bind, useGas, getF, pushErr, hg, hn, if_true, he]

theorem swap_ok (s : Frame) (n : Nat) (hn : n ≤ s.stack.length) (hg : 1 ≤ s.gas) :
    (swap n s).val = (some (), { s with gas := s.gas - 1,
                                        stack := (s.stack.set 0 (s.stack.getD (n - 1) 0)).set (n - 1) (s.stack.getD 0 0) }) := by
  have h3 : ¬ s.stack.length < n := by omega
  simp only [swap, bind, M.bind, useGas, getF, setStack, hg, h3, if_true, if_false]

theorem swap_underflow (s : Frame) (n : Nat) (hn : s.stack.length < n) (hg : 1 ≤ s.gas) (he : s.err = none) :
    (swap n s).val = (some (), { s with gas := s.gas - 1, err := some .dataStackUnderflow }) := by
  simp only [swap, bind, M.bind, useGas, getF, pushErr, hg, hn, if_true, he]

/-- `peek n` is vm/utils.go `GetWord256`: Dup then Pop, three stack operations' worth of gas -/
theorem peek_ok (n : Nat) (s : Frame) (x : Nat) (hx : s.stack[n]? = some x) (hg : 3 ≤ s.gas) :
    (peek n s).val = (some x, { s with gas := s.gas - 3 }) := by
  have hd : s.stack.getD n 0 = x := by rw [List.getD_eq_getElem?_getD, hx]; rfl
  unfold peek
  rw [bind_val_some (dup_ok s (n + 1) (List.getElem?_eq_some_iff.1 hx).1 (by omega)),
    pop_ok _ x s.stack (congrArg (· :: s.stack) hd) (Nat.le_sub_of_add_le hg)]
  rfl

theorem mstore_exec (child : ChildFn) (env : Env) (s : Frame) (o v : Nat) (r : List Nat) (hs : s.stack = o :: v :: r)
    (hg : 2 ≤ s.gas) :
    (execRegular child env 0x52 s).val =
      ((memWrite env.q o (natBE v 32) >>= fun _ => pure Ctl.next) { s with gas := s.gas - 2, stack := r }).val := by
  show ((pop >>= fun o => pop >>= fun v => memWrite env.q o (natBE v 32) >>= fun _ => pure Ctl.next) s).val = _
  exact pop2_bind _ hs hg

theorem mstore8_exec (child : ChildFn) (env : Env) (s : Frame) (o v : Nat) (r : List Nat) (hs : s.stack = o :: v :: r)
    (hg : 2 ≤ s.gas) :
    (execRegular child env 0x53 s).val =
      ((memWrite env.q o (natBE (v % 256) 1) >>= fun _ => pure Ctl.next) { s with gas := s.gas - 2, stack := r }).val := by
  show ((pop >>= fun o => pop >>= fun v => memWrite env.q o (natBE (v % 256) 1) >>= fun _ => pure Ctl.next) s).val = _
  exact pop2_bind _ hs hg

theorem mload_exec (child : ChildFn) (env : Env) (s : Frame) (o : Nat) (r : List Nat) (hs : s.stack = o :: r)
    (hg : 1 ≤ s.gas) :
    (execRegular child env 0x51 s).val =
      ((memRead env.q o 32 >>= fun d => push (word d) >>= fun _ => pure Ctl.next) { s with gas := s.gas - 1, stack := r }).val := by
  show ((pop >>= fun o => memRead env.q o 32 >>= fun d => push (word d) >>= fun _ => pure Ctl.next) s).val = _
  exact pop_bind _ hs hg

theorem execRegular_calldatacopy (child : ChildFn) (env : Env) : execRegular child env 0x37 = copyToMem env.q env.input := rfl

theorem execRegular_codecopy (child : ChildFn) (env : Env) : execRegular child env 0x39 = copyToMem env.q env.code := rfl

/-- the opcodes 0x60 … 0x9f have no case of their own in the `match` of `execRegular`: they reach its last branch -/
theorem execRegular_stack_ops (child : ChildFn) (env : Env) (op : Nat) (h1 : 0x60 ≤ op) (h2 : op ≤ 0x9f) :
    execRegular child env op =
      (if 0x60 ≤ op && op ≤ 0x7f then do
        let s ← getF
        match subslice env.code (s.pc + 1) (op - 0x60 + 1) with
        | .err =>
          pushErr .inputOutOfBounds
          push 0
        | .panic => goPanic
        | .ok b => push (word b)
        | .big _ => goPanic
        setPc (s.pc + (op - 0x60 + 1))
        pure .next
      else if 0x80 ≤ op && op ≤ 0x8f then do dup (op - 0x80 + 1); pure .next
      else if 0x90 ≤ op && op ≤ 0x9f then do swap (op - 0x90 + 2); pure .next
      else do pushErr .generic; pure (.halt .empty)) := by
  -- The `match` unfolds to a chain of 60 tests `op = k`, and every literal `k` lies outside 0x60 … 0x9f. The unifier
  -- opens the `match` to see that chain only with smart unfolding off (`split` would, too, but is slow on a chain of this length).
  have hne : ∀ k, k < 0x60 ∨ 0x9f < k → ¬ op = k := fun k hk h => by omega
  unfold execRegular
  set_option smartUnfolding false in iterate 60 refine (dif_neg (hne _ (by decide))).trans ?_
  rfl

theorem dup_exec (child : ChildFn) (env : Env) (s : Frame) (op : Nat) (h1 : 0x80 ≤ op) (h2 : op ≤ 0x8f) :
    (execRegular child env op s).val = ((dup (op - 0x80 + 1) >>= fun _ => pure Ctl.next) s).val := by
  have a1 : ¬ (0x60 ≤ op ∧ op ≤ 0x7f) := by omega
  rw [execRegular_stack_ops child env op (by omega) (by omega)]
  simp only [Bool.and_eq_true, decide_eq_true_eq, a1, h1, h2, and_self, if_true, if_false]

theorem swap_exec (child : ChildFn) (env : Env) (s : Frame) (op : Nat) (h1 : 0x90 ≤ op) (h2 : op ≤ 0x9f) :
    (execRegular child env op s).val = ((swap (op - 0x90 + 2) >>= fun _ => pure Ctl.next) s).val := by
  have a1 : ¬ (0x60 ≤ op ∧ op ≤ 0x7f) := by omega
  have a2 : ¬ (0x80 ≤ op ∧ op ≤ 0x8f) := by omega
  rw [execRegular_stack_ops child env op (by omega) h2]
  simp only [Bool.and_eq_true, decide_eq_true_eq, a1, a2, h1, h2, and_self, if_true, if_false]

theorem pushn_ok (child : ChildFn) (env : Env) (s : Frame) (op : Nat) (h1 : 0x60 ≤ op) (h2 : op ≤ 0x7f) (b : ByteArray)
    (hb : subslice env.code (s.pc + 1) (op - 0x60 + 1) = .ok b) (hg : 1 ≤ s.gas) :
    (execRegular child env op s).val =
      (some Ctl.next, { s with gas := s.gas - 1, stack := word b :: s.stack, pc := s.pc + (op - 0x60 + 1) }) := by
  rw [execRegular_stack_ops child env op h1 (by omega)]
  simp only [Bool.and_eq_true, decide_eq_true_eq, h1, h2, and_self, if_true, bind, M.bind, getF, hb, push, useGas, hg,
    setStack, setPc, pure, M.pure]

theorem subslice_ok (data : ByteArray) (off len : Nat) (h1 : off ≤ data.size) (h2 : off + len < U64) (h3 : len ≤ memCap) :
    ∃ b, subslice data off len = .ok b ∧ bl b = readPad (bl data) off len := by
  have hU := U64_val
  have hc := memCap_val
  have hA := maxAlloc_val
  unfold subslice
  simp only []
  rw [if_neg (by omega), Nat.mod_eq_of_lt h2]
  split
  · rw [if_neg (by omega), if_neg (by omega)]
    exact ⟨_, rfl, bl_extractPad data off len (by omega)⟩
  · rw [if_neg (by omega)]
    exact ⟨_, rfl, bl_extract_readPad data off len (by omega)⟩

theorem subslice_err (data : ByteArray) (off len : Nat) (h1 : data.size < off) : subslice data off len = .err := by
  unfold subslice
  simp only []
  rw [if_pos h1]

theorem word_eq (b : ByteArray) : word b = bytesWord (bl b) := by
  unfold word; rw [beNat_eq]; rfl

/-- frames that differ at most in the deviation markers (`dev`, `devs`), which no instruction reads -/
def SameButDev (a b : Frame) : Prop :=
  a.gas = b.gas ∧ a.err = b.err ∧ a.stack = b.stack ∧ a.mem = b.mem ∧ a.pc = b.pc ∧ a.retBuf = b.retBuf

theorem SameButDev.rfl' (a : Frame) : SameButDev a a := ⟨rfl, rfl, rfl, rfl, rfl, rfl⟩

/-- the specification-mode data reads note a deviation point when the offset lies beyond the data (`n` its size) and go on
    with `k`: only the markers change -/
theorem noteOffset_bind {β : Type} (k : Unit → M β) (n off : Nat) (s : Frame) :
    ∃ d ds, ((if off ≥ U64 then noteDev 2 >>= k else if n < off then noteDev 1 >>= k else k ()) s).val =
      (k () { s with dev := d, devs := ds }).val := by
  by_cases h1 : off ≥ U64
  · rw [if_pos h1]; exact ⟨_, _, bind_val_some rfl⟩
  · rw [if_neg h1]
    by_cases h2 : n < off
    · rw [if_pos h2]; exact ⟨_, _, bind_val_some rfl⟩
    · rw [if_neg h2]; exact ⟨s.dev, s.devs, rfl⟩

theorem calldataload_spec (child : ChildFn) (env : Env) (s : Frame) (off : Nat) (r : List Nat)
    (hq1 : env.q.readBeyondErr = false) (hq2 : env.q.dataOffsetU64 = false) (hs : s.stack = off :: r) (hg : 2 ≤ s.gas) :
    ∃ d ds, (execRegular child env 0x35 s).val =
      (some Ctl.next, { s with gas := s.gas - 2, stack := word (extractPad env.input off 32) :: r, dev := d, devs := ds }) := by
  obtain ⟨d, ds, h1⟩ := noteOffset_bind (fun _ => push (word (extractPad env.input off 32)) >>= fun _ => pure Ctl.next)
    env.input.size off { s with gas := s.gas - 1, stack := r }
  refine ⟨d, ds, ?_⟩
  show ((if env.q.readBeyondErr || env.q.dataOffsetU64 then _ else pop >>= _) s).val = _
  rw [hq1, hq2]
  exact (pop_bind _ hs (by omega)).trans (h1.trans (bind_val_some (push_ok _ _ (Nat.le_sub_of_add_le hg))))

theorem calldataload_impl (child : ChildFn) (env : Env) (s : Frame) (off : Nat) (r : List Nat)
    (hq1 : env.q.readBeyondErr = true) (hs : s.stack = off :: r) (hg : 1 ≤ s.gas) (h64 : off < U64) :
    (execRegular child env 0x35 s).val =
      ((match subslice env.input off 32 with
        | .err => pushErr .inputOutOfBounds >>= fun _ => push 0 >>= fun _ => pure Ctl.next
        | .panic => (goPanic : M Unit) >>= fun _ => pure Ctl.next
        | .ok b => push (word b) >>= fun _ => pure Ctl.next
        | .big _ => (goPanic : M Unit) >>= fun _ => pure Ctl.next) { s with gas := s.gas - 1, stack := r }).val := by
  show ((if env.q.readBeyondErr || env.q.dataOffsetU64 then pop64 >>= _ else _) s).val = _
  rw [hq1]
  exact bind_val_some (pop64_ok s off r hs hg h64)

theorem copyToMem_spec (q : Quirks) (src : ByteArray) (s : Frame) (memOff off len : Nat) (r : List Nat)
    (hq1 : q.readBeyondErr = false) (hq2 : q.dataOffsetU64 = false) (hs : s.stack = memOff :: off :: len :: r)
    (hg : 3 ≤ s.gas) (hlen : len ≤ memCap) :
    ∃ d ds, (copyToMem q src s).val =
      ((memWrite q memOff (extractPad src off len) >>= fun _ => pure Ctl.next)
        { s with gas := s.gas - 3, stack := r, dev := d, devs := ds }).val := by
  obtain ⟨d, ds, h1⟩ := noteOffset_bind
    (fun _ => memWrite q memOff (if len ≤ memCap then extractPad src off len else .empty) >>= fun _ => pure Ctl.next)
    src.size off { s with gas := s.gas - 3, stack := r }
  refine ⟨d, ds, ?_⟩
  rw [if_pos hlen] at h1
  unfold copyToMem
  rw [hq1, hq2]
  show ((pop >>= fun memOff => pop >>= fun off => pop >>= fun len => _) s).val = _
  rw [pop3_bind _ hs hg, if_pos hlen]
  exact h1

theorem copyToMem_impl (q : Quirks) (src : ByteArray) (s : Frame) (memOff off len : Nat) (r : List Nat)
    (hq1 : q.readBeyondErr = true) (hs : s.stack = memOff :: off :: len :: r) (hg : 3 ≤ s.gas)
    (h64 : off < U64) (hl64 : len < U64) :
    (copyToMem q src s).val =
      ((match subslice src off len with
        | .err => pushErr .inputOutOfBounds >>= fun _ => memWrite q memOff .empty >>= fun _ => pure Ctl.next
        | .panic => (goPanic : M Unit) >>= fun _ => pure Ctl.next
        | .ok b => memWrite q memOff b >>= fun _ => pure Ctl.next
        | .big n => memWriteBig memOff n >>= fun _ => pure Ctl.next) { s with gas := s.gas - 3, stack := r }).val := by
  unfold copyToMem
  rw [hq1]
  show ((pop >>= fun memOff => pop64 >>= fun off => pop64 >>= fun len => _) s).val = _
  rw [pop_bind _ hs (by omega), bind_val_some (pop64_ok _ off (len :: r) rfl (by simp only []; omega) h64),
    bind_val_some (pop64_ok _ len r rfl (by simp only []; omega) hl64)]
  rfl

/-- when a copy instruction fetches the specification's bytes `readPad (bl src) off len`: always in specification mode; as
    implemented, when the source offset lies within the data and offset plus length does not wrap around -/
def Fetches (q : Quirks) (src : ByteArray) (off len : Nat) : Prop :=
  (q.readBeyondErr = false ∧ q.dataOffsetU64 = false) ∨ (q.readBeyondErr = true ∧ off ≤ src.size ∧ off + len < U64)

theorem copyToMem_fetch (q : Quirks) (src : ByteArray) (s : Frame) (memOff off len : Nat) (r : List Nat)
    (hf : Fetches q src off len) (hs : s.stack = memOff :: off :: len :: r) (hg : 3 ≤ s.gas) (hlen : len ≤ memCap) :
    ∃ d ds b, bl b = readPad (bl src) off len ∧
      (copyToMem q src s).val =
        ((memWrite q memOff b >>= fun _ => pure Ctl.next) { s with gas := s.gas - 3, stack := r, dev := d, devs := ds }).val := by
  have hc := memCap_val
  have hU := U64_val
  rcases hf with ⟨hq1, hq2⟩ | ⟨hq1, hoff, h64⟩
  · obtain ⟨d, ds, h⟩ := copyToMem_spec q src s memOff off len r hq1 hq2 hs hg hlen
    exact ⟨d, ds, _, bl_extractPad _ _ _ (by omega), h⟩
  · obtain ⟨b, hb1, hb2⟩ := subslice_ok src off len hoff h64 hlen
    have hx := copyToMem_impl q src s memOff off len r hq1 hs hg (by omega) (by omega)
    rw [hb1] at hx
    exact ⟨s.dev, s.devs, b, hb2, hx⟩

theorem returndatacopy_exec (child : ChildFn) (env : Env) (s : Frame) (memOff off len : Nat) (r : List Nat)
    (hs : s.stack = memOff :: off :: len :: r) (hg : 3 ≤ s.gas) :
    (execFree child env 0x3e s).val =
      ((if off + len ≥ U64 || s.retBuf.size < off + len then pushErr .returnDataOutOfBounds >>= fun _ => pure Ctl.jumped
        else memWrite env.q memOff (s.retBuf.extract off (off + len)) >>= fun _ => pure Ctl.next)
        { s with gas := s.gas - 3, stack := r }).val := by
  show ((pop >>= fun memOff => pop >>= fun off => pop >>= fun len => getF >>= fun s =>
    if off + len ≥ U64 || s.retBuf.size < off + len then _ else _) s).val = _
  exact pop3_bind _ hs hg

theorem returndatacopy_beyond (child : ChildFn) (env : Env) (s : Frame) (memOff off len : Nat) (r : List Nat)
    (hs : s.stack = memOff :: off :: len :: r) (hg : 3 ≤ s.gas) (he : s.err = none)
    (h : off + len ≥ U64 ∨ s.retBuf.size < off + len) :
    (execFree child env 0x3e s).val =
      (some Ctl.jumped, { s with gas := s.gas - 3, stack := r, err := some .returnDataOutOfBounds }) := by
  rw [returndatacopy_exec child env s memOff off len r hs hg, if_pos (by simpa using h)]
  exact bind_val_some (pushErr_none _ { s with gas := s.gas - 3, stack := r } he)

theorem returndatacopy_within (child : ChildFn) (env : Env) (s : Frame) (memOff off len : Nat) (r : List Nat)
    (hs : s.stack = memOff :: off :: len :: r) (hg : 3 ≤ s.gas)
    (h1 : off + len < U64) (h2 : off + len ≤ s.retBuf.size) :
    (execFree child env 0x3e s).val =
      ((memWrite env.q memOff (s.retBuf.extract off (off + len)) >>= fun _ => pure Ctl.next)
        { s with gas := s.gas - 3, stack := r }).val := by
  have h : ¬ (off + len ≥ U64 ∨ s.retBuf.size < off + len) := by omega
  rw [returndatacopy_exec child env s memOff off len r hs hg, if_neg (by simpa using h)]

theorem jumpTo_valid (env : Env) (s : Frame) (to : Nat) (hob : env.opBits = opcodeBits env.code)
    (hsz : env.code.size < 2 ^ 64) (hv : ValidJump (bl env.code) to) :
    (jumpTo env to s).val = (some (), { s with pc := to }) := by
  have h := (jumpTest_spec env.code hsz to).2 hv
  obtain ⟨h1, h2, h3⟩ := h
  unfold jumpTo
  simp only [hob, h1, h2, h3, bne_self_eq_false, BEq.rfl, decide_true, Bool.and_self, Bool.not_true, Bool.or_self,
    Bool.false_eq_true, if_false, setPc]

theorem jumpTo_invalid (env : Env) (s : Frame) (to : Nat) (hob : env.opBits = opcodeBits env.code)
    (hsz : env.code.size < 2 ^ 64) (hv : ¬ ValidJump (bl env.code) to) :
    (jumpTo env to s).val = (pushErr .invalidJumpDest s).val := by
  have h := mt (jumpTest_spec env.code hsz to).1 hv
  unfold jumpTo
  simp only [hob]
  generalize (if env.code.size ≤ to then 0 else (env.code.get! to).toNat) = d at h ⊢
  by_cases h1 : d = 0x5b
  · by_cases h2 : to < (opcodeBits env.code).size
    · by_cases h3 : (opcodeBits env.code).get! to = 1
      · exact absurd ⟨h1, h2, h3⟩ h
      · simp [h1, h2, h3]
    · simp [h1, h2]
  · simp [h1]

theorem jumpWord_lt (env : Env) (to : Nat) (viaPop64 : Bool) (h : to < U64) : jumpWord env to viaPop64 = jumpTo env to := by
  unfold jumpWord
  exact if_neg (Nat.not_le.2 h)

/-- `Pop64` on a word of 2^64 or more records IntegerOverflow and returns 0, so JUMP still attempts the jump to 0 -/
theorem jumpWord_huge_impl (env : Env) (to : Nat) (viaPop64 : Bool) (s : Frame) (h : U64 ≤ to) (hq : env.q.dataOffsetU64 = true)
    (he : s.err = none) :
    (jumpWord env to viaPop64 s).val =
      ((if viaPop64 then jumpTo env 0 else pure ()) { s with err := some .integerOverflow }).val := by
  unfold jumpWord
  rw [if_pos h, hq, if_pos rfl, bind_val_some (pushErr_none _ s he), Bool.and_true]

theorem jump_pop (child : ChildFn) (env : Env) (s : Frame) (to : Nat) (r : List Nat) (hs : s.stack = to :: r) (hg : 1 ≤ s.gas) :
    (execRegular child env 0x56 s).val =
      ((jumpWord env to true >>= fun _ => pure Ctl.jumped) { s with gas := s.gas - 1, stack := r }).val := by
  show ((pop >>= fun to => jumpWord env to true >>= fun _ => pure Ctl.jumped) s).val = _
  exact pop_bind _ hs hg

theorem jumpi_pop (child : ChildFn) (env : Env) (s : Frame) (to c : Nat) (r : List Nat) (hs : s.stack = to :: c :: r)
    (hg : 2 ≤ s.gas) :
    (execRegular child env 0x57 s).val =
      ((if c != 0 then jumpWord env to false >>= fun _ => pure Ctl.jumped else pure Ctl.next)
        { s with gas := s.gas - 2, stack := r }).val := by
  show ((pop >>= fun to => pop >>= fun c =>
    if c != 0 then jumpWord env to false >>= fun _ => pure Ctl.jumped else pure Ctl.next) s).val = _
  exact pop2_bind _ hs hg

end Shentu.C16mH
