import Shentu.Proofs.VmConserve
import Shentu.Model.CvmTx
import Shentu.Model.Cvm
/-
  The concrete chain states, programs and messages of the non-vacuity examples, and every concrete run of the interpreter that
  a property file states, evaluated by the kernel in ONE declaration (`Shentu.EVM.all_runs`): what the kernel has evaluated
  it keeps for one declaration only, and the model's gas table (`EVM.infoArr`), which every run needs, is slow to evaluate.
  The property files state each run again, on definitions of their own that unfold to the `let`s here, and take it from the
  conjunction by position.  Nothing here rests on the proofs about the interpreter (`VmConserve` is imported for the
  definitions `total` and `balOf`).

  Addresses are multiples of 0x1000, named below (`A` = 4096 = 0x1000, `FWD` = 8192 = 0x2000, `T` = 12288 = 0x3000, …).  The
  bank knows an address by its decimal string (`c0.nm`), so the ledgers say "4096" for `A`; byte code and the worlds of
  `TopRuns` write the same addresses in hexadecimal.
-/
namespace Shentu.CvmTxH.Ex
open Shentu Shentu.EVM Shentu.CvmTx

/-- 28672 (`MOD`) is a module account -/
def c0 : Cfg := { bond := "uctk", nm := fun n => toString n, blocked := fun a => a == "28672" }

def A : Nat := 4096        -- a user
def FWD : Nat := 8192      -- contract: forwards the call's value to the address in calldata (library kind "forward")
def T : Nat := 12288       -- a third user
def NEW : Nat := 16384     -- no account yet
def SD : Nat := 20480      -- contract: SELFDESTRUCT to the address in calldata (library kind "suicideTo")
def CR : Nat := 24576      -- contract: CREATE with an endowment of 3
def MOD : Nat := 28672     -- a module account (blocked)
def REV : Nat := 32768     -- contract: REVERT
def BAD : Nat := 36864     -- contract: INVALID

def codeForward : ByteArray := ⟨#[0x60, 0, 0x60, 0, 0x60, 0, 0x60, 0, 0x34, 0x60, 0, 0x35, 0x5a, 0xf1, 0x00]⟩
def codeSuicideTo : ByteArray := ⟨#[0x60, 0, 0x35, 0xff]⟩
def codeCreate : ByteArray := ⟨#[0x60, 0x01, 0x60, 0x00, 0x60, 0x03, 0xf0, 0x00]⟩
def codeRevert : ByteArray := ⟨#[0x60, 0, 0x60, 0, 0xfd]⟩
def codeInvalid : ByteArray := ⟨#[0xfe]⟩
/-- init code returning the one-byte runtime code `00`: PUSH1 0 PUSH1 0 MSTORE8 PUSH1 1 PUSH1 0 RETURN -/
def initStop : ByteArray := ⟨#[0x60, 0, 0x60, 0, 0x53, 0x60, 1, 0x60, 0, 0xf3]⟩

def st0 : Store :=
  [{ addr := A }, { addr := FWD, code := codeForward }, { addr := T }, { addr := SD, code := codeSuicideTo },
   { addr := CR, code := codeCreate }, { addr := MOD }, { addr := REV, code := codeRevert }, { addr := BAD, code := codeInvalid }]

def l0 : Ledger :=
  { posts := [("4096", "uctk", 100), ("4096", "foo", 5), ("8192", "uctk", 7), ("12288", "uctk", 1), ("20480", "uctk", 9),
              ("20480", "foo", 2), ("24576", "uctk", 7), ("28672", "uctk", 50)],
    supply := [("uctk", 174), ("foo", 7)] }

/-- the same contracts as the library model knows them -/
def lib0 : Cvm.State :=
  { contracts := [{ addr := "8192", code := "6000600060006000346000355AF100", storage := [] },
                  { addr := "20480", code := "600035FF", storage := [] },
                  { addr := "24576", code := "600160006003F000", storage := [] },
                  { addr := "32768", code := "60006000FD", storage := [] },
                  { addr := "36864", code := "FE", storage := [] }] }

/-- a 32-byte calldata word -/
def word (n : Nat) : ByteArray := natBE n 32

/-- the user's coins are locked up to 99 -/
def vsLocked : Vesting.Accounts := [{ addr := "4096", ov := [("uctk", 99)], vested := [], dv := [], df := [], unlocker := "u" }]

/-- a contract that, whenever it is entered, sends 5 of its own coins to the third user:
    PUSH1 0 ×4, PUSH1 5, PUSH2 0x3000, GAS, CALL, STOP -/
def codeSend5 : ByteArray := ⟨#[0x60, 0, 0x60, 0, 0x60, 0, 0x60, 0, 0x60, 5, 0x61, 0x30, 0x00, 0x5a, 0xf1, 0x00]⟩
def X : Nat := 40960
/-- the example state with that contract added, holding 20 coins -/
def st1 : Store := st0 ++ [{ addr := X, code := codeSend5 }]
def l1 : Ledger := { posts := l0.posts ++ [("40960", "uctk", 20)], supply := [("uctk", 194), ("foo", 7)] }

def bondAfter (r : Except Shentu.Err (Ledger × Store)) (x : Nat) : Int :=
  match r with | .ok (l, _) => l.balOf (toString x) "uctk" | .error _ => -1
def fooAfter (r : Except Shentu.Err (Ledger × Store)) (x : Nat) : Int :=
  match r with | .ok (l, _) => l.balOf (toString x) "foo" | .error _ => -1
def codeAfter (r : Except Shentu.Err (Ledger × Store)) (x : Nat) : Option Nat :=
  match r with | .ok (_, st) => (World.get st x).map (·.code.size) | .error _ => none
def invAfter (r : Except Shentu.Err (Ledger × Store)) : Bool :=
  match r with | .ok (l, _) => l.invB | .error _ => false
def errOf (r : Except Shentu.Err (Ledger × Store)) : String :=
  match r with | .ok _ => "" | .error e => e.kind

/-- the addresses that `agree` compares: those of `st0`, and `NEW` -/
def addrs : List Nat := [A, FWD, T, NEW, SD, CR, MOD, REV, BAD]

/-- the library model's outcome of a call by the user (`Cvm.call` on `lib0`) -/
def libCall (callee v t : Nat) : Except Shentu.Err (Ledger × Cvm.State) :=
  Cvm.call "uctk" l0 [] lib0 "4096" (toString callee) v "w" (t == 0) (toString t) true

/-- the interpreter-backed model's outcome of the same call: the calldata is the 32-byte word naming `t` -/
def vmCall (callee v t : Nat) : Except Shentu.Err (Ledger × Store) :=
  tx c0 l0 [] st0 { caller := A, callee := callee, value := v, data := word t, gas := 100000 }

/-- same outcome: both fail, or both succeed with the same balance of every example address in both denominations and the same
    addresses holding code -/
def agree (callee v t : Nat) : Bool :=
  match libCall callee v t, vmCall callee v t with
  | .error _, .error _ => true
  | .ok (la, sa), .ok (lb, sb) =>
    addrs.all (fun x => la.balOf (toString x) "uctk" == lb.balOf (toString x) "uctk" && la.balOf (toString x) "foo" == lb.balOf (toString x) "foo"
      && ((Cvm.find sa (toString x)).isSome == decide ((((World.get sb x).map (·.code.size)).getD 0) > 0)))
  | _, _ => false

/-- the runs of `Props/C01txLib.lean`.  (Each group of runs is a definition with a `Decidable` instance of its own: the
    conjunction of all of them is more than one instance search puts together.) -/
def LibraryRuns : Prop :=
    (∀ v ∈ [0, 3, 100, 101], ∀ t ∈ [A, T, NEW, CR, REV, BAD], agree FWD v t = true) ∧
    (∀ v ∈ [0, 3, 100, 101], ∀ t ∈ [A, T, NEW, CR, REV, BAD], agree SD v t = true) ∧
    (∀ v ∈ [0, 3, 100, 101], ∀ t ∈ [A, T, NEW, CR, REV, BAD], agree T v t = true) ∧
    (∀ v ∈ [0, 3, 100, 101], ∀ t ∈ [A, T, NEW, CR, REV, BAD], agree REV v t = true) ∧
    (∀ v ∈ [0, 3, 100, 101], ∀ t ∈ [A, T, NEW, CR, REV, BAD], agree BAD v t = true) ∧
    (errOf (vmCall FWD 3 T) = "" ∧ bondAfter (vmCall FWD 3 T) T = 4 ∧ errOf (vmCall FWD 101 T) ≠ "" ∧
      bondAfter (vmCall SD 3 A) A = 109) ∧
    ((match libCall SD 0 MOD with | .ok (l, _) => l.balOf "28672" "uctk" | .error _ => -1) = 59 ∧
      errOf (vmCall SD 0 MOD) = "cvm:blocked-recipient") ∧
    (errOf (vmCall FWD 1 FWD) = "cvm:vm-status" ∧ (match libCall FWD 1 FWD with | .ok _ => true | .error _ => false) = true)
instance : Decidable LibraryRuns := by unfold LibraryRuns; infer_instance

/-- the runs of `Props/C01tx.lean` on the example states, one group per theorem there -/
def TxRuns : Prop :=
  -- `ex_transfer`
  (let m : Msg := { caller := A, callee := T, value := 3, gas := 100000 }
   bondAfter (tx c0 l0 [] st0 m) A = 97 ∧ bondAfter (tx c0 l0 [] st0 m) T = 4 ∧ invAfter (tx c0 l0 [] st0 m) = true ∧
     (codeOf st0 m).size = 0) ∧
  -- `ex_forward`
  (let m : Msg := { caller := A, callee := FWD, value := 3, data := word T, gas := 100000 }
   bondAfter (tx c0 l0 [] st0 m) A = 97 ∧ bondAfter (tx c0 l0 [] st0 m) FWD = 7 ∧ bondAfter (tx c0 l0 [] st0 m) T = 4 ∧
     invAfter (tx c0 l0 [] st0 m) = true) ∧
  -- `ex_selfdestruct`
  (let m : Msg := { caller := A, callee := SD, value := 0, data := word T, gas := 100000 }
   bondAfter (tx c0 l0 [] st0 m) T = 10 ∧ bondAfter (tx c0 l0 [] st0 m) SD = 0 ∧ fooAfter (tx c0 l0 [] st0 m) SD = 2 ∧
     codeAfter (tx c0 l0 [] st0 m) SD = some 0 ∧ invAfter (tx c0 l0 [] st0 m) = true) ∧
  -- `ex_create`
  (let m : Msg := { caller := A, callee := CR, value := 0, gas := 100000, fresh := fun _ _ => NEW }
   bondAfter (tx c0 l0 [] st0 m) NEW = 3 ∧ bondAfter (tx c0 l0 [] st0 m) CR = 4 ∧
     (codeAfter (tx c0 l0 [] st0 m) NEW).isSome = true ∧ (World.get st0 NEW).isNone = true ∧ invAfter (tx c0 l0 [] st0 m) = true) ∧
  -- `ex_inner_failure`
  (let m : Msg := { caller := A, callee := FWD, value := 3, data := word REV, gas := 100000 }
   bondAfter (tx c0 l0 [] st0 m) A = 97 ∧ bondAfter (tx c0 l0 [] st0 m) FWD = 10 ∧ bondAfter (tx c0 l0 [] st0 m) REV = 0 ∧
     invAfter (tx c0 l0 [] st0 m) = true) ∧
  -- `ex_abort`
  (let m : Msg := { caller := A, callee := BAD, value := 3, gas := 100000 }
   errOf (tx c0 l0 [] st0 m) = "cvm:ExecutionAborted" ∧ ((vmRun c0 l0 st0 m).err.isSome = true) ∧
     ((deliver c0 l0 [] st0 m).2.isSome = true)) ∧
  -- `ex_deploy`
  (let m : Msg := { caller := A, callee := NEW, value := 2, data := initStop, deploy := true, gas := 100000 }
   bondAfter (tx c0 l0 [] st0 m) A = 98 ∧ bondAfter (tx c0 l0 [] st0 m) NEW = 2 ∧ codeAfter (tx c0 l0 [] st0 m) NEW = some 1 ∧
     invAfter (tx c0 l0 [] st0 m) = true) ∧
  -- `ex_blocked`: a module account as beneficiary or as callee
  (let m : Msg := { caller := A, callee := SD, value := 0, data := word MOD, gas := 100000 }
   errOf (tx c0 l0 [] st0 m) = "cvm:blocked-recipient" ∧
     errOf (tx c0 l0 [] st0 { caller := A, callee := MOD, value := 1, gas := 100000 }) = "cvm:blocked-recipient" ∧
     c0.blocked (c0.nm MOD) = true ∧
     (cacheBal ((installCode m (vmRun c0 l0 st0 m)).getD []) MOD : Int) > l0.balOf (c0.nm MOD) c0.bond) ∧
  -- `ex_lock`
  (let m : Msg := { caller := A, callee := T, value := 3, gas := 100000 }
   errOf (tx c0 l0 vsLocked st0 m) = "bank:insufficient-funds" ∧ Vesting.lockedOf vsLocked "4096" "uctk" = 99 ∧
     bondAfter (tx c0 l0 vsLocked st0 { m with value := 1 }) A = 99) ∧
  -- `ex_run`: two transactions in a row
  (let ms : List Msg := [{ caller := A, callee := FWD, value := 3, data := word T, gas := 100000 },
                         { caller := A, callee := SD, value := 0, data := word T, gas := 100000 }]
   (ms.foldl (fun s m => (deliver c0 s.1 [] s.2 m).1) (l0, st0)).1.invB = true ∧
     (ms.foldl (fun s m => (deliver c0 s.1 [] s.2 m).1) (l0, st0)).1.balOf "12288" "uctk" = 13) ∧
  -- `ex_caller_with_code`
  (let m : Msg := { caller := X, callee := FWD, value := 3, data := word X, gas := 100000 }
   bondAfter (tx c0 l1 [] st1 m) X = 15 ∧ bondAfter (tx c0 l1 [] st1 m) T = 6 ∧ invAfter (tx c0 l1 [] st1 m) = true)
instance : Decidable TxRuns := by unfold TxRuns; infer_instance

end Shentu.CvmTxH.Ex

namespace Shentu.LockVmH.Ex
open Shentu Shentu.EVM Shentu.CvmTx Shentu.CvmTxH.Ex

/-- a contract that re-enters itself, forwards and self-destructs.  Entered WITH call data it calls itself with the value it
    received and no call data, then stops.  Entered WITHOUT call data it sends 2 coins to the third user `T` and
    self-destructs in favour of the transaction's origin.
    `CALLDATASIZE PUSH1 0x15 JUMPI | PUSH1 0 ×4 PUSH1 2 PUSH2 0x3000 GAS CALL ORIGIN SELFDESTRUCT |
     JUMPDEST PUSH1 0 ×4 CALLVALUE ADDRESS GAS CALL STOP` -/
def codeK : ByteArray := ⟨#[0x36, 0x60, 0x15, 0x57,
  0x60, 0, 0x60, 0, 0x60, 0, 0x60, 0, 0x60, 2, 0x61, 0x30, 0x00, 0x5a, 0xf1, 0x32, 0xff,
  0x5b, 0x60, 0, 0x60, 0, 0x60, 0, 0x60, 0, 0x34, 0x30, 0x5a, 0xf1, 0x00]⟩
def K : Nat := 45056

/-- a user `A` with 100 coins, a third user `T` with 1 (both without code), the contract `K` with 7 -/
def st2 : Store := [{ addr := A }, { addr := T }, { addr := K, code := codeK }]
def l2 : Ledger := { posts := [("4096", "uctk", 100), ("12288", "uctk", 1), ("45056", "uctk", 7)], supply := [("uctk", 108)] }
/-- the user calls the contract with 3 coins and one byte of call data -/
def mK : Msg := { caller := A, callee := K, value := 3, data := ⟨#[1]⟩, gas := 100000 }

/-- a creator whose CREATE lands (the derivation oracle says so) on the user's address: it stores the 16-byte init code
    "send 5 coins to `T`" in memory and creates with it.
    `PUSH16 <init> PUSH1 0 MSTORE PUSH1 16 PUSH1 16 PUSH1 0 CREATE STOP` -/
def codeCol : ByteArray := ⟨#[0x6f] ++ codeSend5.data ++ #[0x60, 0, 0x52, 0x60, 16, 0x60, 16, 0x60, 0, 0xf0, 0x00]⟩
def wCol : World := [{ addr := A, balance := 100 }, { addr := T, balance := 1 }, { addr := K, balance := 7, code := codeCol }]
def envCol : Env :=
  { code := codeCol, opBits := opcodeBits codeCol, input := .empty, caller := T, callee := K, origin := T, value := 0,
    height := 1, time := 0, chainId := 0, fresh := fun _ _ => A }

/-- the runs of `Props/C19vm.lean` -/
def LockRuns : Prop :=
    -- the contract that re-enters, forwards and self-destructs
    (errOf (tx c0 l2 [] st2 mK) = "" ∧ (vmRun c0 l2 st2 mK).seen &&& (1 <<< 0xff) ≠ 0 ∧
      bondAfter (tx c0 l2 [] st2 mK) A = 105 ∧ bondAfter (tx c0 l2 [] st2 mK) T = 3 ∧ bondAfter (tx c0 l2 [] st2 mK) K = 0 ∧
      codeAfter (tx c0 l2 [] st2 mK) K = some 0 ∧ invAfter (tx c0 l2 [] st2 mK) = true) ∧
    -- the same in the interpreter's cache
    (balOf (loadWorld c0 l2 st2) A = 100 ∧ balOf (vmRun c0 l2 st2 mK).world A = 105 ∧
      balOf (loadWorld c0 l2 st2) T = 1 ∧ balOf (vmRun c0 l2 st2 mK).world T = 3) ∧
    -- with 99 of the user's coins locked
    (errOf (tx c0 l2 vsLocked st2 mK) = "bank:insufficient-funds" ∧
      Vesting.lockedOf vsLocked (c0.nm A) "uctk" = 99 ∧ errOf (tx c0 l2 vsLocked st2 { mK with value := 1 }) = "" ∧
      bondAfter (tx c0 l2 vsLocked st2 { mK with value := 1 }) A = 105) ∧
    -- the CREATE that lands on the user's address
    ((runFrame (runDepth 8) envCol 100000 wCol []).err = some .duplicateAddress ∧
      balOf wCol A = 100 ∧ balOf (runFrame (runDepth 8) envCol 100000 wCol []).world A = 95 ∧
      balOf (runFrame (runDepth 8) envCol 100000 wCol []).world T = 6 ∧
      balOf (execTop envCol 100000 wCol).world A = 100)
instance : Decidable LockRuns := by unfold LockRuns; infer_instance

end Shentu.LockVmH.Ex

namespace Shentu.EVM
open Shentu.CvmTxH.Ex Shentu.LockVmH.Ex

/-- the executions of `Props/C01run.lean` and `Props/C01vm.lean` -/
def TopRuns : Prop :=
  -- a contract holding 7 coins executes CREATE with an endowment of `v` = 3, then 8
  (let code (v : UInt8) : ByteArray := ⟨#[0x60, 0x01, 0x60, 0x00, 0x60, v, 0xf0, 0x00]⟩
   let env (v : UInt8) : Env :=
     { code := code v, opBits := opcodeBits (code v), input := .empty, caller := 0x1000, callee := 0x2000, origin := 0x1000,
       value := 0, height := 1, time := 0, chainId := 0, fresh := fun _ _ => 0x3000 }
   let w : World := [{ addr := 0x1000, balance := 5 }, { addr := 0x2000, balance := 7, code := code 3 }]
   ((execTop (env 3) 100000 w).err = none ∧ balOf (execTop (env 3) 100000 w).world 0x3000 = 3 ∧
      balOf (execTop (env 3) 100000 w).world 0x2000 = 4 ∧ total (execTop (env 3) 100000 w).world = 12) ∧
   ((execTop (env 8) 100000 w).err = none ∧ ((execTop (env 8) 100000 w).world.get 0x3000).isNone = true ∧
      total (execTop (env 8) 100000 w).world = 12)) ∧
  -- a contract holding 7 coins executes `ADDRESS SELFDESTRUCT`, without and with the repair
  (let env (q : Quirks) : Env :=
     { q := q, code := ⟨#[0x30, 0xff]⟩, opBits := opcodeBits ⟨#[0x30, 0xff]⟩, input := .empty, caller := 0x1000, callee := 0x2000,
       origin := 0x1000, value := 0, height := 1, time := 0, chainId := 0 }
   let w : World := [{ addr := 0x1000, balance := 5 }, { addr := 0x2000, balance := 7, code := ⟨#[0x30, 0xff]⟩ }]
   total (execTop (env { Quirks.impl with selfDestructSelfKeeps := false }) 100000 w).world = 5 ∧
     total (execTop (env Quirks.impl) 100000 w).world = 12)
instance : Decidable TopRuns := by unfold TopRuns; infer_instance

theorem all_runs : LibraryRuns ∧ TxRuns ∧ LockRuns ∧ TopRuns := by
  decide +kernel

end Shentu.EVM

theorem Shentu.CvmTxH.Ex.library_runs : LibraryRuns := Shentu.EVM.all_runs.1
theorem Shentu.CvmTxH.Ex.tx_runs : TxRuns := Shentu.EVM.all_runs.2.1
theorem Shentu.LockVmH.Ex.lock_runs : LockRuns := Shentu.EVM.all_runs.2.2.1
theorem Shentu.EVM.top_runs : TopRuns := all_runs.2.2.2
