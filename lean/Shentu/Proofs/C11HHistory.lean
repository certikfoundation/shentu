import Shentu.Proofs.C11HSteps
/-
  C11 at the level of histories, the steps: the messages keep the escrow invariant, so every step keeps it; the ghost
  accounting (deposited = still recorded + paid) holds along every history; a proposal that has ended stays ended
  (`Grow`), and nothing more is logged as deposited for it.
-/
namespace Shentu.C11H
open Shentu Shentu.Gov
open Shentu.Halt.Gv (depSum upsertDeposit_valid escrowIn_margin)
open Shentu.Props.C11 (recOf recAll)

theorem atom_inv {e : Env} {a : Addr} {w w' : World} (hne : a ≠ e.modAddr) (h : Atom e a w w')
    (hi : EscrowInv e.modAddr w) : EscrowInv e.modAddr w' := by
  cases h with
  | «open» p _ hs =>
    exact Kept.escrow (w := w) ⟨rfl, setP_deposits ..,
      fun _ hl => live_congr (g := setP w.g p) rfl (live_setP (Or.inl hs) hl)⟩ hi
  | edit q _ _ hq => exact Kept.escrow (w := w) ⟨rfl, setP_deposits .., fun _ hl => live_setP hq hl⟩ hi
  | vote _ _ _ _ => exact Kept.escrow (w := w) ⟨rfl, rfl, fun _ hl => hl⟩ hi
  | @escrowIn pid amt q l1 hq hst hsend =>
    refine ⟨fun d => ?_, forall_upsertDeposit hi.live (fun y hy _ _ => hi.live y hy) ⟨q, hq, hst⟩,
      fun x hx => (Coins.isAnyNegative_eq_false_iff _).mp
        (upsertDeposit_valid pid a amt (Ledger.send_not_anyNegative hsend) _ hi.toEscrow.valid x hx),
      forall_upsertDeposit hi.foreign (fun y hy _ _ => hi.foreign y hy) hne⟩
    have := escrowIn_margin hne hsend pid w.g.deposits d
    have := hi.held d
    show l1.balOf e.modAddr d = depSum (upsertDeposit pid a amt w.g.deposits) d
    omega

theorem vote_kept {w w' : World} {pid : Nat} {v : Addr} {o : Nat} (h : vote w pid v o = .ok w') : Kept w w' := by
  obtain ⟨_, _, _, _, _, _, rfl⟩ := vote_ok_iff.mp h; exact ⟨rfl, rfl, fun _ hl => hl⟩

theorem transfer_inv {m : Addr} {w : World} {s d : Addr} {amt : Coins} {l' : Ledger}
    (h : w.l.send s d amt = .ok l') (hs : s ≠ m) (hd : d ≠ m) (hi : EscrowInv m w) : EscrowInv m { w with l := l' } := by
  refine ⟨?_, hi.live, hi.valid, hi.foreign⟩
  intro dn
  show l'.balOf m dn = _
  rw [Ledger.send_ok _ _ _ _ _ h, Ledger.balOf_move, ← hi.held dn]
  have h1 : (s == m) = false := by simpa using hs
  have h2 : (d == m) = false := by simpa using hd
  simp [h1, h2]

theorem stepW_inv (m : Addr) (w : World) (op : Op) (hi : EscrowInv m w) : EscrowInv m (stepW m w op) :=
  step_ind (motive := fun _ w' _ _ => EscrowInv m w') m w (fun _ => hi)
    (fun x _ _ _ _ hne hs => (submit_atoms (e := env m x) hs).keep (fun t => atom_inv hne t) hi)
    (fun x _ _ _ _ hne hs => (addDeposit_atoms (e := env m x) hs).keep (fun t => atom_inv hne t) hi)
    (fun _ _ _ _ hs => (vote_kept hs).escrow hi)
    (fun _ _ hs => (endBlock_sub (e := env m _) hs).1 hi)
    (fun _ _ _ _ h1 h2 hs => transfer_inv hs h1 h2 hi) op

theorem runW_inv (m : Addr) (ops : List Op) (w : World) (h : EscrowInv m w) : EscrowInv m (runW m w ops) :=
  List.foldlRecOn (motive := EscrowInv m) ops (stepW m) h (fun w hw op _ => stepW_inv m w op hw)

theorem step_books (m : Addr) (w : World) (op : Op) :
    (∀ pid a d, depTot (depLog m w op) pid a d + recOf w.g.deposits pid a d =
      recOf (stepW m w op).g.deposits pid a d + paidTot (payLog m w op) pid a d) ∧
    (∀ d, Coins.amountOf (stepW m w op).l.supply d = Coins.amountOf w.l.supply d - burnedSum (payLog m w op) d) := by
  refine step_ind (motive := fun _ w' D P =>
      (∀ pid a d, depTot D pid a d + recOf w.g.deposits pid a d = recOf w'.g.deposits pid a d + paidTot P pid a d) ∧
      (∀ d, Coins.amountOf w'.l.supply d = Coins.amountOf w.l.supply d - burnedSum P d)) m w
    ?_ ?_ ?_ ?_ ?_ ?_ op
  · exact fun _ => ⟨fun _ _ _ => by simp, fun _ => by simp⟩
  · intro x pr p0 dep w' _ hs
    obtain ⟨p, _, _, ⟨hc, rfl⟩ | ⟨hc, hadd⟩⟩ := submit_ok hs
    · rw [hc]; exact ⟨fun _ _ _ => by simp, fun _ => by simp⟩
    · obtain ⟨hl, hrec, _⟩ := Shentu.Props.C11.deposit_escrows _ _ _ _ _ _ hadd
      rw [hc, hl, if_neg (by simp)]
      refine ⟨fun pid a d => ?_, fun _ => by simp⟩
      rw [depTot_single, hrec pid a d]
      show _ = recOf (setP w.g p).deposits pid a d + _ + _
      rw [setP_deposits]; simp; omega
  · intro x pid' a' amt w' _ hs
    obtain ⟨hl, hrec, _⟩ := Shentu.Props.C11.deposit_escrows _ _ _ _ _ _ hs
    rw [hl]
    refine ⟨fun pid a d => ?_, fun _ => by simp⟩
    rw [depTot_single, hrec pid a d]; simp; omega
  · intro pid v o w' hs
    rw [(vote_kept hs).deps, (vote_kept hs).l]; exact ⟨fun _ _ _ => by simp, fun _ => by simp⟩
  · intro x w' hs
    have mv := (endBlock_sub hs).2
    exact ⟨fun pid a d => by rw [mv.recs pid a d]; simp, mv.supply⟩
  · intro s dd amt l' _ _ hs
    refine ⟨fun _ _ _ => by simp, fun d => ?_⟩
    show Coins.amountOf l'.supply d = _
    rw [Ledger.send_ok _ _ _ _ _ hs]; simp

/-- what was deposited for (proposal, depositor) is what is still recorded plus what was paid out -/
def Acct (g : G) : Prop :=
  ∀ pid a d, depTot g.deps pid a d = recOf g.w.g.deposits pid a d + paidTot g.pays pid a d

theorem stepG_acct (m : Addr) (g : G) (op : Op) (h : Acct g) : Acct (stepG m g op) := by
  intro pid a d
  have h0 := h pid a d
  have h1 := (step_books m g.w op).1 pid a d
  show depTot (g.deps ++ _) pid a d = recOf (stepW m g.w op).g.deposits pid a d + paidTot (g.pays ++ _) pid a d
  rw [depTot_append, paidTot_append]; omega

theorem runG_acct (m : Addr) (ops : List Op) (g : G) (h : Acct g) : Acct (runG m g ops) :=
  List.foldlRecOn (motive := Acct) ops (stepG m) h (fun g hg op _ => stepG_acct m g op hg)

theorem recOf_nonneg (ds : List Deposit) (hv : ∀ x ∈ ds, ∀ d, 0 ≤ Coins.amountOf x.amount d) (pid : Nat) (a : Addr)
    (d : Denom) : 0 ≤ recOf ds pid a d :=
  Shentu.Halt.Gv.depSum_nonneg (ds.filter _)
    (fun x hx => (Coins.isAnyNegative_eq_false_iff _).mpr (hv x (List.mem_filter.mp hx).1)) d

theorem recOf_zero_of_no_record (ds : List Deposit) (pid : Nat) (h : ∀ x ∈ ds, x.pid ≠ pid) (a : Addr) (d : Denom) :
    recOf ds pid a d = 0 := by
  induction ds with
  | nil => simp [recOf]
  | cons x xs ih =>
    rw [recOf_cons, ih (fun y hy => h y (List.mem_cons_of_mem _ hy))]
    have : (x.pid == pid) = false := by simpa using h x List.mem_cons_self
    simp [this]

theorem refundedTo_payOf_recOf (ds : List Deposit) (pid : Nat) (a : Addr) (d : Denom) :
    refundedTo (payOf false ds pid) a d = recOf ds pid a d := by
  rw [refundedTo_payOf_false]
  simp only [recOf, List.filter_filter]
  congr 3
  funext x
  exact Bool.and_comm _ _

theorem Settled.no_record {e : Env} {w w' : World} {pid : Nat} {b : Bool} (s : Settled e w w' pid b) :
    ∀ x ∈ w'.g.deposits, x.pid ≠ pid := by
  rw [s.deps]
  intro x hx
  have := (List.mem_filter.mp hx).2
  simpa using this

theorem Settled.refund_facts {e : Env} {w w' : World} {pid : Nat} (s : Settled e w w' pid false) :
    (∀ d, Coins.amountOf w'.l.supply d = Coins.amountOf w.l.supply d) ∧
    (∀ a d, a ≠ e.modAddr → w'.l.balOf a d = w.l.balOf a d + recOf w.g.deposits pid a d) ∧
    (∀ x ∈ w'.g.deposits, x.pid ≠ pid) ∧ ¬ Live w'.g pid := by
  have mv := s.moves
  refine ⟨?_, ?_, s.no_record, s.ended⟩
  · intro d; rw [mv.supply d, burnedSum_payOf_false]; omega
  · intro a d ha; rw [mv.paid a d ha, refundedTo_payOf_recOf]

theorem Settled.burn_facts {e : Env} {w w' : World} {pid : Nat} (s : Settled e w w' pid true) :
    (∀ d, Coins.amountOf w'.l.supply d = Coins.amountOf w.l.supply d - recAll w.g.deposits pid d) ∧
    (∀ a d, a ≠ e.modAddr → w'.l.balOf a d = w.l.balOf a d) ∧
    (∀ x ∈ w'.g.deposits, x.pid ≠ pid) ∧ ¬ Live w'.g pid := by
  have mv := s.moves
  refine ⟨?_, ?_, s.no_record, s.ended⟩
  · intro d; rw [mv.supply d, burnedSum_payOf_true]; rfl
  · intro a d ha; rw [mv.paid a d ha, refundedTo_payOf_true]; omega

/-- the identifier is below the counter (so handed out, or below the counter the history started with, which `Init`
    leaves free), and the proposal is not (or no longer) in a deposit or voting period -/
def Ended (g : State) (pid : Nat) : Prop := pid < g.nextId ∧ ¬ Live g pid

/-- from `w` to `w'` a proposal only becomes live by being submitted under a fresh identifier -/
structure Grow (w w' : World) : Prop where
  back : ∀ id, Live w'.g id → Live w.g id ∨ w.g.nextId ≤ id
  next : w.g.nextId ≤ w'.g.nextId

theorem Grow.refl (w : World) : Grow w w := ⟨fun _ h => Or.inl h, Nat.le_refl _⟩

theorem Grow.trans {w w1 w2 : World} (a : Grow w w1) (b : Grow w1 w2) : Grow w w2 := by
  refine ⟨?_, Nat.le_trans a.next b.next⟩
  intro id h
  rcases b.back id h with h1 | h1
  · exact a.back id h1
  · exact Or.inr (Nat.le_trans a.next h1)

theorem Grow.ended {w w' : World} (g : Grow w w') {pid : Nat} (h : Ended w.g pid) : Ended w'.g pid := by
  refine ⟨Nat.lt_of_lt_of_le h.1 g.next, ?_⟩
  intro hl
  rcases g.back pid hl with h1 | h1
  · exact h.2 h1
  · exact absurd h.1 (Nat.not_lt.mpr h1)

theorem Grow.of_quiet {w w' : World} (hb : ∀ id, Live w'.g id → Live w.g id) (hn : w'.g.nextId = w.g.nextId) : Grow w w' :=
  ⟨fun id h => Or.inl (hb id h), by rw [hn]; exact Nat.le_refl _⟩

theorem Grow.of_fresh {w w' : World} (hn : w'.g.nextId = w.g.nextId + 1)
    (hoth : ∀ id, id ≠ w.g.nextId → findP w'.g id = findP w.g id) : Grow w w' := by
  refine ⟨fun id hl => ?_, by rw [hn]; exact Nat.le_succ _⟩
  by_cases hid : id = w.g.nextId
  · exact Or.inr (Nat.le_of_eq hid.symm)
  · unfold Live at *; rw [← hoth id hid]; exact Or.inl hl

theorem live_back {g g' : State} {pid : Nat} (hoth : ∀ id, id ≠ pid → findP g' id = findP g id)
    (hp : Live g' pid → Live g pid) : ∀ id, Live g' id → Live g id := by
  intro id h
  by_cases hid : id = pid
  · exact hid ▸ hp (hid ▸ h)
  · unfold Live at *; rw [← hoth id hid]; exact h

theorem Grow.of_settled {e : Env} {w w' : World} {pid : Nat} {b : Bool} (s : Settled e w w' pid b)
    (hn : w'.g.nextId = w.g.nextId) : Grow w w' :=
  Grow.of_quiet (live_back s.others (fun h => absurd h s.ended)) hn

theorem endBlock_grow {e : Env} {w w' : World} (h : endBlock e w = .ok w') : Grow w w' :=
  endBlock_rel_endStep Grow.refl Grow.trans (fun _ _ _ _ hh => Grow.of_settled (drop_settled hh).1 (drop_settled hh).2)
    (fun w p w' hf st => Grow.of_quiet (live_back st.others.1 fun hl => by
      rcases endStep_sub st with ⟨h2, _, _⟩ | ⟨_, _, _, s⟩
      · exact ⟨p, hf, Or.inr (Or.inl h2)⟩
      · exact absurd hl s.ended) st.others.2) h

theorem atom_grow {e : Env} {a : Addr} {w w' : World} (h : Atom e a w w') : Grow w w' := by
  cases h with
  | «open» p hid _ => exact Grow.of_fresh rfl fun id hn => findP_setP_ne w.g (hid ▸ hn)
  | @edit p q hp hs _ =>
    exact Grow.of_quiet (live_back (pid := q.id) (fun id hn => findP_setP_ne _ hn) fun _ => ⟨p, hp, Or.inl hs⟩)
      (setP_nextId ..)
  | escrowIn _ _ _ _ _ => exact Grow.of_quiet (fun _ hl => hl) rfl
  | vote _ _ _ _ => exact Grow.of_quiet (fun _ hl => hl) rfl

theorem stepW_grow (m : Addr) (w : World) (op : Op) : Grow w (stepW m w op) :=
  have msg : ∀ {e a w'}, Star (Atom e a) w w' → Grow w w' := fun s => s.lift Grow.refl Grow.trans fun t => atom_grow t
  step_ind (motive := fun _ w' _ _ => Grow w w') m w (fun _ => Grow.refl _)
    (fun _ _ _ _ _ _ hs => msg (submit_atoms hs)) (fun _ _ _ _ _ _ hs => msg (addDeposit_atoms hs))
    -- a vote reads no environment: any will do
    (fun _ _ _ _ hs => msg (vote_atoms (e := env m ⟨0, "", default⟩) hs))
    (fun _ _ hs => endBlock_grow hs) (fun _ _ _ _ _ _ _ => Grow.of_quiet (fun _ hl => hl) rfl) op

theorem runW_grow (m : Addr) (ops : List Op) (w : World) : Grow w (runW m w ops) :=
  List.foldlRecOn (motive := Grow w) ops (stepW m) (Grow.refl w) (fun w1 h op _ => h.trans (stepW_grow m w1 op))

theorem depLog_ended (m : Addr) (w : World) (op : Op) (pid : Nat) (h : Ended w.g pid) (a : Addr) (d : Denom) :
    depTot (depLog m w op) pid a d = 0 := by
  refine step_ind (motive := fun _ _ D _ => depTot D pid a d = 0) m w (fun _ => rfl) ?_ ?_ (fun _ _ _ _ _ => rfl)
    (fun _ _ _ => rfl) (fun _ _ _ _ _ _ _ => rfl) op
  · intro x pr p0 dep w' _ _
    split
    · rfl
    · rw [depTot_single, if_neg]
      have := h.1
      simp only [Bool.and_eq_true, beq_iff_eq, not_and]; omega
  · intro x pid' a' amt w' _ hs
    rw [depTot_single, if_neg]
    simp only [Bool.and_eq_true, beq_iff_eq, not_and]
    intro he; subst he
    obtain ⟨p, _, _, hp, hs1, _⟩ := addDeposit_ok hs
    exact absurd ⟨p, hp, Or.inl hs1⟩ h.2

theorem runG_deps_frozen (m : Addr) (pid : Nat) (a : Addr) (d : Denom) (ops : List Op) (g : G) (h : Ended g.w.g pid) :
    depTot (runG m g ops).deps pid a d = depTot g.deps pid a d :=
  (List.foldlRecOn (motive := fun g' : G => Ended g'.w.g pid ∧ depTot g'.deps pid a d = depTot g.deps pid a d)
    ops (stepG m) ⟨h, rfl⟩ (fun g1 ⟨h1, e1⟩ op _ => ⟨(stepW_grow m g1.w op).ended h1, by
      show depTot (g1.deps ++ depLog m g1.w op) pid a d = _
      rw [depTot_append, depLog_ended m g1.w op pid h1]; omega⟩)).2

theorem runG_append (m : Addr) (g : G) (ops1 ops2 : List Op) :
    runG m g (ops1 ++ ops2) = runG m (runG m g ops1) ops2 := by
  unfold runG; rw [List.foldl_append]

end Shentu.C11H
