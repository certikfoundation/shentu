import Shentu.Model.Gov
import Shentu.Proofs.Tactics
import Shentu.Proofs.Guards
import Shentu.Proofs.Keys
import Shentu.Proofs.BankLemmas
import Shentu.Proofs.Runs
/-
  The governance model, as the proofs use it: the equations of the proposal store, each piece of the end blocker
  written as one expression in the components of its tallies, induction along `foldIds` and `endBlock`, and what a
  successful message is (`vote_ok_iff`, `addDeposit_ok`, `submit_ok`).
-/
theorem Shentu.Gen.Gov.depositRefused_iff {st : Int} {c : Bool} : Gen.Gov.depositRefused st c = true ↔ st ≠ 1 ∨ c = true := by
  simp only [Gen.Gov.depositRefused, Bool.or_eq_true, bne_iff_ne]

theorem Shentu.Gen.Gov.earlyPassRefunds_eq : Gen.Gov.earlyPassRefunds = true := rfl

namespace Shentu.Gov

theorem setP_proposals (g : State) (p : Proposal) : (setP g p).proposals = Keyed.upsert (·.id) p g.proposals :=
  apply_ite State.proposals _ _ _

theorem findP_setP (g : State) (p : Proposal) (id : Nat) :
    findP (setP g p) id = if p.id == id then some p else findP g id := by
  unfold findP
  rw [setP_proposals, Keyed.find_upsert]
  simp only [beq_iff_eq]

theorem findP_setP_self (g : State) (p : Proposal) : findP (setP g p) p.id = some p := by
  rw [findP_setP, beq_self_eq_true, if_pos rfl]

theorem findP_setP_ne (g : State) {p : Proposal} {id : Nat} (h : id ≠ p.id) : findP (setP g p) id = findP g id := by
  rw [findP_setP, if_neg (by simpa using Ne.symm h)]

@[simp] theorem setP_deposits (g : State) (p : Proposal) : (setP g p).deposits = g.deposits := by unfold setP; split <;> rfl
@[simp] theorem setP_votes (g : State) (p : Proposal) : (setP g p).votes = g.votes := by unfold setP; split <;> rfl
@[simp] theorem setP_params (g : State) (p : Proposal) : (setP g p).params = g.params := by unfold setP; split <;> rfl
@[simp] theorem setP_nextId (g : State) (p : Proposal) : (setP g p).nextId = g.nextId := by unfold setP; split <;> rfl

theorem findP_congr {g g' : State} (h : g'.proposals = g.proposals) (id : Nat) : findP g' id = findP g id := by
  unfold findP; rw [h]

theorem findP_id {g : State} {id : Nat} {p : Proposal} (h : findP g id = some p) : p.id = id := by
  simpa using List.find?_some h

theorem findP_delP (g : State) (id id' : Nat) : findP (delP g id) id' = if id == id' then none else findP g id' := by
  simp only [beq_iff_eq]
  exact Keyed.find_remove (·.id) id id' g.proposals

-- `protected`: `Props/C12` has a theorem of this short name and opens `Shentu.Gov`
protected theorem activated_id (e : Env) (g : State) (p : Proposal) : (activated e g p).id = p.id := by
  unfold activated; dsimp only; split
  · rfl
  · split <;> rfl

theorem activated_status (e : Env) (g : State) (p : Proposal) :
    (activated e g p).status = 2 ∨ (activated e g p).status = 3 := by
  unfold activated; dsimp only; split
  · exact Or.inl rfl
  · split <;> exact Or.inr rfl

@[simp] theorem activateVotingPeriod_deposits (e : Env) (g : State) (p : Proposal) :
    (activateVotingPeriod e g p).deposits = g.deposits := setP_deposits _ _
@[simp] theorem activateVotingPeriod_nextId (e : Env) (g : State) (p : Proposal) :
    (activateVotingPeriod e g p).nextId = g.nextId := setP_nextId _ _

theorem findP_activate (e : Env) (g : State) (p : Proposal) (id : Nat) :
    findP (activateVotingPeriod e g p) id = if p.id == id then some (activated e g p) else findP g id := by
  unfold activateVotingPeriod; rw [findP_setP, Gov.activated_id]

theorem stakeTally_state (e : Env) (g : State) (p : Proposal) (cd : Int) :
    (stakeTally e g p cd).2.2.2 = { g with votes := g.votes.filter (fun v => !(v.pid == p.id)) } := by
  unfold stakeTally; rfl

theorem upsertDeposit_eq (pid : Nat) (a : Addr) (amt : Coins) (ds : List Deposit) :
    upsertDeposit pid a amt ds = upd (fun d => d.pid == pid && d.depositor == a)
      (fun d => { d with amount := Coins.add d.amount amt }) { pid := pid, depositor := a, amount := amt } ds := by
  induction ds with
  | nil => rfl
  | cons d ds ih => simp only [upsertDeposit, upd, ih]

theorem setVote_eq (pid : Nat) (a : Addr) (o : Nat) (vs : List Vote) :
    setVote pid a o vs = upd (fun v => v.pid == pid && v.voter == a) (fun v => { v with option := o })
      { pid := pid, voter := a, option := o } vs := by
  induction vs with
  | nil => rfl
  | cons v vs ih => simp only [setVote, upd, ih]

theorem amountOf_foldl_add (ds : List Deposit) (acc : Coins) (d : Denom) :
    Coins.amountOf (ds.foldl (fun acc x => Coins.add acc x.amount) acc) d =
      Coins.amountOf acc d + (ds.map (fun x => Coins.amountOf x.amount d)).sum := by
  induction ds generalizing acc with
  | nil => simp
  | cons x xs ih => simp only [List.foldl_cons, ih, Coins.amountOf_add, List.map_cons, List.sum_cons]; omega

/-- the total that `burnDeposits` burns, per denomination -/
theorem amountOf_foldl_amounts (ds : List Deposit) (d : Denom) :
    Coins.amountOf (ds.foldl (fun acc x => Coins.add acc x.amount) ([] : Coins)) d =
      (ds.map (fun x => Coins.amountOf x.amount d)).sum := by
  rw [amountOf_foldl_add]; simp

theorem sum_upsertDeposit (q : Nat → Addr → Bool) (pid : Nat) (a : Addr) (amt : Coins) (d : Denom) (ds : List Deposit) :
    (((upsertDeposit pid a amt ds).filter (fun x => q x.pid x.depositor)).map (fun x => Coins.amountOf x.amount d)).sum =
      ((ds.filter (fun x => q x.pid x.depositor)).map (fun x => Coins.amountOf x.amount d)).sum +
        if q pid a then Coins.amountOf amt d else 0 := by
  rw [upsertDeposit_eq]
  apply sum_filter_upd (fun x : Deposit => q x.pid x.depositor) (fun x : Deposit => Coins.amountOf x.amount d)
  · intro y hy
    simp only [Bool.and_eq_true, beq_iff_eq] at hy
    simp only [hy.1, hy.2, and_self]
  · exact fun y _ => Coins.amountOf_add ..
  · rfl

theorem forall_upsertDeposit {P : Deposit → Prop} {pid : Nat} {a : Addr} {amt : Coins} {ds : List Deposit}
    (h : ∀ x ∈ ds, P x) (hf : ∀ y ∈ ds, y.pid = pid → y.depositor = a → P { y with amount := Coins.add y.amount amt })
    (hn : P { pid := pid, depositor := a, amount := amt }) : ∀ x ∈ upsertDeposit pid a amt ds, P x := by
  rw [upsertDeposit_eq]
  refine forall_upd h (fun y hy hit => ?_) hn
  simp only [Bool.and_eq_true, beq_iff_eq] at hit
  exact hf y hy hit.1 hit.2

theorem refundDeposits_ok {e : Env} {w w' : World} {pid : Nat} (h : refundDeposits e w pid = .ok w') :
    ∃ l', refundDeposits.go e (w.g.deposits.filter (·.pid == pid)) w.l = .ok l' ∧
      w' = { w with l := l', g := { w.g with deposits := w.g.deposits.filter (fun d => !(d.pid == pid)) } } := by
  unfold refundDeposits at h
  dsimp only at h
  split at h; · cases h
  rename_i l1 hgo
  injection h with h
  exact ⟨l1, hgo, h.symm⟩

theorem refund_go_cons {e : Env} {x : Deposit} {ds : List Deposit} {l l1 : Ledger}
    (hs : l.send e.modAddr x.depositor x.amount = .ok l1) : refundDeposits.go e (x :: ds) l = refundDeposits.go e ds l1 := by
  rw [refundDeposits.go, hs]

theorem refund_go_ok (e : Env) (ds : List Deposit) (l l' : Ledger) (h : refundDeposits.go e ds l = .ok l') :
    l' = l.paid e.modAddr (fun x : Deposit => x.depositor) (fun x : Deposit => x.amount) ds ∧
      ∀ x ∈ ds, ∀ d, 0 ≤ Coins.amountOf x.amount d :=
  Ledger.paid_of_ok e.modAddr (fun x : Deposit => x.depositor) (fun x : Deposit => x.amount) (refundDeposits.go e) (fun _ _ h => (Except.ok.inj h).symm)
    (fun x xs l l' h => by
      cases hs : l.send e.modAddr x.depositor x.amount with
      | error _ => rw [refundDeposits.go, hs] at h; cases h
      | ok l1 => exact ⟨l1, rfl, refund_go_cons hs ▸ h⟩) ds l l' h

theorem burnDeposits_ok {e : Env} {w w' : World} {pid : Nat} (h : burnDeposits e w pid = .ok w') :
    w' = { w with l := w.l.burn e.modAddr
                    ((w.g.deposits.filter (·.pid == pid)).foldl (fun acc d => Coins.add acc d.amount) ([] : Coins)),
                  g := { w.g with deposits := w.g.deposits.filter (fun d => !(d.pid == pid)) } } := by
  unfold burnDeposits at h
  dsimp only at h
  split at h; · cases h
  injection h with h
  exact h.symm

theorem runHandler_frame {w w' : World} {p : Proposal} (h : runHandler w p = .ok w') : w'.l = w.l ∧ w'.g = w.g := by
  unfold runHandler at h
  split at h
  · split at h
    · cases h
    · cases h; exact ⟨rfl, rfl⟩
  · cases h; exact ⟨rfl, rfl⟩

/-- `finish` stores the proposal as passed (4), rejected (5) or failed (6), rejected if the votes did not pass it; only
    an accepted handler of a passed proposal can touch the rest of the world, and it touches the council alone -/
theorem finish_shape (w : World) (p : Proposal) (pass : Bool) (t : Tally) :
    ∃ c' s, finish w p pass t = { w with c := c', g := setP w.g { p with status := s, tally := t } } ∧
      ((s = 4 ∧ pass = true ∧ runHandler w p = .ok { w with c := c' }) ∨
        ((s = 5 ∨ s = 6) ∧ c' = w.c ∧ (pass = false → s = 5))) := by
  unfold finish
  cases pass with
  | false => exact ⟨w.c, 5, rfl, Or.inr ⟨Or.inl rfl, rfl, fun _ => rfl⟩⟩
  | true =>
    rw [if_pos rfl]
    cases hh : runHandler w p with
    | error _ => exact ⟨w.c, 6, rfl, Or.inr ⟨Or.inr rfl, rfl, nofun⟩⟩
    | ok w1 =>
      obtain ⟨hl, hg⟩ := runHandler_frame hh
      have hw1 : w1 = { w with c := w1.c } := by cases w1; cases hl; cases hg; rfl
      exact ⟨w1.c, 4, by dsimp only; rw [hg, ← hl], Or.inl ⟨rfl, rfl, hw1 ▸ rfl⟩⟩

theorem processActive_eq (e : Env) (w : World) (p : Proposal) :
    processActive e w p =
      if p.status == 2 then
        if !(securityTally w.g w.c p).2.1 then
          .ok { w with g := activateVotingPeriod e { w.g with votes := w.g.votes.filter (fun v => !(v.pid == p.id)) } p }
        else (refundDeposits e w p.id).map fun w1 => finish w1 p (securityTally w.g w.c p).1 (securityTally w.g w.c p).2.2
      else
        (if (stakeTally e w.g p 0).2.1 then burnDeposits e { w with g := (stakeTally e w.g p 0).2.2.2 } p.id
          else refundDeposits e { w with g := (stakeTally e w.g p 0).2.2.2 } p.id).map
          fun w2 => finish w2 p (stakeTally e w.g p 0).1 (stakeTally e w.g p 0).2.2.1 := by
  unfold processActive
  cases p.status == 2
  · generalize stakeTally e w.g p 0 = st
    obtain ⟨pass, veto, t, g1⟩ := st
    dsimp only
    cases veto
    · cases refundDeposits e { w with g := g1 } p.id <;> rfl
    · cases burnDeposits e { w with g := g1 } p.id <;> rfl
  · generalize securityTally w.g w.c p = st
    obtain ⟨pass, endVoting, t⟩ := st
    cases endVoting
    · rfl
    · cases refundDeposits e w p.id <;> rfl

theorem processSecurityVote_eq (e : Env) (w : World) (p : Proposal) :
    processSecurityVote e w p =
      if p.status != 2 then .ok w
      else if !(securityTally w.g w.c p).1 then .ok w
      else if (securityTally w.g w.c p).2.1 then
        (refundDeposits e w p.id).map fun w1 => finish w1 p true (securityTally w.g w.c p).2.2
      else .ok { w with g := activateVotingPeriod e { w.g with votes := w.g.votes.filter (fun v => !(v.pid == p.id)) } p } := by
  unfold processSecurityVote
  split
  · rfl
  · generalize securityTally w.g w.c p = st
    obtain ⟨pass, endVoting, t⟩ := st
    dsimp only
    split
    · rfl
    · split
      · rw [if_pos Gen.Gov.earlyPassRefunds_eq]
        cases refundDeposits e w p.id <;> rfl
      · rfl

/-- one round of `foldIds`: an identifier without proposal is skipped -/
def idRound (f : World → Proposal → Except Err World) (w : World) (id : Nat) : Except Err World :=
  match findP w.g id with
  | none => .ok w
  | some p => f w p

theorem foldIds_eq (f : World → Proposal → Except Err World) : ∀ (ids : List Nat) (w : World),
    foldIds f ids w = ids.foldlM (idRound f) w
  | [], _ => rfl
  | id :: ids, w => by
    rw [List.foldlM_cons, foldIds, idRound]
    cases findP w.g id with
    | none => exact foldIds_eq f ids w
    | some p =>
      dsimp only
      cases f w p with
      | error x => rfl
      | ok w' => exact foldIds_eq f ids w'

theorem idRound_ok {f : World → Proposal → Except Err World} {w w' : World} {id : Nat} (h : idRound f w id = .ok w') :
    (findP w.g id = none ∧ w' = w) ∨ ∃ p, findP w.g id = some p ∧ f w p = .ok w' := by
  unfold idRound at h
  cases hp : findP w.g id with
  | none => rw [hp] at h; cases h; exact Or.inl ⟨rfl, rfl⟩
  | some p => rw [hp] at h; exact Or.inr ⟨p, rfl, h⟩

theorem foldIds_ind (I : List Nat → World → Prop) (f : World → Proposal → Except Err World)
    (hskip : ∀ id ids w, findP w.g id = none → I (id :: ids) w → I ids w)
    (hf : ∀ id ids w p w', I (id :: ids) w → findP w.g id = some p → f w p = .ok w' → I ids w')
    (ids : List Nat) (w w' : World) (hi : I ids w) (h : foldIds f ids w = .ok w') : I [] w' :=
  foldlM_ind I (fun id ids w w1 hq h1 => by
    rcases idRound_ok h1 with ⟨hn, rfl⟩ | ⟨p, hp, hfp⟩
    · exact hskip id ids _ hn hq
    · exact hf id ids w p w1 hq hp hfp) ids w w' hi (foldIds_eq f ids w ▸ h)

theorem foldIds_rel {R : World → World → Prop} (refl : ∀ w, R w w) (trans : ∀ {a b c}, R a b → R b c → R a c)
    {f : World → Proposal → Except Err World}
    (hf : ∀ w p w', findP w.g p.id = some p → f w p = .ok w' → R w w')
    (ids : List Nat) (w w' : World) (h : foldIds f ids w = .ok w') : R w w' :=
  foldIds_ind (fun _ w1 => R w w1) f (fun _ _ _ _ h => h)
    (fun _ _ w1 p w2 h hp hfp => trans h (hf w1 p w2 (by rw [findP_id hp]; exact hp) hfp)) ids w w' (refl w) h

/-- what a loop of the end blocker runs over: the identifiers of the stored proposals that pass `q`, in the order of `k` -/
def selIds (k : Proposal → Int) (q : Proposal → Bool) (g : State) : List Nat := (sortByKey k (g.proposals.filter q)).map (·.id)

/-- the end blocker is three loops, each over the proposals that are due in the world the loop before it left -/
theorem endBlock_ok_iff {e : Env} {w w' : World} : endBlock e w = .ok w' ↔ ∃ w1 w2,
    foldIds (fun w p => refundDeposits e { w with g := delP w.g p.id } p.id)
      (selIds (·.depositEnd) (fun p => p.status == 1 && p.depositEnd ≤ e.t) w.g) w = .ok w1 ∧
    foldIds (processActive e)
      (selIds (·.votingEnd) (fun p => (p.status == 2 || p.status == 3) && p.votingEnd ≤ e.t) w1.g) w1 = .ok w2 ∧
    foldIds (processSecurityVote e) (selIds (·.votingEnd) (fun p => p.status == 2 || p.status == 3) w2.g) w2 = .ok w' := by
  unfold endBlock selIds
  dsimp only
  constructor
  · intro h
    split at h; · cases h
    rename_i w1 h1
    split at h; · cases h
    rename_i w2 h2
    exact ⟨w1, w2, h1, h2, h⟩
  · rintro ⟨w1, w2, h1, h2, h3⟩
    rw [h1]; dsimp only; rw [h2]; exact h3

theorem endBlock_rel {R : World → World → Prop} (refl : ∀ w, R w w) (trans : ∀ {a b c}, R a b → R b c → R a c) {e : Env}
    (hdrop : ∀ w p w', findP w.g p.id = some p → refundDeposits e { w with g := delP w.g p.id } p.id = .ok w' → R w w')
    (hact : ∀ w p w', findP w.g p.id = some p → processActive e w p = .ok w' → R w w')
    (hsec : ∀ w p w', findP w.g p.id = some p → processSecurityVote e w p = .ok w' → R w w')
    {w w' : World} (h : endBlock e w = .ok w') : R w w' := by
  obtain ⟨w1, w2, h1, h2, h3⟩ := endBlock_ok_iff.mp h
  exact trans (foldIds_rel refl trans hdrop _ _ _ h1)
    (trans (foldIds_rel refl trans hact _ _ _ h2) (foldIds_rel refl trans hsec _ _ _ h3))

theorem foldIds_total {I : World → Prop} {f : World → Proposal → Except Err World}
    (hf : ∀ w p, I w → ∃ w', f w p = .ok w' ∧ I w') (ids : List Nat) (w : World) (hi : I w) :
    ∃ w', foldIds f ids w = .ok w' ∧ I w' := by
  rw [foldIds_eq]
  refine foldlM_total (fun id _ w hi => ?_) hi
  unfold idRound
  cases findP w.g id with
  | none => exact ⟨w, rfl, hi⟩
  | some p => exact hf w p hi

theorem endBlock_total_of {I : World → Prop} {e : Env}
    (hdrop : ∀ w (p : Proposal), I w → ∃ w', refundDeposits e { w with g := delP w.g p.id } p.id = .ok w' ∧ I w')
    (hact : ∀ w p, I w → ∃ w', processActive e w p = .ok w' ∧ I w')
    (hsec : ∀ w p, I w → ∃ w', processSecurityVote e w p = .ok w' ∧ I w')
    (w : World) (h : I w) : ∃ w', endBlock e w = .ok w' ∧ I w' := by
  obtain ⟨w1, hw1, h1⟩ := foldIds_total hdrop _ w h
  obtain ⟨w2, hw2, h2⟩ := foldIds_total hact _ w1 h1
  obtain ⟨w3, hw3, h3⟩ := foldIds_total hsec _ w2 h2
  exact ⟨w3, endBlock_ok_iff.mpr ⟨w1, w2, hw1, hw2, hw3⟩, h3⟩

theorem vote_ok_iff {w w' : World} {pid : Nat} {v : Addr} {o : Nat} :
    vote w pid v o = .ok w' ↔
      (o = 1 ∨ o = 2 ∨ o = 3 ∨ o = 4) ∧ ∃ p, findP w.g pid = some p ∧ (p.status = 2 ∨ p.status = 3) ∧
        (p.status = 2 → (o = 1 ∨ o = 3) ∧ Cert.isCertifier w.c v = true) ∧
        (p.kind = "claim" → p.status = 3 → isCertifiedIdentity w.c v = true) ∧
        w' = { w with g := { w.g with votes := setVote pid v o w.g.votes } } := by
  unfold vote
  rw [err_guard_iff]
  cases hp : findP w.g pid with
  | none => simp [err]
  | some p =>
    simp only [err_guard_iff, Except.ok.injEq, Option.some.injEq, exists_eq_left']
    -- the regenerated guards are opened only now: earlier the `if`s would be stuck on their `Decidable` instances
    unfold Gen.Gov.validOption Gen.Gov.voteInactive Gen.Gov.certifierRoundOption Gen.Gov.certifierRoundBadOption
    bool_norm
    simp only [bne_eq_false_iff_eq, or_assoc]
    norm_cast
    simp only [Decidable.or_iff_not_imp_left, imp_and, and_imp, and_assoc, @eq_comm World w']

theorem addDeposit_ok {e : Env} {w w' : World} {pid : Nat} {a : Addr} {amt : Coins}
    (h : addDeposit e w pid a amt = .ok w') :
    ∃ p l' g2, findP w.g pid = some p ∧ p.status = 1 ∧ p.isCouncil = false ∧ w.l.send a e.modAddr amt = .ok l' ∧
      (g2 = setP w.g { p with totalDeposit := Coins.add p.totalDeposit amt } ∨
        g2 = activateVotingPeriod e (setP w.g { p with totalDeposit := Coins.add p.totalDeposit amt })
          { p with totalDeposit := Coins.add p.totalDeposit amt }) ∧
      w' = { w with l := l', g := { g2 with deposits := upsertDeposit pid a amt g2.deposits } } := by
  unfold addDeposit at h
  split at h; · cases h
  rename_i p hp
  split at h; · cases h
  rename_i hst
  split at h; · cases h
  rename_i l1 hsend
  injection h with h; subst h
  rw [Gen.Gov.depositRefused_iff, not_or, Decidable.not_not, Bool.not_eq_true] at hst
  refine ⟨p, l1, _, hp, by omega, hst.2, hsend, ?_, rfl⟩
  split
  · exact Or.inr rfl
  · exact Or.inl rfl

theorem submit_ok {e : Env} {w w' : World} {pr : Addr} {p0 : Proposal} {dep : Coins}
    (h : submit e w pr p0 dep = .ok w') :
    ∃ p : Proposal, p.id = w.g.nextId ∧ p.status = 1 ∧
      ((isCouncil e w.c pr = true ∧
          w' = { w with g := activateVotingPeriod e { setP w.g p with nextId := w.g.nextId + 1 } p }) ∨
        (isCouncil e w.c pr = false ∧
          addDeposit e { w with g := { setP w.g p with nextId := w.g.nextId + 1 } } w.g.nextId pr dep = .ok w')) := by
  unfold submit at h
  dsimp only at h
  obtain ⟨_, h⟩ := of_guard h
  obtain ⟨_, h⟩ := of_guard h
  obtain ⟨_, h⟩ := of_guard h
  cases hr : runHandler w p0 with
  | error _ => rw [hr] at h; cases h
  | ok _ =>
  rw [hr] at h
  dsimp only at h
  refine ⟨{ p0 with id := w.g.nextId, status := 1, isCouncil := isCouncil e w.c pr, proposer := pr, totalDeposit := [],
                    submitTime := e.t, depositEnd := e.t + w.g.params.depositPeriod, votingStart := zeroTime,
                    votingEnd := zeroTime, tally := ⟨0, 0, 0, 0⟩ }, rfl, rfl, ?_⟩
  split at h
  · rename_i hc
    injection h with h
    exact Or.inl ⟨hc, h.symm⟩
  · rename_i hc
    exact Or.inr ⟨by simpa using hc, h⟩

end Shentu.Gov
