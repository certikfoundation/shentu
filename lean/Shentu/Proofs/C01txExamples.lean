import Shentu.Proofs.C01txMain
import Shentu.Proofs.VmRuns
import Std.Data.String.ToNat
/-
  The example configuration of `Shentu/Proofs/VmRuns.lean` renders addresses injectively, and its example states are well-formed
  (`wf_of_check`).
-/
namespace Shentu.CvmTxH
open Shentu Shentu.EVM Shentu.CvmTx

/-- a way to establish well-formedness of a concrete state: the checks are decidable -/
theorem wf_of_check {c : Cfg} {l : Ledger} {st : Store} (hinj : c.Inj) (hk : Keyed st)
    (hnn : ∀ a ∈ st, 0 ≤ l.balOf (c.nm a.addr) c.bond) (hf : total (loadWorld c l st) < U64)
    (hp : l.posts.all (fun p => st.any (fun a => p.1 == c.nm a.addr)) = true) : WF c l st := by
  refine ⟨hk, hnn, hf, ?_⟩
  intro x hx
  have hfil : l.posts.filter (fun p => p.1 == c.nm x) = [] := by
    rw [List.filter_eq_nil_iff]
    intro p hp1 he
    have := List.all_eq_true.mp hp p hp1
    obtain ⟨a, ha, e⟩ := List.any_eq_true.mp this
    have e1 : p.1 = c.nm a.addr := by simpa using e
    have e2 : p.1 = c.nm x := by simpa using he
    have := hinj _ _ (e1.symm.trans e2)
    exact get_none_iff.mp hx a ha this
  unfold Ledger.balOf Ledger.bal
  rw [hfil]
  rfl

end Shentu.CvmTxH

namespace Shentu.CvmTxH.Ex
open Shentu Shentu.EVM Shentu.CvmTx Shentu.CvmTxH

theorem c0_inj : c0.Inj := fun _ _ h => Nat.repr_injective h

theorem wf0 : WF c0 l0 st0 :=
  wf_of_check c0_inj (by decide) (by decide) (by decide +kernel) (by decide)

theorem inv0 : l0.invB = true := by decide

theorem wf1 : WF c0 l1 st1 :=
  wf_of_check c0_inj (by decide) (by decide) (by decide +kernel) (by decide)

end Shentu.CvmTxH.Ex

namespace Shentu.LockVmH.Ex
open Shentu Shentu.CvmTx Shentu.CvmTxH Shentu.CvmTxH.Ex

theorem wf2 : WF c0 l2 st2 :=
  wf_of_check c0_inj (by decide) (by decide) (by decide +kernel) (by decide)

end Shentu.LockVmH.Ex
