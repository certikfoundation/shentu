import Shentu.Model.Cvm
import Shentu.Proofs.CoinsCanon
import Shentu.Proofs.Guards
import Shentu.Proofs.Keys
/-
  The bank with manual vesting accounts and the contract message path (`Model/Vesting.lean`, `Model/Cvm.lean`):
  the record store (`find`/`set`, a list under distinct addresses updated as by `Keyed.upsert`), the
  spendable rule, and for every operation what an accepted call is: the guards that held and the state it
  returns.
-/
namespace Shentu.C19H
open Shentu Shentu.Vesting

theorem find_nil (a : Addr) : find [] a = none := rfl

end Shentu.C19H

namespace Shentu.Vesting

theorem find_cons (x : MVA) (xs : Accounts) (a : Addr) :
    find (x :: xs) a = if x.addr = a then some x else find xs a := by
  unfold find; by_cases h : x.addr = a <;> simp [h]

theorem find_addr {vs : Accounts} {a : Addr} {m : MVA} (h : find vs a = some m) : m.addr = a :=
  (Keyed.of_find MVA.addr h).2

theorem find_mem {vs : Accounts} {a : Addr} {m : MVA} (h : find vs a = some m) : m ∈ vs :=
  (Keyed.of_find MVA.addr h).1

theorem find_none_iff (vs : Accounts) (a : Addr) : find vs a = none ↔ a ∉ vs.map (·.addr) := by
  rw [find, List.find?_eq_none, List.mem_map]
  exact ⟨fun h ⟨x, hx, e⟩ => h x hx (beq_iff_eq.mpr e), fun h x hx e => h ⟨x, hx, beq_iff_eq.mp e⟩⟩

-- `Vesting.set vs m'` unfolds to `Keyed.upsert MVA.addr m' vs`
theorem find_set (vs : Accounts) (m' : MVA) (a : Addr) :
    find (set vs m') a = if m'.addr = a then some m' else find vs a :=
  Keyed.find_upsert MVA.addr m' vs a

theorem set_nodup {vs : Accounts} (m' : MVA) (h : (vs.map (·.addr)).Nodup) : ((set vs m').map (·.addr)).Nodup :=
  Keyed.keys_upsert_nodup MVA.addr m' h

theorem isAllGT_ge {a b : Coins} (h : isAllGT a b = true) (ha : ∀ d, 0 ≤ Coins.amountOf a d) (d : Denom) :
    Coins.amountOf b d ≤ Coins.amountOf a d := by
  unfold isAllGT at h
  split at h; · cases h
  split at h
  · rename_i hz
    rw [Coins.amountOf_of_isZero hz d]; exact ha d
  · by_cases hm : d ∈ Coins.denoms b
    · simp only [Bool.and_eq_true] at h
      have := (List.all_eq_true.mp h.1) d hm
      have : Coins.amountOf a d > Coins.amountOf b d := by simpa using this
      omega
    · rw [Coins.amountOf_of_not_mem_denoms b d hm]; exact ha d

theorem lockedAmt_nonneg (m : MVA) (d : Denom) : 0 ≤ lockedAmt m d := by
  unfold lockedAmt; omega

theorem lockedAmt_ge (m : MVA) (d : Denom) : vestingAmt m d - Coins.amountOf m.dv d ≤ lockedAmt m d := by
  unfold lockedAmt; omega

theorem lockedOf_nonneg (vs : Accounts) (a : Addr) (d : Denom) : 0 ≤ lockedOf vs a d := by
  unfold lockedOf
  split
  · exact lockedAmt_nonneg _ _
  · omega

theorem lockedOf_of_find {vs : Accounts} {a : Addr} {m : MVA} (h : find vs a = some m) (d : Denom) :
    lockedOf vs a d = lockedAmt m d := by
  unfold lockedOf; rw [h]

theorem canSpend_ok {l : Ledger} {vs : Accounts} {a : Addr} {amt : Coins} (h : canSpend l vs a amt = .ok ()) :
    Coins.isAnyNegative amt = false ∧ ∀ d ∈ Coins.denoms amt, Coins.amountOf amt d ≤ l.balOf a d - lockedOf vs a d := by
  unfold canSpend at h
  split at h; · cases h
  rename_i hneg
  split at h; · cases h
  split at h
  · rename_i hall
    refine ⟨by simpa using hneg, fun d hd => ?_⟩
    simpa using (List.all_eq_true.mp hall) d hd
  · cases h

/-- the same for every denomination: one the amount does not mention has amount 0 -/
theorem canSpend_all {l : Ledger} {vs : Accounts} {a : Addr} {amt : Coins} (h : canSpend l vs a amt = .ok ()) (d : Denom) :
    0 ≤ Coins.amountOf amt d ∧ (Coins.amountOf amt d = 0 ∨ lockedOf vs a d ≤ l.balOf a d - Coins.amountOf amt d) := by
  obtain ⟨hneg, hcov⟩ := canSpend_ok h
  refine ⟨Coins.amountOf_nonneg_of_not_anyNegative amt hneg d, ?_⟩
  by_cases hm : d ∈ Coins.denoms amt
  · right; have := hcov d hm; omega
  · left; exact Coins.amountOf_of_not_mem_denoms amt d hm

theorem send_ok {l l' : Ledger} {vs : Accounts} {src dst : Addr} {amt : Coins} (h : send l vs src dst amt = .ok l') :
    canSpend l vs src amt = .ok () ∧ l' = l.move src dst amt := by
  unfold send at h
  split at h; · cases h
  rename_i hc
  cases h
  exact ⟨hc, rfl⟩

/-- the record `MsgLockedSend` creates for a new recipient -/
def fresh (dst u : Addr) : MVA := { addr := dst, ov := [], vested := [], dv := [], df := [], unlocker := u }

theorem lockedSend_ok {l l' : Ledger} {vs vs' : Accounts} {f : Addr → Bool} {src dst u : Addr} {amt : Coins}
    (h : lockedSend l vs f src dst u amt = .ok (l', vs')) :
    ∃ m, ((find vs dst = some m ∧ u = "") ∨ (find vs dst = none ∧ f dst = false ∧ m = fresh dst u)) ∧
      Coins.isAllPositive amt = true ∧ vs' = set vs { m with ov := Coins.add m.ov amt } ∧
      l' = (l.credit dst amt).debit src amt ∧ canSpend (l.credit dst amt) vs' src amt = .ok () := by
  unfold lockedSend at h
  obtain ⟨hp, h⟩ := of_guard h
  obtain ⟨_, h⟩ := of_guard h
  have hpos : Coins.isAllPositive amt = true := by simpa using hp
  cases hm : find vs dst <;> rw [hm] at h <;> dsimp only at h
  · by_cases hf : f dst = true
    · rw [if_pos hf] at h; cases h
    by_cases hu : (u == "") = true
    · rw [if_neg hf, if_pos hu] at h; cases h
    rw [if_neg hf, if_neg hu] at h; dsimp only at h
    split at h; · cases h
    rename_i hc; cases h
    exact ⟨_, Or.inr ⟨rfl, by simpa using hf, rfl⟩, hpos, rfl, rfl, hc⟩
  · by_cases hu : (u != "") = true
    · rw [if_pos hu] at h; cases h
    rw [if_neg hu] at h; dsimp only at h
    split at h; · cases h
    rename_i hc; cases h
    exact ⟨_, Or.inl ⟨rfl, by simpa using hu⟩, hpos, rfl, rfl, hc⟩

/-- the record `MsgUnlock` writes back: the unlocked total grows by the amount, and what is delegated beyond the
    still-vesting amount moves from delegated-vesting to delegated-free -/
def unlocked (m : MVA) (amt : Coins) : MVA :=
  if isAllGT m.dv (Coins.sub m.ov (Coins.add m.vested amt)) then
    { m with vested := Coins.add m.vested amt,
             dv := Coins.sub m.dv (Coins.sub m.dv (Coins.sub m.ov (Coins.add m.vested amt))),
             df := Coins.add m.df (Coins.sub m.dv (Coins.sub m.ov (Coins.add m.vested amt))) }
  else { m with vested := Coins.add m.vested amt }

theorem unlocked_addr (m : MVA) (amt : Coins) : (unlocked m amt).addr = m.addr := by unfold unlocked; split <;> rfl
theorem unlocked_unlocker (m : MVA) (amt : Coins) : (unlocked m amt).unlocker = m.unlocker := by unfold unlocked; split <;> rfl
theorem unlocked_ov (m : MVA) (amt : Coins) : (unlocked m amt).ov = m.ov := by unfold unlocked; split <;> rfl
theorem unlocked_vested (m : MVA) (amt : Coins) : (unlocked m amt).vested = Coins.add m.vested amt := by
  unfold unlocked; split <;> rfl

theorem unlocked_delegated (m : MVA) (amt : Coins) (hdv : ∀ d, 0 ≤ Coins.amountOf m.dv d) (d : Denom) :
    ∃ e, (e = 0 ∨ (0 ≤ e ∧ e = Coins.amountOf m.dv d - (Coins.amountOf m.ov d - (Coins.amountOf m.vested d + Coins.amountOf amt d)))) ∧
      Coins.amountOf (unlocked m amt).dv d = Coins.amountOf m.dv d - e ∧
      Coins.amountOf (unlocked m amt).df d = Coins.amountOf m.df d + e := by
  unfold unlocked
  split
  · rename_i hgt
    have := isAllGT_ge hgt hdv d
    simp only [Coins.amountOf_sub, Coins.amountOf_add] at this ⊢
    exact ⟨_, Or.inr ⟨by omega, rfl⟩, rfl, rfl⟩
  · exact ⟨0, Or.inl rfl, (Int.sub_zero _).symm, (Int.add_zero _).symm⟩

theorem unlock_ok {vs vs' : Accounts} {ex : Addr → Bool} {issuer account : Addr} {amt : Coins}
    (h : unlock vs ex issuer account amt = .ok vs') :
    ∃ m, find vs account = some m ∧ issuer = m.unlocker ∧ Coins.isAllPositive amt = true ∧
      (∀ d, Coins.amountOf (Coins.add m.vested amt) d ≤ Coins.amountOf m.ov d) ∧ vs' = set vs (unlocked m amt) := by
  unfold unlock at h
  obtain ⟨hp, h⟩ := of_guard h
  obtain ⟨_, h⟩ := of_guard h
  cases hm : find vs account <;> rw [hm] at h <;> dsimp only at h
  · cases h
  rename_i m
  obtain ⟨hiss, h⟩ := of_guard h
  obtain ⟨_, h⟩ := of_guard h
  obtain ⟨hneg, h⟩ := of_guard h
  refine ⟨m, rfl, by simpa using hiss, by simpa using hp, fun d => ?_, ?_⟩
  · -- original − new unlocked total has no negative entry
    have := Coins.amountOf_nonneg_of_not_anyNegative _ (by simpa using hneg) d
    rw [Coins.amountOf_sub] at this
    omega
  by_cases hall : isAllGT m.dv (Coins.sub m.ov (Coins.add m.vested amt)) = true
  · rw [if_pos hall] at h; cases h; rw [unlocked, if_pos hall]
  · rw [if_neg hall] at h; cases h; rw [unlocked, if_neg hall]

theorem delegate_ok {l l' : Ledger} {vs vs' : Accounts} {del pool : Addr} {d : Denom} {amount : Int}
    (h : delegate l vs del pool d amount = .ok (l', vs')) :
    0 < amount ∧ amount ≤ l.balOf del d ∧ l' = l.move del pool [(d, amount)] ∧
      vs' = (match find vs del with
        | some m => set vs (trackDelegation m d amount)
        | none => vs) := by
  unfold delegate at h
  split at h; · cases h
  split at h; · cases h
  cases h
  exact ⟨by omega, by omega, rfl, rfl⟩

/-- of a delegated `amount`, what still vests and is not yet delegated counts as delegated-vesting, the rest as delegated-free -/
theorem trackDelegation_dv (m : MVA) (d : Denom) (amount : Int) (d' : Denom) :
    Coins.amountOf (trackDelegation m d amount).dv d' = Coins.amountOf m.dv d' +
      if d = d' then min (max (vestingAmt m d - Coins.amountOf m.dv d) 0) amount else 0 :=
  Coins.amountOf_ite_add _ _ _ _

theorem trackDelegation_df (m : MVA) (d : Denom) (amount : Int) (d' : Denom) :
    Coins.amountOf (trackDelegation m d amount).df d' = Coins.amountOf m.df d' +
      if d = d' then amount - min (max (vestingAmt m d - Coins.amountOf m.dv d) 0) amount else 0 :=
  Coins.amountOf_ite_add _ _ _ _

end Shentu.Vesting

namespace Shentu.Cvm
open Shentu.Vesting

/-- one level of an accepted execution of the contract library: nothing moved (and at most the callee's slot 0 was
    written); or the callee destroyed itself and its balance went to some address; or (`forward`) the result is that of the
    child entered with the value; or (`innerCall`) the child's result, or the state as it was when the child reverted, with
    the callee's completion slot set -/
theorem runKind_ok {bond : Denom} {kind : String} {l l' : Ledger} {s s' : State} {caller callee : Addr} {v : Int}
    {d0 : String} {z : Bool} {t : Addr} {depth : Nat}
    (h : runKind bond kind l s caller callee v d0 z t depth = .ok (l', s')) :
    (l' = l ∧ (s' = s ∨ s' = setStorage s callee slot0 d0 z)) ∨
    (kind ≠ "none" ∧ ∃ dst, l' = l.move callee dst [(bond, l.balOf callee bond)] ∧ s' = remove s callee) ∨
    (kind ≠ "none" ∧ ∃ n, depth = n + 1 ∧
      runKind bond (kindAt s t) (l.move callee t [(bond, v)]) s callee t v slot0 true "" n = .ok (l', s')) ∨
    (∃ n l2 s2, depth = n + 1 ∧ ((l2, s2) = (l, s) ∨ runKind bond (kindAt s t) l s callee t 0 slot0 true "" n = .ok (l2, s2)) ∧
      l' = l2 ∧ s' = setStorage s2 callee slot1 "1" false) := by
  unfold runKind at h
  -- `split` numbers the cases in the order of the `match` on `kind` in `runKind`
  split at h
  case h_1 | h_2 | h_3 => -- "stop", "log", "none"
    cases h; exact Or.inl ⟨rfl, Or.inl rfl⟩
  case h_4 => -- "store"
    cases h; exact Or.inl ⟨rfl, Or.inr rfl⟩
  case h_5 | h_6 | h_7 | h_8 | h_9 | h_10 | h_15 => -- the six kinds that fail, and an unknown kind
    cases h
  case h_11 => -- "suicide"
    cases h; exact Or.inr (Or.inl ⟨by decide, _, rfl, rfl⟩)
  case h_12 => -- "suicideTo"
    split at h <;> cases h
    · exact Or.inl ⟨rfl, Or.inl rfl⟩
    · exact Or.inr (Or.inl ⟨by decide, _, rfl, rfl⟩)
  case h_13 => -- "forward"
    split at h
    · cases h
    · rename_i n
      dsimp only at h
      split at h
      · cases h; rename_i hr; exact Or.inr (Or.inr (Or.inl ⟨by decide, n, rfl, hr⟩))
      · split at h <;> cases h
        exact Or.inl ⟨rfl, Or.inl rfl⟩
  case h_14 => -- "innerCall"
    split at h
    · cases h
    · rename_i n
      dsimp only at h
      split at h
      · cases h
      · rename_i l2 s2 hr
        cases h
        refine Or.inr (Or.inr (Or.inr ⟨n, _, _, rfl, ?_, rfl, rfl⟩))
        split at hr
        · cases hr; rename_i hr; exact Or.inr hr
        · split at hr <;> cases hr
          exact Or.inl rfl

theorem call_ok {bond : Denom} {l l' : Ledger} {vs : Accounts} {s s' : State} {caller callee : Addr} {v : Int}
    {d0 : String} {z : Bool} {t : Addr} {hd : Bool} (h : call bond l vs s caller callee v d0 z t hd = .ok (l', s')) :
    (if v > 0 then canSpend l vs caller [(bond, v)] else .ok ()) = .ok () ∧
      runKind bond (kindAt s callee) (l.move caller callee [(bond, v)]) s caller callee v d0 z t 3 = .ok (l', s') := by
  unfold call at h
  split at h; · cases h
  rename_i hc
  dsimp only at h
  split at h; · cases h
  exact ⟨hc, h⟩

theorem deploy_ok {bond : Denom} {l l' : Ledger} {vs : Accounts} {s s' : State} {caller na : Addr} {code : String} {v : Int}
    (h : deploy bond l vs s caller na code v = .ok (l', s')) :
    (if v > 0 then canSpend l vs caller [(bond, v)] else .ok ()) = .ok () ∧ l' = l.move caller na [(bond, v)] ∧
      s' = { contracts := s.contracts ++ [{ addr := na, code := code, storage := [] }] } := by
  unfold deploy at h
  split at h; · cases h
  rename_i hc
  cases h
  exact ⟨hc, rfl, rfl⟩

theorem sendToContract_ok {bond : Denom} {l l' : Ledger} {vs : Accounts} {s s' : State} {src dst : Addr} {amt : Coins}
    (h : sendToContract bond l vs s src dst amt = .ok (l', s')) :
    0 < Coins.amountOf amt bond ∧ call bond l vs s src dst (Coins.amountOf amt bond) slot0 true "" false = .ok (l', s') := by
  unfold sendToContract at h
  split at h; · cases h
  split at h; · cases h
  exact ⟨by omega, h⟩

end Shentu.Cvm
