import Shentu.Proofs.DecRound
import Shentu.Proofs.ShieldCollOps
import Shentu.Proofs.ShieldCollQueue
import Shentu.Proofs.ShieldWrites
/-
  C08, shield part: when does the payout of an approved claim (`CreateReimbursement`, run by governance's end-blocker)
  complete?  The state-machine panics ("provider-not-found", "payout-from-withdrawals", "forced-withdraw") are excluded by
  the collateral books (`CollInv`) once the schedule the loop computes is arithmetically feasible: every provider's share
  of covered shield plus its payment fits into its collateral, and the payments add up to the loss.
-/
namespace Shentu.Halt
open Shentu Shentu.Shield Shentu.Shield.Coll

/-- what the walk can take out of the entries `ws` when the first `u` coins of them are not available -/
def avail : List Withdraw → Int → Int
  | [], _ => 0
  | w :: ws, u => max (w.amount - u) 0 + avail ws (max (u - w.amount) 0)

theorem avail_nonneg : ∀ (ws : List Withdraw) (u : Int), 0 ≤ avail ws u := by
  intro ws
  induction ws with
  | nil => intro u; exact Int.le_refl 0
  | cons w ws ih => intro u; unfold avail; have := ih (max (u - w.amount) 0); omega

theorem avail_ge : ∀ (ws : List Withdraw) (u : Int), 0 ≤ u → (∀ w ∈ ws, 0 ≤ w.amount) →
    sumI (·.amount) ws - u ≤ avail ws u := by
  intro ws
  induction ws with
  | nil => intro u hu _; simp only [sumI_nil, avail]; omega
  | cons w ws ih =>
    intro u hu hws
    unfold avail
    have := ih (max (u - w.amount) 0) (by omega) (fun x hx => hws x (List.mem_cons_of_mem _ hx))
    have := hws w List.mem_cons_self
    rw [sumI_cons]
    omega

theorem payoutWithdrawLoop_total (ws : List Withdraw) (u fw : Int) (q : List Withdraw) :
    0 ≤ fw → fw ≤ avail ws u → ∃ q', payoutWithdrawLoop ws u fw q = .ok q' := by
  refine payoutWithdrawLoop_ind (P := fun a r => 0 ≤ a.2.2.1 → a.2.2.1 ≤ avail a.1 a.2.1 → ∃ q', r = .ok q')
    (fun ws u fw q r hstop hr (h0 : 0 ≤ fw) (h1 : fw ≤ avail ws u) => ⟨q, (hr q).mpr ⟨?_, rfl⟩⟩) (fun a b r hw ih => ?_) ws u fw q
  · rcases hstop with rfl | hle
    · unfold avail at h1; omega
    · omega
  · cases hw with
    | pass w ws u fw q _ hrem =>
      intro (h0 : 0 ≤ fw) (h1 : fw ≤ avail (w :: ws) u)
      unfold avail at h1
      dsimp only at ih
      exact ih h0 (by omega)
    | take w ws u fw q _ _ =>
      intro (h0 : 0 ≤ fw) (h1 : fw ≤ avail (w :: ws) u)
      unfold avail at h1
      have := avail_nonneg ws (max (u - w.amount) 0)
      dsimp only at ih
      exact ih (by omega) (by omega)

theorem updateProviderForPayout_total {s : State} {a : Addr} {p : Provider} {purchased payout : Int}
    (hr : CollRest s) (hf : findProvider s a = some p) (hpay : 0 ≤ payout)
    (hfit : purchased + payout ≤ p.collateral) : ∃ s', updateProviderForPayout s a purchased payout = .ok s' := by
  have hnn := hr.provNonneg p (findProvider_some hf).1
  have hwd : p.withdrawing = sumI (·.amount) (s.withdraws.filter (·.addr == a)).reverse := by
    rw [sumI_reverse]; exact hr.wdg_eq hf
  have hpos : ∀ w ∈ (s.withdraws.filter (·.addr == a)).reverse, 0 ≤ w.amount := by
    intro w hw
    have := hr.wdrPos w (List.mem_filter.mp (List.mem_reverse.mp hw)).1
    omega
  have key : ∀ u fw : Int, 0 ≤ u → 0 ≤ fw → fw ≤ p.withdrawing - u →
      ∃ q', payoutWithdrawLoop (s.withdraws.filter (·.addr == a)).reverse u fw s.withdraws = .ok q' := by
    intro u fw hu hfw hle
    apply payoutWithdrawLoop_total _ _ _ _ hfw
    have := avail_ge _ u hu hpos
    omega
  unfold updateProviderForPayout
  rw [hf]
  dsimp only
  rw [← payoutSplit]
  generalize hsplit : payoutSplit _ _ _ = uc
  -- `uc.1` of the queued withdrawals backs shield already sold and is not available, `uc.2` of the payout comes from the
  -- collateral that is not being withdrawn (`collateral − withdrawing`); in each of the three cases of the split the rest of
  -- the payout fits into the withdrawals still available, because `purchased + payout ≤ collateral`
  have hb : 0 ≤ uc.1 ∧ 0 ≤ payout - uc.2 ∧ payout - uc.2 ≤ p.withdrawing - uc.1 := by
    subst hsplit
    unfold payoutSplit
    split
    · exact ⟨Int.le_refl 0, by omega, by omega⟩
    · split
      · exact ⟨Int.le_refl 0, by omega, by omega⟩
      · exact ⟨by omega, by omega, by omega⟩
  rcases key uc.1 (payout - uc.2) hb.1 hb.2.1 hb.2.2 with ⟨q', hq'⟩
  rw [hq']; exact ⟨_, rfl⟩

theorem stakingChanged_total {e : Env} {s : State} {a : Addr} {p : Provider} (hf : findProvider s a = some p)
    (hb : ∀ x, e.bondedAfter a = some x → 0 ≤ x) : ∃ s', stakingChanged e s a = .ok s' := by
  cases hba : e.bondedAfter a with
  | none => exact ⟨s, stakingChanged_none s hba⟩
  | some b =>
    -- the hook panics only on a negative stake
    rw [stakingChanged_some s hba, Limit.stakingHook_some e s a b p hf, if_neg (Int.not_lt.mpr (hb b hba))]
    split <;> exact ⟨_, rfl⟩

/-- The schedule `reimburseLoop` computes (it only depends on the snapshot of the providers, the two ratios and the
    two running totals) is feasible: every provider's share of the covered shield plus its payment fits into its
    collateral, and when the providers are exhausted nothing is left to pay. -/
def feasible (pr yr : Dec) : List Provider → Int → Int → Bool
  | [], _, ty => decide (ty ≤ 0)
  | p :: ps, tp, ty =>
    decide (ty ≤ 0) ||
      (decide (Fund.payoutPur pr yr p tp ty + Fund.payoutPay pr yr p tp ty ≤ p.collateral) &&
        feasible pr yr ps (tp - Fund.payoutPur pr yr p tp ty) (ty - Fund.payoutPay pr yr p tp ty))

/-- A feasible schedule is carried out without panic and pays in full.  The providers still to be asked are the tail of
    the store (a round rewrites the record at its own position only), so each is found as the snapshot has it. -/
theorem reimburseLoop_total (e : Env) (pr yr : Dec) (hpr : 0 ≤ pr.raw) (hyr : 0 ≤ yr.raw)
    (hb : ∀ a x, e.bondedAfter a = some x → 0 ≤ x) :
    ∀ (ps : List Provider) (tp ty : Int) (l : Ledger) (s : State) (pre : List Provider),
      CollRest s → 0 ≤ tp → s.providers = pre ++ ps → feasible pr yr ps tp ty = true →
      ∃ left l' s', reimburseLoop e pr yr ps tp ty l s = .ok (left, l', s') ∧ left ≤ 0 := by
  intro ps
  induction ps with
  | nil =>
    intro tp ty l s _ _ _ _ hfe
    unfold feasible at hfe
    exact ⟨ty, l, s, by unfold reimburseLoop; rfl, by simpa using hfe⟩
  | cons p ps ih =>
    intro tp ty l s pre hr htp hs hfe
    rw [Fund.reimburseLoop_cons]
    by_cases hty : ty ≤ 0
    · rw [if_pos hty]; exact ⟨ty, l, s, rfl, hty⟩
    · rw [if_neg hty]
      unfold feasible at hfe
      simp only [Bool.or_eq_true, Bool.and_eq_true, decide_eq_true_eq] at hfe
      rcases hfe with hfe | ⟨hfit, hfe⟩
      · exact absurd hfe hty
      · have hp0 : findProvider s p.addr = some p :=
          findProvider_of_mem hr.nodup (by rw [hs]; exact List.mem_append_right _ List.mem_cons_self)
        have hpc := (hr.provNonneg p (findProvider_some hp0).1).1
        have hpurB := Fund.payoutPur_bounds pr yr p tp ty hpc hpr htp
        have hpayN := Fund.payoutPay_nonneg pr yr p tp ty hpc hyr (by omega)
        obtain ⟨s1, hs1⟩ := updateProviderForPayout_total hr hp0 hpayN hfit
        rw [hs1]
        dsimp only
        have hr1 := (updateProviderForPayout_payoutLike _ _ _ _ _ hr hpurB.1 hs1).rest
        obtain ⟨c1, hu1, _⟩ := Fund.updateProviderForPayout_at s s1 _ _ pre ps p hs hr.nodup hs1
        have hp1 : findProvider s1 c1.addr = some c1 :=
          findProvider_of_mem hr1.nodup (by rw [hu1.after]; exact List.mem_append_right _ List.mem_cons_self)
        rw [hu1.addr] at hp1
        obtain ⟨s2, hs2⟩ := stakingChanged_total (e := e) hp1 (hb p.addr)
        rw [hs2]
        dsimp only
        obtain ⟨c2, hu2, _⟩ := Fund.stakingChanged_at e s1 s2 pre ps c1 hu1.after hr1.nodup (by rw [hu1.addr]; exact hs2)
        exact ih _ _ _ _ (pre ++ [c2]) (stakingChanged_sound hs2 hr1).1 (by omega) (by rw [hu2.after]; simp) hfe

/-- The payout of an approved claim does not panic when the collateral books are consistent, there is collateral, the
    staking view reports no negative stake, and the schedule is feasible.  `feasible` replays the share arithmetic of the
    loop, so this is a statement about one run of that arithmetic, not a consequence of an invariant. -/
theorem createReimbursement_total (e : Env) (l : Ledger) (s : State) (pid : Nat) (amount : Int) (b : Addr)
    (hi : CollInv s) (hT : s.totalCollateral ≠ 0) (hsh : 0 ≤ s.totalShield) (hamt : 0 ≤ amount)
    (hb : ∀ a x, e.bondedAfter a = some x → 0 ≤ x)
    (hfe : feasible (Dec.quo (Dec.ofInt s.totalShield) (Dec.ofInt s.totalCollateral))
      (Dec.quo (Dec.ofInt amount) (Dec.ofInt s.totalCollateral)) s.providers s.totalShield amount = true) :
    ∃ l' s', createReimbursement e l s pid amount b = .ok (l', s') := by
  have htc : 0 ≤ s.totalCollateral := by
    rw [hi.coll]; exact sumI_nonneg _ _ (fun p hp => (hi.provNonneg p hp).1)
  have hpr : 0 ≤ (Dec.quo (Dec.ofInt s.totalShield) (Dec.ofInt s.totalCollateral)).raw :=
    Dec.quo_nonneg _ _ (Dec.ofInt_nonneg _ hsh) (Dec.ofInt_nonneg _ htc)
  have hyr : 0 ≤ (Dec.quo (Dec.ofInt amount) (Dec.ofInt s.totalCollateral)).raw :=
    Dec.quo_nonneg _ _ (Dec.ofInt_nonneg _ hamt) (Dec.ofInt_nonneg _ htc)
  rcases reimburseLoop_total e _ _ hpr hyr hb s.providers s.totalShield amount l s [] hi.rest hsh rfl hfe with
    ⟨left, l1, s1, hloop, hleft⟩
  unfold createReimbursement
  have h0 : (s.totalCollateral == 0) = false := by simpa using hT
  rw [h0]
  simp only [Bool.false_eq_true, if_false]
  rw [hloop]
  dsimp only
  have : ¬ left > 0 := by omega
  rw [if_neg this]
  exact ⟨_, _, rfl⟩

end Shentu.Halt
