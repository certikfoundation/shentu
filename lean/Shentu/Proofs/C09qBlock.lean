import Shentu.Proofs.C09qStep
/-
  C09q, the SDK side: the staking end-blocker `endBlock` keeps the queue invariant `Inv`; it completes exactly the mature
  entries, each once, and what leaves the records is what is paid back, for every weight of entries (`completeAll_sum`).
-/
namespace Shentu.UbdQueue.Block
open Shentu.UbdQueue Shentu.UbdQueue.Store

theorem countP_filter_immature (es : List Entry) (now t : Int) :
    (es.filter (fun e => !e.isMature now)).countP (fun e => e.t == t)
      = if t ≤ now then 0 else es.countP (fun e => e.t == t) := by
  rw [List.countP_filter]
  split
  · rw [List.countP_eq_zero]; intro e _; simp [Entry.isMature]; omega
  · apply List.countP_congr; intro e _; simp [Entry.isMature]; omega

theorem filter_mature_filter_immature (es : List Entry) (now : Int) :
    (es.filter (fun e => !e.isMature now)).filter (·.isMature now) = [] := by
  rw [List.filter_filter]
  simp

/-- the sum of an entry weight over a list of paid-back entries; `paidSum` is the one of the balances -/
def psum (g : String → String → Entry → Int) (l : List Paid) : Int := (l.map (fun p => g p.1 p.2.1 p.2.2)).sum

theorem psum_append_map (g : String → String → Entry → Int) (l : List Paid) (d v : String) (m : List Entry) :
    psum g (l ++ m.map (fun e => (d, v, e))) = psum g l + wsum (g d v) m := by
  simp [psum, wsum, List.sum_append, Function.comp_def]

theorem mem_dequeue {q : List Slice} {t now : Int} {p : Pair} (h : p ∈ getSlice q t) (ht : t ≤ now) :
    p ∈ (dequeueAllMature q now).1 := by
  obtain ⟨sl, h1, h2, h3⟩ := mem_getSlice h
  unfold dequeueAllMature
  simp only [List.mem_flatMap, List.mem_filter, decide_eq_true_eq]
  exact ⟨sl, ⟨h1, by omega⟩, h3⟩

theorem endBlock_queue (s : State) (now : Int) (t : Int) :
    getSlice (endBlock s now).1.queue t = if t ≤ now then [] else getSlice s.queue t := by
  show getSlice (s.queue.filter (fun s => !decide (s.1 ≤ now))) t = _
  rw [getSlice_filter s.queue (fun x => !decide (x ≤ now)) t]
  by_cases ht : t ≤ now <;> simp [ht]

theorem completeAll_cons (now : Int) (d v : String) (ps : List Pair) (us : List Ubd) (log : List Paid) :
    completeAll now ((d, v) :: ps) us log =
      if (getEntries us d v).isEmpty then completeAll now ps us log
      else completeAll now ps (setEntries us d v ((getEntries us d v).filter (fun e => !e.isMature now)))
        (log ++ ((getEntries us d v).filter (·.isMature now)).map (fun e => (d, v, e))) := by
  rw [completeAll]
  unfold completeUnbonding
  dsimp only
  cases (getEntries us d v).isEmpty <;> rfl

theorem completeAll_keys (now : Int) (ps : List Pair) (us : List Ubd) (log : List Paid)
    (h : us.Pairwise (fun x y => ¬ (x.del = y.del ∧ x.val = y.val))) :
    (completeAll now ps us log).1.Pairwise (fun x y => ¬ (x.del = y.del ∧ x.val = y.val)) := by
  induction ps generalizing us log with
  | nil => exact h
  | cons p ps ih =>
    rw [completeAll_cons]
    split
    · exact ih us log h
    · exact ih _ _ (keys_setEntries h _ _ _)

theorem completeAll_entries (now : Int) (ps : List Pair) (us : List Ubd) (log : List Paid) (d v : String) :
    getEntries (completeAll now ps us log).1 d v
      = if (d, v) ∈ ps then (getEntries us d v).filter (fun e => !e.isMature now) else getEntries us d v := by
  induction ps generalizing us log with
  | nil => simp [completeAll]
  | cons p ps ih =>
    obtain ⟨d0, v0⟩ := p
    rw [completeAll_cons]
    by_cases h : d = d0 ∧ v = v0
    · obtain ⟨rfl, rfl⟩ := h
      split
      · rename_i he
        have he' : getEntries us d v = [] := by simpa using he
        simp [ih, he']
      · simp [ih, getEntries_setEntries]
    · have : ¬ ((d, v) = (d0, v0)) := by simpa using h
      split <;> simp [ih, getEntries_setEntries, List.mem_cons, this, h]

theorem completeAll_log (now : Int) (ps : List Pair) (us : List Ubd) (log : List Paid) (d v : String) (e : Entry) :
    (completeAll now ps us log).2.count (d, v, e)
      = log.count (d, v, e) + if (d, v) ∈ ps then ((getEntries us d v).filter (·.isMature now)).count e else 0 := by
  induction ps generalizing us log with
  | nil => simp [completeAll]
  | cons p ps ih =>
    obtain ⟨d0, v0⟩ := p
    rw [completeAll_cons]
    by_cases h : d = d0 ∧ v = v0
    · obtain ⟨rfl, rfl⟩ := h
      split
      · rename_i he
        have he' : getEntries us d v = [] := by simpa using he
        simp [ih, he']
      · rw [ih, getEntries_setEntries, List.count_append, count_map_pair]
        simp only [and_self, if_true, filter_mature_filter_immature]
        simp
    · have : ¬ ((d, v) = (d0, v0)) := by simpa using h
      have h' : ¬ (d0 = d ∧ v0 = v) := fun e => h ⟨e.1.symm, e.2.symm⟩
      split <;> simp [ih, getEntries_setEntries, List.count_append, count_map_pair, List.mem_cons, this, h, h']

theorem complete_edit (us : List Ubd) (d v : String) (now : Int) :
    Edit us (setEntries us d v ((getEntries us d v).filter (fun e => !e.isMature now))) d v
      ((getEntries us d v).filter (·.isMature now)) [] :=
  ⟨_, rfl, List.filter_append_perm _ _⟩

theorem completeAll_sum (g : String → String → Entry → Int) (now : Int) (ps : List Pair) (us : List Ubd) (log : List Paid)
    (h : us.Pairwise (fun x y => ¬ (x.del = y.del ∧ x.val = y.val))) :
    sumE (completeAll now ps us log).1 g + psum g (completeAll now ps us log).2 = sumE us g + psum g log := by
  induction ps generalizing us log with
  | nil => rfl
  | cons p ps ih =>
    rw [completeAll_cons]
    split
    · exact ih us log h
    · have := (complete_edit us p.1 p.2 now).sum h g
      rw [ih _ _ (keys_setEntries h _ _ _), psum_append_map]
      rw [wsum_nil] at this
      omega

theorem endBlock_wf (s : State) (now : Int) (h : WF s) : WF (endBlock s now).1 :=
  ⟨h.times.filter _, completeAll_keys now _ _ _ h.keys⟩

theorem immature_of_not_dequeued (s : State) (now : Int) (h : Inv s) (d v : String)
    (hn : (d, v) ∉ (dequeueAllMature s.queue now).1) :
    (getEntries s.ubds d v).filter (fun e => !e.isMature now) = getEntries s.ubds d v := by
  rw [List.filter_eq_self]
  intro e he
  by_cases hm : e.t ≤ now
  · exact absurd (mem_dequeue (h.queued_of_entry (entriesAt_pos he)) hm) hn
  · simp [Entry.isMature, hm]

theorem endBlock_entries (s : State) (now : Int) (h : Inv s) (d v : String) :
    getEntries (endBlock s now).1.ubds d v = (getEntries s.ubds d v).filter (fun e => !e.isMature now) := by
  show getEntries (completeAll now (dequeueAllMature s.queue now).1 s.ubds []).1 d v = _
  rw [completeAll_entries]
  split
  · rfl
  · rename_i hn
    exact (immature_of_not_dequeued s now h d v hn).symm

theorem endBlock_inv (s : State) (now : Int) (h : Inv s) : Inv (endBlock s now).1 := by
  refine ⟨endBlock_wf s now h.toWF, ?_⟩
  intro d v t
  have hc := h.counts d v t
  unfold queuedAt entriesAt at hc ⊢
  rw [endBlock_entries s now h, endBlock_queue s now, countP_filter_immature]
  by_cases ht : t ≤ now
  · simp [ht]
  · simp only [if_neg ht]; exact hc

/-- two undelegations of one pair for the same time, one for a later time, and a second delegator in the same slice -/
def exS : State :=
  undelegate (undelegate (undelegate (undelegate {} "a" "v" 5 10) "a" "v" 7 3) "b" "v" 5 1) "a" "v" 5 2

theorem exS_inv : Inv exS :=
  undelegate_inv _ _ _ _ _ (undelegate_inv _ _ _ _ _ (undelegate_inv _ _ _ _ _ (undelegate_inv _ _ _ _ _ inv_empty)))

example : exS = { ubds := [⟨"a", "v", [⟨5, 10⟩, ⟨7, 3⟩, ⟨5, 2⟩]⟩, ⟨"b", "v", [⟨5, 1⟩]⟩],
                  queue := [(5, [("a", "v"), ("b", "v"), ("a", "v")]), (7, [("a", "v")])] } := by decide
/-- the hypotheses of `undelegate_inv`, `endBlock_inv`, `endBlock_entries`, `endBlock_no_mature`, `endBlock_paid`,
    `endBlock_conservation` hold of a state with entries -/
example : Inv exS ∧ exS.ubds ≠ [] := ⟨exS_inv, by decide⟩
/-- the hypothesis of `endBlock_queue`, `undelegate_total` -/
example : WF exS ∧ exS.queue ≠ [] := ⟨exS_inv.toWF, by decide⟩
example : (endBlock exS 5).1 = { ubds := [⟨"a", "v", [⟨7, 3⟩]⟩], queue := [(7, [("a", "v")])] } := by decide
example : (endBlock exS 5).2 = [("a", "v", ⟨5, 10⟩), ("a", "v", ⟨5, 2⟩), ("b", "v", ⟨5, 1⟩)] := by decide
example : Inv (endBlock exS 5).1 := endBlock_inv _ _ exS_inv
example : total (endBlock exS 5).1.ubds + paidSum (endBlock exS 5).2 = 16 := by decide

/-- without the invariant the end-blocker can lose an entry for ever: a concrete state (an entry whose pair is not queued)
    where a mature entry survives the end-block -/
example : ∃ s : State, WF s ∧ ∃ e ∈ getEntries (endBlock s 100).1.ubds "p" "v", e.t ≤ 100 :=
  ⟨{ ubds := [⟨"p", "v", [⟨50, 4⟩]⟩], queue := [] },
   ⟨List.Pairwise.nil, List.pairwise_singleton _ _⟩, ⟨50, 4⟩, by decide, by decide⟩

end Shentu.UbdQueue.Block
