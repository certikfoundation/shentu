import Shentu.Proofs.C19HSteps
/-
  What one operation of `C19H.stepE`, and then a whole history, does to the vesting records
  (the unlocker stays, the still-locked amount moves by exactly the logged locked sends and unlocks).
-/
namespace Shentu.C19H
open Shentu Shentu.Vesting

def Change.amt : Change → Coins
  | .locked _ amt => amt
  | .unlocked _ _ amt => amt

/-- how the vesting records of `w'` relate to those of `w`, given the log `cs` of what happened in between -/
structure Effect (w w' : World) (cs : List Change) : Prop where
  keep : ∀ a m, find w.vs a = some m → ∃ m', find w'.vs a = some m' ∧ m'.unlocker = m.unlocker
  acct2 : ∀ a d, originalOf w' a d = originalOf w a d + lockedIn cs a d ∧ unlockedOf w' a d = unlockedOf w a d + unlockedOut cs a d
  signer : ∀ a i amt, Change.unlocked a i amt ∈ cs → ∃ m, find w'.vs a = some m ∧ m.unlocker = i
  pos : ∀ e ∈ cs, ∀ d, 0 ≤ Coins.amountOf e.amt d

@[simp] theorem lockedIn_nil (a : Addr) (d : Denom) : lockedIn [] a d = 0 := rfl
@[simp] theorem unlockedOut_nil (a : Addr) (d : Denom) : unlockedOut [] a d = 0 := rfl
theorem lockedIn_append (x y : List Change) (a : Addr) (d : Denom) : lockedIn (x ++ y) a d = lockedIn x a d + lockedIn y a d := by
  simp [lockedIn, List.map_append, List.sum_append]
theorem unlockedOut_append (x y : List Change) (a : Addr) (d : Denom) :
    unlockedOut (x ++ y) a d = unlockedOut x a d + unlockedOut y a d := by
  simp [unlockedOut, List.map_append, List.sum_append]
theorem lockedIn_locked (dst : Addr) (amt : Coins) (a : Addr) (d : Denom) :
    lockedIn [.locked dst amt] a d = if dst = a then Coins.amountOf amt d else 0 := by simp [lockedIn]
theorem unlockedOut_locked (dst : Addr) (amt : Coins) (a : Addr) (d : Denom) : unlockedOut [.locked dst amt] a d = 0 := by
  simp [unlockedOut]
theorem lockedIn_unlocked (acct i : Addr) (amt : Coins) (a : Addr) (d : Denom) : lockedIn [.unlocked acct i amt] a d = 0 := by
  simp [lockedIn]
theorem unlockedOut_unlocked (acct i : Addr) (amt : Coins) (a : Addr) (d : Denom) :
    unlockedOut [.unlocked acct i amt] a d = if acct = a then Coins.amountOf amt d else 0 := by simp [unlockedOut]

theorem stillLocked_eq (w : World) (a : Addr) (d : Denom) : stillLocked w a d = originalOf w a d - unlockedOf w a d := by
  unfold stillLocked originalOf unlockedOf
  split
  · rfl
  · rfl

theorem Effect.acct {w w' : World} {cs : List Change} (h : Effect w w' cs) (a : Addr) (d : Denom) :
    stillLocked w' a d = stillLocked w a d + lockedIn cs a d - unlockedOut cs a d := by
  rw [stillLocked_eq, stillLocked_eq]
  obtain ⟨h1, h2⟩ := h.acct2 a d
  omega

theorem effect_same (w w' : World) (h : w'.vs = w.vs) : Effect w w' [] := by
  refine ⟨?_, ?_, ?_, ?_⟩
  · intro a m hm; exact ⟨m, by rw [h]; exact hm, rfl⟩
  · intro a d; unfold originalOf unlockedOf; rw [h]; simp
  · intro a i amt hmem; cases hmem
  · intro e he; cases he

theorem Effect.trans {w w1 w2 : World} {cs1 cs2 : List Change} (h1 : Effect w w1 cs1) (h2 : Effect w1 w2 cs2) :
    Effect w w2 (cs1 ++ cs2) := by
  refine ⟨?_, ?_, ?_, ?_⟩
  · intro a m hm
    obtain ⟨m1, hm1, hu1⟩ := h1.keep a m hm
    obtain ⟨m2, hm2, hu2⟩ := h2.keep a m1 hm1
    exact ⟨m2, hm2, hu2.trans hu1⟩
  · intro a d
    obtain ⟨x1, y1⟩ := h1.acct2 a d
    obtain ⟨x2, y2⟩ := h2.acct2 a d
    rw [lockedIn_append, unlockedOut_append]
    constructor <;> omega
  · intro a i amt hmem
    rcases List.mem_append.mp hmem with hmem | hmem
    · obtain ⟨m1, hm1, hu1⟩ := h1.signer a i amt hmem
      obtain ⟨m2, hm2, hu2⟩ := h2.keep a m1 hm1
      exact ⟨m2, hm2, hu2.trans hu1⟩
    · exact h2.signer a i amt hmem
  · intro e he d
    rcases List.mem_append.mp he with he | he
    · exact h1.pos e he d
    · exact h2.pos e he d

/-- one record `m'` is written at `a` over `m0` (the record there, or one with nothing in it when there is none), and the
    log `cs` says what that did to the original and the unlocked total -/
theorem effect_set {w : World} {l' : Ledger} {a : Addr} {m0 m' : MVA} {ac' : List Addr} {cs : List Change} (ha : m'.addr = a)
    (hm0 : find w.vs a = some m0 ∨ (find w.vs a = none ∧ m0.ov = [] ∧ m0.vested = []))
    (hu : m'.unlocker = m0.unlocker)
    (hov : ∀ d, Coins.amountOf m'.ov d = Coins.amountOf m0.ov d + lockedIn cs a d)
    (hve : ∀ d, Coins.amountOf m'.vested d = Coins.amountOf m0.vested d + unlockedOut cs a d)
    (hcs : ∀ b, a ≠ b → ∀ d, lockedIn cs b d = 0 ∧ unlockedOut cs b d = 0)
    (hsig : ∀ b i x, Change.unlocked b i x ∈ cs → b = a ∧ m'.unlocker = i)
    (hpos : ∀ e ∈ cs, ∀ d, 0 ≤ Coins.amountOf e.amt d) :
    Effect w { w with l := l', vs := Vesting.set w.vs m', accts := ac' } cs := by
  subst ha
  have hself : find (Vesting.set w.vs m') m'.addr = some m' := by rw [find_set, if_pos rfl]
  have hrest : ∀ b, m'.addr ≠ b → find (Vesting.set w.vs m') b = find w.vs b := fun b e => by rw [find_set, if_neg e]
  have hbefore : ∀ d, originalOf w m'.addr d = Coins.amountOf m0.ov d ∧ unlockedOf w m'.addr d = Coins.amountOf m0.vested d := by
    intro d
    unfold originalOf unlockedOf
    rcases hm0 with h | ⟨h, h1, h2⟩ <;> rw [h]
    · exact ⟨rfl, rfl⟩
    · simp only [h1, h2, Coins.amountOf_nil, and_self]
  refine ⟨?_, ?_, ?_, hpos⟩
  · intro b m hm
    by_cases e : m'.addr = b
    · subst e
      refine ⟨m', hself, ?_⟩
      rcases hm0 with h | ⟨h, _⟩ <;> rw [h] at hm <;> cases hm
      exact hu
    · exact ⟨m, (hrest b e).trans hm, rfl⟩
  · intro b d
    show originalOf { w with l := l', vs := Vesting.set w.vs m', accts := ac' } b d = _ ∧
      unlockedOf { w with l := l', vs := Vesting.set w.vs m', accts := ac' } b d = _
    by_cases e : m'.addr = b
    · subst e
      rw [(hbefore d).1, (hbefore d).2]
      unfold originalOf unlockedOf
      simp only [hself]
      exact ⟨hov d, hve d⟩
    · obtain ⟨h1, h2⟩ := hcs b e d
      unfold originalOf unlockedOf
      simp only [hrest b e, h1, h2, Int.add_zero, and_self]
  · intro b i x hmem
    obtain ⟨rfl, hi⟩ := hsig b i x hmem
    exact ⟨m', hself, hi⟩

theorem effect_lockedSend {w : World} {l' : Ledger} {vs' : Accounts} {src dst u : Addr} {amt : Coins} {ac' : List Addr}
    (h : lockedSend w.l w.vs (isPlain w) src dst u amt = .ok (l', vs')) :
    Effect w { w with l := l', vs := vs', accts := ac' } [.locked dst amt] := by
  obtain ⟨m, hm, hpos, rfl, _, _⟩ := lockedSend_ok h
  have haddr : m.addr = dst := by
    rcases hm with ⟨hm, _⟩ | ⟨_, _, he⟩
    · exact find_addr hm
    · subst he; rfl
  refine effect_set (m0 := m) haddr ?_ rfl ?_ ?_ ?_ ?_ ?_
  · rcases hm with ⟨hm, _⟩ | ⟨hm, _, he⟩
    · exact Or.inl hm
    · subst he; exact Or.inr ⟨hm, rfl, rfl⟩
  · intro d; rw [lockedIn_locked, if_pos rfl]; exact Coins.amountOf_add _ _ _
  · intro d; rw [unlockedOut_locked, Int.add_zero]
  · intro b e d
    rw [lockedIn_locked, unlockedOut_locked, if_neg e]; exact ⟨rfl, rfl⟩
  · intro b i x hmem; simp at hmem
  · intro e he d
    simp only [List.mem_singleton] at he
    subst he
    exact Coins.amountOf_nonneg_of_allPositive amt hpos d

theorem effect_unlock {w : World} {vs' : Accounts} {issuer account : Addr} {amt : Coins} {ex : Addr → Bool}
    (h : unlock w.vs ex issuer account amt = .ok vs') :
    Effect w { w with vs := vs' } [.unlocked account issuer amt] := by
  obtain ⟨m, hm, hiss, hpos, _, rfl⟩ := unlock_ok h
  have hma : (unlocked m amt).addr = account := (unlocked_addr m amt).trans (find_addr hm)
  refine effect_set (l' := w.l) (ac' := w.accts) hma (Or.inl hm) (unlocked_unlocker m amt) ?_ ?_ ?_ ?_ ?_
  · intro d; rw [lockedIn_unlocked, unlocked_ov, Int.add_zero]
  · intro d; rw [unlockedOut_unlocked, if_pos rfl, unlocked_vested, Coins.amountOf_add]
  · intro b e d
    rw [lockedIn_unlocked, unlockedOut_unlocked, if_neg e]; exact ⟨rfl, rfl⟩
  · intro b i x hmem
    simp only [List.mem_singleton] at hmem
    cases hmem
    exact ⟨rfl, (unlocked_unlocker m amt).trans hiss.symm⟩
  · intro e he d
    simp only [List.mem_singleton] at he
    subst he
    exact Coins.amountOf_nonneg_of_allPositive amt hpos d

theorem effect_delegate {w : World} {l' : Ledger} {vs' : Accounts} {del pool : Addr} {d : Denom} {amount : Int}
    (h : delegate w.l w.vs del pool d amount = .ok (l', vs')) : Effect w { w with l := l', vs := vs' } [] := by
  obtain ⟨_, _, _, rfl⟩ := delegate_ok h
  cases hf : find w.vs del with
  | none => exact effect_same _ _ rfl
  | some m =>
    -- `trackDelegation` touches only the two delegation counters
    exact effect_set (m' := trackDelegation m d amount) (ac' := w.accts) (find_addr (m := m) hf) (Or.inl hf) rfl
      (fun _ => (Int.add_zero _).symm) (fun _ => (Int.add_zero _).symm) (fun _ _ _ => ⟨rfl, rfl⟩)
      (fun _ _ _ hmem => nomatch hmem) (fun _ he => nomatch he)

theorem changeOf_cases (c : Cfg) (w : World) (op : Op) :
    changeOf c w op = [] ∨
    (∃ src dst u amt, op = .lockedSend src dst u amt ∧ changeOf c w op = [.locked dst amt]) ∨
    (∃ issuer account amt m, op = .unlock issuer account amt ∧ changeOf c w op = [.unlocked account issuer amt] ∧
      find w.vs account = some m ∧ issuer = m.unlocker) := by
  rcases step_cases c w op with ⟨_, h⟩ | ⟨_, _, ha, h⟩ <;> rw [h]
  · exact Or.inl rfl
  · cases ha with
    | lockedSend _ => exact Or.inr (Or.inl ⟨_, _, _, _, rfl, rfl⟩)
    | unlock hs =>
      obtain ⟨m, hm, hiss, _⟩ := unlock_ok hs
      exact Or.inr (Or.inr ⟨_, _, _, m, rfl, rfl, hm, hiss⟩)
    | _ => exact Or.inl rfl

theorem Accepted.effect {c : Cfg} {w w' : World} {op : Op} (h : Accepted c w op w') : Effect w w' (logOf op) := by
  cases h with
  | lockedSend hs => exact effect_lockedSend hs
  | unlock hs => exact effect_unlock hs
  | delegate hs => exact effect_delegate hs
  -- the other operations write no vesting record and log nothing
  | _ => exact effect_same _ _ rfl

theorem step_wf (c : Cfg) (w : World) (op : Op) (hw : WF w) : WF (step c w op) := by
  rcases step_cases c w op with ⟨h, _⟩ | ⟨w', h, ha, _⟩ <;> rw [h]
  · exact hw
  · exact ha.wf hw

theorem step_effect (c : Cfg) (w : World) (op : Op) : Effect w (step c w op) (changeOf c w op) := by
  rcases step_cases c w op with ⟨h, hc⟩ | ⟨w', h, ha, hc⟩ <;> rw [h, hc]
  · exact effect_same _ _ rfl
  · exact ha.effect

theorem run_cons (c : Cfg) (w : World) (op : Op) (ops : List Op) : run c w (op :: ops) = run c (step c w op) ops := rfl
theorem run_append (c : Cfg) (w : World) (ops1 ops2 : List Op) : run c w (ops1 ++ ops2) = run c (run c w ops1) ops2 := by
  unfold run; rw [List.foldl_append]

theorem run_wf (c : Cfg) (ops : List Op) (w : World) (hw : WF w) : WF (run c w ops) :=
  List.foldlRecOn (motive := WF) ops (step c) hw (fun w h op _ => step_wf c w op h)

theorem run_effect (c : Cfg) : ∀ (ops : List Op) (w : World), Effect w (run c w ops) (changes c w ops) := by
  intro ops
  induction ops with
  | nil => intro w; exact effect_same _ _ rfl
  | cons op ops ih =>
    intro w
    rw [run_cons]
    exact (step_effect c w op).trans (ih (step c w op))

end Shentu.C19H
