import Shentu.Proofs.ShieldFundLemmas
import Shentu.Proofs.DecRound
/-
  C02, operation by operation: what each does to the module account and to what the module owes.  The common statement
  is `InStep`: account and debts move by the same number of whole coins; `Props/C02` reads every operation through it
  (`X_inStep`; the purchases by way of `PaidSpec`).  The payout loop (`reimburseLoop_spec`) also serves C04.  Last, an
  exactly funded account covers each thing it owes, none being negative (`OwedNonneg`, `X_covered`).
-/
namespace Shentu.Shield.Fund
open Shentu

theorem move_in (l : Ledger) (src mod : Addr) (c : Coins) (d : Denom) (hne : src ≠ mod) :
    (l.move src mod c).balOf mod d = l.balOf mod d + Coins.amountOf c d := by
  rw [Ledger.balOf_move', if_neg hne, if_pos rfl]; omega

theorem move_out (l : Ledger) (dst mod : Addr) (c : Coins) (d : Denom) (hne : dst ≠ mod) :
    (l.move mod dst c).balOf mod d = l.balOf mod d - Coins.amountOf c d := by
  rw [Ledger.balOf_move', if_pos rfl, if_neg hne]; omega

/-- what a purchase pays: `f` coins of fees credited to the fee pots, or `k` coins staked -/
structure PaidSpec (e : Env) (l l' : Ledger) (s s' : State) (f k : Int) : Prop where
  one : f = 0 ∨ k = 0
  remaining : s'.remaining = Dec.add s.remaining (Dec.ofInt f)
  serviceFees : s'.serviceFees = Dec.add s.serviceFees (Dec.ofInt f)
  stakeKeys : (s'.stakes.map stakeKey).Nodup
  stakes : sumStakes s' = sumStakes s + k
  providers : s'.providers = s.providers
  reimbs : s'.reimbs = s.reimbs
  blockFees : s'.blockFees = s.blockFees
  bal : l'.balOf e.modAddr e.bond = l.balOf e.modAddr e.bond + f + k

theorem PaidSpec.fees {e : Env} {l l' : Ledger} {s : State} {payer : Addr} {fees : Coins}
    (hs : l.send payer e.modAddr fees = .ok l') (hne : payer ≠ e.modAddr) (hn : (s.stakes.map stakeKey).Nodup) :
    PaidSpec e l l' s
      { s with serviceFees := Dec.add s.serviceFees (Dec.ofInt (Coins.amountOf fees e.bond)),
               remaining := Dec.add s.remaining (Dec.ofInt (Coins.amountOf fees e.bond)) }
      (Coins.amountOf fees e.bond) 0 :=
  ⟨Or.inr rfl, rfl, rfl, hn, (Int.add_zero _).symm, rfl, rfl, rfl, by
    rw [Ledger.send_ok _ _ _ _ _ hs, move_in _ _ _ _ _ hne]; omega⟩

theorem PaidSpec.none (e : Env) (l : Ledger) {s : State} (hn : (s.stakes.map stakeKey).Nodup) : PaidSpec e l l s s 0 0 :=
  ⟨Or.inr rfl, (Dec.add_ofInt_zero _).symm, (Dec.add_ofInt_zero _).symm, hn, (Int.add_zero _).symm, rfl, rfl, rfl, by omega⟩

theorem PaidSpec.frame {e : Env} {l l' : Ledger} {s s1 s' : State} {f k : Int}
    (h : PaidSpec e l l' s s1 f k) (hf : Frame s1 s') (hs : s'.serviceFees = s1.serviceFees) : PaidSpec e l l' s s' f k where
  one := h.one
  remaining := by rw [hf.remaining, h.remaining]
  serviceFees := by rw [hs, h.serviceFees]
  stakeKeys := by rw [hf.stakes]; exact h.stakeKeys
  stakes := by simp only [sumStakes, hf.stakes]; exact h.stakes
  providers := by rw [hf.providers, h.providers]
  reimbs := by rw [hf.reimbs, h.reimbs]
  blockFees := by rw [hf.blockFees, h.blockFees]
  bal := h.bal

theorem PaidSpec.pre {e : Env} {l l' : Ledger} {s0 s s' : State} {f k : Int}
    (h : PaidSpec e l l' s s' f k) (hf : Frame s0 s) (hs : s.serviceFees = s0.serviceFees) : PaidSpec e l l' s0 s' f k where
  one := h.one
  remaining := by rw [h.remaining, hf.remaining]
  serviceFees := by rw [h.serviceFees, hs]
  stakeKeys := h.stakeKeys
  stakes := by rw [h.stakes]; simp only [sumStakes, hf.stakes]
  providers := by rw [h.providers, hf.providers]
  reimbs := by rw [h.reimbs, hf.reimbs]
  blockFees := by rw [h.blockFees, hf.blockFees]
  bal := h.bal

theorem setStake_add (s : State) (pool : Nat) (a : Addr) (amt : Int) (hn : (s.stakes.map stakeKey).Nodup) :
    ((setStake s (PoolLm.stakeWith s pool a amt)).stakes.map stakeKey).Nodup ∧
      sumStakes (setStake s (PoolLm.stakeWith s pool a amt)) = sumStakes s + amt := by
  obtain ⟨hp, ha, hk⟩ := PoolLm.stakeWith_spec s pool a amt
  refine ⟨by rw [setStake_stakes]; exact Keyed.keys_upsert_nodup stakeKey _ hn, ?_⟩
  rw [sumStakes_setStake s _ hn, hp, ha, hk]
  omega

theorem pcPaid_spec {e : Env} {l l' : Ledger} {s s1 : State} {poolID : Nat} {purchaser : Addr} {fees staking : Coins}
    (h : PoolLm.pcPaid e l s poolID purchaser fees staking = .ok (l', s1))
    (hne : purchaser ≠ e.modAddr) (hn : (s.stakes.map stakeKey).Nodup) :
    ∃ f k : Int, PaidSpec e l l' s s1 f k := by
  obtain ⟨hs, rfl⟩ := PoolLm.pcPaid_ok_iff.mp h
  by_cases hz : Coins.isZero fees = false
  · rw [if_pos hz] at hs ⊢
    -- the tuple is `Frame`: advancing `nextPurchase` leaves every store and fee pot the same term
    exact ⟨_, _, (PaidSpec.fees (s := { s with nextPurchase := s.nextPurchase + 1 }) hs hne hn).pre (.of_writes rfl) rfl⟩
  · rw [if_neg hz] at hs ⊢
    obtain ⟨hkeys, hsum⟩ := setStake_add s poolID purchaser (Coins.amountOf staking e.bond) hn
    refine ⟨0, _, Or.inl rfl, (Dec.add_ofInt_zero _).symm, (Dec.add_ofInt_zero _).symm, hkeys, hsum, rfl, rfl, rfl, ?_⟩
    rw [Ledger.send_ok _ _ _ _ _ hs, move_in _ _ _ _ _ hne, Coins.amountOf_single_cons, if_pos rfl]; omega

theorem purchaseCore_spec (e : Env) (l l' : Ledger) (s s' : State) (poolID : Nat) (shield : Coins) (purchaser : Addr)
    (fees staking : Coins) (h : purchaseCore e l s poolID shield purchaser fees staking = .ok (l', s'))
    (hne : purchaser ≠ e.modAddr) (hn : (s.stakes.map stakeKey).Nodup) :
    ∃ f k : Int, PaidSpec e l l' s s' f k := by
  obtain ⟨pool, s1, _, _, _, hpaid, rfl⟩ := PoolLm.purchaseCore_ok h
  obtain ⟨f, k, hp⟩ := pcPaid_spec hpaid hne hn
  refine ⟨f, k, hp.frame (.of_writes ?_) ?_⟩ <;> rw [PoolLm.pcFinish_eq]

theorem purchase_spec (e : Env) (l l' : Ledger) (s s' : State) (poolID : Nat) (shield : Coins) (purchaser : Addr)
    (staking : Bool) (h : purchase e l s poolID shield purchaser staking = .ok (l', s'))
    (hne : purchaser ≠ e.modAddr) (hn : (s.stakes.map stakeKey).Nodup) :
    ∃ f k : Int, PaidSpec e l l' s s' f k := by
  exact purchaseCore_spec _ _ _ _ _ _ _ _ _ _ (PoolLm.purchase_ok h).2.2 hne hn

theorem createPool_spec (e : Env) (l l' : Ledger) (s s' : State) (creator : Addr) (shield fees : Coins) (sponsor : String)
    (sponsorAddr : Addr) (limit : Int)
    (h : createPool e l s creator shield fees sponsor sponsorAddr limit = .ok (l', s'))
    (hne : creator ≠ e.modAddr) (hn : (s.stakes.map stakeKey).Nodup) :
    ∃ f k : Int, PaidSpec e l l' s s' f k := by
  obtain ⟨f, k, hp⟩ := purchaseCore_spec _ _ _ _ _ _ _ _ _ _ (PoolLm.createPool_ok h).2.2 hne hn
  exact ⟨f, k, hp.pre (s0 := s) (.of_writes rfl) rfl⟩

theorem updatePool_spec (e : Env) (l l' : Ledger) (s s' : State) (updater : Addr) (poolID : Nat) (shield fees : Coins)
    (limit : Int) (h : updatePool e l s updater poolID shield fees limit = .ok (l', s'))
    (hne : updater ≠ e.modAddr) (hn : (s.stakes.map stakeKey).Nodup) :
    ∃ f k : Int, PaidSpec e l l' s s' f k := by
  obtain ⟨_, _, pool, s1, _, hs1, h⟩ := PoolLm.updatePool_ok h
  have hfr : Frame s s1 := hs1 ▸ setPool_frame s _
  have hsf : s1.serviceFees = s.serviceFees := hs1 ▸ rfl
  have hn1 : (s1.stakes.map stakeKey).Nodup := hfr.stakes ▸ hn
  rcases h with h | ⟨_, ⟨hs, rfl⟩ | ⟨rfl, rfl⟩⟩
  · obtain ⟨f, k, hp⟩ := purchaseCore_spec _ _ _ _ _ _ _ _ _ _ h hne hn1
    exact ⟨f, k, hp.pre hfr hsf⟩
  · exact ⟨_, _, (PaidSpec.fees hs hne hn1).pre hfr hsf⟩
  · exact ⟨_, _, (PaidSpec.none e _ hn1).pre hfr hsf⟩

theorem PaidSpec.keyed {e : Env} {l l' : Ledger} {s s' : State} {f k : Int}
    (h : PaidSpec e l l' s s' f k) (hk : Keyed s) : Keyed s' :=
  ⟨by rw [h.providers]; exact hk.prov, h.stakeKeys, by rw [h.reimbs]; exact hk.reimb⟩

theorem PaidSpec.owed {e : Env} {l l' : Ledger} {s s' : State} {f k : Int}
    (h : PaidSpec e l l' s s' f k) : owedRaw s' = owedRaw s + (f + k) * Dec.prec := by
  simp only [owedRaw, sumRewards, sumReimbs, h.remaining, h.providers, h.reimbs, h.blockFees, h.stakes, Dec.add, Dec.ofInt,
    Dec.prec]
  omega

theorem _root_.Shentu.Shield.FundInv.shift {b b' : Int} {s s' : State} (hf : FundInv b s) (d : Int)
    (ho : owedRaw s' = owedRaw s + d * Dec.prec) (hl : b' = b + d) (hb : s'.blockFees.raw % Dec.prec = 0) :
    FundInv b' s' :=
  ⟨by rw [ho, hl, Int.add_mul, hf.1], hb⟩

/-- What an operation does to the module's account, as C02 sees it: the account and what the module owes move in step, by
    the same `d` whole coins (`d = 0` for an operation that is `Same`, fee plus stake for a purchase, minus what is paid
    for a withdrawal); unique keys stay unique; block fees that were whole coins stay whole coins. -/
def InStep (e : Env) (l l' : Ledger) (s s' : State) : Prop :=
  Keyed s → Keyed s' ∧ (s.blockFees.raw % Dec.prec = 0 → s'.blockFees.raw % Dec.prec = 0) ∧
    ∃ d : Int, owedRaw s' = owedRaw s + d * Dec.prec ∧ l'.balOf e.modAddr e.bond = l.balOf e.modAddr e.bond + d

theorem InStep.fund {e : Env} {l l' : Ledger} {s s' : State} (h : InStep e l l' s s') (hk : Keyed s)
    (hf : FundInv (l.balOf e.modAddr e.bond) s) : FundInv (l'.balOf e.modAddr e.bond) s' ∧ Keyed s' :=
  let ⟨hk', hb, d, ho, hl⟩ := h hk
  ⟨hf.shift d ho hl (hb hf.2), hk'⟩

theorem InStep.refl (e : Env) (l : Ledger) (s : State) : InStep e l l s s :=
  fun hk => ⟨hk, id, 0, by omega, by omega⟩

theorem InStep.of_blockFees {e : Env} {l l' : Ledger} {s s' : State}
    (h : Keyed s → Keyed s' ∧ s'.blockFees = s.blockFees ∧ ∃ d : Int, owedRaw s' = owedRaw s + d * Dec.prec ∧
      l'.balOf e.modAddr e.bond = l.balOf e.modAddr e.bond + d) : InStep e l l' s s' :=
  fun hk => let ⟨hk', hb, hd⟩ := h hk; ⟨hk', by rw [hb]; exact id, hd⟩

theorem Same.inStep {s s' : State} (h : Same s s') (e : Env) (l : Ledger) : InStep e l l s s' :=
  .of_blockFees fun hk => ⟨h.keyed hk, h.blockFees, 0, by rw [h.owed hk]; omega, by omega⟩

theorem PaidSpec.inStep {e : Env} {l l' : Ledger} {s s' : State} {f k : Int} (h : PaidSpec e l l' s s' f k) :
    InStep e l l' s s' :=
  .of_blockFees fun hk => ⟨h.keyed hk, h.blockFees, f + k, h.owed, by rw [h.bal]; omega⟩

theorem InStep.of_paid {e : Env} {l l' : Ledger} {s s' : State}
    (h : (s.stakes.map stakeKey).Nodup → ∃ f k : Int, PaidSpec e l l' s s' f k) : InStep e l l' s s' :=
  fun hk => let ⟨_, _, hp⟩ := h hk.stake; hp.inStep hk

theorem withdrawRewards_inStep (e : Env) (l l' : Ledger) (s s' : State) (a : Addr)
    (h : withdrawRewards e l s a = .ok (l', s')) (hne : a ≠ e.modAddr) : InStep e l l' s s' := by
  refine .of_blockFees fun hk => ?_
  obtain ⟨p, hp, ⟨rfl, rfl⟩ | ⟨_, hs, rfl⟩⟩ := Limit.withdrawRewards_ok h
  · exact ⟨hk, rfl, 0, by omega, by omega⟩
  · refine ⟨⟨?_, hk.stake, hk.reimb⟩, rfl, -Dec.truncateInt p.rewards, ?_, ?_⟩
    · show ((setProvider s _).providers.map (·.addr)).Nodup
      rw [setProvider_addrs]; exact hk.prov
    · -- the rewards of `p` leave the sum whole; the whole coins of them are paid, the fraction goes back to `remaining`
      have hsum := setProvider_sum (fun p => p.rewards.raw) s a p { p with rewards := Dec.zero } hk.prov hp rfl
      simp only [owedRaw, sumRewards, sumStakes, sumReimbs] at hsum ⊢
      simp only [setProvider_blockFees, setProvider_stakes, setProvider_reimbs]
      rw [hsum]
      simp only [Dec.add, Dec.sub, Dec.ofInt, Dec.zero, Dec.prec]
      omega
    · rw [Ledger.send_ok _ _ _ _ _ hs, move_out _ _ _ _ _ hne, Coins.amountOf_single_cons, if_pos rfl]; omega

theorem withdrawReimbursement_inStep (e : Env) (l l' : Ledger) (s s' : State) (pid : Nat) (a : Addr)
    (h : withdrawReimbursement e l s pid a = .ok (l', s')) (hne : a ≠ e.modAddr) : InStep e l l' s s' := by
  refine .of_blockFees fun hk => ?_
  obtain ⟨r, hr, _, _, hs, rfl⟩ := withdrawReimbursement_iff.mp h
  have hsum : sumReimbs { s with reimbs := s.reimbs.filter (·.pid != pid) } = sumReimbs s - r.amount :=
    Keyed.sum_remove (fun r : Reimb => r.pid) (·.amount) hk.reimb hr
  refine ⟨⟨hk.prov, hk.stake, ?_⟩, rfl, -r.amount, ?_, ?_⟩
  · exact hk.reimb.sublist (List.filter_sublist.map _)
  · simp only [owedRaw, hsum, sumRewards, sumStakes, Dec.prec]
    omega
  · rw [Ledger.send_ok _ _ _ _ _ hs, move_out _ _ _ _ _ hne, Coins.amountOf_single_cons, if_pos rfl]; omega

theorem fundBlockRewards_inStep (e : Env) (l : Ledger) (s : State) (sender : Addr) (amount : Int) (hne : sender ≠ e.modAddr) :
    InStep e l (fundBlockRewards e l s sender amount).1 s (fundBlockRewards e l s sender amount).2 := fun hk => by
  refine ⟨⟨hk.prov, hk.stake, hk.reimb⟩, fun h0 => ?_, amount, ?_, ?_⟩
  · simp only [fundBlockRewards, Dec.add, Dec.ofInt, Dec.prec] at h0 ⊢; omega
  · simp only [fundBlockRewards, owedRaw, sumRewards, sumStakes, sumReimbs, Dec.add, Dec.ofInt, Dec.prec]; omega
  · simp only [fundBlockRewards]; rw [move_in _ _ _ _ _ hne, Coins.amountOf_single_cons, if_pos rfl]

/-- the heart of C02: what leaves `remaining` arrives in the providers' rewards -/
theorem distributeLoop_sum (total : Int) (fees : Dec) (ps : List Provider) (rem : Dec) :
    sumI (fun p => p.rewards.raw) (distributeLoop total fees ps rem).1 =
      sumI (fun p => p.rewards.raw) ps + rem.raw - (distributeLoop total fees ps rem).2.raw :=
  distributeLoop_ind total fees
    (P := fun ps rem out r => sumI (fun p => p.rewards.raw) out = sumI (fun p => p.rewards.raw) ps + rem.raw - r.raw)
    (fun rem => by simp) (fun p ps rem out r ih => by simp only [sumI_cons, ih, Dec.add, Dec.sub]; omega) ps rem

/-- the fee distribution as `distributeFees` runs it, only when there is collateral: either way the addresses stay and
    rewards plus `remaining` keep their sum -/
theorem distribute_or_keep (c : Prop) [Decidable c] (total : Int) (fees : Dec) (ps : List Provider) (rem : Dec)
    (pr : List Provider × Dec) (h : (if c then distributeLoop total fees ps rem else (ps, rem)) = pr) :
    pr.1.map (·.addr) = ps.map (·.addr) ∧
      sumI (fun p => p.rewards.raw) pr.1 + pr.2.raw = sumI (fun p => p.rewards.raw) ps + rem.raw := by
  subst h
  split
  · rw [Shield.distributeLoop_map (·.addr) (fun _ _ => rfl), distributeLoop_sum]; exact ⟨rfl, by omega⟩
  · exact ⟨rfl, rfl⟩

theorem expireAndDistribute_spec (e : Env) (s s' : State) (h : expireAndDistribute e s = .ok s') :
    s'.providers.map (·.addr) = s.providers.map (·.addr) ∧ s'.stakes = s.stakes ∧ s'.reimbs = s.reimbs ∧
    s'.remaining.raw + sumRewards s' + s'.blockFees.raw = s.remaining.raw + sumRewards s + s.blockFees.raw ∧
    (s'.blockFees = s.blockFees ∨ s'.blockFees = Dec.zero) := by
  obtain rfl | ⟨acc, hacc, h⟩ := PoolLm.expireAndDistribute_steps h
  · exact ⟨rfl, rfl, rfl, rfl, Or.inl rfl⟩
  · have hw := PoolLm.expireLoop_writes _ _ _ _ hacc
    have hfr : Frame s acc.s := .of_writes (by rw [hw])
    unfold PoolLm.distributeFees at h
    obtain ⟨_, h⟩ := of_guard h
    obtain ⟨_, h⟩ := of_guard h
    dsimp only at h
    generalize hd : (if acc.s.totalCollateral > 0 then distributeLoop _ _ _ _ else _) = pr at h
    obtain ⟨ha, hsum⟩ := distribute_or_keep _ _ _ _ _ _ hd
    obtain ⟨_, h⟩ := of_guard h
    injection h with h; subst h
    refine ⟨?_, hfr.stakes, hfr.reimbs, ?_, Or.inr rfl⟩
    · rw [← hfr.providers]; exact ha
    · simp only [sumRewards, Dec.add, Dec.zero, ← hfr.providers, ← hfr.remaining, ← hfr.blockFees] at hsum ⊢
      omega

theorem endBlock_spec (e : Env) (s s' : State) (h : endBlock e s = .ok s') (hk : Keyed s) :
    Keyed s' ∧ owedRaw s' = owedRaw s ∧ (s'.blockFees = s.blockFees ∨ s'.blockFees = Dec.zero) := by
  obtain ⟨s1, s2, h1, h2, rfl⟩ := PoolLm.endBlock_ok h
  obtain ⟨ha, hst, hre, hsum, hbf⟩ := expireAndDistribute_spec e s s1 h1
  have hk1 : Keyed s1 := ⟨by rw [ha]; exact hk.prov, by rw [hst]; exact hk.stake, by rw [hre]; exact hk.reimb⟩
  have hsame : Same s1 (closePools s2) := (Same.of_chain (completeWithdrawals_chain h2)).trans (Frame.of_writes (s' := closePools s2) rfl).same
  refine ⟨hsame.keyed hk1, ?_, ?_⟩
  · rw [hsame.owed hk1]
    simp only [owedRaw, sumStakes, sumReimbs, hst, hre] at hsum ⊢
    omega
  · rw [hsame.blockFees]; exact hbf

theorem endBlock_inStep {e : Env} {s s' : State} (h : endBlock e s = .ok s') (l : Ledger) : InStep e l l s s' := fun hk => by
  obtain ⟨hk', ho, hb⟩ := endBlock_spec e s s' h hk
  refine ⟨hk', fun h0 => ?_, 0, by rw [ho]; omega, by omega⟩
  rcases hb with hb | hb <;> rw [hb]
  · exact h0
  · rfl

/-- the payout loop seen on (amount still to pay, ledger), which is all its rounds relate: what is reflexive, transitive and
    holds across one provider's payment holds from start to end -/
theorem reimburseLoop_rel (e : Env) (pr yr : Dec) (R : Int × Ledger → Int × Ledger → Prop)
    (refl : ∀ x, R x x) (trans : ∀ {x y z}, R x y → R y z → R x z)
    (step : ∀ (p : Provider) (tp ty : Int) (l : Ledger),
      R (ty, l) (ty - payoutPay pr yr p tp ty, l.move e.bondedPool e.modAddr [(e.bond, payoutPay pr yr p tp ty)]))
    {ps : List Provider} {tp ty : Int} {l : Ledger} {s : State} {r : Int × Ledger × State}
    (h : reimburseLoop e pr yr ps tp ty l s = .ok r) : R (ty, l) (r.1, r.2.1) := by
  obtain ⟨_, _, hs, _⟩ := reimburseLoop_star h
  exact hs.lift (R := fun a b => R (a.2.2.1, a.2.2.2.1) (b.2.2.1, b.2.2.2.1)) (fun _ => refl _) trans
    (fun r => by cases r with | mk p _ tp ty l _ _ _ _ _ _ => exact step p tp ty l)

theorem reimburseLoop_left_nonneg (e : Env) (pr yr : Dec) (ps : List Provider) (tp ty : Int) (l : Ledger) (s : State)
    (left : Int) (l' : Ledger) (s' : State) (h : reimburseLoop e pr yr ps tp ty l s = .ok (left, l', s')) (hty : 0 ≤ ty) :
    0 ≤ left :=
  reimburseLoop_rel e pr yr (fun x y => 0 ≤ x.1 → 0 ≤ y.1) (fun _ => id) (fun h1 h2 h => h2 (h1 h))
    (fun p tp ty _ => by have := payoutPay_le pr yr p tp ty; dsimp only; omega) h hty

theorem reimburseLoop_spec (e : Env) (pr yr : Dec) (hbp : e.bondedPool ≠ e.modAddr) (ps : List Provider) :
    ∀ (tp ty : Int) (l : Ledger) (s : State) (left : Int) (l' : Ledger) (s' : State),
      reimburseLoop e pr yr ps tp ty l s = .ok (left, l', s') →
      Same s s' ∧ l'.balOf e.modAddr e.bond = l.balOf e.modAddr e.bond + (ty - left) ∧ (0 ≤ ty → 0 ≤ left) := by
  intro tp ty l s left l' s' h
  refine ⟨Same.of_chain (reimburseLoop_chain h), ?_, reimburseLoop_left_nonneg e pr yr ps tp ty l s left l' s' h⟩
  exact reimburseLoop_rel e pr yr (fun x y => y.2.balOf e.modAddr e.bond = x.2.balOf e.modAddr e.bond + (x.1 - y.1))
    (fun _ => by omega) (fun a2 b2 => by rw [b2, a2]; omega)
    (fun p tp ty l => by dsimp only; rw [move_in _ _ _ _ _ hbp, Coins.amountOf_single_cons, if_pos rfl]; omega) h

theorem createReimbursement_spec (e : Env) (l l' : Ledger) (s s' : State) (pid : Nat) (amount : Int) (b : Addr)
    (h : createReimbursement e l s pid amount b = .ok (l', s'))
    (hbp : e.bondedPool ≠ e.modAddr) (hamt : 0 ≤ amount) (hfresh : ∀ r ∈ s.reimbs, r.pid ≠ pid) (hk : Keyed s) :
    Keyed s' ∧ s'.blockFees = s.blockFees ∧ owedRaw s' = owedRaw s + amount * Dec.prec ∧
      l'.balOf e.modAddr e.bond = l.balOf e.modAddr e.bond + amount := by
  obtain ⟨left, s1, _, hl, hleft, hs'⟩ := createReimbursement_ok e l l' s s' pid amount b h
  obtain ⟨hsame, hbal, hnn⟩ := reimburseLoop_spec e _ _ hbp _ _ _ _ _ _ _ _ hl
  -- the loop ended with nothing left to pay: the guard of `createReimbursement` and the loop never overpaying
  have hl0 : left = 0 := Int.le_antisymm hleft (hnn hamt)
  have hk1 := hsame.keyed hk
  have hfil : s1.reimbs.filter (fun x => x.pid != pid) = s.reimbs := by
    rw [hsame.reimbs]
    exact Keyed.remove_fix (fun r : Reimb => r.pid) pid _ hfresh
  have hre : s'.reimbs = s.reimbs ++
      [{ pid := pid, amount := amount, beneficiary := b, payoutTime := e.t + s.params.payoutPeriod }] := by
    rw [hs', ← hfil]
  obtain ⟨hp, hst, hrm, hbf⟩ : s'.providers = s1.providers ∧ s'.stakes = s1.stakes ∧ s'.remaining = s1.remaining ∧
      s'.blockFees = s1.blockFees := by rw [hs']; exact ⟨rfl, rfl, rfl, rfl⟩
  refine ⟨⟨hp ▸ hk1.prov, hst ▸ hk1.stake, ?_⟩, hbf.trans hsame.blockFees, ?_, by rw [hbal, hl0]; omega⟩
  · rw [hre]; exact Keyed.nodup_append_new (fun r : Reimb => r.pid) hk.reimb hfresh
  · have ho := hsame.owed hk
    simp only [owedRaw, sumRewards, sumStakes, sumReimbs, hp, hst, hrm, hbf, hre, hsame.reimbs, sumI_append, sumI_cons,
      sumI_nil, Dec.prec] at ho ⊢
    omega

theorem createReimbursement_inStep (e : Env) (l l' : Ledger) (s s' : State) (pid : Nat) (amount : Int) (b : Addr)
    (h : createReimbursement e l s pid amount b = .ok (l', s'))
    (hbp : e.bondedPool ≠ e.modAddr) (hamt : 0 ≤ amount) (hfresh : ∀ r ∈ s.reimbs, r.pid ≠ pid) : InStep e l l' s s' :=
  .of_blockFees fun hk =>
    let ⟨hk', hb, ho⟩ := createReimbursement_spec e l l' s s' pid amount b h hbp hamt hfresh hk
    ⟨hk', hb, amount, ho⟩

theorem claimEnds_inStep (e : Env) (l l' : Ledger) (s s' : State) (pid poolID : Nat) (restoreTo beneficiary : Addr)
    (purchaseID : Nat) (loss : Int) (o : ClaimOutcome)
    (h : claimEnds e l s pid poolID restoreTo beneficiary purchaseID loss o = .ok (l', s'))
    (hside : o = .paid → e.bondedPool ≠ e.modAddr ∧ 0 ≤ loss ∧ ∀ r ∈ s.reimbs, r.pid ≠ pid) : InStep e l l' s s' := by
  cases o with
  | paid =>
    obtain ⟨h1, h2, h3⟩ := hside rfl
    exact createReimbursement_inStep e l l' s s' pid loss beneficiary h h1 h2 h3
  | vetoed => cases h; exact (Frame.of_writes (s := s) (s' := claimEnd s loss) rfl).same.inStep e l
  | rejected =>
    cases h
    exact (Frame.of_writes (s' := claimEnd (restoreShield s poolID restoreTo purchaseID loss) loss)
      (by rw [claimEnd, restoreShield_writes])).same.inStep e l
  | failed => cases h; exact .refl e l s

theorem withdrawReimbursement_accept (e : Env) (l : Ledger) (s : State) (pid : Nat) (a : Addr) (r : Reimb)
    (hr : s.reimbs.find? (·.pid == pid) = some r) (hb : r.beneficiary = a) (ht : r.payoutTime ≤ e.t)
    (h0 : 0 ≤ r.amount) (hc : r.amount ≤ l.balOf e.modAddr e.bond) :
    ∃ l' s', withdrawReimbursement e l s pid a = .ok (l', s') := by
  obtain ⟨l', hs⟩ := (Ledger.send_single_succeeds_iff l e.modAddr a e.bond r.amount).mpr ⟨h0, hc⟩
  exact ⟨l', _, withdrawReimbursement_iff.mpr ⟨r, hr, hb, ht, hs, rfl⟩⟩

/-- the owed parts are non-negative -/
structure OwedNonneg (s : State) : Prop where
  remaining : 0 ≤ s.remaining.raw
  blockFees : 0 ≤ s.blockFees.raw
  rewards : ∀ p ∈ s.providers, 0 ≤ p.rewards.raw
  stakes : ∀ k ∈ s.stakes, 0 ≤ k.amount
  reimbs : ∀ r ∈ s.reimbs, 0 ≤ r.amount

theorem owed_covered (b : Int) (s : State) (hf : FundInv b s) (hn : OwedNonneg s) :
    sumRewards s ≤ b * Dec.prec ∧ sumStakes s ≤ b ∧ sumReimbs s ≤ b := by
  have h1 := sumI_nonneg (fun p : Provider => p.rewards.raw) s.providers hn.rewards
  have h2 := sumI_nonneg (·.amount) s.stakes hn.stakes
  have h3 := sumI_nonneg (·.amount) s.reimbs hn.reimbs
  have h4 := hn.remaining
  have h5 := hn.blockFees
  have h6 := hf.1
  simp only [owedRaw, sumRewards, sumStakes, sumReimbs, Dec.prec] at *
  omega

theorem rewards_covered (b : Int) (s : State) (hf : FundInv b s) (hn : OwedNonneg s) (p : Provider) (hp : p ∈ s.providers) :
    0 ≤ Dec.truncateInt p.rewards ∧ Dec.truncateInt p.rewards ≤ b := by
  have h1 := sumI_mem_le (fun p : Provider => p.rewards.raw) s.providers hn.rewards p hp
  have h2 := (owed_covered b s hf hn).1
  obtain ⟨h4, h5⟩ := Dec.truncateInt_bounds p.rewards (hn.rewards p hp)
  simp only [sumRewards, Dec.prec] at *
  exact ⟨h4, by omega⟩

theorem reimb_covered (b : Int) (s : State) (hf : FundInv b s) (hn : OwedNonneg s) (r : Reimb) (hr : r ∈ s.reimbs) :
    0 ≤ r.amount ∧ r.amount ≤ b :=
  ⟨hn.reimbs r hr, Int.le_trans (sumI_mem_le (·.amount) s.reimbs hn.reimbs r hr) (owed_covered b s hf hn).2.2⟩

theorem stake_covered (b : Int) (s : State) (hf : FundInv b s) (hn : OwedNonneg s) (k : Stake) (hk : k ∈ s.stakes) :
    0 ≤ k.amount ∧ k.amount ≤ b :=
  ⟨hn.stakes k hk, Int.le_trans (sumI_mem_le (·.amount) s.stakes hn.stakes k hk) (owed_covered b s hf hn).2.1⟩

end Shentu.Shield.Fund
