import Shentu.Proofs.ShieldMachine
import Shentu.Proofs.Runs
import Shentu.Props.C04
import Shentu.Proofs.C04HLog
/-
  Helper definitions and lemmas for `Shentu/Props/C04H.lean` (shield claim payout, at the level of histories).

  The ghost log: a history is a list of `C03a.Op`; every step that succeeds in paying a claim
  (`claimEnds … paid`) or in withdrawing a reimbursement appends one event to a log that is carried beside the
  world.  The events are computed from what the step visibly does (the record found in the new store, the two
  ledgers), not from the arguments of the operation.

  `step_spec` sorts the steps (of the allowed operations only those two write the reimbursement store; the third writer,
  the bare `createReimbursement`, is not allowed); `Inv` ties the store to the log
  by `openRecs` and `Good` of `C04HLog`.
-/
namespace Shentu.C04H
open Shentu Shentu.Shield Shentu.Shield.Fund Shentu.Props.C03a

/-- the operations of a chain: everything in `C03a.Op` except the bare keeper function `createReimbursement`
    (which only ever runs inside `claimEnds … paid`) -/
def allowed : Op → Bool
  | .createReimbursement .. => false
  | _ => true

/-- the message-level operations: the messages of the module, the hooks, the claim life cycle, the two blockers -/
def isMsg : Op → Bool
  | .deposit .. | .withdraw .. | .stakingChanged .. | .purchase .. | .createPool .. | .updatePool .. | .pausePool ..
  | .updateSponsor .. | .unstake .. | .withdrawRewards .. | .withdrawReimbursement .. | .secureCollaterals ..
  | .claimEnds .. | .endBlock .. | .fundBlockRewards .. => true
  | _ => false

theorem isMsg_allowed (op : Op) (h : isMsg op = true) : allowed op = true := by
  cases op <;> first | rfl | cases h

/-- the events of a step that succeeded, read off the worlds before (`w`) and after (`w'`) -/
def eventsOk (op : Op) (w w' : World) : List Event :=
  match op with
  | .claimEnds _ pid _ _ _ _ _ .paid =>
    match w'.2.reimbs.find? (·.pid == pid) with
    | some r => [.created r.pid r.beneficiary r.amount r.payoutTime]
    | none => []
  | .withdrawReimbursement e pid a =>
    [.withdrawn pid a e.modAddr (w'.1.balOf a e.bond - w.1.balOf a e.bond)
      (w.1.balOf e.modAddr e.bond - w'.1.balOf e.modAddr e.bond) e.t]
  | _ => []

/-- the events one step appends: none when it fails -/
def events (op : Op) (w : World) : List Event :=
  match op.apply w with
  | .error _ => []
  | .ok w' => eventsOk op w w'

/-- the world with its log, newest event first -/
abbrev G := World × List Event

def gstep (op : Op) (g : G) : G := (step op g.1, events op g.1 ++ g.2)

def grun (ops : List Op) (g : G) : G := ops.foldl (fun g op => gstep op g) g

theorem grun_world (ops : List Op) (g : G) : (grun ops g).1 = run ops g.1 :=
  (List.foldl_hom (fun g : G => g.1) (fun _ _ => rfl)).symm

theorem grun_cons (op : Op) (ops : List Op) (g : G) : grun (op :: ops) g = grun ops (gstep op g) := rfl

theorem grun_append (o1 o2 : List Op) (g : G) : grun (o1 ++ o2) g = grun o2 (grun o1 g) := by
  simp [grun, List.foldl_append]

/-- the step neither touches the reimbursement store nor logs anything -/
def Quiet (s s' : State) (evs : List Event) : Prop := s'.reimbs = s.reimbs ∧ evs = []

/-- the step is a claim that passed: the record is written (replacing any record under the same id), one `created` event -/
def Paid (op : Op) (s s' : State) (evs : List Event) : Prop :=
  ∃ e pid poolID rt b puid loss, op = .claimEnds e pid poolID rt b puid loss .paid ∧
    s'.reimbs = s.reimbs.filter (·.pid != pid) ++ [mkRec pid b loss (e.t + s.params.payoutPeriod)] ∧
    evs = [.created pid b loss (e.t + s.params.payoutPeriod)]

/-- the step is a successful withdrawal: the record found under the id belongs to the caller, its payout time has come,
    it is removed, one `withdrawn` event whose observed amounts are the record's amount -/
def Drawn (op : Op) (s s' : State) (evs : List Event) : Prop :=
  ∃ e pid a r received left, op = .withdrawReimbursement e pid a ∧ s.reimbs.find? (·.pid == pid) = some r ∧
    r.beneficiary = a ∧ r.payoutTime ≤ e.t ∧ s'.reimbs = s.reimbs.filter (·.pid != pid) ∧
    evs = [.withdrawn pid a e.modAddr received left e.t] ∧ (a ≠ e.modAddr → received = r.amount ∧ left = r.amount)

theorem find_filter_append (rs : List Reimb) (pid : Nat) (r : Reimb) (hr : r.pid = pid) :
    (rs.filter (·.pid != pid) ++ [r]).find? (·.pid == pid) = some r := by
  rw [List.find?_append,
    show (rs.filter (·.pid != pid)).find? (·.pid == pid) = none from (Keyed.find_remove Reimb.pid pid pid rs).trans (if_pos rfl)]
  simp [hr]

theorem events_error (op : Op) (w : World) (x : Err) (h : op.apply w = .error x) : events op w = [] := by
  unfold events; rw [h]

theorem step_spec (op : Op) (l : Ledger) (s : State) (ha : allowed op = true) :
    Quiet s (step op (l, s)).2 (events op (l, s)) ∨ Paid op s (step op (l, s)).2 (events op (l, s)) ∨
      Drawn op s (step op (l, s)).2 (events op (l, s)) := by
  cases happ : op.apply (l, s) with
  | error x => left; rw [step_error happ, events_error _ _ _ happ]; exact ⟨rfl, rfl⟩
  | ok w' =>
    obtain ⟨l', s'⟩ := w'
    rw [step_ok happ]
    have hev : events op (l, s) = eventsOk op (l, s) (l', s') := by
      unfold events; rw [happ]
    rw [hev]
    cases hq : op.writesReimbs with
    | false =>
      -- all but three operations: the store is not written, and nothing is logged
      exact .inl ⟨(apply_untouched op _ _ happ).reimbs hq, by cases op <;> first | rfl | cases hq⟩
    | true =>
    cases op <;> cases hq <;> simp only [Op.apply] at happ
    case createReimbursement.refl => cases ha
    case withdrawReimbursement.refl e pid a =>
      right; right
      obtain ⟨r, hf, hb, ht, hmove, _, hre, _, _⟩ := Props.C04.withdrawReimbursement_pays e l l' s s' pid a happ
      refine ⟨e, pid, a, r, _, _, rfl, hf, hb, ht, hre, rfl, ?_⟩
      intro hne
      show (l'.balOf a e.bond - l.balOf a e.bond) = r.amount ∧ (l.balOf e.modAddr e.bond - l'.balOf e.modAddr e.bond) = r.amount
      rw [hmove, move_in _ _ _ _ _ (Ne.symm hne), move_out _ _ _ _ _ hne, Coins.amountOf_single_cons, if_pos rfl]
      constructor <;> omega
    case claimEnds.refl e pid poolID rt b puid loss o =>
      cases o with
      | paid =>
        right; left
        simp only [claimEnds] at happ
        obtain ⟨hre, _, _, _⟩ := Props.C04.createReimbursement_records e l l' s s' pid loss b happ
        refine ⟨e, pid, poolID, rt, b, puid, loss, rfl, hre, ?_⟩
        show (match s'.reimbs.find? (·.pid == pid) with
          | some r => [Event.created r.pid r.beneficiary r.amount r.payoutTime]
          | none => []) = _
        rw [hre, find_filter_append s.reimbs pid (Props.C04.record e s pid loss b) rfl]
        rfl
      | _ =>
        exact .inl ⟨(Props.C04.unpaid_claim_pays_nothing e l l' s s' pid poolID rt b puid loss _ (by decide) happ).2, rfl⟩

/-- the invariant that carries the induction: the store is what the log says is open, and the log is consistent -/
def Inv (g : G) : Prop := g.1.2.reimbs = openRecs g.2 ∧ Good g.2

theorem gstep_inv (op : Op) (g : G) (ha : allowed op = true) (hi : Inv g) : Inv (gstep op g) := by
  obtain ⟨⟨l, s⟩, log⟩ := g
  obtain ⟨hre, hg⟩ := hi
  simp only at hre
  show (step op (l, s)).2.reimbs = openRecs (events op (l, s) ++ log) ∧ Good (events op (l, s) ++ log)
  rcases step_spec op l s ha with ⟨h1, h2⟩ | ⟨e, pid, poolID, rt, b, puid, loss, _, h1, h2⟩ |
      ⟨e, pid, a, r, received, left, _, hfind, hb, ht, h1, h2, hamt⟩
  · rw [h1, h2]; exact ⟨hre, hg⟩
  · rw [h1, h2, hre]; exact ⟨rfl, hg⟩
  · rw [h1, h2, hre]
    refine ⟨rfl, hg, r, ?_, hb, ht, hamt⟩
    show (openRecs log).find? (·.pid == pid) = some r
    rw [← hre]; exact hfind

theorem grun_inv (ops : List Op) (g : G) (ha : ∀ op ∈ ops, allowed op = true) (hi : Inv g) : Inv (grun ops g) :=
  List.foldlRecOn (motive := Inv) ops _ hi (fun g h op ho => gstep_inv op g (ha op ho) h)

theorem inv_init (l : Ledger) (s : State) (h : s.reimbs = []) : Inv ((l, s), []) := ⟨h, trivial⟩

/-- fresh proposal ids: no step pays a claim under an id that the log already has a `created` entry for -/
def FreshHist : List Op → G → Prop
  | [], _ => True
  | op :: ops, g => (∀ pid ∈ createdPids (events op g.1), pid ∉ createdPids g.2) ∧ FreshHist ops (gstep op g)

theorem events_length (op : Op) (w : World) : (events op w).length ≤ 1 := by
  unfold events
  split
  · simp
  · unfold eventsOk
    split
    · split <;> simp
    · simp
    · simp

theorem createdPids_length (evs : List Event) : (createdPids evs).length ≤ evs.length := by
  induction evs with
  | nil => simp
  | cons ev evs ih => cases ev <;> simp <;> omega

theorem nodup_of_length_le_one {α} (l : List α) (h : l.length ≤ 1) : l.Nodup := by
  match l, h with
  | [], _ => simp
  | [a], _ => simp
  | _ :: _ :: _, h => simp at h

theorem grun_fresh (ops : List Op) (g : G) (hf : (createdPids g.2).Nodup) (hh : FreshHist ops g) :
    (createdPids (grun ops g).2).Nodup :=
  (foldl_ind (fun ops g => (createdPids g.2).Nodup ∧ FreshHist ops g) (fun op _ g ⟨hf, hh⟩ => by
    refine ⟨?_, hh.2⟩
    show (createdPids (events op g.1 ++ g.2)).Nodup
    rw [createdPids_append, List.nodup_append]
    refine ⟨nodup_of_length_le_one _ ?_, hf, ?_⟩
    · have := createdPids_length (events op g.1); have := events_length op g.1; omega
    · intro a ha b hb hab
      subst hab
      exact hh.1 a ha hb) ops g ⟨hf, hh⟩).1

/-- the ids of the claims a history pays, as written in the operations -/
def paidPid : Op → List Nat
  | .claimEnds _ pid _ _ _ _ _ .paid => [pid]
  | _ => []
def paidPids (ops : List Op) : List Nat := ops.flatMap paidPid

theorem events_cpid_sub (op : Op) (w : World) : ∀ pid ∈ createdPids (events op w), pid ∈ paidPid op := by
  intro pid h
  unfold events at h
  split at h
  · cases h
  · unfold eventsOk at h
    split at h
    · split at h
      · rename_i pid0 _ _ _ _ _ _ _ r hfind
        have hp : r.pid = pid0 := by simpa using List.find?_some hfind
        simp only [createdPids_created, createdPids_nil, List.mem_singleton] at h
        rw [h, hp]; simp [paidPid]
      · cases h
    · cases h
    · cases h

theorem fresh_of_nodup (ops : List Op) (g : G) (hn : (paidPids ops).Nodup)
    (hd : ∀ pid ∈ createdPids g.2, pid ∉ paidPids ops) : FreshHist ops g := by
  induction ops generalizing g with
  | nil => trivial
  | cons op ops ih =>
    have hpp : paidPids (op :: ops) = paidPid op ++ paidPids ops := by simp [paidPids]
    rw [hpp] at hn hd
    obtain ⟨_, hn2, hn3⟩ := List.nodup_append.mp hn
    refine ⟨?_, ih (gstep op g) hn2 ?_⟩
    · intro pid hp hc
      exact hd pid hc (List.mem_append_left _ (events_cpid_sub op g.1 pid hp))
    · intro pid hp hq
      have hp' : pid ∈ createdPids (events op g.1) ++ createdPids g.2 := by
        rw [← createdPids_append]; exact hp
      rcases List.mem_append.mp hp' with h1 | h1
      · exact hn3 pid (events_cpid_sub op g.1 pid h1) pid hq rfl
      · exact hd pid h1 (List.mem_append_right _ hq)

theorem log_origin (ops : List Op) (g : G) (ev : Event) (h : ev ∈ (grun ops g).2) :
    ev ∈ g.2 ∨ ∃ pre op post, ops = pre ++ op :: post ∧ ev ∈ events op (grun pre g).1 :=
  foldl_origin (M := fun g : G => ev ∈ g.2) (N := fun op g => ev ∈ events op g.1)
    (fun _ _ h => (List.mem_append.mp h).symm) ops g h

theorem events_created (op : Op) (l : Ledger) (s : State) (ha : allowed op = true) (pid : Nat) (b : Addr) (amt pt : Int)
    (h : Event.created pid b amt pt ∈ events op (l, s)) :
    ∃ e poolID rt puid, op = .claimEnds e pid poolID rt b puid amt .paid ∧ pt = e.t + s.params.payoutPeriod := by
  rcases step_spec op l s ha with ⟨_, h2⟩ | ⟨e, pid', poolID, rt, b', puid, loss, hop, _, h2⟩ |
      ⟨e, pid', a, r, received, left, _, _, _, _, _, h2, _⟩
  · rw [h2] at h; cases h
  · rw [h2] at h
    have := List.mem_singleton.mp h
    injection this with e1 e2 e3 e4
    subst e1 e2 e3 e4
    exact ⟨e, poolID, rt, puid, hop, rfl⟩
  · rw [h2] at h
    have := List.mem_singleton.mp h
    cases this

theorem events_withdrawn (op : Op) (l : Ledger) (s : State) (ha : allowed op = true) (pid : Nat) (a m : Addr) (x y t : Int)
    (h : Event.withdrawn pid a m x y t ∈ events op (l, s)) :
    ∃ e, op = .withdrawReimbursement e pid a ∧ m = e.modAddr ∧ t = e.t := by
  rcases step_spec op l s ha with ⟨_, h2⟩ | ⟨e, pid', poolID, rt, b', puid, loss, _, _, h2⟩ |
      ⟨e, pid', a', r, received, left, hop, _, _, _, _, h2, _⟩
  · rw [h2] at h; cases h
  · rw [h2] at h
    have := List.mem_singleton.mp h
    cases this
  · rw [h2] at h
    have := List.mem_singleton.mp h
    injection this with e1 e2 e3 e4 e5 e6
    subst e1 e2 e3 e4 e5 e6
    exact ⟨e, hop, rfl, rfl⟩

end Shentu.C04H
