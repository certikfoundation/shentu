import Shentu.Proofs.C16mExec
/-
  The representation relation between a model memory (a byte array whose length is the capacity) and a specification memory
  (`MemSpec.Mem`), and facts about the specification itself.
-/
namespace Shentu.C16mH
open Shentu.EVM Shentu.EVM.MemSpec

/-- the model memory `b` represents the specification memory `m`: same bytes everywhere (zero beyond the capacity) and a
    capacity of exactly the active words -/
def Rep (b : ByteArray) (m : Mem) : Prop := b.size = 32 * m.words ∧ ∀ i, byteAt b i = m.byte i

theorem rep_empty : Rep ByteArray.empty Mem.empty := ⟨rfl, fun _ => rfl⟩

theorem touch_byte (m : Mem) (o l : Nat) : (m.touch o l).byte = m.byte := by
  unfold Mem.touch; split <;> rfl

theorem rep_grow_need {b : ByteArray} {m : Mem} (hr : Rep b m) (o len : Nat) (hl : 0 < len) (h : o + len ≤ memCap) :
    Rep (grow b (memNeed o len)) (m.touch o len) := by
  have hle := memNeed_le o len hl h
  have hc := memCap_val
  have hlt : memNeed o len < 2 ^ 65 := by omega
  constructor
  · rw [size_grow _ _ hlt, hr.1, memNeed_pos o len hl h]
    unfold Mem.touch
    rw [if_neg (by omega)]
    simp only []
    omega
  · intro i
    rw [byteAt_grow _ _ hlt, hr.2 i, touch_byte]

theorem rep_wr {b : ByteArray} {m : Mem} (o : Nat) (v : ByteArray) (hr : Rep b (m.touch o v.size)) (h : o + v.size ≤ b.size)
    (hlt : o + v.size < 2 ^ 65) : Rep (wr b o v) (m.write o (bl v)) := by
  constructor
  · rw [size_wr _ _ _ hlt, hr.1]
    have := hr.1
    simp only [Mem.write, bl_length]
    omega
  · intro i
    rw [byteAt_wr _ _ _ hlt, hr.2 i, touch_byte]
    simp only [Mem.write, bl_length]

theorem rep_extract {b : ByteArray} {m : Mem} (hr : Rep b m) (o l : Nat) (h : o + l ≤ b.size) :
    bl (b.extract o (o + l)) = (m.read o l).1 :=
  bl_eq_map (by rw [ByteArray.size_extract]; omega) fun i hi => by rw [byteAt_extract, if_pos (by omega), hr.2]

theorem write_byte_in (m : Mem) (o : Nat) (bs : List Byte) (i : Nat) (h1 : o ≤ i) (h2 : i < o + bs.length) :
    (m.write o bs).byte i = bs.getD (i - o) 0 := by
  simp only [Mem.write, h1, h2, and_self, if_true]

theorem write_byte_out (m : Mem) (o : Nat) (bs : List Byte) (i : Nat) (h : i < o ∨ o + bs.length ≤ i) :
    (m.write o bs).byte i = m.byte i := by
  have : ¬ (o ≤ i ∧ i < o + bs.length) := by omega
  simp only [Mem.write, this, if_false]

theorem length_wordBytes (v : Nat) : (wordBytes v).length = 32 := by simp [wordBytes]

theorem bytesWord_wordBytes (v : Nat) : bytesWord (wordBytes v) = v % 2 ^ 256 := by
  rw [wordBytes_eq, bytesWord_eq, beVal_beBytes]

theorem read_write_same (m : Mem) (o : Nat) (bs : List Byte) : ((m.write o bs).read o bs.length).1 = bs := by
  unfold Mem.read
  simp only []
  apply List.ext_getElem?
  intro j
  by_cases hj : j < bs.length
  · simp only [List.getElem?_map, List.getElem?_range hj, Option.map_some]
    rw [write_byte_in m o bs (o + j) (by omega) (by omega), List.getD_eq_getElem?_getD,
      show o + j - o = j by omega, List.getElem?_eq_getElem hj]
    rfl
  · rw [List.getElem?_eq_none (by simp; omega), List.getElem?_eq_none (by omega)]

theorem bytesWord_zeros (n : Nat) : bytesWord (List.replicate n 0) = 0 := by
  induction n with
  | zero => rfl
  | succ n ih =>
    rw [List.replicate_succ']
    show beVal _ = 0
    rw [beVal_append_singleton]
    have : beVal (List.replicate n 0) = 0 := ih
    rw [this]
    rfl

theorem beBytes_one (v : Nat) : beBytes (v % 256) 1 = [(v % 256).toUInt8] := by
  simp [beBytes, List.range_succ]

/-- The expansion the cost lookup asks for in front of an access `(o, n)` of positive length within the cap: the body goes on
    from a frame `e` whose memory covers the access and represents the specification's memory with the access touched;
    stack, gas, error sink and return data are as before. -/
theorem expand_access {β : Type} (body : M β) (s : Frame) (m : Mem) (o n : Nat) (hr : Rep s.mem m) (he : s.err = none)
    (hpos : 0 < n) (hcap : o + n ≤ memCap) :
    ∃ e, ((expandMemory (memNeed o n) >>= fun _ => body) s).val = (body e).val ∧ Rep e.mem (m.touch o n) ∧
      o + n ≤ e.mem.size ∧ e.stack = s.stack ∧ e.gas = s.gas ∧ e.err = none ∧ e.retBuf = s.retBuf := by
  have hc := memCap_val
  have h1 := memNeed_le o n hpos hcap
  have h2 := memNeed_ge o n hpos hcap
  have hrep := rep_grow_need hr o n hpos hcap
  -- with the need a variable, the fields of the expanded frame are compared without evaluating `grow`'s test on `memNeed`
  generalize memNeed o n = t at h1 h2 hrep ⊢
  have hval := memGrow_ok t s h1
  rw [← expandMemory_ok t s he] at hval
  refine ⟨_, bind_val_some hval, hrep, ?_, rfl, rfl, he, rfl⟩
  show o + n ≤ (grow s.mem t).size
  rw [size_grow _ _ (by omega)]; omega

/-- An instruction that writes: the expansion the cost lookup asks for, then a body that, on the expanded frame `e`, comes down
    to `memWrite` of the bytes `bs` on a frame `e'` (what the pops left of `e`: memory and error sink untouched, `r` on the
    stack).  The memory afterwards represents the specification's `write`. -/
theorem write_access_refines (q : Quirks) (body : M Ctl) (s : Frame) (m : Mem) (o n : Nat) (bs : List Byte) (r : List Nat)
    (hr : Rep s.mem m) (he : s.err = none) (hn : bs.length = n) (hpos : 0 < n) (hcap : o + n ≤ memCap)
    (hbody : ∀ e : Frame, e.stack = s.stack → e.gas = s.gas → e.retBuf = s.retBuf →
      ∃ v e', bl v = bs ∧ (body e).val = ((memWrite q o v >>= fun _ => pure Ctl.next) e').val ∧
        e'.mem = e.mem ∧ e'.stack = r ∧ e'.err = e.err) :
    ∃ s', ((expandMemory (memNeed o n) >>= fun _ => body) s).val = (some Ctl.next, s') ∧
      Rep s'.mem (m.write o bs) ∧ s'.stack = r ∧ s'.err = none := by
  subst hn
  obtain ⟨e, hrun, hrep, hsz, hst, hgas, herr, hret⟩ := expand_access body s m o bs.length hr he hpos hcap
  obtain ⟨v, e', rfl, hb, hmem, hst', herr'⟩ := hbody e hst hgas hret
  rw [bl_length] at hrun hrep hsz hpos hcap
  rw [bl_length, hrun, hb, bind_val_some (memWrite_ok q o v e' (Or.inl hpos) hcap)]
  refine ⟨_, rfl, ?_, hst', herr'.trans herr⟩
  show Rep (wr e'.mem o v) _
  rw [hmem]
  exact rep_wr o v hrep hsz (by have := memCap_val; omega)

/-- An instruction that reads: the expansion the cost lookup asks for, then a body that, on the expanded frame `e`, comes down
    to `memRead` of `l` bytes, continued by `k`, on a frame `e'` (what the pops left of `e`: `c` gas spent, `r` on the stack).
    The read changes nothing in `e'`: `k` goes on from it with the specification's bytes, and its memory represents the
    specification's memory after the read. -/
theorem read_access_refines {β : Type} (q : Quirks) (body : M β) (k : ByteArray → M β) (s : Frame) (m : Mem) (o l c : Nat)
    (r : List Nat) (hr : Rep s.mem m) (he : s.err = none) (hl : 0 < l) (hcap : o + l ≤ memCap)
    (hbody : ∀ e : Frame, e.stack = s.stack → e.gas = s.gas →
      ∃ e', (body e).val = ((memRead q o l >>= k) e').val ∧
        e'.mem = e.mem ∧ e'.stack = r ∧ e'.err = e.err ∧ e'.gas = e.gas - c) :
    ∃ b e, ((expandMemory (memNeed o l) >>= fun _ => body) s).val = (k b e).val ∧ bl b = (m.read o l).1 ∧
      Rep e.mem (m.read o l).2 ∧ e.stack = r ∧ e.err = none ∧ e.gas = s.gas - c := by
  obtain ⟨e, hrun, hrep, hsz, hst, hgas, herr, _⟩ := expand_access body s m o l hr he hl hcap
  obtain ⟨e', hb, hmem, hst', herr', hgas'⟩ := hbody e hst hgas
  rw [← hmem] at hrep hsz
  refine ⟨e'.mem.extract o (o + l), e', ?_, ?_, hrep, hst', herr'.trans herr, hgas'.trans (congrArg (· - c) hgas)⟩
  · rw [hrun, hb]
    exact bind_val_some (memRead_within q o l e' (Or.inl hl) hcap hsz)
  · rw [rep_extract hrep o l hsz]
    show (List.range l).map (fun i => (m.touch o l).byte (o + i)) = _
    rw [touch_byte]
    rfl

/-- CALLDATACOPY / CODECOPY body in either mode, whenever the bytes are fetched: the memory afterwards represents the
    specification's `copyIn` (bytes beyond the end of the data are zeros) -/
theorem copy_fetch_refines (q : Quirks) (src : ByteArray) (s : Frame) (m : Mem) (memOff off len : Nat) (r : List Nat)
    (hf : Fetches q src off len) (hr : Rep s.mem m) (he : s.err = none)
    (hs : s.stack = memOff :: off :: len :: r) (hg : 3 ≤ s.gas) (hl : 0 < len) (hcap : memOff + len ≤ memCap) :
    ∃ s', ((expandMemory (memNeed memOff len) >>= fun _ => copyToMem q src) s).val = (some Ctl.next, s') ∧
      Rep s'.mem (m.copyIn memOff (bl src) off len) ∧ s'.stack = r ∧ s'.err = none :=
  write_access_refines q (copyToMem q src) s m memOff len (readPad (bl src) off len) r hr he (length_readPad _ _ _) hl hcap
    fun e h1 h2 _ =>
      let ⟨_, _, b, hb, hrun⟩ := copyToMem_fetch q src e memOff off len r hf (h1.trans hs) (h2 ▸ hg)
        (Nat.le_trans (Nat.le_add_left _ _) hcap)
      ⟨b, _, hb, hrun, rfl, rfl, rfl⟩

end Shentu.C16mH
