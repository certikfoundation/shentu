import Shentu.Proofs.HaltShieldBasic
import Shentu.Proofs.ShieldPoolExpire
/-
  C08, shield part: the end-blocker.  Its first step (`expireAndDistribute`) never fails under the invariants and preserves
  them; of the rest of the end-blocker the due withdrawals keep them by `FeeFrameP.of_chain`, the closing of pools writes none
  of the fields they read (`FeeFrame.of_writes`).
-/
namespace Shentu.Halt
open Shentu Shentu.Shield Shentu.Shield.PoolLm

theorem totalStep_raw (lu : Int) (tf : Dec) (en : Purchase) :
    (totalStep lu tf en).raw = tf.raw - (if streams lu en then en.fees.raw else 0) := by
  unfold totalStep; split
  · rfl
  · show tf.raw = tf.raw - 0; omega

theorem entryStep_fees (lu : Int) (en : Purchase) :
    (entryStep lu en).fees.raw = en.fees.raw - (if streams lu en then en.fees.raw else 0) := by
  unfold entryStep; split
  · show (0 : Int) = _; omega
  · omega

theorem feesStep_nonneg (lu per : Int) (f : Dec) (en : Purchase) (hf : 0 ≤ f.raw) (hper : 0 < per) :
    0 ≤ (feesStep lu per f en).raw := by
  unfold feesStep
  split
  · rename_i hs
    unfold streams at hs
    simp only [Bool.and_eq_true, decide_eq_true_eq] at hs
    rw [Dec.add_raw]
    have h1 := Dec.quo_ofInt_nonneg (en.endTime - lu) per (by omega) hper
    have h2 := Dec.mul_nonneg en.fees _ (by omega) h1
    omega
  · exact hf

theorem expireEntries_fees (now lu per : Int) (es : List Purchase) (f tf : Dec) (r : Int) :
    (∀ e ∈ es, 0 ≤ e.fees.raw) →
      sumI (fun en => en.fees.raw) (expireEntries now lu per es (f, tf, r)).1 + tf.raw ≤
        sumI (fun en => en.fees.raw) es + (expireEntries now lu per es (f, tf, r)).2.2.1.raw ∧
      (0 ≤ f.raw → 0 < per → 0 ≤ (expireEntries now lu per es (f, tf, r)).2.1.raw) := by
  have hx : ∀ en : Purchase, 0 ≤ en.fees.raw →
      0 ≤ (if streams lu en then en.fees.raw else 0) ∧ (if streams lu en then en.fees.raw else 0) ≤ en.fees.raw := by
    intro en hen; split <;> omega
  refine expireEntries_ind now lu per
    (P := fun es f tf _ res => (∀ e ∈ es, 0 ≤ e.fees.raw) →
      sumI (fun en => en.fees.raw) res.1 + tf.raw ≤ sumI (fun en => en.fees.raw) es + res.2.2.1.raw ∧
      (0 ≤ f.raw → 0 < per → 0 ≤ res.2.1.raw))
    (fun _ _ _ _ => ⟨by simp only [sumI_nil]; omega, fun h _ => h⟩) (fun en es f tf _ res _ ih hnn => ?_)
    (fun en es f tf _ res _ ih hnn => ?_) es f tf r
  all_goals
    have hen := hx en (hnn en List.mem_cons_self)
    have ⟨h1, h2⟩ := ih (fun e he => hnn e (List.mem_cons_of_mem _ he))
    rw [totalStep_raw] at h1
    refine ⟨?_, fun hf hper => h2 (feesStep_nonneg lu per f en hf hper) hper⟩
  · rw [sumI_cons]; omega
  · dsimp only
    rw [sumI_cons, sumI_cons, entryStep_fees]; omega

theorem expireEntries_from (now lu per : Int) (es : List Purchase) (f tf : Dec) (r : Int) :
    ∀ e' ∈ (expireEntries now lu per es (f, tf, r)).1, e'.fees.raw > 0 → ∃ e ∈ es, e.id = e'.id ∧ e.fees.raw > 0 := by
  intro e' he' hpos
  rcases (expireEntries_facts now lu per es f tf r).each e' he' with ⟨e, he, hid, _, hfe⟩
  refine ⟨e, he, hid.symm, ?_⟩
  rcases hfe with h | h
  · rw [← h]; exact hpos
  · rw [h] at hpos; exact absurd hpos (by decide)

/-- fields the expiry loop never touches -/
structure ExpFrame2 (s s' : State) : Prop where
  origStakings : s'.origStakings = s.origStakings
  nextPurchase : s'.nextPurchase = s.nextPurchase
  serviceFees : s'.serviceFees = s.serviceFees
  remaining : s'.remaining = s.remaining
  blockFees : s'.blockFees = s.blockFees
  providers : s'.providers = s.providers
  lastUpdate : s'.lastUpdate = s.lastUpdate
  params : s'.params = s.params
  totalCollateral : s'.totalCollateral = s.totalCollateral

theorem ExpFrame2.of_writes {s s' : State} (h : s' = { s with pools := s'.pools, lists := s'.lists }) : ExpFrame2 s s' := by
  constructor <;> rw [h]

/-- under the books invariant the body cannot fail: the pool of every purchase list exists -/
theorem expireBody_total {now : Int} {pool : Nat} {a : Addr} {acc : ExpAcc} {lst : PList}
    (hfl : findList acc.s pool a = some lst) (hinv : ShieldInv (accState acc)) :
    ∃ acc1, expireBody now pool a acc lst = .ok acc1 := by
  unfold expireBody
  dsimp only
  split
  · rcases hinv.listPool lst (findList_mem hfl) with ⟨p, hp, hid⟩
    cases hfp : findPool acc.s pool with
    | none =>
      have := List.find?_eq_none.mp hfp p hp
      rw [hid, (findList_key hfl).1] at this
      simp at this
    | some p0 => exact ⟨_, rfl⟩
  · exact ⟨_, rfl⟩

/-- the loop invariant: the books with the running total written back, and the running fee total covers the
    unstreamed fees still recorded -/
structure AccInv (acc : ExpAcc) : Prop where
  shield : ShieldInv (accState acc)
  fees : feeSum acc.s ≤ acc.totalFees.raw

structure LoopFacts (acc acc' : ExpAcc) : Prop where
  inv : AccInv acc'
  from_ : FeeIdsFrom acc.s acc'.s
  frame : ExpFrame2 acc.s acc'.s
  feesNonneg : 0 ≤ acc.fees.raw → 0 < acc.s.params.protection → 0 ≤ acc'.fees.raw

theorem FeeIdsFrom.trans {a b c : State} (h1 : FeeIdsFrom a b) (h2 : FeeIdsFrom b c) : FeeIdsFrom a c := by
  intro l' hl' en' hen' hpos
  rcases h2 l' hl' en' hen' hpos with ⟨l, hl, en, hen, hid, hp⟩
  rcases h1 l hl en hen hp with ⟨l0, hl0, en0, hen0, hid0, hp0⟩
  exact ⟨l0, hl0, en0, hen0, hid0.trans hid, hp0⟩

theorem expireBody_facts {now : Int} {pool : Nat} {a : Addr} {acc acc1 : ExpAcc} {lst : PList}
    (hfl : findList acc.s pool a = some lst) (h : expireBody now pool a acc lst = .ok acc1) (hinv : AccInv acc) :
    LoopFacts acc acc1 := by
  have hsh := expireBody_inv hfl h hinv.shield
  have hfr := ExpFrame2.of_writes (expireBody_writes h)
  rcases hex : expireEntries now acc.s.lastUpdate acc.s.params.protection lst.entries (acc.fees, acc.totalFees, 0)
    with ⟨es', f', tf', r'⟩
  obtain ⟨s1, rfl, h1⟩ := expireBody_cases h _ hex
  have hl : (putList s1 pool a lst es').lists = Keyed.put listKey (pool, a) (kept lst es') acc.s.lists :=
    putList_lists (by rcases h1 with ⟨_, rfl⟩ | ⟨_, p, _, rfl⟩ <;> rfl) pool a lst es'
  have hnn : ∀ e ∈ lst.entries, 0 ≤ e.fees.raw := fun e he => (hinv.shield.entryNonneg lst (findList_mem hfl) e he).2
  have ⟨hcov, hfn⟩ := expireEntries_fees now acc.s.lastUpdate acc.s.params.protection lst.entries acc.fees acc.totalFees 0 hnn
  have hfrom := expireEntries_from now acc.s.lastUpdate acc.s.params.protection lst.entries acc.fees acc.totalFees 0
  rw [hex] at hcov hfn hfrom
  refine ⟨⟨hsh, ?_⟩, .put hl (by rw [optEntries_kept, hfl]; exact hfrom), hfr, hfn⟩
  -- the fees of the entries left are those read less what was streamed, which has left the running total as well
  have := hinv.fees
  have := feeSum_put (s := accState acc) hinv.shield (kept_key hfl es') hl
  rw [optEntries_kept, show findList (accState acc) pool a = some lst from hfl, optEntries_some] at this
  have he : feeSum (accState acc) = feeSum acc.s := rfl
  show feeSum (putList s1 pool a lst es') ≤ tf'.raw
  dsimp only at hcov
  omega

theorem expireLoop_facts (now : Int) (ps : List (Nat × Addr)) (acc acc' : ExpAcc) (h : expireLoop now ps acc = .ok acc')
    (hinv : AccInv acc) : LoopFacts acc acc' := by
  -- the frame is read off what the loop writes; the rest is a relation that every expired list respects
  obtain ⟨⟨hfrom, _, hnn⟩, hinv'⟩ := expireLoop_rel
    (R := fun a b => FeeIdsFrom a.s b.s ∧ b.s.params = a.s.params ∧
      (0 ≤ a.fees.raw → 0 < a.s.params.protection → 0 ≤ b.fees.raw))
    (fun _ => ⟨FeeIdsFrom.same rfl, rfl, fun h _ => h⟩)
    (fun f1 f2 => ⟨f1.1.trans f2.1, f2.2.1.trans f1.2.1, fun h1 h2 => f2.2.2 (f1.2.2 h1 h2) (by rw [f1.2.1]; exact h2)⟩)
    (fun hfl hb hi => have f := expireBody_facts hfl hb hi; ⟨⟨f.from_, f.frame.params, f.feesNonneg⟩, f.inv⟩) hinv h
  exact ⟨hinv', hfrom, .of_writes (expireLoop_writes _ _ _ _ h), hnn⟩

theorem expireLoop_total (now : Int) (ps : List (Nat × Addr)) (acc : ExpAcc) (hinv : ShieldInv (accState acc)) :
    ∃ acc', expireLoop now ps acc = .ok acc' :=
  let ⟨acc', h, _⟩ := expireLoop_total_of (I := fun acc => ShieldInv (accState acc))
    (fun hfl hi => let ⟨acc1, hb⟩ := expireBody_total (now := now) hfl hi; ⟨acc1, hb, expireBody_inv hfl hb hi⟩) ps hinv
  ⟨acc', h⟩

theorem rewardShare_le (total : Int) (fees : Dec) (p : Provider) (rem : Dec) : (rewardShare total fees p rem).raw ≤ rem.raw := by
  unfold rewardShare
  dsimp only
  split <;> omega

theorem rewardShare_nonneg (total : Int) (fees : Dec) (p : Provider) (rem : Dec) (hT : 0 < total) (hF : 0 ≤ fees.raw)
    (hc : 0 ≤ p.collateral) (h : 0 ≤ rem.raw) : 0 ≤ (rewardShare total fees p rem).raw := by
  have h0 : 0 ≤ (Dec.mul fees (Dec.quoInt (Dec.ofInt p.collateral) total)).raw :=
    Dec.mul_nonneg _ _ hF (Dec.quoInt_nonneg _ _ (Dec.ofInt_nonneg _ hc) (Int.le_of_lt hT))
  unfold rewardShare
  dsimp only
  split <;> assumption

theorem distributeLoop_rem_nonneg (total : Int) (fees : Dec) (ps : List Provider) (rem : Dec) (h : 0 ≤ rem.raw) :
    0 ≤ (distributeLoop total fees ps rem).2.raw :=
  distributeLoop_ind total fees (P := fun _ rem _ r => 0 ≤ rem.raw → 0 ≤ r.raw) (fun _ h => h)
    (fun p _ rem _ _ ih h => ih (by rw [Dec.sub_raw]; have := rewardShare_le total fees p rem; omega)) ps rem h

theorem distributeLoop_rewards_nonneg (total : Int) (fees : Dec) (hT : 0 < total) (hF : 0 ≤ fees.raw)
    (ps : List Provider) (rem : Dec) (h : 0 ≤ rem.raw) (hps : ∀ p ∈ ps, 0 ≤ p.collateral ∧ 0 ≤ p.rewards.raw) :
    ∀ p' ∈ (distributeLoop total fees ps rem).1, 0 ≤ p'.rewards.raw :=
  distributeLoop_ind total fees
    (P := fun ps rem out _ => 0 ≤ rem.raw → (∀ p ∈ ps, 0 ≤ p.collateral ∧ 0 ≤ p.rewards.raw) → ∀ p' ∈ out, 0 ≤ p'.rewards.raw)
    (fun _ _ _ _ hp' => by cases hp')
    (fun p ps rem _ _ ih h hps p' hp' => by
      have hp := hps p List.mem_cons_self
      have hs := rewardShare_nonneg total fees p rem hT hF hp.1 h
      rcases List.mem_cons.mp hp' with rfl | h1
      · show 0 ≤ (Dec.add p.rewards _).raw
        rw [Dec.add_raw]; omega
      · exact ih (by rw [Dec.sub_raw]; have := rewardShare_le total fees p rem; omega)
          (fun q hq => hps q (List.mem_cons_of_mem _ hq)) p' h1) ps rem h hps

theorem noFeeAndStake_check {s : State} (h : NoFeeAndStake s) :
    s.lists.any (fun l => l.entries.any (fun en => s.origStakings.any (fun o => o.1 == en.id && o.2 != 0) && en.fees.raw > 0)) = false := by
  cases hc : s.lists.any (fun l => l.entries.any (fun en => s.origStakings.any (fun o => o.1 == en.id && o.2 != 0) && en.fees.raw > 0)) with
  | false => rfl
  | true =>
    rcases List.any_eq_true.mp hc with ⟨l, hl, hc1⟩
    rcases List.any_eq_true.mp hc1 with ⟨en, hen, hc2⟩
    simp only [Bool.and_eq_true, decide_eq_true_eq] at hc2
    exact absurd hc2.1 (h l hl en hen hc2.2)

theorem distributeFees_total (e : Env) (s : State) (acc : ExpAcc) (hn : NoFeeAndStake s) (htf : 0 ≤ acc.totalFees.raw)
    (hrem : 0 ≤ acc.s.remaining.raw) :
    ∃ provs rem,
      distributeFees e s acc = .ok { acc.s with totalShield := acc.totalShield, serviceFees := acc.totalFees, providers := provs,
                                                remaining := Dec.add rem acc.s.blockFees, blockFees := Dec.zero, lastUpdate := e.t } ∧
      0 ≤ rem.raw ∧
      (0 ≤ acc.fees.raw → s.lastUpdate ≤ e.t → 0 ≤ s.params.protection → 0 ≤ acc.s.blockFees.raw →
        (∀ p ∈ acc.s.providers, 0 ≤ p.collateral ∧ 0 ≤ p.rewards.raw) → ∀ p ∈ provs, 0 ≤ p.rewards.raw) := by
  unfold distributeFees
  rw [noFeeAndStake_check hn, if_neg Bool.false_ne_true, if_neg (Int.not_lt.mpr htf)]
  dsimp only
  by_cases hT : acc.s.totalCollateral > 0
  · rw [if_pos hT]
    have hr := fun fees => distributeLoop_rem_nonneg acc.s.totalCollateral fees acc.s.providers _ hrem
    rw [if_neg (Int.not_lt.mpr (hr _))]
    refine ⟨_, _, rfl, hr _, fun h1 h3 h4 h6 hps => distributeLoop_rewards_nonneg _ _ hT ?_ _ _ hrem hps⟩
    have hb : 0 ≤ (Dec.quo (Dec.mul acc.totalFees (Dec.ofInt (e.t - s.lastUpdate))) (Dec.ofInt s.params.protection)).raw :=
      Dec.quo_nonneg _ _ (Dec.mul_nonneg _ _ htf (Dec.ofInt_nonneg _ (by omega))) (Dec.ofInt_nonneg _ h4)
    rw [Dec.add_raw]
    split
    · omega
    · rw [Dec.add_raw]; omega
  · rw [if_neg hT, if_neg (Int.not_lt.mpr hrem)]
    exact ⟨_, _, rfl, hrem, fun _ _ _ _ hps p hp => (hps p hp).2⟩

/-- The first step of the end-blocker returns under the invariants, and what it returns is the state as it was (the fee clock
    has not started) or the state the expiry loop left, with the fees that streamed handed out. -/
theorem expireAndDistribute_run (e : Env) (s : State) (hp : ShieldInv s) (hn : NoFeeAndStake s) (hf : FeesInv s)
    (hr : 0 ≤ s.remaining.raw) :
    ∃ s', expireAndDistribute e s = .ok s' ∧ (s' = s ∨ ∃ acc provs rem,
      LoopFacts { s := s, fees := Dec.zero, totalFees := s.serviceFees, totalShield := s.totalShield } acc ∧
      s' = { acc.s with totalShield := acc.totalShield, serviceFees := acc.totalFees, providers := provs,
                        remaining := Dec.add rem acc.s.blockFees, blockFees := Dec.zero, lastUpdate := e.t } ∧
      0 ≤ rem.raw ∧
      (0 < s.params.protection → s.lastUpdate ≤ e.t → 0 ≤ s.blockFees.raw →
        (∀ p ∈ s.providers, 0 ≤ p.collateral ∧ 0 ≤ p.rewards.raw) → ∀ p ∈ provs, 0 ≤ p.rewards.raw)) := by
  rw [PoolLm.expireAndDistribute_eq]
  by_cases hz : (s.lastUpdate == zeroTime) = true
  · rw [if_pos hz]; exact ⟨s, rfl, .inl rfl⟩
  · rw [if_neg hz]
    have h0 : AccInv { s := s, fees := Dec.zero, totalFees := s.serviceFees, totalShield := s.totalShield } :=
      ⟨hp.congr rfl rfl rfl rfl rfl, hf⟩
    obtain ⟨acc, hacc⟩ := expireLoop_total e.t (duePairs s e.t) _ h0.shield
    have hfacts := expireLoop_facts e.t _ _ _ hacc h0
    have hfr := hfacts.frame
    -- what is left of the service fees covers the fees still recorded, and those are not negative
    have htf : 0 ≤ acc.totalFees.raw := Int.le_trans (feeSum_nonneg hfacts.inv.shield) hfacts.inv.fees
    obtain ⟨provs, rem, hd, hrem, hrew⟩ := distributeFees_total e s acc hn htf (by rw [hfr.remaining]; exact hr)
    rw [hacc]
    exact ⟨_, hd, .inr ⟨acc, provs, rem, hfacts, rfl, hrem, fun hper ht hbf hps =>
      hrew (hfacts.feesNonneg (Int.le_refl 0) hper) ht (Int.le_of_lt hper) (by rw [hfr.blockFees]; exact hbf)
        (by rw [hfr.providers]; exact hps)⟩⟩

theorem expireAndDistribute_total (e : Env) (s : State) (hp : ShieldInv s) (hn : NoFeeAndStake s) (hf : FeesInv s)
    (hr : 0 ≤ s.remaining.raw) : ∃ s', expireAndDistribute e s = .ok s' :=
  (expireAndDistribute_run e s hp hn hf hr).imp fun _ h => h.1

theorem expireAndDistribute_feeBooks {e : Env} {s s' : State} (h : expireAndDistribute e s = .ok s')
    (hp : ShieldInv s) (hb : FeeBooks s) : FeeBooks s' := by
  obtain rfl | ⟨acc, provs, rem, hfacts, rfl, hrem, -⟩ :=
    Except.of_total (expireAndDistribute_run e s hp hb.noFeeStake hb.fees hb.money.remaining) h
  · exact hb
  · have hfr := hfacts.frame
    refine ⟨hb.noFeeStake.of_from hfacts.from_ hfr.origStakings, hb.origLt.congr hfr.origStakings hfr.nextPurchase,
      hfacts.inv.fees, ?_, Int.le_refl 0⟩
    show 0 ≤ (Dec.add rem acc.s.blockFees).raw
    have : 0 ≤ acc.s.blockFees.raw := by rw [hfr.blockFees]; exact hb.money.blockFees
    rw [Dec.add_raw]
    omega

/-- the first step hands out no negative share when the providers' collateral is not negative (`CollInv`), the protection
    period is positive and the block time is not before the last update (block time is monotone) -/
theorem expireAndDistribute_rewards {e : Env} {s s' : State} (h : expireAndDistribute e s = .ok s')
    (hp : ShieldInv s) (hb : FeeBooks s) (hr : RewardsNonneg s) (hc : ∀ p ∈ s.providers, 0 ≤ p.collateral)
    (hper : 0 < s.params.protection) (ht : s.lastUpdate ≤ e.t) : RewardsNonneg s' := by
  obtain rfl | ⟨acc, provs, rem, -, rfl, -, hrew⟩ :=
    Except.of_total (expireAndDistribute_run e s hp hb.noFeeStake hb.fees hb.money.remaining) h
  · exact hr
  · exact hrew hper ht hb.money.blockFees fun p hp' => ⟨hc p hp', hr p hp'⟩

theorem endBlock_feeBooks {e : Env} {s s' : State} (h : endBlock e s = .ok s')
    (hp : ShieldInv s) (hb : FeeBooks s) : FeeBooks s' := by
  obtain ⟨s1, s2, h1, h2, rfl⟩ := PoolLm.endBlock_ok h
  exact ((expireAndDistribute_feeBooks h1 hp hb).frameP (FeeFrameP.of_chain (completeWithdrawals_chain h2))).frame (.of_writes rfl)

theorem endBlock_rewards {e : Env} {s s' : State} (h : endBlock e s = .ok s')
    (hp : ShieldInv s) (hb : FeeBooks s) (hr : RewardsNonneg s) (hc : ∀ p ∈ s.providers, 0 ≤ p.collateral)
    (hper : 0 < s.params.protection) (ht : s.lastUpdate ≤ e.t) : RewardsNonneg s' := by
  obtain ⟨s1, s2, h1, h2, rfl⟩ := PoolLm.endBlock_ok h
  exact ((expireAndDistribute_rewards h1 hp hb hr hc hper ht).frameP (FeeFrameP.of_chain (completeWithdrawals_chain h2))).congr rfl

end Shentu.Halt
