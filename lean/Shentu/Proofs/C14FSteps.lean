import Shentu.Proofs.C15HPay
import Shentu.Proofs.HaltOracleOps
import Shentu.Proofs.C20GOracleInv
/-
  For `Shentu/Props/C14F.lean`: what the oracle module account has to cover, `owed`, is four sums — the operators' collateral
  and accumulated rewards (`collSum`, `rewSum` of `C15HPay`), the pending withdrawals (`wdSum` of `HaltOracle`) and the bounties
  of the pending tasks (`bountySum`, here); the invariants `Funded`, `TotalIsSum`, `WF` over them and the one-step statement
  `Delta`.  What a message does to the sums is read off `Keyed.sum_put`: every oracle operation raises what the
  module owes by no more than it raises the module account's balance, and keeps the recorded total collateral equal to the
  sum over the operators (`stepE_facts`); the end-blocker credits at most the bounty of a closing task, and less than one
  unit per response short of it.
-/
namespace Shentu.C14FH
open Shentu Shentu.Oracle Shentu.Halt.Orc Shentu.C15HH

/-- what a task still holds in the module account: its bounty while it is pending, nothing afterwards -/
def holds (t : Task) (d : Denom) : Int := if t.status = 1 then Coins.amountOf t.bounty d else 0

/-- the bounties of the pending tasks, in one denomination -/
def bountySum (ts : List Task) (d : Denom) : Int := (ts.map (fun t => holds t d)).sum

/-- everything the oracle module owes, in one denomination: the operators' collateral, the pending withdrawals, the
    operators' accumulated rewards, and the bounties of the pending tasks -/
def owed (s : State) (d : Denom) : Int :=
  collSum s.ops d + wdSum s.wds d + rewSum s.ops d + bountySum s.tasks d

/-- the module account covers what the module owes, in every denomination -/
def Funded (m : Addr) (l : Ledger) (s : State) : Prop := ∀ d, owed s d ≤ l.balOf m d

/-- the recorded total collateral is the sum of the operators' collateral, in every denomination -/
def TotalIsSum (s : State) : Prop := ∀ d, Coins.amountOf s.total d = collSum s.ops d

/-- well-formedness: the end-blocker's invariant (positive epsilons, non-negative collateral in the bond denomination, valid
    bounties, scores in range), distinct operator addresses, distinct task keys -/
structure WF (bond : Denom) (s : State) : Prop where
  endInv : EndInv bond s
  opsNodup : (s.ops.map (·.addr)).Nodup
  keysNodup : (s.tasks.map Task.key).Nodup

/-- what one step does: the debt grows by no more than the module account, and total collateral moves with the sum -/
structure Delta (m : Addr) (l l' : Ledger) (s s' : State) : Prop where
  owed : ∀ d, owed s' d - owed s d ≤ l'.balOf m d - l.balOf m d
  total : ∀ d, Coins.amountOf s'.total d - Coins.amountOf s.total d = collSum s'.ops d - collSum s.ops d

theorem Delta.funded {m : Addr} {l l' : Ledger} {s s' : State} (h : Delta m l l' s s') (hf : Funded m l s) : Funded m l' s' := by
  intro d; have := h.owed d; have := hf d; omega

theorem Delta.totalIsSum {m : Addr} {l l' : Ledger} {s s' : State} (h : Delta m l l' s s') (hf : TotalIsSum s) :
    TotalIsSum s' := by
  intro d; have := h.total d; have := hf d; omega

theorem sum_filter_none {α : Type} (κ : α → String) (k : String) (l : List α)
    (h : l.find? (fun x => κ x == k) = none) : l.filter (fun x => !(κ x == k)) = l :=
  Keyed.remove_fix κ k l (Keyed.not_mem_keys κ h)

theorem collSum_of_map {l l' : List Operator} (h : l'.map (·.coll) = l.map (·.coll)) (d : Denom) :
    collSum l' d = collSum l d := by
  have e : ∀ x : List Operator, collSum x d = ((x.map (·.coll)).map (fun c => Coins.amountOf c d)).sum := by
    intro x; rw [List.map_map]; rfl
  rw [e, e, h]

theorem wdSum_upsert (a : Addr) (due : Int) (amt : Coins) (d : Denom) (l : List Withdraw) :
    wdSum (upsertWd a due amt l) d = wdSum l d + Coins.amountOf amt d := by
  rw [upsertWd_eq]
  exact sum_upd (fun w : Withdraw => Coins.amountOf w.amt d) _ (fun _ _ => Coins.amountOf_add ..) rfl l

theorem holds_nonneg {t : Task} (h : Coins.isAnyNegative t.bounty = false) (d : Denom) : 0 ≤ holds t d := by
  unfold holds
  split
  · exact Coins.amountOf_nonneg_of_not_anyNegative _ h d
  · exact Int.le_refl _

theorem app_bountySum {s : State} {k : String} {t0 n : Task} (incs : List (Addr × Coins))
    (hn : (s.tasks.map Task.key).Nodup) (h : findTask s k = some t0) (d : Denom) :
    bountySum (app k (fun _ => n) incs s).tasks d = bountySum s.tasks d - holds t0 d + holds n d :=
  Keyed.sum_update Task.key (fun _ => n) (fun x => holds x d) hn h

/-- who pays into the module account in an operation -/
def OpPayer : Op → Option Addr
  | .createOperator a _ _ => some a
  | .addCollateral a _ => some a
  | .createTask _ _ _ cr _ _ => some cr
  | _ => none

theorem bal_in {l l' : Ledger} {a m : Addr} {c : Coins} (h : l.send a m c = .ok l') (ha : a ≠ m) (d : Denom) :
    l'.balOf m d = l.balOf m d + Coins.amountOf c d := by
  obtain ⟨_, _, rfl⟩ := (Ledger.send_ok_iff ..).mp h
  rw [Ledger.balOf_move', if_neg ha, if_pos rfl]; omega

theorem bal_out {l l' : Ledger} {a m : Addr} {c : Coins} (h : l.send m a c = .ok l') (d : Denom) :
    l.balOf m d - Coins.amountOf c d ≤ l'.balOf m d ∧ 0 ≤ Coins.amountOf c d := by
  obtain ⟨hnn, _, rfl⟩ := (Ledger.send_ok_iff ..).mp h
  rw [Ledger.balOf_move', if_pos rfl]
  have := hnn d
  exact ⟨by split <;> omega, this⟩

theorem paid_bal {m a : Addr} {l l' : Ledger} {p : Pay} (h : Paid m a l l' p) (ha : ∀ c, p = .inn c → a ≠ m) (d : Denom) :
    p.innAt d - p.outAt d ≤ l'.balOf m d - l.balOf m d := by
  cases p with
  | none => cases h; simp [Pay.innAt, Pay.outAt]
  | inn c => have := bal_in h (ha c rfl) d; simp only [Pay.innAt, Pay.outAt]; omega
  | out c => have := bal_out h d; simp only [Pay.innAt, Pay.outAt]; omega

section
variable {m : Addr} {e : Env} {l l' : Ledger} {s s' : State} {a : Addr} {x : OpEff}

theorem opMsg_sums (h : OpMsg e l l' s s' a x) (hn : (s.ops.map (·.addr)).Nodup) (d : Denom) :
    collSum s'.ops d = collSum s.ops d - collAt (findOp s a) d + collAt x.new d ∧
    rewSum s'.ops d = rewSum s.ops d - rewAt (findOp s a) d + rewAt x.new d ∧
    wdSum s'.wds d = wdSum s.wds d + qAt x.q d := by
  rw [h.state]
  refine ⟨Keyed.sum_put Operator.addr _ h.addr hn, Keyed.sum_put Operator.addr _ h.addr hn, ?_⟩
  cases hq : x.q with
  | none => simp [opWrite, hq, qAt]
  | some c => simp only [opWrite, hq, qAt, Option.getD]; exact wdSum_upsert a _ c d s.wds

theorem opMsg_delta (h : OpMsg e l l' s s' a x) (hm : e.modAddr = m) (ha : ∀ c, x.pay = .inn c → a ≠ m)
    (hn : (s.ops.map (·.addr)).Nodup) : Delta m l l' s s' := by
  refine ⟨fun d => ?_, fun d => ?_⟩
  · obtain ⟨h1, h2, h3⟩ := opMsg_sums h hn d
    have := paid_bal (hm ▸ h.paid) ha d
    have := h.law d
    simp only [owed, h.frame.1]; omega
  · have := (opMsg_sums h hn d).1
    have ht : s'.total = x.tot := by rw [h.state]; rfl
    have := h.law d
    rw [ht]; omega

end

theorem payer_of_inn {op : Op} {a : Addr} {old : Option Operator} {tot c : Coins} (ha : op.sender = some a)
    (hc : (opEff old tot op).pay = .inn c) : OpPayer op = some a := by
  cases op <;> cases ha <;> first | rfl | cases hc

/-- what the task stored under a key still holds -/
def heldUnder (s : State) (k : String) (d : Denom) : Int :=
  match findTask s k with
  | some old => holds old d
  | none => 0

theorem heldUnder_nonneg {bond : Denom} {s : State} (hw : WF bond s) (k : String) (d : Denom) : 0 ≤ heldUnder s k d := by
  unfold heldUnder
  cases hf : findTask s k with
  | none => exact Int.le_refl _
  | some old => exact holds_nonneg (findTask_tasksOk hw.endInv.tasks hf).1 d

theorem heldUnder_eq (s : State) (k : String) (d : Denom) : heldUnder s k d = Keyed.val (fun t => holds t d) (findTask s k) := by
  unfold heldUnder; cases findTask s k <;> rfl

theorem taskMsg_owed {s s' : State} {k : String} {new : Option Task} (h : TaskMsg s s' k new)
    (hn : (s.tasks.map Task.key).Nodup) (d : Denom) :
    owed s' d = owed s d - heldUnder s k d + Keyed.val (fun t => holds t d) new := by
  obtain ⟨h1, h2, _, _⟩ := h.frame
  have := h.sum (fun t => holds t d) hn
  simp only [owed, bountySum, h1, h2, heldUnder_eq]; omega

theorem taskEv_delta {m : Addr} {bond : Denom} {e : Env} {l l' : Ledger} {s s' : State} {k : String} {op : Op}
    {new : Option Task} (hm : e.modAddr = m) (hp : OpPayer op ≠ some m) (hw : WF bond s) (hev : TaskEv e l l' s s' k op new) :
    Delta m l l' s s' := by
  have ho := fun d => taskMsg_owed hev.msg hw.keysNodup d
  have h0 := fun d => heldUnder_nonneg hw k d
  obtain ⟨hops, _, htot, _⟩ := hev.msg.frame
  refine ⟨fun d => ?_, fun d => by rw [htot, hops]; omega⟩
  have := ho d
  have := h0 d
  -- a response leaves status and bounty, so the task holds what it held; a deletion leaves nothing under the key; a new task
  -- holds its bounty, which is what the send paid in
  cases hev with
  | @respond _ _ _ _ t _ hl _ ht _ _ _ _ _ =>
    have : heldUnder s k d = holds t d := by rw [heldUnder_eq, ht]; rfl
    simp only [Keyed.val_some, holds] at *
    rw [hl]; omega
  | delete _ hl _ _ _ _ _ => simp only [Keyed.val_none] at *; rw [hl]; omega
  | @create _ _ b cr _ _ _ _ _ _ hsend _ _ _ =>
    have := bal_in (hm ▸ hsend) (fun h' => hp (by rw [h']; rfl)) d
    simp only [Keyed.val_some, holds, newTask, if_true] at *
    omega

theorem beginBlock_delta {m : Addr} {e : Env} {l l' : Ledger} {s s' : State} (hm : e.modAddr = m)
    (h : beginBlock e l s = .ok (l', s')) : Delta m l l' s s' := by
  obtain ⟨hp, rfl⟩ := beginBlock_ok h
  refine ⟨fun d => ?_, fun d => ?_⟩
  · have h1 := payWithdraws_bal e _ _ _ hp d
    have h2 := wdSum_split (mature e.h) s.wds d
    rw [hm] at h1
    simp only [owed]
    omega
  · simp

/-- what the end-blocker does to the debt: it never grows; collateral and the recorded total are untouched -/
structure EndSum (s s' : State) : Prop where
  owed : ∀ d, owed s' d ≤ owed s d
  coll : ∀ d, collSum s'.ops d = collSum s.ops d
  total : s'.total = s.total

theorem EndSum.refl (s : State) : EndSum s s := ⟨fun _ => Int.le_refl _, fun _ => rfl, rfl⟩

theorem EndSum.trans {a b c : State} (h1 : EndSum a b) (h2 : EndSum b c) : EndSum a c :=
  ⟨fun d => Int.le_trans (h2.owed d) (h1.owed d), fun d => (h2.coll d).trans (h1.coll d), h2.total.trans h1.total⟩

theorem holds_pending {t : Task} (h : t.status = 1) (d : Denom) : holds t d = Coins.amountOf t.bounty d := by
  simp [holds, h]

theorem holds_finished {t : Task} (h : t.status ≠ 1) (d : Denom) : holds t d = 0 := by
  simp [holds, h]

theorem app_sums {bond : Denom} {s : State} {k : String} {t t' : Task} {incs : List (Addr × Coins)} (hw : WF bond s)
    (hft : findTask s k = some t) (hst : t.status = 1) (hfin : Fin t t') (hm : ∀ i ∈ incs, i.1 ∈ s.ops.map (·.addr))
    (d : Denom) :
    collSum (app k (fun _ => t') incs s).ops d = collSum s.ops d ∧
    rewSum (app k (fun _ => t') incs s).ops d = rewSum s.ops d + incSum incs d ∧
    owed (app k (fun _ => t') incs s) d = owed s d - Coins.amountOf t.bounty d + incSum incs d := by
  obtain ⟨hc, hr⟩ := credits_exact incs hw.opsNodup hm
  have h1 := app_bountySum (n := t') incs hw.keysNodup hft d
  rw [holds_pending hst, holds_finished hfin.not_pending] at h1
  have h2 := collSum_of_map hc d
  have h3 := hr d
  refine ⟨h2, h3, ?_⟩
  simp only [owed, app] at h1 h2 h3 ⊢
  omega

theorem endOne_endSum {bond : Denom} {s s' : State} {id : String × String} (hw : WF bond s) (h : endOne bond s id = .ok s') :
    EndSum s s' ∧ WF bond s' := by
  have hwf : WF bond s' :=
    ⟨endOne_endInv hw.endInv h, by rw [endOne_ops h]; exact hw.opsNodup,
      Shentu.C20GOrcInv.endOne_keys hw.keysNodup h⟩
  refine ⟨?_, hwf⟩
  rcases endOne_effect hw.endInv h with rfl | ⟨t, t', incs, hfs, hst, hfin, rfl, hm, hle, _⟩
  · exact EndSum.refl _
  · have hs := app_sums hw hfs hst hfin hm
    exact ⟨fun d => by have := (hs d).2.2; have := (hle d).2; omega, fun d => (hs d).1, rfl⟩

theorem endOne_released {bond : Denom} {s s' : State} {id : String × String} (hw : WF bond s)
    (h : endOne bond s id = .ok s') (d : Denom) : owed s d - heldUnder s (id.1 ++ id.2) d ≤ owed s' d := by
  have h0 := heldUnder_nonneg hw (id.1 ++ id.2) d
  rcases endOne_effect hw.endInv h with rfl | ⟨t, t', incs, hfs, hst, hfin, rfl, hm, hle, _⟩
  · omega
  · have hhu : heldUnder s (id.1 ++ id.2) d = Coins.amountOf t.bounty d := by simp [heldUnder, hfs, holds_pending hst]
    have := (app_sums hw hfs hst hfin hm d).2.2
    have := (hle d).1
    omega

theorem endOne_rewards {bond : Denom} {s s' : State} {id : String × String} (hw : WF bond s)
    (h : endOne bond s id = .ok s') :
    (∀ d, rewSum s'.ops d = rewSum s.ops d) ∨
    ∃ t, findTask s (id.1 ++ id.2) = some t ∧ t.status = 1 ∧
      ∀ d, rewSum s.ops d + Coins.amountOf t.bounty d - ((t.responses.length : Int) - 1) ≤ rewSum s'.ops d ∧
           rewSum s'.ops d ≤ rewSum s.ops d + Coins.amountOf t.bounty d := by
  rcases endOne_effect hw.endInv h with rfl | ⟨t, t', incs, hfs, hst, hfin, rfl, hm, hle, hc⟩
  · exact Or.inl (fun _ => rfl)
  · rcases hc with rfl | hlo
    · exact Or.inl (fun _ => rfl)
    · refine Or.inr ⟨t, hfs, hst, fun d => ?_⟩
      have := (app_sums hw hfs hst hfin hm d).2.1
      have := (hle d).2
      have := hlo d
      omega

theorem endFold_endSum {bond : Denom} (ids : List (String × String)) {s s' : State} (hw : WF bond s)
    (h : endFold bond ids s = .ok s') : EndSum s s' :=
  endFold_rel EndSum.refl EndSum.trans ids (fun _ _ _ _ ha h1 => endOne_endSum ha h1) hw h

theorem endBlock_endSum {e : Env} {s s' : State} (hw : WF e.bond s) (h : endBlock e s = .ok s') : EndSum s s' := by
  obtain ⟨s1, hf, rfl⟩ := endBlock_ok h
  have := endFold_endSum _ hw hf
  -- `delClosing s1 e.h` is a record update: its fields reduce to those of `s1` only under the projections
  exact ⟨this.owed, this.coll, this.total⟩

theorem stepE_facts {m : Addr} {bond : Denom} {e : Env} {l l' : Ledger} {s s' : State} {op : Op} (hm : e.modAddr = m)
    (hb : e.bond = bond) (hp : OpPayer op ≠ some m) (hw : WF bond s) (h : stepE e l s op = .ok (l', s')) :
    Delta m l l' s s' ∧ WF bond s' := by
  have hi' : EndInv bond s' := by
    have := stepE_endInv e l l' s s' op h (by rw [hb]; exact hw.endInv)
    rw [hb] at this; exact this
  have hn' := stepE_opsNodup h hw.opsNodup
  cases stepE_accepted h with
  | operator ha hx =>
    exact ⟨opMsg_delta hx hm (fun c hc h' => hp (by rw [payer_of_inn ha hc, h'])) hw.opsNodup, hi', hn',
      by rw [hx.frame.1]; exact hw.keysNodup⟩
  | task hev => exact ⟨taskEv_delta hm hp hw hev, hi', hn', hev.msg.keysNodup hw.keysNodup⟩
  | beginBlock _ hs => exact ⟨beginBlock_delta hm h, hi', hn', by rw [hs]; exact hw.keysNodup⟩
  | endBlock hl =>
    have hr : endBlock e s = .ok s' := (Except.map_pair_ok h).2
    have hst := endBlock_endSum (by rw [hb]; exact hw) hr
    refine ⟨⟨fun d => ?_, fun d => ?_⟩, hi', hn', Shentu.C20GOrcInv.endBlock_keys hw.keysNodup hr⟩
    · have := hst.owed d; rw [hl]; omega
    · rw [hst.total, hst.coll d]; omega

/-- a history: any list of operations, each in its own environment; a refused operation changes nothing -/
def run (ls : Ledger × State) (ops : List (Env × Op)) : Ledger × State :=
  ops.foldl (fun ls eo => step eo.1 ls eo.2) ls

/-- the hypotheses on a history: one module address, one bond denomination, and the module account never signs a message
    that pays into the module account -/
def Hyp (m : Addr) (bond : Denom) (ops : List (Env × Op)) : Prop :=
  ∀ eo ∈ ops, eo.1.modAddr = m ∧ eo.1.bond = bond ∧ OpPayer eo.2 ≠ some m

instance (m : Addr) (bond : Denom) (ops : List (Env × Op)) : Decidable (Hyp m bond ops) := by
  unfold Hyp; infer_instance

/-- the three facts carried along a history -/
structure Good (m : Addr) (bond : Denom) (ls : Ledger × State) : Prop where
  wf : WF bond ls.2
  funded : Funded m ls.1 ls.2
  total : TotalIsSum ls.2

theorem good_step {m : Addr} {bond : Denom} {ls : Ledger × State} {eo : Env × Op} (hm : eo.1.modAddr = m)
    (hb : eo.1.bond = bond) (hp : OpPayer eo.2 ≠ some m) (hg : Good m bond ls) : Good m bond (step eo.1 ls eo.2) := by
  refine step_ind hg fun l' s' h => ?_
  obtain ⟨a1, a2⟩ := stepE_facts hm hb hp hg.wf h
  exact ⟨a2, a1.funded hg.funded, a1.totalIsSum hg.total⟩

theorem good_run {m : Addr} {bond : Denom} (ops : List (Env × Op)) {ls : Ledger × State} (hh : Hyp m bond ops)
    (hg : Good m bond ls) : Good m bond (run ls ops) :=
  List.foldlRecOn (motive := Good m bond) ops _ hg
    (fun _ h eo ho => good_step (hh eo ho).1 (hh eo ho).2.1 (hh eo ho).2.2 h)

def emptyS (p : Params) : State := { ops := [], wds := [], total := [], tasks := [], closing := [], params := p }

theorem wf_empty (bond : Denom) (p : Params) (h1 : 0 < p.eps1) (h2 : 0 < p.eps2) : WF bond (emptyS p) := by
  exact ⟨.empty bond p h1 h2, by simp [emptyS], by simp [emptyS]⟩

theorem owed_empty (p : Params) (d : Denom) : owed (emptyS p) d = 0 := by
  simp [owed, emptyS, collSum, rewSum, wdSum, bountySum]

end Shentu.C14FH
