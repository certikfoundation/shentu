import Shentu.Proofs.C12TTally
import Shentu.Proofs.GovStep
import Shentu.Proofs.Lists
/-
  The vote store of the governance model: it keeps one vote per proposal and voter, so the votes the tally reads for a
  proposal come from distinct voters; sorting them permutes; the end blocker only deletes votes.
-/
namespace Shentu.C12TH
open Shentu Shentu.Gov

theorem insVote_perm (v : Vote) (l : List Vote) : (insVote v l).Perm (v :: l) :=
  insert_perm insVote (c := fun x v => ¬ v.voter ≤ x.voter) (fun _ => rfl) (fun _ _ _ => (ite_not ..).symm) v l

theorem sortVotes_perm (l : List Vote) : (sortVotes l).Perm l := foldr_insert_perm insVote insVote_perm l

/-- at most one stored vote per (proposal, voter) -/
def VotesWF (votes : List Vote) : Prop := votes.Pairwise (fun a b => ¬(a.pid = b.pid ∧ a.voter = b.voter))

theorem votesWF_setVote (pid : Nat) (a : Addr) (o : Nat) (vs : List Vote) (h : VotesWF vs) :
    VotesWF (setVote pid a o vs) := by
  unfold VotesWF
  rw [setVote_eq]
  refine pairwise_upd ?_ (fun y hy => ?_) _ h
  · exact fun _ _ => ⟨Iff.rfl, Iff.rfl⟩
  · exact fun ⟨h1, h2⟩ => by simp [show y.pid = pid from h1, show y.voter = a from h2] at hy

theorem activate_votes (e : Env) (g : State) (p : Proposal) : (activateVotingPeriod e g p).votes = g.votes := setP_votes _ _

theorem atom_votesWF {e : Env} {a : Addr} {w w' : World} (h : Atom e a w w') (hwf : VotesWF w.g.votes) :
    VotesWF w'.g.votes := by
  cases h with
  | «open» p _ _ => exact (setP_votes w.g p).symm ▸ hwf
  | edit q _ _ _ => exact (setP_votes ..).symm ▸ hwf
  | escrowIn pid amt _ _ _ => exact hwf
  | vote pid o _ _ => exact votesWF_setVote pid a o _ hwf

theorem votersDistinct_of_WF (pid : Nat) (vs : List Vote) (h : VotesWF vs) :
    VotersDistinct (vs.filter (·.pid == pid)) := by
  unfold VotersDistinct List.Nodup
  rw [List.pairwise_map]
  have h1 : VotesWF (vs.filter (·.pid == pid)) := List.Pairwise.filter _ h
  refine List.Pairwise.imp_of_mem ?_ h1
  intro x y hx hy hxy hv
  have hxp : x.pid = pid := beq_iff_eq.mp (List.mem_filter.mp hx).2
  have hyp : y.pid = pid := beq_iff_eq.mp (List.mem_filter.mp hy).2
  exact hxy ⟨hxp.trans hyp.symm, hv⟩

theorem finish_votes (w : World) (p : Proposal) (pass : Bool) (t : Tally) : (finish w p pass t).g.votes = w.g.votes := by
  obtain ⟨c', s, heq, _⟩ := finish_shape w p pass t
  rw [heq]
  exact setP_votes _ _

theorem votesAfter_sublist (w : World) (p : Proposal) : (votesAfter w p).Sublist w.g.votes := by
  unfold votesAfter; split
  · exact List.Sublist.refl _
  · exact List.filter_sublist

theorem endStep_votes {e : Env} {w w' : World} {p : Proposal} (h : EndStep e w p w') : w'.g.votes.Sublist w.g.votes := by
  cases h with
  | nextRound _ _ =>
    show (activateVotingPeriod e _ p).votes.Sublist _
    rw [activate_votes]; exact List.filter_sublist
  | settle t _ _ => rw [finish_votes]; exact votesAfter_sublist w p

theorem endBlock_votes {e : Env} {w w' : World} (h : endBlock e w = .ok w') : w'.g.votes.Sublist w.g.votes :=
  endBlock_rel_endStep (R := fun w w' => w'.g.votes.Sublist w.g.votes) (fun _ => List.Sublist.refl _) (fun h12 h23 => h23.trans h12)
    (fun _ _ _ _ hh => by obtain ⟨_, _, rfl⟩ := refundDeposits_ok hh; exact List.Sublist.refl _) (fun _ _ _ _ st => endStep_votes st) h

end Shentu.C12TH
