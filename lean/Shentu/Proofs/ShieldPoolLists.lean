import Shentu.Proofs.ShieldCollBasic
/-
  Generic list facts for the shield / pool / purchase / stake half of C03:
  sums (`sumI`), lists in which at most one record satisfies a test (`AtMostOne`), `replaceFirst`.
  (The stores under distinct keys are in `Proofs/Keys.lean` and `Proofs/ShieldStores.lean`.)
-/
namespace Shentu.Shield.PoolLm

export Coll (sumI_nil sumI_cons sumI_append sumI_nonneg)

theorem sumI_congr {α} (f g : α → Int) (l : List α) (h : ∀ a ∈ l, f a = g a) : sumI f l = sumI g l :=
  Coll.sumI_congr f g l h

theorem sumI_zero {α} (f : α → Int) (l : List α) (h : ∀ a ∈ l, f a = 0) : sumI f l = 0 := by
  induction l with
  | nil => simp
  | cons a l ih =>
    simp only [sumI_cons]
    rw [h a List.mem_cons_self, ih (fun b hb => h b (List.mem_cons_of_mem _ hb))]; rfl

theorem sumI_filter_of_zero {α} (f : α → Int) (p : α → Bool) (l : List α) (h : ∀ a ∈ l, p a = false → f a = 0) :
    sumI f (l.filter p) = sumI f l := by
  induction l with
  | nil => simp
  | cons a l ih =>
    have ih' := ih (fun b hb => h b (List.mem_cons_of_mem _ hb))
    rw [List.filter_cons]
    cases hp : p a with
    | true => simp only [if_true, sumI_cons, ih']
    | false =>
      have := h a List.mem_cons_self hp
      simp only [Bool.false_eq_true, if_false, sumI_cons, ih', this]; omega

/-- at most one position of `l` satisfies `q` -/
def AtMostOne {α} (q : α → Bool) (l : List α) : Prop := l.Pairwise (fun a b => ¬(q a = true ∧ q b = true))

theorem AtMostOne.tail {α} {q : α → Bool} {z : α} {zs : List α} (h : AtMostOne q (z :: zs)) : AtMostOne q zs :=
  (List.pairwise_cons.mp h).2

theorem AtMostOne.tail_none {α} {q : α → Bool} {z : α} {zs : List α} (h : AtMostOne q (z :: zs)) (hz : q z = true) :
    ∀ a ∈ zs, q a = false := by
  intro a ha
  have := (List.pairwise_cons.mp h).1 a ha
  cases hq : q a with
  | false => rfl
  | true => exact absurd ⟨hz, hq⟩ this

theorem mem_map_replace_self {α} (q : α → Bool) (y : α) (l : List α) (x : α) (hx : l.find? q = some x) :
    y ∈ l.map (fun z => if q z then y else z) := by
  apply List.mem_map.mpr
  exact ⟨x, List.mem_of_find?_eq_some hx, by simp [List.find?_some hx]⟩

theorem find?_of_mem_atMostOne {α} (q : α → Bool) :
    ∀ (l : List α) (a : α), AtMostOne q l → a ∈ l → q a = true → l.find? q = some a := by
  intro l
  induction l with
  | nil => intro a _ ha; cases ha
  | cons z zs ih =>
    intro a hu ha hqa
    rw [List.find?_cons]
    rcases List.mem_cons.mp ha with h | h
    · subst h; rw [hqa]
    · cases hqz : q z with
      | true => have := hu.tail_none hqz a h; rw [this] at hqa; cases hqa
      | false => exact ih a hu.tail h hqa

theorem pairwise_of_mem_ne {α} (R : α → α → Prop) (hsym : ∀ a b, R a b → R b a) :
    ∀ (l : List α), l.Pairwise R → ∀ a ∈ l, ∀ b ∈ l, a ≠ b → R a b := by
  intro l
  induction l with
  | nil => intro _ a ha; cases ha
  | cons z zs ih =>
    intro hp a ha b hb hab
    have hp' := List.pairwise_cons.mp hp
    rcases List.mem_cons.mp ha with h1 | h1 <;> rcases List.mem_cons.mp hb with h2 | h2
    · subst h1; subst h2; exact absurd rfl hab
    · subst h1; exact hp'.1 b h2
    · subst h2; exact hsym _ _ (hp'.1 a h1)
    · exact ih hp'.2 a h1 b h2 hab

theorem atMostOne_append_new {α} (q : α → Bool) (l : List α) (y : α) (h : l.find? q = none) : AtMostOne q (l ++ [y]) := by
  have hn := List.find?_eq_none.mp h
  apply List.pairwise_append.mpr
  refine ⟨?_, List.pairwise_singleton _ _, ?_⟩
  · apply List.pairwise_of_forall_mem_list
    intro a ha b _ hab; exact hn a ha hab.1
  · intro a ha b _ hab; exact hn a ha hab.1

theorem replaceFirst_map_of_eq {α β} (p : α → Bool) (f : α → α) (g : α → β) (hg : ∀ a, p a = true → g (f a) = g a) (l : List α) :
    (replaceFirst p f l).map g = l.map g := by
  rcases Coll.replaceFirst_cases p f l with ⟨_, e⟩ | ⟨l1, x, l2, rfl, hx, _, e⟩
  · rw [e]
  · simp [e, hg x hx]

theorem sumI_replaceFirst {α} (g : α → Int) (p : α → Bool) (f : α → α) :
    ∀ (l : List α) (x : α), l.find? p = some x → sumI g (replaceFirst p f l) = sumI g l + (g (f x) - g x) := by
  intro l
  induction l with
  | nil => intro x hx; cases hx
  | cons a l ih =>
    intro x hx
    rw [List.find?_cons] at hx
    unfold replaceFirst
    cases hq : p a with
    | true =>
      rw [hq] at hx; injection hx with hx; subst hx
      simp only [if_true, sumI_cons]; omega
    | false =>
      rw [hq] at hx
      simp only [Bool.false_eq_true, if_false, sumI_cons, ih x hx]; omega

theorem mem_replaceFirst {α} (p : α → Bool) (f : α → α) (l : List α) (a : α) (h : a ∈ replaceFirst p f l) :
    a ∈ l ∨ ∃ x, l.find? p = some x ∧ a = f x := by
  rcases Coll.replaceFirst_cases p f l with ⟨_, e⟩ | ⟨l1, x, l2, rfl, hx, h1, e⟩
  · exact .inl (e ▸ h)
  · have hf : (l1 ++ x :: l2).find? p = some x := by
      rw [List.find?_append, List.find?_eq_none.mpr (by simpa using h1)]; simp [hx]
    rw [e] at h
    rcases List.mem_append.mp h with h | h
    · exact .inl (List.mem_append_left _ h)
    · rcases List.mem_cons.mp h with h | h
      · exact .inr ⟨x, hf, h⟩
      · exact .inl (List.mem_append_right _ (List.mem_cons_of_mem _ h))

theorem forall_replaceFirst {α} {P : α → Prop} (p : α → Bool) (f : α → α) {l : List α} {x : α} (hx : l.find? p = some x)
    (hl : ∀ a ∈ l, P a) (hfx : P (f x)) : ∀ a ∈ replaceFirst p f l, P a := by
  intro a ha
  rcases mem_replaceFirst p f l a ha with h | ⟨y, hy, rfl⟩
  · exact hl a h
  · exact Option.some.inj (hx.symm.trans hy) ▸ hfx

theorem replaceFirst_none {α} (p : α → Bool) (f : α → α) (l : List α) (h : ∀ a ∈ l, p a = false) : replaceFirst p f l = l :=
  Coll.replaceFirst_none p f l (List.any_eq_false.mpr fun a ha => by rw [h a ha]; exact Bool.false_ne_true)

theorem find?_replaceFirst_same {α} (p : α → Bool) (f : α → α) (hf : ∀ a, p a = true → p (f a) = true) :
    ∀ (l : List α), (replaceFirst p f l).find? p = (l.find? p).map f := by
  intro l
  induction l with
  | nil => rfl
  | cons a l ih =>
    unfold replaceFirst
    cases hq : p a with
    | true => simp only [if_true, List.find?_cons, hf a hq, hq, Option.map_some]
    | false => simp only [Bool.false_eq_true, if_false, List.find?_cons, hq, ih]

theorem find?_replaceFirst_other {α} (p p' : α → Bool) (f : α → α)
    (hd : ∀ a, p a = true → p' a = false) (hf : ∀ a, p a = true → p' (f a) = false) :
    ∀ (l : List α), (replaceFirst p f l).find? p' = l.find? p' := by
  intro l
  induction l with
  | nil => rfl
  | cons a l ih =>
    unfold replaceFirst
    cases hq : p a with
    | true => simp only [if_true, List.find?_cons, hf a hq, hd a hq]
    | false => simp only [Bool.false_eq_true, if_false, List.find?_cons, ih]

end Shentu.Shield.PoolLm
