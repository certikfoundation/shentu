import Shentu.EVM.Monad
/-
  How a `>>=` of the interpreter's monad `M` runs once the outcome of its first part is known, and what a `>>=` that
  returned says of its first part; what `pushErr` returns.
-/
namespace Shentu.EVM

theorem pure_val {α : Type} (a : α) (s : Frame) : ((pure a : M α) s).val = (some a, s) := rfl

theorem bind_congr_val {α β : Type} {m m' : M α} {f : α → M β} {s s' : Frame} (h : (m s).val = (m' s').val) :
    ((m >>= f) s).val = ((m' >>= f) s').val := by
  show (M.bind m f s).val = (M.bind m' f s').val
  unfold M.bind
  generalize m s = r at h
  generalize m' s' = r' at h
  obtain ⟨⟨o, s1⟩, hr⟩ := r
  obtain ⟨v, hr'⟩ := r'
  cases h
  cases o <;> rfl

theorem bind_val_some {α β : Type} {m : M α} {f : α → M β} {s s1 : Frame} {a : α} (h : (m s).val = (some a, s1)) :
    ((m >>= f) s).val = (f a s1).val :=
  bind_congr_val (m' := pure a) h

theorem bind_val_none {α β : Type} {m : M α} {f : α → M β} {s s1 : Frame} (h : (m s).val = (none, s1)) :
    ((m >>= f) s).val = (none, s1) :=
  bind_congr_val (m' := goPanic) h

theorem bind_some {α β : Type} {m : M α} {f : α → M β} {s s' : Frame} {b : β} (h : ((m >>= f) s).val = (some b, s')) :
    ∃ a s1, (m s).val = (some a, s1) ∧ (f a s1).val = (some b, s') := by
  match hm : (m s).val with
  | (none, s1) => rw [bind_val_none hm] at h; cases h
  | (some a, s1) => exact ⟨a, s1, rfl, by rw [← bind_val_some hm]; exact h⟩

theorem bind_post {α β : Type} {R : Option β → Frame → Prop} {m : M α} {f : α → M β} (s : Frame)
    (hnone : ∀ s1, (m s).val = (none, s1) → R none s1)
    (hf : ∀ x s1, (m s).val = (some x, s1) → R (f x s1).val.1 (f x s1).val.2) : R ((m >>= f) s).val.1 ((m >>= f) s).val.2 := by
  match hr : (m s).val with
  | (none, s1) => rw [bind_val_none hr]; exact hnone s1 hr
  | (some x, s1) => rw [bind_val_some hr]; exact hf x s1 hr

theorem pushErr_val (e : Err) (s : Frame) :
    ∃ s1, (pushErr e s).val = (some (), s1) ∧ s1.world = s.world ∧ s1.err.isSome = true := by
  unfold pushErr
  split
  · rename_i e' he
    exact ⟨s, rfl, rfl, by simp [he]⟩
  · exact ⟨_, rfl, rfl, rfl⟩

end Shentu.EVM
