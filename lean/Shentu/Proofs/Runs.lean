/-
  Histories and loops.  A history of a model is `List.foldl` of a step that keeps the state when the operation fails; a
  loop of a model is `List.foldlM` of a round in `Except`.  Invariants along `foldl` come from core (`List.foldlRecOn`,
  `List.foldl_hom`, `List.foldl_append`, `List.foldl_rel`); what core lacks is here: the invariant that may speak of the
  operations still to come, and the three rules for `foldlM` in `Except`.  A loop that is no plain fold (it leaves early,
  or rewrites the list it walks), a composite operation and a history have this in common: when they succeed, some rounds have
  run one after the other.  `Star r a b` says so; whatever is reflexive, transitive and respected by one round then holds
  from `a` to `b` (`Star.lift`), and an invariant that one round keeps is kept (`Star.keep`).
-/
namespace Shentu

theorem foldl_ind {σ ι : Type} {f : σ → ι → σ} (Q : List ι → σ → Prop) (h : ∀ i l s, Q (i :: l) s → Q l (f s i)) :
    ∀ (l : List ι) (s : σ), Q l s → Q [] (l.foldl f s)
  | [], _, hq => hq
  | i :: l, s, hq => foldl_ind Q h l (f s i) (h i l s hq)

/-- what holds after a history held at its start or began to hold at one step; `N i s` says what a step `i`, run in `s`,
    must have been for that -/
theorem foldl_origin {σ ι : Type} {f : σ → ι → σ} {M : σ → Prop} {N : ι → σ → Prop}
    (hstep : ∀ s i, M (f s i) → M s ∨ N i s) :
    ∀ (l : List ι) (s : σ), M (l.foldl f s) → M s ∨ ∃ pre i post, l = pre ++ i :: post ∧ N i (pre.foldl f s)
  | [], _, h => .inl h
  | i :: l, s, h =>
    match foldl_origin hstep l (f s i) h with
    | .inl h1 => (hstep s i h1).imp_right fun h2 => ⟨[], i, l, rfl, h2⟩
    | .inr ⟨pre, j, post, e, h2⟩ => .inr ⟨i :: pre, j, post, by rw [e]; rfl, h2⟩

section loops
variable {ε σ ι : Type} {f : σ → ι → Except ε σ}

theorem foldlM_cons_ok {i : ι} {l : List ι} {s s' : σ} (h : (i :: l).foldlM f s = .ok s') :
    ∃ s1, f s i = .ok s1 ∧ l.foldlM f s1 = .ok s' := by
  rw [List.foldlM_cons] at h
  cases h1 : f s i with
  | error x => rw [h1] at h; cases h
  | ok s1 => rw [h1] at h; exact ⟨s1, rfl, h⟩

theorem foldlM_ind (Q : List ι → σ → Prop) (h : ∀ i l s s1, Q (i :: l) s → f s i = .ok s1 → Q l s1) :
    ∀ (l : List ι) (s s' : σ), Q l s → l.foldlM f s = .ok s' → Q [] s'
  | [], _, _, hq, hr => by cases hr; exact hq
  | i :: l, s, s', hq, hr => by
    obtain ⟨s1, h1, h2⟩ := foldlM_cons_ok hr
    exact foldlM_ind Q h l s1 s' (h i l s s1 hq h1) h2

theorem foldlM_rel {R : σ → σ → Prop} {I : σ → Prop} (refl : ∀ s, R s s) (trans : ∀ {a b c}, R a b → R b c → R a c)
    {l : List ι} (h : ∀ i ∈ l, ∀ s s1, I s → f s i = .ok s1 → R s s1 ∧ I s1) {s s' : σ} (hi : I s)
    (hr : l.foldlM f s = .ok s') : R s s' ∧ I s' :=
  (foldlM_ind (fun l' s1 => (∀ i ∈ l', i ∈ l) ∧ R s s1 ∧ I s1)
    (fun i _ s1 s2 hq h1 =>
      have h2 := h i (hq.1 i List.mem_cons_self) s1 s2 hq.2.2 h1
      ⟨fun j hj => hq.1 j (List.mem_cons_of_mem _ hj), trans hq.2.1 h2.1, h2.2⟩)
    l s s' ⟨fun _ hi => hi, refl s, hi⟩ hr).2

theorem foldlM_total {I : σ → Prop} {l : List ι} (h : ∀ i ∈ l, ∀ s, I s → ∃ s1, f s i = .ok s1 ∧ I s1) :
    ∀ {s : σ}, I s → ∃ s', l.foldlM f s = .ok s' ∧ I s' := by
  induction l with
  | nil => exact fun hi => ⟨_, rfl, hi⟩
  | cons i l ih =>
    intro s hi
    obtain ⟨s1, h1, hi1⟩ := h i List.mem_cons_self s hi
    obtain ⟨s', h2, hi'⟩ := ih (fun j hj => h j (List.mem_cons_of_mem _ hj)) hi1
    exact ⟨s', by rw [List.foldlM_cons, h1]; exact h2, hi'⟩

end loops

/-- `b` is reached from `a` by finitely many rounds of `r` -/
inductive Star {α : Type} (r : α → α → Prop) : α → α → Prop
  | refl (a : α) : Star r a a
  | head {a b c : α} : r a b → Star r b c → Star r a c

namespace Star
variable {α : Type} {r : α → α → Prop}

theorem lift {R : α → α → Prop} (refl : ∀ a, R a a) (trans : ∀ {a b c}, R a b → R b c → R a c)
    (round : ∀ {a b}, r a b → R a b) {a b : α} (h : Star r a b) : R a b := by
  induction h with
  | refl a => exact refl a
  | head h1 _ ih => exact trans (round h1) ih

theorem keep {P : α → Prop} (round : ∀ {a b}, r a b → P a → P b) {a b : α} (h : Star r a b) : P a → P b :=
  h.lift (R := fun a b => P a → P b) (fun _ => id) (fun f g x => g (f x)) round

theorem single {a b : α} (h : r a b) : Star r a b := .head h (.refl b)

theorem trans {a b c : α} (h1 : Star r a b) (h2 : Star r b c) : Star r a c := by
  induction h1 with
  | refl => exact h2
  | head h _ ih => exact .head h (ih h2)

end Star

end Shentu
