import Shentu.Arith.BigOps
/-
  Facts about the library model `Shentu/Arith/BigOps.lean` (math/big, Burrow binary/stack) in terms of `BitVec 256`.
  Nothing here mentions the generated definitions.
-/
namespace Shentu.Arith

theorem two256 : (2 : Int) ^ 256 = 115792089237316195423570985008687907853269984665640564039457584007913129639936 := by decide

theorem u256_natCast (n : Nat) : u256 (n : Int) = n % 2 ^ 256 := by
  unfold u256; omega

theorem toNat_ofInt_eq_u256 (i : Int) : (BitVec.ofInt 256 i).toNat = u256 i := by
  rw [BitVec.toNat_ofInt]; unfold u256; congr

/-- What `PushBigInt` pushes is the word `BitVec.ofInt 256` of the integer, so an instruction that pushes `i` agrees with the
    specification once `BitVec.ofInt 256 i` is the specification's word: a fact about `ofInt`, a ring homomorphism. -/
theorem pushBigInt_eq {i : Int} {w : BitVec 256} (h : BitVec.ofInt 256 i = w) : pushBigInt i = w.toNat :=
  h ▸ (toNat_ofInt_eq_u256 i).symm

theorem ofInt_bigOfWord (x : BitVec 256) : BitVec.ofInt 256 (bigOfWord x.toNat) = x := by
  rw [bigOfWord, BitVec.ofInt_natCast, BitVec.ofNat_toNat, BitVec.setWidth_eq]

theorem toInt_eq_zero (x : BitVec 256) : x.toInt = 0 ↔ x = 0 := BitVec.toInt_inj (y := 0)

theorem toNat_eq_zero (x : BitVec 256) : x.toNat = 0 ↔ x = 0 := BitVec.toNat_inj (y := 0)

/-- `S256(PopBigInt())` is the two's complement value of the word -/
theorem bigOfWordSigned_toNat (x : BitVec 256) : bigOfWordSigned x.toNat = x.toInt := by
  have := x.isLt
  unfold bigOfWordSigned s256 bigBit bigOfWord
  rw [BitVec.toInt_eq_toNat_cond]
  simp only [decide_eq_false_iff_not]
  split <;> split <;> omega

theorem bigSign_eq_zero (x : Int) : bigSign x = 0 ↔ x = 0 := by
  unfold bigSign; exact Int.sign_eq_zero_iff_zero

theorem bigSign_neg (x : Int) : bigSign x < 0 ↔ x < 0 := by
  unfold bigSign; exact Int.sign_neg_iff

/-- the shape of the division instructions: the test `y.Sign() == 0` in front makes the panic of the `math/big`
    operation `f` on a zero divisor unreachable -/
theorem guarded_push (f : Int → Int → Int) (x y : Int) :
    (if bigSign y = 0 then some 0 else (if y = 0 then none else some (f x y)).bind fun r => some (pushBigInt r)) =
      some (if y = 0 then 0 else u256 (f x y)) := by
  by_cases h : y = 0
  · rw [if_pos ((bigSign_eq_zero y).2 h), if_pos h]
  · rw [if_neg (mt (bigSign_eq_zero y).1 h), if_neg h, if_neg h]
    rfl

theorem bigCmp_lt (x y : Int) : bigCmp x y < 0 ↔ x < y := by
  unfold bigCmp; repeat' split
  all_goals omega
theorem bigCmp_gt (x y : Int) : bigCmp x y > 0 ↔ x > y := by
  unfold bigCmp; repeat' split
  all_goals omega
theorem bigCmp_ge (x y : Int) : bigCmp x y ≥ 0 ↔ x ≥ y := by
  unfold bigCmp; repeat' split
  all_goals omega

theorem bigUint64_small (n : Nat) (h : n < 2 ^ 64) : bigUint64 (n : Int) = n := by unfold bigUint64; omega

/-- the shape of the shift instructions: a count of 256 or more (`shift.Cmp(256) >= 0`) gives the constant `c`, a smaller
    one is what `shift.Uint64()` returns -/
theorem guarded_shift {α : Type} (s : Nat) (c : α) (f : Nat → α) :
    (if bigCmp (s : Int) 256 ≥ 0 then c else f (bigUint64 (s : Int))) = if s ≥ 256 then c else f s := by
  by_cases h : s ≥ 256
  · rw [if_pos ((bigCmp_ge _ _).2 (by omega)), if_pos h]
  · rw [if_neg (mt (bigCmp_ge _ _).1 (by omega)), if_neg h, bigUint64_small s (by omega)]

theorem bigExp_natCast (a b : Nat) : bigExp (a : Int) (b : Int) = ((a ^ b : Nat) : Int) := by
  unfold bigExp
  by_cases h : b = 0
  · subst h; rfl
  · rw [if_neg (by omega), Int.toNat_natCast, Int.natCast_pow]

theorem bigExpMod_natCast (a b : Nat) :
    bigExpMod (a : Int) (b : Int) (bigLsh (1 : Int) 256) = some (((a ^ b % 2 ^ 256 : Nat) : Int)) := by
  have hm : bigLsh (1 : Int) 256 = ((2 ^ 256 : Nat) : Int) := by decide
  have hne : ¬ (((2 ^ 256 : Nat) : Int) = 0) := by decide
  have hy : ¬ ((b : Int) < 0) := by omega
  simp only [bigExpMod, hm, hne, hy, if_false, Int.natAbs_natCast, Int.toNat_natCast, ← Int.natCast_pow, ← Int.natCast_emod]

theorem bigIsUint64_natCast (n : Nat) : bigIsUint64 (n : Int) = true ↔ n < 2 ^ 64 := by
  unfold bigIsUint64; simp only [decide_eq_true_eq]; omega

/-- the shape of SIGNEXTEND and BYTE: the index operand counts only when it is a `uint64` (`IsUint64()`) below the bound `k`;
    for a word that is the test `n < k` alone, and `Uint64()` then returns the word -/
theorem guarded_index {α : Type} (n k : Nat) (hk : k ≤ 2 ^ 64) (f : Nat → α) (c : α) :
    (if bigIsUint64 (bigOfWord n) = true ∧ bigUint64 (bigOfWord n) < k then f (bigUint64 (bigOfWord n)) else c) =
      if n < k then f n else c := by
  unfold bigOfWord
  by_cases h : n < k
  · have h0 : n < 2 ^ 64 := by omega
    rw [if_pos ⟨(bigIsUint64_natCast n).2 h0, by rw [bigUint64_small n h0]; exact h⟩, if_pos h, bigUint64_small n h0]
  · rw [if_neg (fun ⟨h0, h1⟩ => h (by rwa [bigUint64_small n ((bigIsUint64_natCast n).1 h0)] at h1)), if_neg h]

theorem signExtend_eq_bmod (x n : Nat) (hn : 0 < n) : signExtend (x : Int) n = Int.bmod x (2 ^ n) := by
  obtain ⟨k, rfl⟩ : ∃ k, n = k + 1 := ⟨n - 1, by omega⟩
  have hr := Nat.mod_lt x (Nat.pow_pos (n := k) (by decide : 0 < 2))
  have hm : x % (2 ^ k * 2) = x % 2 ^ k + 2 ^ k * (x / 2 ^ k % 2) := Nat.mod_mul
  have e0 : (2 : Int) ^ k = ((2 ^ k : Nat) : Int) := by simp
  simp only [signExtend, bigBit, Nat.add_sub_cancel, decide_eq_true_eq, Nat.pow_succ, e0]
  -- with `2 ^ k` a variable, `omega` reads the remainders and the quotient as atoms, the same in `ℕ` and in `ℤ`
  generalize 2 ^ k = p at *
  rcases Nat.mod_two_eq_zero_or_one (x / p) with h | h <;> rw [h] at hm
  · rw [Int.bmod_eq_emod_of_lt (by omega), if_neg (by omega)]; omega
  · rw [Int.bmod_neg _ _ (by omega), if_pos (by omega)]; omega

/-- a byte-wise loop with a bit-wise operator is the operator on the whole words (truncated to `n` bytes); the two hypotheses
    are what the library proves of `&&&`, `|||`, `^^^` (`Nat.and_mod_two_pow`, `Nat.shiftRight_and_distrib`, …) -/
theorem bytewise2_bitwise (f : Nat → Nat → Nat)
    (hmod : ∀ a b, f a b % 2 ^ 8 = f (a % 2 ^ 8) (b % 2 ^ 8))
    (hshift : ∀ a b, f a b >>> 8 = f (a >>> 8) (b >>> 8)) :
    ∀ n x y, bytewise2 f n x y = f x y % 256 ^ n := by
  have hdiv : ∀ a b, f a b / 256 = f (a / 256) (b / 256) := fun a b => by
    simpa [Nat.shiftRight_eq_div_pow] using hshift a b
  intro n
  induction n with
  | zero => intro x y; simp [bytewise2, Nat.mod_one]
  | succ n ih =>
    intro x y
    rw [bytewise2, ih, ← hdiv, ← hmod x y, Nat.mod_mod, show 256 ^ (n + 1) = 256 * 256 ^ n by rw [Nat.pow_succ, Nat.mul_comm],
      Nat.mod_mul]

theorem bytewise1_not : ∀ n x, bytewise1 (fun b => byteNot b) n x = 256 ^ n - 1 - x % 256 ^ n := by
  intro n
  induction n with
  | zero => intro x; simp [bytewise1]
  | succ n ih =>
    intro x
    have hp : 0 < 256 ^ n := Nat.pow_pos (by decide)
    have h1 := Nat.mod_lt (x / 256) hp
    rw [bytewise1, ih, show 256 ^ (n + 1) = 256 * 256 ^ n by rw [Nat.pow_succ, Nat.mul_comm], Nat.mod_mul]
    unfold byteNot
    generalize 256 ^ n = p at *
    generalize x / 256 % p = q at *
    omega

theorem pow256_32 : 256 ^ 32 = 2 ^ 256 := by decide

end Shentu.Arith
