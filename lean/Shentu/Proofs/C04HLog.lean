import Shentu.Proofs.ShieldCollBasic
import Shentu.Proofs.Keys
/-
  The log of `Shentu/Props/C04H.lean` as a list: what an event does to the reimbursement store (`Event.act`, `openRecs`),
  when a log is consistent with the store it describes (`Good`), and the sums read off a log.  Nothing here knows the
  machine that writes the log.
-/
namespace Shentu.C04H
open Shentu Shentu.Shield Shentu.Shield.Coll

/-- what the log records -/
inductive Event where
  /-- a claim proposal passed: the reimbursement record that was written -/
  | created (pid : Nat) (beneficiary : Addr) (amount : Int) (payoutTime : Int)
  /-- a reimbursement was withdrawn under `pid` by `a` at block time `time`; `mod` is the module account of that step,
      `received` is what `a`'s balance gained and `left` what the module account's balance lost (bond denomination) -/
  | withdrawn (pid : Nat) (a : Addr) (mod : Addr) (received : Int) (left : Int) (time : Int)
  deriving DecidableEq, Repr, Inhabited

/-- the record an event of kind `created` stands for -/
def mkRec (pid : Nat) (b : Addr) (amt pt : Int) : Reimb := { pid := pid, amount := amt, beneficiary := b, payoutTime := pt }

/-- what an event does to the reimbursement store -/
def Event.act : Event → List Reimb → List Reimb
  | .created pid b amt pt, rs => rs.filter (·.pid != pid) ++ [mkRec pid b amt pt]
  | .withdrawn pid _ _ _ _ _, rs => rs.filter (·.pid != pid)

/-- the created-and-not-yet-withdrawn entries of a log (newest event first), in the order of their creation;
    a later creation under the same id supersedes the earlier one -/
def openRecs : List Event → List Reimb
  | [] => []
  | ev :: log => ev.act (openRecs log)

def Event.cpid : Event → List Nat
  | .created pid _ _ _ => [pid]
  | .withdrawn .. => []
def Event.wpid : Event → List Nat
  | .created .. => []
  | .withdrawn pid _ _ _ _ _ => [pid]

def createdPids (log : List Event) : List Nat := log.flatMap Event.cpid
def withdrawnPids (log : List Event) : List Nat := log.flatMap Event.wpid

@[simp] theorem createdPids_nil : createdPids [] = [] := rfl
@[simp] theorem withdrawnPids_nil : withdrawnPids [] = [] := rfl
@[simp] theorem createdPids_created (pid : Nat) (b : Addr) (amt pt : Int) (log : List Event) :
    createdPids (.created pid b amt pt :: log) = pid :: createdPids log := rfl
@[simp] theorem createdPids_withdrawn (pid : Nat) (a m : Addr) (x y t : Int) (log : List Event) :
    createdPids (.withdrawn pid a m x y t :: log) = createdPids log := rfl
@[simp] theorem withdrawnPids_created (pid : Nat) (b : Addr) (amt pt : Int) (log : List Event) :
    withdrawnPids (.created pid b amt pt :: log) = withdrawnPids log := rfl
@[simp] theorem withdrawnPids_withdrawn (pid : Nat) (a m : Addr) (x y t : Int) (log : List Event) :
    withdrawnPids (.withdrawn pid a m x y t :: log) = pid :: withdrawnPids log := rfl

theorem createdPids_append (a b : List Event) : createdPids (a ++ b) = createdPids a ++ createdPids b := by
  simp [createdPids]
theorem withdrawnPids_append (a b : List Event) : withdrawnPids (a ++ b) = withdrawnPids a ++ withdrawnPids b := by
  simp [withdrawnPids]

theorem mem_createdPids {pid : Nat} {log : List Event} :
    pid ∈ createdPids log ↔ ∃ b amt pt, Event.created pid b amt pt ∈ log := by
  rw [createdPids, List.mem_flatMap]
  constructor
  · rintro ⟨ev, hev, hp⟩
    cases ev with
    | created p b amt pt => cases List.mem_singleton.mp hp; exact ⟨b, amt, pt, hev⟩
    | withdrawn => cases hp
  · rintro ⟨b, amt, pt, h⟩
    exact ⟨_, h, List.mem_singleton.mpr rfl⟩

theorem mem_withdrawnPids {pid : Nat} {log : List Event} :
    pid ∈ withdrawnPids log ↔ ∃ a m x y t, Event.withdrawn pid a m x y t ∈ log := by
  rw [withdrawnPids, List.mem_flatMap]
  constructor
  · rintro ⟨ev, hev, hp⟩
    cases ev with
    | created => cases hp
    | withdrawn p a m x y t => cases List.mem_singleton.mp hp; exact ⟨a, m, x, y, t, hev⟩
  · rintro ⟨a, m, x, y, t, h⟩
    exact ⟨_, h, List.mem_singleton.mpr rfl⟩

/-- the log is consistent with the store it describes: every withdrawal found an open record under its id that belonged to
    the caller and whose payout time had come, and what it observed on the ledger is that record's amount
    (unless the caller is the module account itself: a transfer to oneself moves nothing) -/
def Good : List Event → Prop
  | [] => True
  | .created _ _ _ _ :: log => Good log
  | .withdrawn pid a m received left t :: log => Good log ∧
      ∃ r, (openRecs log).find? (·.pid == pid) = some r ∧ r.beneficiary = a ∧ r.payoutTime ≤ t ∧
        (a ≠ m → received = r.amount ∧ left = r.amount)

theorem good_suffix (post pre : List Event) (h : Good (post ++ pre)) : Good pre := by
  induction post with
  | nil => exact h
  | cons ev post ih =>
    cases ev with
    | created => exact ih h
    | withdrawn => exact ih h.1

theorem openRecs_mem (log : List Event) (r : Reimb) (h : r ∈ openRecs log) :
    Event.created r.pid r.beneficiary r.amount r.payoutTime ∈ log := by
  induction log with
  | nil => cases h
  | cons ev log ih =>
    cases ev with
    | created p b amt pt =>
      rcases (Keyed.mem_refile Reimb.pid).mp h with ⟨h1, _⟩ | rfl
      · exact List.mem_cons_of_mem _ (ih h1)
      · exact List.mem_cons_self
    | withdrawn p a m x y t =>
      simp only [openRecs, Event.act] at h
      exact List.mem_cons_of_mem _ (ih (List.mem_filter.mp h).1)

theorem openRecs_nodup (log : List Event) : ((openRecs log).map (·.pid)).Nodup := by
  induction log with
  | nil => simp [openRecs]
  | cons ev log ih =>
    have hf : ∀ p : Nat, (((openRecs log).filter (·.pid != p)).map (·.pid)).Nodup := fun p =>
      (List.filter_sublist.map _).nodup ih
    cases ev with
    | created p b amt pt =>
      exact Keyed.nodup_append_new Reimb.pid (n := mkRec p b amt pt) (hf p)
        fun y hy => by simpa [mkRec] using (List.mem_filter.mp hy).2
    | withdrawn p a m x y t => exact hf p

theorem withdrawn_created (log : List Event) (hg : Good log) (pid : Nat) (h : pid ∈ withdrawnPids log) :
    pid ∈ createdPids log := by
  induction log with
  | nil => cases h
  | cons ev log ih =>
    cases ev with
    | created p b amt pt =>
      rw [createdPids_created]
      exact List.mem_cons_of_mem _ (ih hg h)
    | withdrawn p a m x y t =>
      rw [createdPids_withdrawn]
      rw [withdrawnPids_withdrawn] at h
      rcases List.mem_cons.mp h with h1 | h1
      · obtain ⟨r, hf, _⟩ := hg.2
        have hr := openRecs_mem log r (List.mem_of_find?_eq_some hf)
        have hp : r.pid = p := by simpa using List.find?_some hf
        exact mem_createdPids.mpr ⟨_, _, _, by rw [h1, ← hp]; exact hr⟩
      · exact ih hg.1 h1

theorem openRecs_iff (log : List Event) (hg : Good log) (hf : (createdPids log).Nodup) (r : Reimb) :
    r ∈ openRecs log ↔ Event.created r.pid r.beneficiary r.amount r.payoutTime ∈ log ∧ r.pid ∉ withdrawnPids log := by
  induction log with
  | nil => simp [openRecs]
  | cons ev log ih =>
    cases ev with
    | created p b amt pt =>
      rw [createdPids_created] at hf
      obtain ⟨hp, hf'⟩ := List.nodup_cons.mp hf
      have ih' := ih hg hf'
      rw [withdrawnPids_created]
      simp only [openRecs, Event.act, List.mem_append, List.mem_filter, List.mem_cons, List.mem_nil_iff, or_false]
      constructor
      · rintro (⟨h1, _⟩ | h1)
        · exact ⟨.inr (ih'.mp h1).1, (ih'.mp h1).2⟩
        · subst h1
          exact ⟨.inl rfl, fun hw => hp (withdrawn_created log hg _ hw)⟩
      · rintro ⟨h1 | h1, h2⟩
        · right
          injection h1 with e1 e2 e3 e4
          cases r; simp only at e1 e2 e3 e4; subst e1 e2 e3 e4; rfl
        · left
          refine ⟨ih'.mpr ⟨h1, h2⟩, ?_⟩
          have : r.pid ≠ p := fun hrp => hp (mem_createdPids.mpr ⟨_, _, _, hrp ▸ h1⟩)
          simpa using this
    | withdrawn p a m x y t =>
      rw [createdPids_withdrawn] at hf
      have ih' := ih hg.1 hf
      rw [withdrawnPids_withdrawn]
      simp only [openRecs, Event.act, List.mem_filter, List.mem_cons, reduceCtorEq, false_or, not_or]
      constructor
      · rintro ⟨h1, h2⟩
        exact ⟨(ih'.mp h1).1, by simpa using h2, (ih'.mp h1).2⟩
      · rintro ⟨h1, h2, h3⟩
        exact ⟨ih'.mpr ⟨h1, h3⟩, by simpa using h2⟩

theorem withdrawn_nodup (log : List Event) (hg : Good log) (hf : (createdPids log).Nodup) : (withdrawnPids log).Nodup := by
  induction log with
  | nil => simp
  | cons ev log ih =>
    cases ev with
    | created p b amt pt =>
      rw [createdPids_created] at hf
      exact ih hg (List.nodup_cons.mp hf).2
    | withdrawn p a m x y t =>
      rw [createdPids_withdrawn] at hf
      rw [withdrawnPids_withdrawn]
      refine List.nodup_cons.mpr ⟨?_, ih hg.1 hf⟩
      intro hp
      obtain ⟨r, hfind, _⟩ := hg.2
      have hpid : r.pid = p := by simpa using List.find?_some hfind
      exact ((openRecs_iff log hg.1 hf r).mp (List.mem_of_find?_eq_some hfind)).2 (hpid ▸ hp)

theorem withdrawn_spec (log post pre : List Event) (hg : Good log) (pid : Nat) (a m : Addr) (received left t : Int)
    (h : log = post ++ .withdrawn pid a m received left t :: pre) :
    ∃ amt pt, Event.created pid a amt pt ∈ pre ∧ pt ≤ t ∧ (a ≠ m → received = amt ∧ left = amt) := by
  subst h
  have := good_suffix post _ hg
  obtain ⟨r, hfind, hb, ht, hamt⟩ := this.2
  have hmem := openRecs_mem pre r (List.mem_of_find?_eq_some hfind)
  have hpid : r.pid = pid := by simpa using List.find?_some hfind
  rw [hpid, hb] at hmem
  exact ⟨r.amount, r.payoutTime, hmem, ht, hamt⟩

/-- the amount approved under an id: that of the newest `created` entry (0 when there is none) -/
def approved : List Event → Nat → Int
  | [], _ => 0
  | .created p _ amt _ :: log, pid => if p = pid then amt else approved log pid
  | .withdrawn .. :: log, pid => approved log pid

/-- the coins that left the module account under reimbursement withdrawals (withdrawals by the module account itself,
    which move nothing, left out) -/
def paidOut : List Event → Int
  | [] => 0
  | .created .. :: log => paidOut log
  | .withdrawn _ a m _ left _ :: log => (if a = m then 0 else left) + paidOut log

/-- the coins the beneficiaries received -/
def receivedTotal : List Event → Int
  | [] => 0
  | .created .. :: log => receivedTotal log
  | .withdrawn _ a m received _ _ :: log => (if a = m then 0 else received) + receivedTotal log

/-- the amounts approved for the withdrawn ids, each at the time of its withdrawal -/
def owedOut : List Event → Int
  | [] => 0
  | .created .. :: log => owedOut log
  | .withdrawn pid a m _ _ _ :: log => (if a = m then 0 else approved log pid) + owedOut log

theorem openRecs_approved (log : List Event) (r : Reimb) (h : r ∈ openRecs log) : r.amount = approved log r.pid := by
  induction log with
  | nil => cases h
  | cons ev log ih =>
    cases ev with
    | created p b amt pt =>
      rcases (Keyed.mem_refile Reimb.pid).mp h with ⟨h2, h3⟩ | rfl
      · simp only [approved, Ne.symm h3, if_false]
        exact ih h2
      · simp [approved, mkRec]
    | withdrawn p a m x y t =>
      simp only [openRecs, Event.act] at h
      exact ih (List.mem_filter.mp h).1

theorem paid_eq_owed (log : List Event) (hg : Good log) : paidOut log = owedOut log ∧ receivedTotal log = owedOut log := by
  induction log with
  | nil => exact ⟨rfl, rfl⟩
  | cons ev log ih =>
    cases ev with
    | created p b amt pt => exact ih hg
    | withdrawn p a m x y t =>
      obtain ⟨r, hfind, _, _, hamt⟩ := hg.2
      have hpid : r.pid = p := by simpa using List.find?_some hfind
      have hap := openRecs_approved log r (List.mem_of_find?_eq_some hfind)
      rw [hpid] at hap
      obtain ⟨i1, i2⟩ := ih hg.1
      simp only [paidOut, owedOut, receivedTotal]
      by_cases ham : a = m
      · simp only [ham, if_true]; omega
      · simp only [ham, if_false]
        obtain ⟨e1, e2⟩ := hamt ham
        omega

/-- the sum of all amounts ever approved -/
def createdTotal : List Event → Int
  | [] => 0
  | .created _ _ amt _ :: log => amt + createdTotal log
  | .withdrawn .. :: log => createdTotal log

/-- the amounts approved for the withdrawn ids, withdrawals by the module account itself included -/
def drawnTotal : List Event → Int
  | [] => 0
  | .created .. :: log => drawnTotal log
  | .withdrawn pid _ _ _ _ _ :: log => approved log pid + drawnTotal log

theorem books_balance (log : List Event) (hg : Good log) (hf : (createdPids log).Nodup) :
    createdTotal log = drawnTotal log + sumI (·.amount) (openRecs log) := by
  induction log with
  | nil => rfl
  | cons ev log ih =>
    cases ev with
    | created p b amt pt =>
      rw [createdPids_created] at hf
      obtain ⟨hp, hf'⟩ := List.nodup_cons.mp hf
      have hfil : (openRecs log).filter (·.pid != p) = openRecs log :=
        Keyed.remove_fix Reimb.pid p _ fun x hx hxp => hp (mem_createdPids.mpr ⟨_, _, _, hxp ▸ openRecs_mem log x hx⟩)
      simp only [createdTotal, drawnTotal, openRecs, Event.act, hfil, sumI_append, sumI_cons, sumI_nil]
      have := ih hg hf'
      simp only [mkRec]
      omega
    | withdrawn p a m x y t =>
      rw [createdPids_withdrawn] at hf
      obtain ⟨r, hfind, _⟩ := hg.2
      have hpid : r.pid = p := by simpa using List.find?_some hfind
      have hap := openRecs_approved log r (List.mem_of_find?_eq_some hfind)
      rw [hpid] at hap
      simp only [createdTotal, drawnTotal, openRecs, Event.act]
      have hs : sumI (·.amount) ((openRecs log).filter (·.pid != p)) = sumI (·.amount) (openRecs log) - r.amount :=
        Keyed.sum_remove Reimb.pid Reimb.amount (openRecs_nodup log) hfind
      rw [hs]
      have := ih hg.1 hf
      omega

/-- no withdrawal by the module account itself -/
def NoSelf (log : List Event) : Prop := ∀ pid a m x y t, Event.withdrawn pid a m x y t ∈ log → a ≠ m

theorem owedOut_eq_drawn (log : List Event) (h : NoSelf log) : owedOut log = drawnTotal log := by
  induction log with
  | nil => rfl
  | cons ev log ih =>
    have ih' := ih (fun pid a m x y t hm => h pid a m x y t (List.mem_cons_of_mem _ hm))
    cases ev with
    | created p b amt pt => exact ih'
    | withdrawn p a m x y t =>
      have := h p a m x y t List.mem_cons_self
      simp only [owedOut, drawnTotal, this, if_false, ih']

end Shentu.C04H
