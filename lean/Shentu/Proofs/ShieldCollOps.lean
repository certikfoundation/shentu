import Shentu.Proofs.ShieldCollInv
import Shentu.Proofs.ShieldOps
import Shentu.Proofs.ShieldPurchase
import Shentu.Proofs.ShieldExpiry
/-
  The operations on the collateral books other than payouts and releases, over their accepted calls (`X_ok`, `ShieldOps`):
  requests, staking hooks and deposits are composed of four writes (`requested`, `rebonded`, `withFresh`, `deposited`),
  each of which is `Sound`; an operation is their composition (`Sound.trans`).  Reward withdrawal (`Limit.withdrawRewards_ok`,
  `ShieldPurchase`) and expiry (`ShieldExpiry`) write the providers' rewards only and so stay off the collateral books (`Frame`).
-/
namespace Shentu.Shield.Coll
open List

theorem updP_view {l : List Provider} (hn : (l.map (·.addr)).Nodup) {p p' : Provider} (hp : p ∈ l) (ha : p'.addr = p.addr)
    (hv : pview p' = pview p) : (updP p' l).map pview = l.map pview := by
  unfold updP
  rw [List.map_map]
  apply List.map_congr_left
  intro x hx
  simp only [Function.comp]
  split
  · rename_i he
    simp only [beq_iff_eq] at he
    rw [eq_of_key_eq hn hx hp (by rw [he, ha]), hv]
  · rfl

theorem withdrawRewards_frame (e : Env) (l l' : Ledger) (s s' : State) (a : Addr) (hn : (s.providers.map (·.addr)).Nodup)
    (h : withdrawRewards e l s a = .ok (l', s')) : Frame s s' := by
  obtain ⟨p, hf, ⟨_, rfl⟩ | ⟨_, _, rfl⟩⟩ := Limit.withdrawRewards_ok h
  · exact Frame.refl _
  · exact ⟨⟨updP_view hn (findProvider_some hf).1 rfl rfl, rfl, rfl, rfl⟩, rfl⟩

theorem expireLoop_frame (now : Int) (pairs : List (Nat × Addr)) (acc acc' : ExpAcc)
    (h : expireLoop now pairs acc = .ok acc') : Frame acc.s acc'.s := by
  rw [PoolLm.expireLoop_writes _ _ _ _ h]
  exact Frame.mk' rfl rfl rfl rfl rfl

theorem expireAndDistribute_frame (e : Env) (s s' : State) (h : expireAndDistribute e s = .ok s') : Frame s s' := by
  rcases PoolLm.expireAndDistribute_steps h with rfl | ⟨acc, hloop, hdist⟩
  · exact Frame.refl _
  · obtain ⟨_, provs, rem, hprovs, rfl⟩ := PoolLm.distributeFees_ok hdist
    refine (expireLoop_frame _ _ _ _ hloop).trans ⟨⟨?_, rfl, rfl, rfl⟩, rfl⟩
    rcases hprovs with rfl | ⟨fees, rfl⟩
    · rfl
    · exact distributeLoop_map pview (fun _ _ => rfl) _ _ _ _

theorem requested_collOf {e : Env} {s : State} {a : Addr} {amount : Int} {p : Provider}
    (hf : findProvider s a = some p) (b : Addr) : collOf (requested e s a amount p) b = collOf s b := by
  rw [collOf_update hf (p' := { p with withdrawing := p.withdrawing + amount }) (findProvider_some hf).2 rfl]
  split
  · rename_i hb; subst hb; rw [collOf_found hf]
  · rfl

/-- What a step that moves no collateral does to the collateral books, clause by clause.  `sumColl` asks for distinct
    addresses at the start only, so two such steps do not compose without `rest`; `Sound` is the transitive form. -/
structure ReqLike (s s' : State) : Prop where
  rest : CollRest s → CollRest s'
  sumColl : (s.providers.map (·.addr)).Nodup → sumI (·.collateral) s'.providers = sumI (·.collateral) s.providers
  tc : s'.totalCollateral = s.totalCollateral
  collOf : ∀ b, collOf s' b = collOf s b
  params : s'.params = s.params

theorem Frame.reqLike {s s' : State} (h : Frame s s') : ReqLike s s' :=
  ⟨h.same.rest, fun _ => h.same.sumColl, h.same.tc, h.same.collOf, h.params⟩

theorem requested_sound {e : Env} {s : State} {a : Addr} {amount : Int} {p : Provider} (hf : findProvider s a = some p)
    (hpos : 0 < amount) (hle : amount ≤ p.collateral - p.withdrawing) : Sound s (requested e s a amount p) :=
  Sound.of_write (p' := { p with withdrawing := p.withdrawing + amount }) hf (findProvider_some hf).2 rfl
    (.of_perm (l := []) (l' := [_]) (.refl _) (insertWithdraw_perm _ _) (by simp) (by simpa using hpos) (by simp))
    rfl rfl (Int.add_zero _).symm (Int.add_zero _).symm (Int.le_refl 0) (fun _ => by omega)

theorem withdrawCollateral_sound {e : Env} {s s' : State} {a : Addr} {amount : Int} (hpos : 0 ≤ amount)
    (h : withdrawCollateral e s a amount = .ok s') : Sound s s' := by
  obtain ⟨_, rfl⟩ | ⟨h0, p, hf, hle, rfl⟩ := withdrawCollateral_ok h
  · exact .refl _
  · exact requested_sound hf (by omega) hle

theorem withdraw_sound {e : Env} {s s' : State} {a : Addr} {coins : Coins} (h : withdraw e s a coins = .ok s') :
    Sound s s' := by
  obtain ⟨hp, h⟩ := withdraw_ok h
  exact withdrawCollateral_sound (by omega) h

theorem rebonded_sound {s : State} {a : Addr} {p : Provider} (hf : findProvider s a = some p) (staked : Int) :
    Sound s (rebonded s p staked) :=
  Sound.of_write (p' := { p with bonded := staked }) hf (findProvider_some hf).2 rfl (.refl a _)
    (Int.add_zero _).symm (Int.add_zero _).symm (Int.add_zero _).symm (Int.add_zero _).symm (Int.le_refl 0) (fun _ => by omega)

theorem stakingHook_sound {e : Env} {s s' : State} {a : Addr} {staked : Int} (h : stakingHook e s a staked = .ok s') :
    Sound s s' := by
  obtain ⟨_, rfl⟩ | ⟨p, hf, ⟨_, rfl⟩ | ⟨hw, h⟩⟩ := stakingHook_ok h
  · exact .refl _
  · exact rebonded_sound hf staked
  · exact (rebonded_sound hf staked).trans (withdrawCollateral_sound (by omega) h)

theorem stakingChanged_sound {e : Env} {s s' : State} {a : Addr} (h : stakingChanged e s a = .ok s') : Sound s s' := by
  obtain rfl | ⟨_, h⟩ := stakingChanged_ok h
  · exact .refl _
  · exact stakingHook_sound h

theorem withFresh_rest {e : Env} {s : State} {a : Addr} (h : CollRest s) (hf : findProvider s a = none) :
    CollRest (withFresh e s a) := by
  have hperm := insertProvider_perm (freshProvider e a) s.providers
  have hmem : ∀ x, x ∈ (withFresh e s a).providers ↔ x = freshProvider e a ∨ x ∈ s.providers := by
    intro x; show x ∈ insertProvider _ _ ↔ _; rw [hperm.mem_iff, List.mem_cons]
  refine ⟨?_, ?_, ?_, h.wdrPos, ?_, ?_⟩
  · show s.totalWithdrawing = sumI _ (insertProvider _ _)
    rw [sumI_perm _ hperm, sumI_cons, h.wdr]; simp [freshProvider]
  · intro x hx
    rcases (hmem x).mp hx with hx | hx
    · subst hx; show (0 : Int) = qsum s a; rw [h.qsum_none hf]
    · exact h.wdrQ x hx
  · intro w hw
    obtain ⟨x, hx, he⟩ := h.wdrOwner w hw
    exact ⟨x, (hmem x).mpr (Or.inr hx), he⟩
  · intro x hx
    rcases (hmem x).mp hx with hx | hx
    · subst hx; simp [freshProvider]
    · exact h.provNonneg x hx
  · exact withFresh_nodup h.nodup hf

theorem withFresh_sumColl (e : Env) (s : State) (a : Addr) :
    sumI (·.collateral) (withFresh e s a).providers = sumI (·.collateral) s.providers := by
  show sumI _ (insertProvider _ _) = _
  rw [sumI_perm _ (insertProvider_perm _ _), sumI_cons]; simp [freshProvider]

theorem collOf_withFresh {e : Env} {s : State} {a : Addr} (hf : findProvider s a = none) (b : Addr) :
    collOf (withFresh e s a) b = collOf s b := by
  by_cases hb : b = a
  · subst hb
    have h1 : findProvider (withFresh e s b) b = some (freshProvider e b) := find_insertProvider_self (freshProvider e b) _ hf
    unfold collOf
    rw [h1, hf]
    rfl
  · have h1 : findProvider (withFresh e s a) b = findProvider s b := find_insertProvider_ne (freshProvider e a) _ b hb
    unfold collOf
    rw [h1]

theorem withFresh_sound (e : Env) {s : State} {a : Addr} (hf : findProvider s a = none) : Sound s (withFresh e s a) := fun h =>
  ⟨withFresh_rest h hf, by rw [withFresh_sumColl]; rfl, fun b => by rw [collOf_withFresh hf]; exact Int.le_refl _⟩

theorem deposited_sound {s : State} {a : Addr} {p : Provider} {amount : Int} (hf : findProvider s a = some p)
    (hpos : 0 ≤ amount) : Sound s (deposited s p amount) :=
  Sound.of_write (p' := { p with collateral := p.collateral + amount }) hf (findProvider_some hf).2 rfl (.refl a _)
    (Int.add_zero _).symm (Int.add_zero _).symm rfl rfl hpos (fun _ => by omega)

theorem deposit_sound {e : Env} {s s' : State} {a : Addr} {coins : Coins} (h : deposit e s a coins = .ok s') : Sound s s' := by
  obtain ⟨hpos, ⟨p, hf, _, rfl⟩ | ⟨hf, _, rfl⟩⟩ := deposit_ok h
  · exact deposited_sound hf (by omega)
  · exact (withFresh_sound e hf).trans
      (deposited_sound (a := a) (find_insertProvider_self (freshProvider e a) _ hf) (by omega))

end Shentu.Shield.Coll
