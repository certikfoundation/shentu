import Shentu.Proofs.ShieldCollBasic
import Shentu.Proofs.ShieldStores
/-
  The collateral / withdrawal-queue half of the C03 invariant (`CollInv`) and the part of it that survives while a
  payout is being spread over the providers (`CollRest`).  `CollRest` reads a provider only through its address,
  collateral and withdrawing amount (`pview`), so whatever keeps `providers.map pview`, the queue and the two totals
  (`SameColl`) keeps both predicates.  A write to one provider's record goes through `CollRest.write`: the record's
  `withdrawing` moves with `totalWithdrawing` and with the entries of its address in the queue (`QueueWrite`).  `Sound`
  is what the writes other than payouts and releases have in common; it is transitive, so that an operation is the
  composition of its writes.
-/
namespace Shentu.Shield.Coll
open List

/-- the amount `a` has queued for withdrawal -/
def qsum (s : State) (a : Addr) : Int := wsum (fun w => w.addr == a) s.withdraws

/-- The collateral / withdrawal-queue clauses of `BooksInv`, plus: provider addresses are pairwise distinct. -/
structure CollInv (s : State) : Prop where
  coll : s.totalCollateral = sumI (·.collateral) s.providers
  wdr : s.totalWithdrawing = sumI (·.withdrawing) s.providers
  wdrQ : ∀ p ∈ s.providers, p.withdrawing = sumI (·.amount) (s.withdraws.filter (·.addr == p.addr))
  wdrOwner : ∀ w ∈ s.withdraws, ∃ p ∈ s.providers, p.addr = w.addr
  wdrPos : ∀ w ∈ s.withdraws, 0 < w.amount
  provNonneg : ∀ p ∈ s.providers, 0 ≤ p.collateral ∧ 0 ≤ p.withdrawing ∧ p.withdrawing ≤ p.collateral
  nodup : (s.providers.map (·.addr)).Nodup

/-- `CollInv` without the clause about `totalCollateral` (which `CreateReimbursement` only restores at its end).
    `wdrQ` is the clause of `CollInv` by `rfl`: `qsum` unfolds to that filtered sum. -/
structure CollRest (s : State) : Prop where
  wdr : s.totalWithdrawing = sumI (·.withdrawing) s.providers
  wdrQ : ∀ p ∈ s.providers, p.withdrawing = qsum s p.addr
  wdrOwner : ∀ w ∈ s.withdraws, ∃ p ∈ s.providers, p.addr = w.addr
  wdrPos : ∀ w ∈ s.withdraws, 0 < w.amount
  provNonneg : ∀ p ∈ s.providers, 0 ≤ p.collateral ∧ 0 ≤ p.withdrawing ∧ p.withdrawing ≤ p.collateral
  nodup : (s.providers.map (·.addr)).Nodup

theorem collInv_iff (s : State) : CollInv s ↔ (s.totalCollateral = sumI (·.collateral) s.providers ∧ CollRest s) := by
  constructor
  · intro h; exact ⟨h.coll, ⟨h.wdr, h.wdrQ, h.wdrOwner, h.wdrPos, h.provNonneg, h.nodup⟩⟩
  · intro ⟨h1, h⟩; exact ⟨h1, h.wdr, h.wdrQ, h.wdrOwner, h.wdrPos, h.provNonneg, h.nodup⟩

theorem CollInv.rest {s : State} (h : CollInv s) : CollRest s := ((collInv_iff s).mp h).2

/-- what the collateral books read of a provider: not `bonded`, not `rewards` -/
def pview (p : Provider) : Addr × Int × Int := (p.addr, p.collateral, p.withdrawing)

/-- `s'` has the same collateral books as `s`: same providers up to `bonded` and `rewards`, same queue, same totals -/
structure SameColl (s s' : State) : Prop where
  provs : s'.providers.map pview = s.providers.map pview
  queue : s'.withdraws = s.withdraws
  tc : s'.totalCollateral = s.totalCollateral
  tw : s'.totalWithdrawing = s.totalWithdrawing

theorem SameColl.refl (s : State) : SameColl s s := ⟨rfl, rfl, rfl, rfl⟩
theorem SameColl.trans {s1 s2 s3 : State} (h1 : SameColl s1 s2) (h2 : SameColl s2 s3) : SameColl s1 s3 :=
  ⟨h2.provs.trans h1.provs, h2.queue.trans h1.queue, h2.tc.trans h1.tc, h2.tw.trans h1.tw⟩
theorem SameColl.symm {s1 s2 : State} (h : SameColl s1 s2) : SameColl s2 s1 :=
  ⟨h.provs.symm, h.queue.symm, h.tc.symm, h.tw.symm⟩

/-- `CollRest` as a predicate of the providers' views, the queue and `totalWithdrawing` alone -/
def RestV (v : List (Addr × Int × Int)) (q : List Withdraw) (tw : Int) : Prop :=
  tw = sumI (·.2.2) v ∧ (∀ x ∈ v, x.2.2 = wsum (fun w => w.addr == x.1) q) ∧ (∀ w ∈ q, ∃ x ∈ v, x.1 = w.addr) ∧
  (∀ w ∈ q, 0 < w.amount) ∧ (∀ x ∈ v, 0 ≤ x.2.1 ∧ 0 ≤ x.2.2 ∧ x.2.2 ≤ x.2.1) ∧ (v.map (·.1)).Nodup

theorem collRest_iff_view (s : State) : CollRest s ↔ RestV (s.providers.map pview) s.withdraws s.totalWithdrawing := by
  unfold RestV
  constructor
  · intro h
    refine ⟨?_, ?_, ?_, h.wdrPos, ?_, ?_⟩
    · rw [h.wdr, sumI_map]; rfl
    · intro x hx; obtain ⟨p, hp, rfl⟩ := List.mem_map.mp hx; exact h.wdrQ p hp
    · intro w hw; obtain ⟨p, hp, he⟩ := h.wdrOwner w hw; exact ⟨pview p, List.mem_map.mpr ⟨p, hp, rfl⟩, he⟩
    · intro x hx; obtain ⟨p, hp, rfl⟩ := List.mem_map.mp hx; exact h.provNonneg p hp
    · rw [List.map_map]; exact h.nodup
  · intro ⟨h1, h2, h3, h4, h5, h6⟩
    refine ⟨?_, ?_, ?_, h4, ?_, ?_⟩
    · rw [h1, sumI_map]; rfl
    · intro p hp; exact h2 (pview p) (List.mem_map.mpr ⟨p, hp, rfl⟩)
    · intro w hw; obtain ⟨x, hx, he⟩ := h3 w hw; obtain ⟨p, hp, rfl⟩ := List.mem_map.mp hx; exact ⟨p, hp, he⟩
    · intro p hp; exact h5 (pview p) (List.mem_map.mpr ⟨p, hp, rfl⟩)
    · rw [List.map_map] at h6; exact h6

theorem sumColl_view (s : State) : sumI (·.collateral) s.providers = sumI (·.2.1) (s.providers.map pview) := by
  rw [sumI_map]; rfl

theorem SameColl.rest {s s' : State} (h : SameColl s s') (hr : CollRest s) : CollRest s' := by
  rw [collRest_iff_view] at hr ⊢
  rw [h.provs, h.queue, h.tw]; exact hr

theorem SameColl.sumColl {s s' : State} (h : SameColl s s') :
    sumI (·.collateral) s'.providers = sumI (·.collateral) s.providers := by
  rw [sumColl_view, sumColl_view, h.provs]

theorem SameColl.inv {s s' : State} (h : SameColl s s') (hi : CollInv s) : CollInv s' := by
  rw [collInv_iff] at hi ⊢
  exact ⟨by rw [h.tc, h.sumColl]; exact hi.1, h.rest hi.2⟩

/-- the collateral recorded for `a` (0 when `a` is not a provider) -/
def collOf (s : State) (a : Addr) : Int := match findProvider s a with | some p => p.collateral | none => 0
/-- the amount recorded as being withdrawn for `a` (0 when `a` is not a provider) -/
def wdgOf (s : State) (a : Addr) : Int := match findProvider s a with | some p => p.withdrawing | none => 0

theorem collOf_of_providers {s s' : State} (h : s'.providers = s.providers) (a : Addr) : collOf s' a = collOf s a := by
  unfold collOf findProvider; rw [h]

theorem collOf_update {s s' : State} {a : Addr} {p p' : Provider} (hf : findProvider s a = some p) (ha : p'.addr = a)
    (hprov : s'.providers = updP p' s.providers) (b : Addr) :
    collOf s' b = if b = a then p'.collateral else collOf s b := by
  unfold collOf findProvider
  rw [hprov, find_updP, ha]
  by_cases hb : b = a
  · subst hb
    unfold findProvider at hf
    simp [hf]
  · simp [hb]

theorem wdgOf_update {s s' : State} {a : Addr} {p p' : Provider} (hf : findProvider s a = some p) (ha : p'.addr = a)
    (hprov : s'.providers = updP p' s.providers) (b : Addr) :
    wdgOf s' b = if b = a then p'.withdrawing else wdgOf s b := by
  unfold wdgOf findProvider
  rw [hprov, find_updP, ha]
  by_cases hb : b = a
  · subst hb
    unfold findProvider at hf
    simp [hf]
  · simp [hb]

theorem collOf_found {s : State} {a : Addr} {p : Provider} (hf : findProvider s a = some p) : collOf s a = p.collateral := by
  unfold collOf; rw [hf]

theorem wdgOf_found {s : State} {a : Addr} {p : Provider} (hf : findProvider s a = some p) : wdgOf s a = p.withdrawing := by
  unfold wdgOf; rw [hf]

theorem find_view (l : List Provider) (a : Addr) :
    (l.find? (·.addr == a)).map pview = (l.map pview).find? (·.1 == a) := by
  rw [List.find?_map]; rfl

theorem collOf_view (s : State) (a : Addr) :
    collOf s a = match (s.providers.map pview).find? (·.1 == a) with | some x => x.2.1 | none => 0 := by
  rw [← find_view]; unfold collOf findProvider
  cases s.providers.find? (·.addr == a) <;> rfl

theorem wdgOf_view (s : State) (a : Addr) :
    wdgOf s a = match (s.providers.map pview).find? (·.1 == a) with | some x => x.2.2 | none => 0 := by
  rw [← find_view]; unfold wdgOf findProvider
  cases s.providers.find? (·.addr == a) <;> rfl

theorem SameColl.collOf {s s' : State} (h : SameColl s s') (a : Addr) : collOf s' a = collOf s a := by
  rw [collOf_view, collOf_view, h.provs]

theorem SameColl.wdgOf {s s' : State} (h : SameColl s s') (a : Addr) : wdgOf s' a = wdgOf s a := by
  rw [wdgOf_view, wdgOf_view, h.provs]

theorem CollRest.perm {s : State} (h : CollRest s) {q : List Withdraw} (hp : s.withdraws ~ q) :
    CollRest { s with withdraws := q } := by
  refine ⟨h.wdr, ?_, ?_, ?_, h.provNonneg, h.nodup⟩
  · intro p hp'; rw [h.wdrQ p hp']; exact wsum_perm _ hp
  · intro w hw; exact h.wdrOwner w (hp.mem_iff.mpr hw)
  · intro w hw; exact h.wdrPos w (hp.mem_iff.mpr hw)

theorem CollInv.perm {s : State} (h : CollInv s) {q : List Withdraw} (hp : s.withdraws ~ q) :
    CollInv { s with withdraws := q } := by
  rw [collInv_iff] at h ⊢
  exact ⟨h.1, h.2.perm hp⟩

theorem CollRest.owner_addr {s : State} (h : CollRest s) {w : Withdraw} (hw : w ∈ s.withdraws) :
    ∃ p, findProvider s w.addr = some p := by
  obtain ⟨p, hp, he⟩ := h.wdrOwner w hw
  exact ⟨p, by rw [← he]; exact findProvider_of_mem h.nodup hp⟩

theorem CollRest.wdg_eq {s : State} (h : CollRest s) {a : Addr} {p : Provider} (hf : findProvider s a = some p) :
    p.withdrawing = qsum s a := by
  have := findProvider_some hf
  rw [h.wdrQ p this.1, this.2]

theorem CollRest.qsum_none {s : State} (h : CollRest s) {a : Addr} (hf : findProvider s a = none) : qsum s a = 0 := by
  apply wsum_filter_false
  intro w hw
  obtain ⟨p, hp, he⟩ := h.wdrOwner w hw
  have := findProvider_none hf p hp
  simp only [beq_eq_false_iff_ne, ne_eq]
  rw [← he]; exact this

/-- The queue edit that goes with a write to the record of `a`: the entries of `a` have moved by `d` in total, every other
    address has queued what it had, an entry of a new address is one of `a`, and amounts stay positive. -/
structure QueueWrite (a : Addr) (d : Int) (q q' : List Withdraw) : Prop where
  mine : wsum (fun w => w.addr == a) q' = wsum (fun w => w.addr == a) q + d
  others : ∀ b, b ≠ a → wsum (fun w => w.addr == b) q' = wsum (fun w => w.addr == b) q
  owner : ∀ w ∈ q', w.addr = a ∨ ∃ x ∈ q, x.addr = w.addr
  pos : (∀ w ∈ q, 0 < w.amount) → ∀ w ∈ q', 0 < w.amount

theorem QueueWrite.refl (a : Addr) (q : List Withdraw) : QueueWrite a 0 q q :=
  ⟨by omega, fun _ _ => rfl, fun w hw => .inr ⟨w, hw, rfl⟩, fun h => h⟩

theorem QueueWrite.of_perm {a : Addr} {d : Int} {q q' l l' rest : List Withdraw} (hq : q ~ l ++ rest) (hq' : q' ~ l' ++ rest)
    (hl : ∀ w ∈ l, w.addr = a) (hl' : ∀ w ∈ l', w.addr = a ∧ 0 < w.amount)
    (hd : sumI (·.amount) l' = sumI (·.amount) l + d) : QueueWrite a d q q' := by
  have hall : ∀ {l : List Withdraw}, (∀ w ∈ l, w.addr = a) → wsum (fun w => w.addr == a) l = sumI (·.amount) l := by
    intro l h; unfold wsum; rw [List.filter_eq_self.mpr (fun w hw => by simp [h w hw])]
  have hnone : ∀ {l : List Withdraw} {b : Addr}, b ≠ a → (∀ w ∈ l, w.addr = a) → wsum (fun w => w.addr == b) l = 0 :=
    fun hb h => wsum_filter_false _ _ (fun w hw => by rw [h w hw]; simpa using fun e => hb e.symm)
  have hl'a : ∀ w ∈ l', w.addr = a := fun w hw => (hl' w hw).1
  refine ⟨by rw [wsum_edit _ hq hq', hall hl, hall hl'a]; omega,
    fun b hb => by rw [wsum_edit _ hq hq', hnone hb hl, hnone hb hl'a]; omega, ?_, ?_⟩
  · intro w hw; exact (mem_edit hq hq' hw).imp (hl'a w) (fun h => ⟨w, h, rfl⟩)
  · intro hp w hw; exact (mem_edit hq hq' hw).elim (fun h => (hl' w h).2) (hp w)

/-- That `p'.withdrawing` is not negative need not be asked: it is the sum of queued amounts again. -/
theorem CollRest.write {s s' : State} (h : CollRest s) {a : Addr} {p p' : Provider} {d : Int} (hf : findProvider s a = some p)
    (ha : p'.addr = a) (hprov : s'.providers = updP p' s.providers) (hq : QueueWrite a d s.withdraws s'.withdraws)
    (hw : p'.withdrawing = p.withdrawing + d) (htw : s'.totalWithdrawing = s.totalWithdrawing + d)
    (hle : p'.withdrawing ≤ p'.collateral) : CollRest s' := by
  obtain ⟨hpm, hpa⟩ := findProvider_some hf
  have haddr : p'.addr = p.addr := by rw [ha, hpa]
  have haddrs : s'.providers.map (·.addr) = s.providers.map (·.addr) := by rw [hprov, updP_addrs]
  have hpos := hq.pos h.wdrPos
  have hmine : p'.withdrawing = qsum s' a := by rw [hw, h.wdg_eq hf]; exact hq.mine.symm
  refine ⟨?_, ?_, ?_, hpos, ?_, ?_⟩
  · rw [htw, hprov, sumI_updP _ p' p _ h.nodup hpm haddr, h.wdr]; omega
  · intro x hx
    rw [hprov] at hx
    rcases mem_updP hx with hx | ⟨hx, hne⟩
    · subst hx; rw [ha]; exact hmine
    · rw [h.wdrQ x hx]; exact (hq.others x.addr (by rw [← ha]; exact hne)).symm
  · intro w hw
    have : w.addr ∈ s'.providers.map (·.addr) := by
      rw [haddrs]
      rcases hq.owner w hw with h1 | ⟨x, hx, h1⟩
      · rw [h1, ← hpa]; exact List.mem_map.mpr ⟨p, hpm, rfl⟩
      · obtain ⟨y, hy, he⟩ := h.wdrOwner x hx; exact List.mem_map.mpr ⟨y, hy, he.trans h1⟩
    obtain ⟨x, hx, he⟩ := List.mem_map.mp this
    exact ⟨x, hx, he⟩
  · intro x hx
    rw [hprov] at hx
    rcases mem_updP hx with hx | ⟨hx, _⟩
    · subst hx
      have : 0 ≤ qsum s' a := wsum_nonneg _ _ hpos
      omega
    · exact h.provNonneg x hx
  · rw [haddrs]; exact h.nodup

theorem CollRest.update {s : State} (h : CollRest s) {a : Addr} {p p' : Provider} (hf : findProvider s a = some p)
    (ha : p'.addr = a) (s' : State)
    (hprov : s'.providers = updP p' s.providers)
    (htw : s'.totalWithdrawing = s.totalWithdrawing - p.withdrawing + p'.withdrawing)
    (hq : p'.withdrawing = qsum s' a)
    (hother : ∀ b, b ≠ a → qsum s' b = qsum s b)
    (hown : ∀ w ∈ s'.withdraws, w ∈ s.withdraws ∨ w.addr = a)
    (hpos : ∀ w ∈ s'.withdraws, 0 < w.amount)
    (hnn : 0 ≤ p'.collateral ∧ 0 ≤ p'.withdrawing ∧ p'.withdrawing ≤ p'.collateral) : CollRest s' :=
  h.write (d := p'.withdrawing - p.withdrawing) hf ha hprov
    ⟨by have := h.wdg_eq hf; unfold qsum at hq this; omega, hother,
      fun w hw => (hown w hw).elim (fun h1 => .inr ⟨w, h1, rfl⟩) .inl, fun _ => hpos⟩
    (by omega) (by omega) hnn.2.2

theorem sumColl_update {s : State} (hn : (s.providers.map (·.addr)).Nodup) {a : Addr} {p p' : Provider}
    (hf : findProvider s a = some p) (ha : p'.addr = a) :
    sumI (·.collateral) (updP p' s.providers) = sumI (·.collateral) s.providers - p.collateral + p'.collateral := by
  obtain ⟨hpm, hpa⟩ := findProvider_some hf
  exact sumI_updP _ p' p _ hn hpm (by rw [ha, hpa])

@[simp] theorem setPool_providers (s : State) (p : Pool) : (setPool s p).providers = s.providers := rfl
@[simp] theorem setPool_withdraws (s : State) (p : Pool) : (setPool s p).withdraws = s.withdraws := rfl
@[simp] theorem setPool_tc (s : State) (p : Pool) : (setPool s p).totalCollateral = s.totalCollateral := rfl
@[simp] theorem setPool_tw (s : State) (p : Pool) : (setPool s p).totalWithdrawing = s.totalWithdrawing := rfl
@[simp] theorem setPool_params (s : State) (p : Pool) : (setPool s p).params = s.params := rfl


@[simp] theorem deleteList_providers (s : State) (n : Nat) (a : Addr) : (deleteList s n a).providers = s.providers := rfl
@[simp] theorem deleteList_withdraws (s : State) (n : Nat) (a : Addr) : (deleteList s n a).withdraws = s.withdraws := rfl
@[simp] theorem deleteList_tc (s : State) (n : Nat) (a : Addr) : (deleteList s n a).totalCollateral = s.totalCollateral := rfl
@[simp] theorem deleteList_tw (s : State) (n : Nat) (a : Addr) : (deleteList s n a).totalWithdrawing = s.totalWithdrawing := rfl
@[simp] theorem deleteList_params (s : State) (n : Nat) (a : Addr) : (deleteList s n a).params = s.params := rfl


@[simp] theorem setProvider_withdraws (s : State) (p : Provider) : (setProvider s p).withdraws = s.withdraws := rfl
@[simp] theorem setProvider_tc (s : State) (p : Provider) : (setProvider s p).totalCollateral = s.totalCollateral := rfl
@[simp] theorem setProvider_tw (s : State) (p : Provider) : (setProvider s p).totalWithdrawing = s.totalWithdrawing := rfl
@[simp] theorem setProvider_params (s : State) (p : Provider) : (setProvider s p).params = s.params := rfl

/-- what an operation that stays off the collateral books leaves alone: the books as `CollInv` reads them, and the parameters -/
structure Frame (s s' : State) : Prop where
  same : SameColl s s'
  params : s'.params = s.params

theorem Frame.refl (s : State) : Frame s s := ⟨SameColl.refl s, rfl⟩
theorem Frame.trans {s1 s2 s3 : State} (h1 : Frame s1 s2) (h2 : Frame s2 s3) : Frame s1 s3 :=
  ⟨h1.same.trans h2.same, h2.params.trans h1.params⟩

theorem Frame.mk' {s s' : State} (h1 : s'.providers = s.providers) (h2 : s'.withdraws = s.withdraws)
    (h3 : s'.totalCollateral = s.totalCollateral) (h4 : s'.totalWithdrawing = s.totalWithdrawing)
    (h5 : s'.params = s.params) : Frame s s' := ⟨⟨by rw [h1], h2, h3, h4⟩, h5⟩

theorem CollInv.congr {s s' : State} (hi : CollInv s) (h1 : s'.providers = s.providers) (h2 : s'.withdraws = s.withdraws)
    (h3 : s'.totalCollateral = s.totalCollateral) (h4 : s'.totalWithdrawing = s.totalWithdrawing) : CollInv s' :=
  SameColl.inv ⟨by rw [h1], h2, h3, h4⟩ hi

/-- What every write to the collateral book guarantees that is neither a payout nor a release.  An implication, so that
    it holds of every accepted call, whatever the state it starts from, and composes (`Sound.trans`); what the step leaves
    alone besides (`params`, a total) is read off `X_writes`. -/
def Sound (s s' : State) : Prop :=
  CollRest s → CollRest s' ∧
    s'.totalCollateral - sumI (·.collateral) s'.providers = s.totalCollateral - sumI (·.collateral) s.providers ∧
    ∀ b, collOf s b ≤ collOf s' b

theorem Sound.refl (s : State) : Sound s s := fun h => ⟨h, rfl, fun _ => Int.le_refl _⟩

theorem Sound.trans {a b c : State} (h1 : Sound a b) (h2 : Sound b c) : Sound a c := fun h =>
  have ⟨hb, g1, k1⟩ := h1 h
  have ⟨hc, g2, k2⟩ := h2 hb
  ⟨hc, g2.trans g1, fun x => Int.le_trans (k1 x) (k2 x)⟩

theorem Sound.inv {s s' : State} (h : Sound s s') (hi : CollInv s) : CollInv s' := by
  rw [collInv_iff] at hi ⊢
  obtain ⟨hr, hg, _⟩ := h hi.2
  exact ⟨by have := hi.1; omega, hr⟩

theorem Sound.of_write {s s' : State} {a : Addr} {p p' : Provider} {d c : Int} (hf : findProvider s a = some p) (ha : p'.addr = a)
    (hprov : s'.providers = updP p' s.providers) (hq : QueueWrite a d s.withdraws s'.withdraws)
    (hw : p'.withdrawing = p.withdrawing + d) (htw : s'.totalWithdrawing = s.totalWithdrawing + d)
    (hcoll : p'.collateral = p.collateral + c) (htc : s'.totalCollateral = s.totalCollateral + c) (hc : 0 ≤ c)
    (hle : p.withdrawing ≤ p.collateral → d ≤ p.collateral - p.withdrawing + c) : Sound s s' := fun h =>
  ⟨h.write hf ha hprov hq hw htw (by have := hle (h.provNonneg p (findProvider_some hf).1).2.2; omega),
    by rw [htc, hprov, sumColl_update h.nodup hf ha]; omega,
    fun b => by
      rw [collOf_update hf ha hprov]
      by_cases hb : b = a
      · rw [if_pos hb, hb, collOf_found hf]; omega
      · rw [if_neg hb]; exact Int.le_refl _⟩

/-- split the next branch of a successful computation, discarding the failing side -/
macro "coll_split_ok " h:ident : tactic => `(tactic| (split at $h:ident <;> (first | (cases $h:ident; done) | skip)))

end Shentu.Shield.Coll
