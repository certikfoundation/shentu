import Shentu.Proofs.C09qDelay
import Shentu.Proofs.C09qPay
import Shentu.Proofs.C09qBlock
/-
  Helper definitions and lemmas for `Shentu/Props/C09q2.lean`: a ghost log of the three flows of the unbonding queue
  (entries created by undelegations, amounts taken by payouts, entries paid back by end-blocks), the number of stored
  entries, and what every single operation does to the total balance and to the number of entries.
-/
namespace Shentu.C09q2H
open Shentu.UbdQueue Shentu.UbdQueue.Store Shentu.UbdQueue.Spec

def numEntries (us : List Ubd) : Nat := (us.map (fun u => u.entries.length)).sum

theorem wsum_one (es : List Entry) : wsum (fun _ => 1) es = es.length := by
  induction es with
  | nil => rfl
  | cons e es ih => rw [wsum_cons, ih, List.length_cons]; omega

theorem num_eq (us : List Ubd) : (numEntries us : Int) = sumE us (fun _ _ _ => 1) := by
  induction us with
  | nil => rfl
  | cons x xs ih => unfold sumE at ih ⊢; rw [sumU_cons, ← ih, wsum_one]; simp [numEntries]

theorem num_edit {us us' : List Ubd} {d v : String} {os ns : List Entry} (h : Edit us us' d v os ns)
    (hk : us.Pairwise (fun x y => ¬ (x.del = y.del ∧ x.val = y.val))) :
    numEntries us' + os.length = numEntries us + ns.length := by
  have := h.sum hk (fun _ _ _ => 1)
  rw [← num_eq, ← num_eq, wsum_one, wsum_one] at this
  omega

theorem undelegate_sums (s : State) (d v : String) (t bal : Int) (h : WF s) :
    total (undelegate s d v t bal).ubds = total s.ubds + bal ∧
      numEntries (undelegate s d v t bal).ubds = numEntries s.ubds + 1 := by
  have ed := (undelegate_step s d v t bal h).edit
  exact ⟨by simpa [total_eq_sumE, wsum] using ed.sum h.keys (fun _ _ e => e.bal), by simpa using num_edit ed h.keys⟩

theorem psum_one (l : List Paid) : Block.psum (fun _ _ _ => 1) l = l.length := by
  induction l with
  | nil => rfl
  | cons x xs ih => simp only [Block.psum, List.map_cons, List.sum_cons, List.length_cons] at ih ⊢; omega

theorem endBlock_sums (s : State) (now : Int) (h : WF s) :
    total (endBlock s now).1.ubds + paidSum (endBlock s now).2 = total s.ubds ∧
      numEntries (endBlock s now).1.ubds + (endBlock s now).2.length = numEntries s.ubds := by
  have h1 := Block.completeAll_sum (fun _ _ e => e.bal) now (dequeueAllMature s.queue now).1 s.ubds [] h.keys
  have h2 := Block.completeAll_sum (fun _ _ _ => 1) now (dequeueAllMature s.queue now).1 s.ubds [] h.keys
  rw [← num_eq, ← num_eq, psum_one, psum_one, List.length_nil] at h2
  refine ⟨h1.trans (Int.add_zero _), ?_⟩
  show numEntries (completeAll now (dequeueAllMature s.queue now).1 s.ubds []).1
    + (completeAll now (dequeueAllMature s.queue now).1 s.ubds []).2.length = _
  omega

theorem delay_sums (s s' : State) (p : String) (a D : Int) (h : Inv s) (ok : delayUnbonding s p a D = .ok s') :
    Inv s' ∧ total s'.ubds = total s.ubds ∧ numEntries s'.ubds = numEntries s.ubds := by
  refine Delay.delay_rel (fun s s' => total s'.ubds = total s.ubds ∧ numEntries s'.ubds = numEntries s.ubds)
    (fun _ => ⟨rfl, rfl⟩) (fun a b c h1 h2 => ⟨h2.1.trans h1.1, h2.2.trans h1.2⟩) ?_ h ok
  intro s c hi hq _
  obtain ⟨e, _, _, _, ed⟩ := moveOne_edit D hq
  exact ⟨by simpa [total_eq_sumE, wsum] using ed.sum hi.keys (fun _ _ e => e.bal), by simpa using num_edit ed hi.keys⟩

theorem payOne_sums (s s' : State) (d v : String) (e0 : Entry) (x : Int) (h : WF s) (hm : e0 ∈ getEntries s.ubds d v)
    (ok : payFromUnbondings s d v e0 x = .ok s') :
    total s'.ubds = total s.ubds - x ∧ numEntries s'.ubds ≤ numEntries s.ubds := by
  have ed := (Pay.payOne_edit hm ok).1
  have h1 := ed.sum h.keys (fun _ _ e => e.bal)
  have h2 := num_edit ed h.keys
  rw [← total_eq_sumE, ← total_eq_sumE] at h1
  by_cases hx : e0.bal = x <;> simp [Pay.shrunk, wsum, hx] at h1 h2 <;> omega

theorem reach_sums {d : String} {nn : Prop} {s s' : State} {r : Int} (hr : Pay.Reach d nn s r s') (h : WF s) :
    total s'.ubds = total s.ubds - r ∧ numEntries s'.ubds ≤ numEntries s.ubds := by
  induction hr with
  | refl s => simp
  | step s s1 s' v e t r rem hr hm ht hle ok rest ih =>
    obtain ⟨h1, h2⟩ := payOne_sums _ _ _ _ _ _ h hm ok
    obtain ⟨h3, h4⟩ := ih (Pay.payOne_wf _ _ _ _ _ _ h hm ok)
    exact ⟨by omega, by omega⟩

theorem pay_sums (s s' : State) (d : String) (u x : Int) (h : WF s) (ok : payFromAllUnbondings s d u x = .ok s') :
    total s'.ubds = total s.ubds - x ∧ numEntries s'.ubds ≤ numEntries s.ubds :=
  reach_sums (Pay.pay_reach s s' d u x h ok) h

/-- The three flows of a history, kept beside the state and never read by it. -/
structure Ghost where
  /-- every entry an undelegation created: delegator, validator, completion time and balance as created -/
  made : List Paid := []
  /-- every successful payout: the delegator and the amount taken from its unbonding entries -/
  outs : List (String × Int) := []
  /-- every entry an end-block paid back, with the balance it then had -/
  back : List Paid := []
  /-- how many entries the payouts used up altogether -/
  consumed : Nat := 0
  deriving DecidableEq, Repr

/-- the sum of the amounts of the successful payouts -/
def outSum (l : List (String × Int)) : Int := (l.map (·.2)).sum

theorem outSum_append_one (l : List (String × Int)) (d : String) (x : Int) : outSum (l ++ [(d, x)]) = outSum l + x := by
  simp [outSum]

theorem paidSum_append (a b : List Paid) : paidSum (a ++ b) = paidSum a + paidSum b := by
  simp [paidSum]

theorem paidSum_one (d v : String) (e : Entry) : paidSum [(d, v, e)] = e.bal := by
  simp [paidSum]

/-- one operation on the state, and its entry in the ghost log; a panicking call changes neither -/
def gstep (sg : State × Ghost) : Op → State × Ghost
  | .undelegate d v t bal => (undelegate sg.1 d v t bal, { sg.2 with made := sg.2.made ++ [(d, v, ⟨t, bal⟩)] })
  | .delay p a dl => (step sg.1 (.delay p a dl), sg.2)
  | .pay d u x =>
    match payFromAllUnbondings sg.1 d u x with
    | .ok s' => (s', { sg.2 with outs := sg.2.outs ++ [(d, x)],
                                 consumed := sg.2.consumed + (numEntries sg.1.ubds - numEntries s'.ubds) })
    | .error _ => sg
  | .endBlock now => ((endBlock sg.1 now).1, { sg.2 with back := sg.2.back ++ (endBlock sg.1 now).2 })

def grun (sg : State × Ghost) (ops : List Op) : State × Ghost := ops.foldl gstep sg

theorem gstep_state (sg : State × Ghost) (op : Op) : (gstep sg op).1 = step sg.1 op := by
  cases op with
  | undelegate d v t bal => rfl
  | delay p a dl => rfl
  | pay d u x =>
    simp only [gstep, step]
    cases payFromAllUnbondings sg.1 d u x <;> rfl
  | endBlock now => rfl

/-- the book-keeping invariant of a state with its ghost log -/
structure Ledger (sg : State × Ghost) : Prop where
  inv : Inv sg.1
  coins : total sg.1.ubds = paidSum sg.2.made - outSum sg.2.outs - paidSum sg.2.back
  entries : numEntries sg.1.ubds + sg.2.back.length + sg.2.consumed = sg.2.made.length

theorem ledger_undelegate {s : State} {g : Ghost} (h : Ledger (s, g)) (d v : String) (t bal : Int) :
    Ledger (undelegate s d v t bal, { g with made := g.made ++ [(d, v, ⟨t, bal⟩)] }) := by
  obtain ⟨hi, hc, he⟩ := h
  dsimp only at hi hc he
  obtain ⟨h1, h2⟩ := undelegate_sums s d v t bal hi.toWF
  refine ⟨undelegate_inv _ d v t bal hi, ?_, ?_⟩
  · dsimp only
    rw [h1, paidSum_append, paidSum_one, hc]
    dsimp only; omega
  · dsimp only
    rw [h2, List.length_append]
    simp only [List.length_cons, List.length_nil]; omega

theorem ledger_delay {s s' : State} {g : Ghost} (h : Ledger (s, g)) {p : String} {a dl : Int}
    (ok : delayUnbonding s p a dl = .ok s') : Ledger (s', g) := by
  obtain ⟨hi, hc, he⟩ := h
  dsimp only at hi hc he
  obtain ⟨hi', h1, h2⟩ := delay_sums _ _ _ _ _ hi ok
  exact ⟨hi', by dsimp only; omega, by dsimp only; omega⟩

theorem ledger_pay {s s' : State} {g : Ghost} (h : Ledger (s, g)) {d : String} {u x : Int}
    (ok : payFromAllUnbondings s d u x = .ok s') :
    Ledger (s', { g with outs := g.outs ++ [(d, x)], consumed := g.consumed + (numEntries s.ubds - numEntries s'.ubds) }) := by
  obtain ⟨hi, hc, he⟩ := h
  dsimp only at hi hc he
  obtain ⟨h1, h2⟩ := pay_sums _ _ _ _ _ hi.toWF ok
  refine ⟨Pay.reach_inv (Pay.pay_reach _ _ _ _ _ hi.toWF ok) hi, ?_, by dsimp only; omega⟩
  show total s'.ubds = paidSum g.made - outSum (g.outs ++ [(d, x)]) - paidSum g.back
  rw [outSum_append_one]; omega

theorem ledger_endBlock {s : State} {g : Ghost} (h : Ledger (s, g)) (now : Int) :
    Ledger ((endBlock s now).1, { g with back := g.back ++ (endBlock s now).2 }) := by
  obtain ⟨hi, hc, he⟩ := h
  dsimp only at hi hc he
  obtain ⟨h1, h2⟩ := endBlock_sums _ now hi.toWF
  refine ⟨Block.endBlock_inv _ now hi, ?_, ?_⟩
  · show total (endBlock s now).1.ubds = paidSum g.made - outSum g.outs - paidSum (g.back ++ (endBlock s now).2)
    rw [paidSum_append]; omega
  · show numEntries (endBlock s now).1.ubds + (g.back ++ (endBlock s now).2).length + g.consumed = g.made.length
    rw [List.length_append]; omega

theorem ledger_step (sg : State × Ghost) (op : Op) (h : Ledger sg) : Ledger (gstep sg op) := by
  obtain ⟨s, g⟩ := sg
  cases op with
  | undelegate d v t bal => exact ledger_undelegate h d v t bal
  | delay p a dl =>
    unfold gstep step
    dsimp only
    cases hd : delayUnbonding s p a dl with
    | error e => exact h
    | ok s' => exact ledger_delay h hd
  | pay d u x =>
    unfold gstep
    dsimp only
    cases hd : payFromAllUnbondings s d u x with
    | error e => exact h
    | ok s' => exact ledger_pay h hd
  | endBlock now => exact ledger_endBlock h now

end Shentu.C09q2H
