import Shentu.Proofs.HaltOracle
import Shentu.Proofs.OracleStep
/-
  C08, oracle part: every oracle operation preserves the invariant `EndInv` under which the end-blocker is total.
-/
namespace Shentu.Halt.Orc
open Shentu Shentu.Oracle

theorem EndInv.opMsg {bond : Denom} {e : Env} {l l' : Ledger} {s s' : State} {a : Addr} {x : OpEff} (hi : EndInv bond s)
    (h : OpMsg e l l' s s' a x) : EndInv bond s' := by
  obtain ⟨ht, _, hp⟩ := h.frame
  refine ⟨by rw [hp]; exact hi.eps1, by rw [hp]; exact hi.eps2, fun a' o ho => ?_, by unfold TasksOk; rw [ht]; exact hi.tasks⟩
  rw [h.findOp] at ho
  split at ho
  · exact h.nonneg o bond ho (hi.coll a)
  · exact hi.coll a' o ho

theorem EndInv.taskMsg {bond : Denom} {s s' : State} {k : String} {new : Option Task} (hi : EndInv bond s)
    (h : TaskMsg s s' k new)
    (hv : ∀ n, new = some n → Coins.isAnyNegative n.bounty = false ∧ ∀ r ∈ n.responses, 0 ≤ r.score ∧ r.score ≤ 100) :
    EndInv bond s' :=
  hi.frame h.frame.2.2.2 h.sameColl fun t ht => (h.mem ht).elim (hv t) (hi.tasks t)

theorem stepE_endInv (e : Env) (l l' : Ledger) (s s' : State) (op : Op) (h : stepE e l s op = .ok (l', s'))
    (hi : EndInv e.bond s) : EndInv e.bond s' := by
  cases stepE_accepted h with
  | operator _ hm => exact hi.opMsg hm
  | task hev =>
    refine hi.taskMsg hev.msg fun n hn => ?_
    cases hev with
    | respond _ _ _ ht _ _ h0 h100 _ =>
      cases hn
      have htk := hi.tasks _ (findTask_mem ht).1
      refine ⟨htk.1, fun r hr => ?_⟩
      rcases List.mem_append.mp hr with h1 | h1
      · exact htk.2 r h1
      · rw [List.mem_singleton.mp h1]; exact ⟨h0, h100⟩
    | delete => cases hn
    | create _ hsend _ _ _ => cases hn; exact ⟨Ledger.send_not_anyNegative hsend, fun r hr => by cases hr⟩
  | beginBlock _ hs => rw [hs]; exact ⟨hi.eps1, hi.eps2, hi.coll, hi.tasks⟩
  | endBlock _ hf hs => exact Except.of_total (endBlock_total e s hi) (by unfold endBlock; rw [hf, hs])

theorem step_endInv (e : Env) (ls : Ledger × State) (op : Op) (hi : EndInv e.bond ls.2) : EndInv e.bond (step e ls op).2 :=
  step_ind (P := fun r => EndInv e.bond r.2) hi fun l' s' h => stepE_endInv e ls.1 l' ls.2 s' op h hi

theorem run_endInv {bond : Denom} (ops : List (Env × Op)) {ls : Ledger × State} (hi : EndInv bond ls.2)
    (hb : ∀ eo ∈ ops, eo.1.bond = bond) : EndInv bond (ops.foldl (fun ls eo => step eo.1 ls eo.2) ls).2 :=
  List.foldlRecOn (motive := fun ls => EndInv bond ls.2) ops _ hi
    fun ls h eo ho => hb eo ho ▸ step_endInv eo.1 ls eo.2 (by rw [hb eo ho]; exact h)

end Shentu.Halt.Orc
