import Shentu.Model.Shield
import Shentu.Proofs.DecRound
import Shentu.Proofs.Guards
import Shentu.Proofs.Runs
import Shentu.Proofs.Tactics
/-
  The loops of the shield model, each opened once: what one round does (a relation on the loop's running state) and that
  a successful run is a chain of such rounds.  Facts about a loop are then facts about one round, carried across by
  `Star.lift` / `Star.keep`.  Where a fact needs the part of the input still to be walked, the chain runs over it too.
  The walk through a provider's queued withdrawals, which has to be shown to return as well, is opened in its rule
  `payoutWithdrawLoop_ind`; the chain is read off that.
  The expiry loop is a fold of its round (`expireLoop_eq_foldlM`) and is read by the `foldlM` rules; its round and the
  pass over the entries of one purchase list are stated once, over named pieces.  That pass and the fee distribution
  build their result on the way back and are no chains: their rules are `expireEntries_ind` and `distributeLoop_ind`.
-/
namespace Shentu.Shield
open Shentu

/-- one round of `secureLoop`: some provider secures some amount -/
def SecureRound (e : Env) (dur : Int) (s s' : State) : Prop := ∃ p amt, secureFromProvider e s p amt dur = .ok s'

theorem secureLoop_star {e : Env} {ratio : Dec} {dur : Int} :
    ∀ {ps : List Provider} {rem : Int} {s s' : State}, secureLoop e ratio dur ps rem s = .ok s' →
      Star (SecureRound e dur) s s' := by
  intro ps
  induction ps with
  | nil => intro rem s s' h; cases h; exact .refl _
  | cons p ps ih =>
    intro rem s s' h
    unfold secureLoop at h
    dsimp only at h
    split at h
    · cases h
    · rename_i s1 hs1; exact .head ⟨p, _, hs1⟩ (ih h)

/-- the store after the matured withdrawal `w` has been released to its provider `p` -/
def released (s : State) (p : Provider) (w : Withdraw) : State :=
  { setProvider s { p with collateral := p.collateral - w.amount, withdrawing := p.withdrawing - w.amount } with
    totalCollateral := s.totalCollateral - w.amount, totalWithdrawing := s.totalWithdrawing - w.amount }

/-- one round of `completeLoop`, on (entries still to be released, store) -/
inductive Release : List Withdraw × State → List Withdraw × State → Prop
  | mk (w : Withdraw) (ws : List Withdraw) (s : State) (p : Provider) (h : findProvider s w.addr = some p) :
      Release (w :: ws, s) (ws, released s p w)

theorem completeLoop_star : ∀ {ws : List Withdraw} {s s' : State}, completeLoop ws s = .ok s' →
    Star Release (ws, s) ([], s') := by
  intro ws
  induction ws with
  | nil => intro s s' h; cases h; exact .refl _
  | cons w ws ih =>
    intro s s' h
    unfold completeLoop at h
    cases hf : findProvider s w.addr with
    | none => rw [hf] at h; cases h
    | some p => rw [hf] at h; exact .head (.mk w ws s p hf) (ih h)

/-- the queue after the entry `w` of provider `a` has been pushed back to `t` -/
def postponed (a : Addr) (t : Int) (w : Withdraw) (q : List Withdraw) : List Withdraw :=
  insertWithdraw { w with time := t } (removeLast (fun x => x.time == w.time && x.addr == a && x.amount == w.amount) q)

/-- one round of `delayLoop`, on (candidates still to be walked, amount still to be delayed, queue) -/
inductive DelayRound (a : Addr) (t : Int) : List Withdraw × Int × List Withdraw → List Withdraw × Int × List Withdraw → Prop
  | mk (w : Withdraw) (ws : List Withdraw) (rem : Int) (q : List Withdraw) (h : 0 < rem) :
      DelayRound a t (w :: ws, rem, q) (ws, rem - w.amount, postponed a t w q)

theorem delayLoop_star {a : Addr} {t : Int} : ∀ {ws : List Withdraw} {rem : Int} {q q' : List Withdraw},
    delayLoop a t ws rem q = .ok q' → ∃ ws' rem', Star (DelayRound a t) (ws, rem, q) (ws', rem', q') ∧ rem' ≤ 0 := by
  intro ws
  induction ws with
  | nil =>
    intro rem q q' h
    unfold delayLoop at h
    split at h
    · cases h
    · rename_i hr; cases h; exact ⟨[], rem, .refl _, by omega⟩
  | cons w ws ih =>
    intro rem q q' h
    unfold delayLoop at h
    split at h
    · rename_i hr; cases h; exact ⟨w :: ws, rem, .refl _, hr⟩
    · rename_i hr
      obtain ⟨ws', rem', hs, hle⟩ := ih (q := postponed a t w q) h
      exact ⟨ws', rem', .head (.mk w ws rem q (by omega)) hs, hle⟩

/-- the queue after `p` has been taken out of the queued withdrawal `w` -/
def takenFrom (w : Withdraw) (p : Int) (q : List Withdraw) : List Withdraw :=
  if w.amount == p then removeFirst (fun x => x.time == w.time && x.addr == w.addr && x.amount == w.amount) q
  else replaceFirst (fun x => x.time == w.time && x.addr == w.addr && x.amount == w.amount)
    (fun x => { x with amount := w.amount - p }) q

/-- one round of `payoutWithdrawLoop`, on (the provider's entries still to be walked, what the free collateral did not
    cover of the purchased share, what is still to be taken from withdrawals, queue): an entry wholly under the
    uncovered part is passed over, from any other as much as possible is taken -/
inductive PayoutWalk : List Withdraw × Int × Int × List Withdraw → List Withdraw × Int × Int × List Withdraw → Prop
  | pass (w : Withdraw) (ws : List Withdraw) (u fw : Int) (q : List Withdraw) (hfw : 0 < fw)
      (h : max (w.amount - u) 0 = 0) : PayoutWalk (w :: ws, u, fw, q) (ws, max (u - w.amount) 0, fw, q)
  | take (w : Withdraw) (ws : List Withdraw) (u fw : Int) (q : List Withdraw) (hfw : 0 < fw)
      (h : max (w.amount - u) 0 ≠ 0) :
      PayoutWalk (w :: ws, u, fw, q)
        (ws, max (u - w.amount) 0, fw - min fw (max (w.amount - u) 0), takenFrom w (min fw (max (w.amount - u) 0)) q)

theorem payoutWithdrawLoop_ind {P : List Withdraw × Int × Int × List Withdraw → Except Err (List Withdraw) → Prop}
    (stop : ∀ ws u fw q r, ws = [] ∨ fw ≤ 0 → (∀ q', r = .ok q' ↔ fw = 0 ∧ q' = q) → P (ws, u, fw, q) r)
    (round : ∀ a b r, PayoutWalk a b → P b r → P a r) :
    ∀ ws u fw q, P (ws, u, fw, q) (payoutWithdrawLoop ws u fw q) := by
  have stops : ∀ (fw : Int) (q q' : List Withdraw),
      (if fw != 0 then panicE "shield:payout-from-withdrawals" else .ok q) = .ok q' ↔ fw = 0 ∧ q' = q := fun fw q q' => by
    rw [guard_iff, Except.ok.injEq, bne_iff_ne, Decidable.not_not, @eq_comm _ q]
  intro ws
  induction ws with
  | nil => exact fun u fw q => stop [] u fw q _ (.inl rfl) (stops fw q)
  | cons w ws ih =>
    intro u fw q
    unfold payoutWithdrawLoop
    by_cases hfw : fw ≤ 0
    · rw [if_pos hfw]; exact stop _ u fw q _ (.inr hfw) (stops fw q)
    rw [if_neg hfw]
    by_cases hrem : max (w.amount - u) 0 = 0
    · rw [if_pos (by simpa using hrem)]; exact round _ _ _ (.pass w ws u fw q (by omega) hrem) (ih ..)
    · rw [if_neg (by simpa using hrem)]; exact round _ _ _ (.take w ws u fw q (by omega) hrem) (ih ..)

theorem payoutWithdrawLoop_star {ws : List Withdraw} {u fw : Int} {q q' : List Withdraw} :
    payoutWithdrawLoop ws u fw q = .ok q' → ∃ ws' u', Star PayoutWalk (ws, u, fw, q) (ws', u', 0, q') := by
  refine payoutWithdrawLoop_ind (P := fun a r => r = .ok q' → ∃ ws' u', Star PayoutWalk a (ws', u', 0, q'))
    (fun ws u fw q r _ hr h => ?_) (fun a b r hw ih h => (ih h).imp fun _ => .imp fun _ => .head hw) ws u fw q
  obtain ⟨rfl, rfl⟩ := (hr q').mp h
  exact ⟨ws, u, .refl _⟩

namespace Fund

/-- `purchased` share of one provider in `reimburseLoop`: `Gen.Shield.splitPurchased` / `…PlusOne` of the model, unfolded
    (`reimburseLoop_cons` is `rfl`) -/
def payoutPur (pr yr : Dec) (p : Provider) (tp ty : Int) : Int :=
  let pur0 := min (Dec.truncateInt (Dec.mul (Dec.ofInt p.collateral) pr)) tp
  let pay0 := min (Dec.truncateInt (Dec.mul (Dec.ofInt p.collateral) yr)) ty
  if pur0 < tp && p.collateral > pay0 + pur0 then pur0 + 1 else pur0

/-- the amount one provider pays in `reimburseLoop`, unfolded in the same way -/
def payoutPay (pr yr : Dec) (p : Provider) (tp ty : Int) : Int :=
  let pay0 := min (Dec.truncateInt (Dec.mul (Dec.ofInt p.collateral) yr)) ty
  if pay0 < ty && p.collateral > pay0 + payoutPur pr yr p tp ty then pay0 + 1 else pay0

theorem reimburseLoop_cons (e : Env) (pr yr : Dec) (p : Provider) (ps : List Provider) (tp ty : Int) (l : Ledger) (s : State) :
    reimburseLoop e pr yr (p :: ps) tp ty l s =
      if ty ≤ 0 then .ok (ty, l, s)
      else
        match updateProviderForPayout s p.addr (payoutPur pr yr p tp ty) (payoutPay pr yr p tp ty) with
        | .error x => .error x
        | .ok s1 =>
          match stakingChanged e s1 p.addr with
          | .error x => .error x
          | .ok s2 =>
            reimburseLoop e pr yr ps (tp - payoutPur pr yr p tp ty) (ty - payoutPay pr yr p tp ty)
              (l.move e.bondedPool e.modAddr [(e.bond, payoutPay pr yr p tp ty)]) s2 := rfl

theorem payoutPur_le (pr yr : Dec) (p : Provider) (tp ty : Int) : payoutPur pr yr p tp ty ≤ tp := by
  unfold payoutPur
  dsimp only
  split
  · rename_i h; simp only [Bool.and_eq_true, decide_eq_true_eq] at h; omega
  · omega

theorem payoutPay_le (pr yr : Dec) (p : Provider) (tp ty : Int) : payoutPay pr yr p tp ty ≤ ty := by
  unfold payoutPay
  dsimp only
  split
  · rename_i h; simp only [Bool.and_eq_true, decide_eq_true_eq] at h; omega
  · omega

theorem payoutPur_bounds (pr yr : Dec) (p : Provider) (tp ty : Int) (hc : 0 ≤ p.collateral) (hpr : 0 ≤ pr.raw) (htp : 0 ≤ tp) :
    0 ≤ payoutPur pr yr p tp ty ∧ payoutPur pr yr p tp ty ≤ tp := by
  have h1 := Dec.trunc_mul_ofInt_nonneg p.collateral pr hc hpr
  unfold payoutPur
  dsimp only
  split
  · rename_i h; bool_norm at h; omega
  · omega

theorem payoutPay_nonneg (pr yr : Dec) (p : Provider) (tp ty : Int) (hc : 0 ≤ p.collateral) (hyr : 0 ≤ yr.raw) (hty : 0 < ty) :
    0 ≤ payoutPay pr yr p tp ty := by
  have h1 := Dec.trunc_mul_ofInt_nonneg p.collateral yr hc hyr
  unfold payoutPay
  dsimp only
  split <;> omega

theorem payoutPay_le_collateral (pr yr : Dec) (p : Provider) (tp ty : Int) (hc : 0 ≤ p.collateral)
    (hpr : 0 ≤ pr.raw) (hyr : 0 ≤ yr.raw) (hyr1 : yr.raw ≤ Dec.prec) (htp : 0 ≤ tp) :
    payoutPay pr yr p tp ty ≤ p.collateral := by
  have h1 := Dec.trunc_mul_ofInt_le p.collateral yr hc hyr hyr1
  have h2 := (payoutPur_bounds pr yr p tp ty hc hpr htp).1
  unfold payoutPay
  dsimp only
  split
  · rename_i h; bool_norm at h; omega
  · omega

end Fund

/-- the running state of `reimburseLoop`: providers still to be asked, covered shield and payout still to be collected,
    bank ledger, store -/
abbrev PayoutState := List Provider × Int × Int × Ledger × State

/-- one round of `reimburseLoop`: the provider's books are lowered by its two shares, its coins move from the staking
    pool to the module account, the staking hook runs -/
inductive PayoutRound (e : Env) (pr yr : Dec) : PayoutState → PayoutState → Prop
  | mk (p : Provider) (ps : List Provider) (tp ty : Int) (l : Ledger) (s s1 s2 : State) (hty : 0 < ty)
      (h1 : updateProviderForPayout s p.addr (Fund.payoutPur pr yr p tp ty) (Fund.payoutPay pr yr p tp ty) = .ok s1)
      (h2 : stakingChanged e s1 p.addr = .ok s2) :
      PayoutRound e pr yr (p :: ps, tp, ty, l, s)
        (ps, tp - Fund.payoutPur pr yr p tp ty, ty - Fund.payoutPay pr yr p tp ty,
          l.move e.bondedPool e.modAddr [(e.bond, Fund.payoutPay pr yr p tp ty)], s2)

theorem reimburseLoop_star {e : Env} {pr yr : Dec} : ∀ {ps : List Provider} {tp ty : Int} {l : Ledger} {s : State}
    {r : Int × Ledger × State}, reimburseLoop e pr yr ps tp ty l s = .ok r →
      ∃ ps' tp', Star (PayoutRound e pr yr) (ps, tp, ty, l, s) (ps', tp', r.1, r.2.1, r.2.2) ∧ (ps' = [] ∨ r.1 ≤ 0) := by
  intro ps
  induction ps with
  | nil => intro tp ty l s r h; cases h; exact ⟨[], tp, .refl _, .inl rfl⟩
  | cons p ps ih =>
    intro tp ty l s r h
    rw [Fund.reimburseLoop_cons] at h
    by_cases hty : ty ≤ 0
    · rw [if_pos hty] at h; cases h; exact ⟨p :: ps, tp, .refl _, .inr hty⟩
    rw [if_neg hty] at h
    generalize h1 : updateProviderForPayout _ _ _ _ = r1 at h
    obtain _ | s1 := r1
    · cases h
    dsimp only at h
    generalize h2 : stakingChanged _ _ _ = r2 at h
    obtain _ | s2 := r2
    · cases h
    obtain ⟨ps', tp', hs, hend⟩ := ih h
    exact ⟨ps', tp', .head (.mk p ps tp ty l s s1 s2 (by omega) h1 h2) hs, hend⟩

/-- the entry's fees are streamed in this pass -/
def streams (lu : Int) (en : Purchase) : Bool := decide (en.endTime > lu) && decide (en.fees.raw > 0)

/-- the fees released so far after the entry -/
def feesStep (lu per : Int) (f : Dec) (en : Purchase) : Dec :=
  if streams lu en then Dec.add f (Dec.mul en.fees (Dec.quo (Dec.ofInt (en.endTime - lu)) (Dec.ofInt per))) else f

/-- the fees still to be streamed after the entry -/
def totalStep (lu : Int) (tf : Dec) (en : Purchase) : Dec := if streams lu en then Dec.sub tf en.fees else tf

/-- the entry as the pass leaves it when it stays: its fees, once streamed, are gone -/
def entryStep (lu : Int) (en : Purchase) : Purchase := if streams lu en then { en with fees := Dec.zero } else en

theorem expireEntries_nil (now lu per : Int) (acc : Dec × Dec × Int) : expireEntries now lu per [] acc = ([], acc) := by
  unfold expireEntries; rfl

theorem expireEntries_cons (now lu per : Int) (en : Purchase) (es : List Purchase) (f tf : Dec) (r : Int) :
    expireEntries now lu per (en :: es) (f, tf, r) =
      if en.delTime < now then expireEntries now lu per es (feesStep lu per f en, totalStep lu tf en, r + en.shield)
      else (entryStep lu en :: (expireEntries now lu per es (feesStep lu per f en, totalStep lu tf en, r)).1,
            (expireEntries now lu per es (feesStep lu per f en, totalStep lu tf en, r)).2) := by
  rw [expireEntries]
  rfl

theorem expireEntries_ind (now lu per : Int) {P : List Purchase → Dec → Dec → Int → List Purchase × (Dec × Dec × Int) → Prop}
    (nil : ∀ f tf r, P [] f tf r ([], f, tf, r))
    (drop : ∀ en es f tf r res, en.delTime < now →
      P es (feesStep lu per f en) (totalStep lu tf en) (r + en.shield) res → P (en :: es) f tf r res)
    (keep : ∀ en es f tf r res, ¬ en.delTime < now →
      P es (feesStep lu per f en) (totalStep lu tf en) r res → P (en :: es) f tf r (entryStep lu en :: res.1, res.2)) :
    ∀ (es : List Purchase) (f tf : Dec) (r : Int), P es f tf r (expireEntries now lu per es (f, tf, r))
  | [], f, tf, r => expireEntries_nil now lu per _ ▸ nil f tf r
  | en :: es, f, tf, r => by
    rw [expireEntries_cons]
    by_cases hdel : en.delTime < now
    · rw [if_pos hdel]; exact drop en es f tf r _ hdel (expireEntries_ind now lu per nil drop keep es _ _ _)
    · rw [if_neg hdel]; exact keep en es f tf r _ hdel (expireEntries_ind now lu per nil drop keep es _ _ _)

namespace PoolLm

/-- the purchase list of (pool, a) after a pass that left `entries'`, written into `s1`: deleted when nothing is left -/
def putList (s1 : State) (pool : Nat) (a : Addr) (lst : PList) (entries' : List Purchase) : State :=
  if entries'.isEmpty then deleteList s1 pool a else setList s1 { lst with entries := entries' }

/-- the accumulator one round leaves: `res` is what `expireEntries` returned, `s1` the store after the pool was charged -/
def expired (acc : ExpAcc) (pool : Nat) (a : Addr) (lst : PList) (res : List Purchase × (Dec × Dec × Int)) (s1 : State) : ExpAcc :=
  { s := putList s1 pool a lst res.1, fees := res.2.1, totalFees := res.2.2.1, totalShield := acc.totalShield - res.2.2.2 }

/-- the body of `expireLoop` for a (pool, purchaser) whose list `lst` was found: the pool is charged only when some entry is
    past its deletion time -/
def expireBody (now : Int) (pool : Nat) (a : Addr) (acc : ExpAcc) (lst : PList) : Except Err ExpAcc :=
  let res := expireEntries now acc.s.lastUpdate acc.s.params.protection lst.entries (acc.fees, acc.totalFees, 0)
  if lst.entries.any (·.delTime < now) then
    match findPool acc.s pool with
    | none => panicE "shield:expired-purchase-without-pool"
    | some p => .ok (expired acc pool a lst res (setPool acc.s { p with shield := p.shield - res.2.2.2 }))
  else .ok (expired acc pool a lst res acc.s)

theorem expireLoop_nil (now : Int) (acc : ExpAcc) : expireLoop now [] acc = .ok acc := by
  unfold expireLoop; rfl

theorem expireLoop_cons (now : Int) (pool : Nat) (a : Addr) (rest : List (Nat × Addr)) (acc : ExpAcc) :
    expireLoop now ((pool, a) :: rest) acc =
      match findList acc.s pool a with
      | none => expireLoop now rest acc
      | some lst =>
        match expireBody now pool a acc lst with
        | .error x => .error x
        | .ok acc1 => expireLoop now rest acc1 := by
  rw [expireLoop]
  cases hfl : findList acc.s pool a with
  | none => rfl
  | some lst =>
    dsimp only [expireBody]
    cases hany : lst.entries.any (·.delTime < now) with
    | false => rfl
    | true => simp only [if_true]; cases hp : findPool acc.s pool <;> rfl

end PoolLm

/-- one round of `expireLoop`: a pair whose list is gone is passed over, the list of any other is expired -/
def expireRound (now : Int) (acc : ExpAcc) (pa : Nat × Addr) : Except Err ExpAcc :=
  match findList acc.s pa.1 pa.2 with
  | none => .ok acc
  | some lst => PoolLm.expireBody now pa.1 pa.2 acc lst

/-- the loop neither leaves early nor rewrites the queue it walks: it is the fold of its round -/
theorem expireLoop_eq_foldlM (now : Int) : ∀ (ps : List (Nat × Addr)) (acc : ExpAcc),
    expireLoop now ps acc = ps.foldlM (expireRound now) acc
  | [], acc => PoolLm.expireLoop_nil now acc
  | (pool, a) :: rest, acc => by
    rw [PoolLm.expireLoop_cons, List.foldlM_cons, expireRound]
    cases findList acc.s pool a with
    | none => exact expireLoop_eq_foldlM now rest acc
    | some lst =>
      dsimp only
      cases PoolLm.expireBody now pool a acc lst with
      | error x => rfl
      | ok acc1 => exact expireLoop_eq_foldlM now rest acc1

theorem expireLoop_rel {now : Int} {R : ExpAcc → ExpAcc → Prop} {I : ExpAcc → Prop} (refl : ∀ acc, R acc acc)
    (trans : ∀ {a b c}, R a b → R b c → R a c)
    (body : ∀ {pool a acc lst acc1}, findList acc.s pool a = some lst → PoolLm.expireBody now pool a acc lst = .ok acc1 →
      I acc → R acc acc1 ∧ I acc1)
    {ps : List (Nat × Addr)} {acc acc' : ExpAcc} (hi : I acc) (h : expireLoop now ps acc = .ok acc') : R acc acc' ∧ I acc' := by
  rw [expireLoop_eq_foldlM] at h
  refine foldlM_rel (f := expireRound now) refl trans (fun pa _ acc acc1 hi hb => ?_) hi h
  unfold expireRound at hb
  cases hfl : findList acc.s pa.1 pa.2 with
  | none => rw [hfl] at hb; cases hb; exact ⟨refl _, hi⟩
  | some lst => rw [hfl] at hb; exact body hfl hb hi

theorem expireLoop_total_of {now : Int} {I : ExpAcc → Prop}
    (body : ∀ {pool a acc lst}, findList acc.s pool a = some lst → I acc →
      ∃ acc1, PoolLm.expireBody now pool a acc lst = .ok acc1 ∧ I acc1)
    (ps : List (Nat × Addr)) {acc : ExpAcc} (hi : I acc) : ∃ acc', expireLoop now ps acc = .ok acc' ∧ I acc' := by
  rw [expireLoop_eq_foldlM]
  refine foldlM_total (f := expireRound now) (fun pa _ acc hi => ?_) hi
  unfold expireRound
  cases hfl : findList acc.s pa.1 pa.2 with
  | none => exact ⟨acc, rfl, hi⟩
  | some lst => exact body hfl hi

/-- the share of the fees that provider `p` receives while `rem` is left: proportional to its collateral, capped by
    what is left -/
def rewardShare (total : Int) (fees : Dec) (p : Provider) (rem : Dec) : Dec :=
  let share0 := Dec.mul fees (Dec.quoInt (Dec.ofInt p.collateral) total)
  if share0.raw > rem.raw then rem else share0

theorem distributeLoop_cons (total : Int) (fees : Dec) (p : Provider) (ps : List Provider) (rem : Dec) :
    distributeLoop total fees (p :: ps) rem =
      ({ p with rewards := Dec.add p.rewards (rewardShare total fees p rem) } ::
          (distributeLoop total fees ps (Dec.sub rem (rewardShare total fees p rem))).1,
        (distributeLoop total fees ps (Dec.sub rem (rewardShare total fees p rem))).2) := rfl

theorem distributeLoop_ind (total : Int) (fees : Dec) {P : List Provider → Dec → List Provider → Dec → Prop}
    (nil : ∀ rem, P [] rem [] rem)
    (cons : ∀ p ps rem out r, P ps (Dec.sub rem (rewardShare total fees p rem)) out r →
      P (p :: ps) rem ({ p with rewards := Dec.add p.rewards (rewardShare total fees p rem) } :: out) r) :
    ∀ (ps : List Provider) (rem : Dec),
      P ps rem (distributeLoop total fees ps rem).1 (distributeLoop total fees ps rem).2 := by
  intro ps
  induction ps with
  | nil => intro rem; exact nil rem
  | cons p ps ih => intro rem; rw [distributeLoop_cons]; exact cons p ps rem _ _ (ih _)

theorem distributeLoop_map {β : Type} (f : Provider → β) (hf : ∀ p d, f { p with rewards := d } = f p)
    (total : Int) (fees : Dec) (ps : List Provider) (rem : Dec) : (distributeLoop total fees ps rem).1.map f = ps.map f :=
  distributeLoop_ind total fees (P := fun ps _ out _ => out.map f = ps.map f) (fun _ => rfl)
    (fun p ps _ out _ ih => by rw [List.map_cons, List.map_cons, ih, hf]) ps rem

end Shentu.Shield
