import Shentu.Proofs.ShieldFundMoney
/-
  C04: what the payout loop does to the providers' collateral, record by record.
-/
namespace Shentu.Shield.Fund
open Shentu

/-- the step leaves the claim-related totals alone -/
structure Tot (s s' : State) : Prop where
  claimed : s'.totalClaimed = s.totalClaimed
  collateral : s'.totalCollateral = s.totalCollateral
  shield : s'.totalShield = s.totalShield

theorem Tot.of_req {s s' : State} (h : ReqWrites s s') : Tot s s' := by
  rw [h]; exact ⟨rfl, rfl, rfl⟩

theorem reimburseLoop_ledger (e : Env) (pr yr : Dec) (ps : List Provider) (tp ty : Int) (l : Ledger) (s : State) (left : Int)
    (l' : Ledger) (s' : State) (h : reimburseLoop e pr yr ps tp ty l s = .ok (left, l', s')) :
    ∀ a d, a ≠ e.bondedPool → a ≠ e.modAddr → l'.balOf a d = l.balOf a d :=
  reimburseLoop_rel e pr yr
    (fun x y => ∀ a d, a ≠ e.bondedPool → a ≠ e.modAddr → y.2.balOf a d = x.2.balOf a d)
    (fun _ _ _ _ _ => rfl) (fun h1 h2 a d ha hb => (h2 a d ha hb).trans (h1 a d ha hb))
    (fun _ _ _ _ _ _ ha hb => by
      dsimp only; rw [Ledger.balOf_move', if_neg (Ne.symm ha), if_neg (Ne.symm hb)]; omega)
    h

/-- what each provider of the list pays, in order (`reimburseLoop` stops paying once nothing is left) -/
def payList (pr yr : Dec) : List Provider → Int → Int → List Int
  | [], _, _ => []
  | p :: ps, tp, ty =>
    if ty ≤ 0 then 0 :: payList pr yr ps tp ty
    else payoutPay pr yr p tp ty :: payList pr yr ps (tp - payoutPur pr yr p tp ty) (ty - payoutPay pr yr p tp ty)

/-- (address, collateral) of every provider, in store order -/
def collView (l : List Provider) : List (Addr × Int) := l.map (fun q => (q.addr, q.collateral))

/-- the view after each provider has paid its amount -/
def paidView (ps : List Provider) (pays : List Int) : List (Addr × Int) :=
  List.zipWith (fun p pay => (p.addr, p.collateral - pay)) ps pays

theorem payList_length (pr yr : Dec) (ps : List Provider) : ∀ tp ty, (payList pr yr ps tp ty).length = ps.length := by
  induction ps with
  | nil => intro tp ty; rfl
  | cons p ps ih =>
    intro tp ty
    unfold payList
    split <;> simp [ih]

theorem payList_done (pr yr : Dec) (ps : List Provider) (tp ty : Int) (h : ty ≤ 0) :
    paidView ps (payList pr yr ps tp ty) = collView ps ∧ (payList pr yr ps tp ty).sum = 0 := by
  induction ps with
  | nil => exact ⟨rfl, rfl⟩
  | cons p ps ih =>
    unfold payList
    simp only [h, if_true]
    obtain ⟨h1, h2⟩ := ih
    constructor
    · simp only [paidView, collView, List.zipWith_cons_cons, List.map_cons] at h1 ⊢
      rw [h1]; simp
    · simp [h2]

theorem collView_append (a b : List Provider) : collView (a ++ b) = collView a ++ collView b := by
  simp [collView]

theorem sumI_collView (l : List Provider) : sumI (·.collateral) l = ((collView l).map (·.2)).sum := by
  simp [sumI, collView, List.map_map, Function.comp_def]

/-- the loop meets the providers in store order: with the first `pre` records done and `ps` still to go, every record of
    `ps` pays its `payList` amount (each round rewrites the record at its own position only) -/
theorem reimburseLoop_coll (e : Env) (pr yr : Dec) (ps : List Provider) :
    ∀ (tp ty : Int) (l : Ledger) (s : State) (left : Int) (l' : Ledger) (s' : State) (pre : List Provider),
      reimburseLoop e pr yr ps tp ty l s = .ok (left, l', s') →
      s.providers = pre ++ ps → (s.providers.map (·.addr)).Nodup →
      collView s'.providers = collView pre ++ paidView ps (payList pr yr ps tp ty) ∧
        left = ty - (payList pr yr ps tp ty).sum := by
  induction ps with
  | nil =>
    intro tp ty l s left l' s' pre h hs _
    unfold reimburseLoop at h
    cases h
    simp [hs, payList, paidView]
  | cons p ps ih =>
    intro tp ty l s left l' s' pre h hs hn
    rw [reimburseLoop_cons] at h
    by_cases hty : ty ≤ 0
    · rw [if_pos hty] at h
      cases h
      obtain ⟨hd1, hd2⟩ := payList_done pr yr (p :: ps) tp ty hty
      rw [hd1, hd2, hs, collView_append]
      simp
    · rw [if_neg hty] at h
      generalize h1 : updateProviderForPayout _ _ _ _ = r1 at h
      obtain _ | s1 := r1
      · cases h
      dsimp only at h
      generalize h2 : stakingChanged _ _ _ = r2 at h
      obtain _ | s2 := r2
      · cases h
      dsimp only at h
      obtain ⟨c1, hu1, hc1⟩ := updateProviderForPayout_at s s1 _ _ pre ps p hs hn h1
      have hn1 : (s1.providers.map (·.addr)).Nodup := by
        rw [hu1.after]; rw [hs] at hn
        simpa [hu1.addr] using hn
      have h2' : stakingChanged e s1 c1.addr = .ok s2 := by rw [hu1.addr]; exact h2
      obtain ⟨c2, hu2, hc2⟩ := stakingChanged_at e s1 s2 pre ps c1 hu1.after hn1 h2'
      have hn2 : (s2.providers.map (·.addr)).Nodup := by
        rw [hu2.after]; rw [hu1.after] at hn1
        simpa [hu2.addr] using hn1
      have hs2 : s2.providers = (pre ++ [c2]) ++ ps := by rw [hu2.after]; simp
      obtain ⟨ih1, ih2⟩ := ih _ _ _ _ _ _ _ (pre ++ [c2]) h hs2 hn2
      constructor
      · rw [ih1, collView_append]
        simp only [payList, hty, if_false, paidView, List.zipWith_cons_cons, collView, List.map_cons, List.map_nil,
          List.append_assoc, List.singleton_append]
        rw [hu2.addr, hu1.addr, hc2, hc1]
      · rw [ih2]
        simp only [payList, hty, if_false, List.sum_cons]
        omega

theorem mem_paidView (ps : List Provider) : ∀ (pays : List Int) (x : Addr × Int), x ∈ paidView ps pays →
    ∃ y ∈ List.zip ps pays, x = (y.1.addr, y.1.collateral - y.2) := by
  induction ps with
  | nil => intro pays x hx; simp [paidView] at hx
  | cons p ps ih =>
    intro pays x hx
    cases pays with
    | nil => simp [paidView] at hx
    | cons y ys =>
      simp only [paidView, List.zipWith_cons_cons, List.mem_cons] at hx
      rcases hx with h | h
      · exact ⟨(p, y), by simp, h⟩
      · obtain ⟨z, hz, hxz⟩ := ih ys x h
        exact ⟨z, by simp [hz], hxz⟩

theorem sum_paidView (ps : List Provider) : ∀ (pays : List Int), pays.length = ps.length →
    ((paidView ps pays).map (·.2)).sum = sumI (·.collateral) ps - pays.sum := by
  induction ps with
  | nil => intro pays hl; cases pays with
    | nil => simp [paidView]
    | cons _ _ => simp at hl
  | cons q qs ih => intro pays hl; cases pays with
    | nil => simp at hl
    | cons y ys =>
      simp only [List.length_cons, Nat.add_right_cancel_iff] at hl
      have := ih ys hl
      simp only [paidView, List.zipWith_cons_cons, List.map_cons, List.sum_cons, sumI_cons] at this ⊢
      omega

theorem createReimbursement_coll (e : Env) (l l' : Ledger) (s s' : State) (pid : Nat) (amount : Int) (b : Addr)
    (h : createReimbursement e l s pid amount b = .ok (l', s')) (hn : (s.providers.map (·.addr)).Nodup) :
    s.totalCollateral ≠ 0 ∧
    collView s'.providers = paidView s.providers (payList (Dec.quo (Dec.ofInt s.totalShield) (Dec.ofInt s.totalCollateral))
      (Dec.quo (Dec.ofInt amount) (Dec.ofInt s.totalCollateral)) s.providers s.totalShield amount) ∧
    (0 ≤ amount → (payList (Dec.quo (Dec.ofInt s.totalShield) (Dec.ofInt s.totalCollateral))
      (Dec.quo (Dec.ofInt amount) (Dec.ofInt s.totalCollateral)) s.providers s.totalShield amount).sum = amount) := by
  obtain ⟨left, s1, hT0, hl, hleft, hs'⟩ := createReimbursement_ok e l l' s s' pid amount b h
  obtain ⟨hview, hsum⟩ := reimburseLoop_coll e _ _ _ _ _ _ _ _ _ _ [] hl rfl hn
  refine ⟨hT0, ?_, fun hamt => ?_⟩
  · rw [hs']; exact hview
  · have := reimburseLoop_left_nonneg e _ _ _ _ _ _ _ _ _ _ hl hamt
    omega

theorem payList_nonneg (pr yr : Dec) (hyr : 0 ≤ yr.raw) (ps : List Provider) (hc : ∀ p ∈ ps, 0 ≤ p.collateral) :
    ∀ tp ty, ∀ x ∈ payList pr yr ps tp ty, 0 ≤ x := by
  induction ps with
  | nil => intro tp ty x hx; simp [payList] at hx
  | cons p ps ih =>
    intro tp ty x hx
    have ihp := ih (fun q hq => hc q (List.mem_cons_of_mem _ hq))
    unfold payList at hx
    split at hx
    · rcases List.mem_cons.mp hx with h | h
      · omega
      · exact ihp _ _ x h
    · rcases List.mem_cons.mp hx with h | h
      · rw [h]; exact payoutPay_nonneg pr yr p tp ty (hc p List.mem_cons_self) hyr (by omega)
      · exact ihp _ _ x h

theorem payList_bounded (pr yr : Dec) (hpr : 0 ≤ pr.raw) (hyr : 0 ≤ yr.raw) (hyr1 : yr.raw ≤ Dec.prec) (ps : List Provider)
    (hc : ∀ p ∈ ps, 0 ≤ p.collateral) :
    ∀ tp ty, 0 ≤ tp → ∀ x ∈ List.zip ps (payList pr yr ps tp ty), 0 ≤ x.2 ∧ x.2 ≤ x.1.collateral := by
  induction ps with
  | nil => intro tp ty _ x hx; simp [payList] at hx
  | cons p ps ih =>
    intro tp ty htp x hx
    have ihp := ih (fun q hq => hc q (List.mem_cons_of_mem _ hq))
    have hcp := hc p List.mem_cons_self
    unfold payList at hx
    split at hx
    · simp only [List.zip_cons_cons, List.mem_cons] at hx
      rcases hx with h | h
      · rw [h]; exact ⟨by simp, hcp⟩
      · exact ihp _ _ htp x h
    · simp only [List.zip_cons_cons, List.mem_cons] at hx
      rcases hx with h | h
      · rw [h]
        exact ⟨payoutPay_nonneg pr yr p tp ty hcp hyr (by omega), payoutPay_le_collateral pr yr p tp ty hcp hpr hyr hyr1 htp⟩
      · refine ihp _ _ ?_ x h
        have := (payoutPur_bounds pr yr p tp ty hcp hpr htp).2
        omega

end Shentu.Shield.Fund
