import Shentu.Model.Bank
/-
  Reading a successful run of an operation of the models guard by guard.  The operations are chains
  `if c₁ then err … else if c₂ then err … else …` over `Except`; `split at h` rewrites the whole state record at every
  guard and is slow to check, `of_guard` only unifies; `guard_iff` reads the same guard in both directions.
  A lemma `op_ok` of the proof modules says what an accepted call of `op` is, that is, the guards that held and the state
  returned; `op_ok_iff` is the same read in both directions, `op_total` says under which conditions `op` returns.
-/
namespace Shentu

theorem guard_iff {ε α} {c : Prop} [Decidable c] {x a : Except ε α} {r : α}
    (hx : ∀ r, x ≠ .ok r := by intro _ h; cases h) : (if c then x else a) = .ok r ↔ ¬ c ∧ a = .ok r := by
  split
  · exact ⟨fun h => absurd h (hx r), fun h => absurd ‹c› h.1⟩
  · exact ⟨fun h => ⟨‹_›, h⟩, fun h => h.2⟩

theorem of_guard {ε α} {c : Prop} [Decidable c] {x a : Except ε α} {r : α}
    (h : (if c then x else a) = .ok r) (hx : ∀ r, x ≠ .ok r := by intro _ h; cases h) : ¬ c ∧ a = .ok r :=
  (guard_iff hx).mp h

/-- `guard_iff` for a Boolean guard of the models, in the form `simp only` can use -/
theorem err_guard_iff {α} {b : Bool} {k : String} {a : Except Err α} {r : α} :
    (if b = true then err k else a) = .ok r ↔ b = false ∧ a = .ok r := by
  rw [guard_iff, Bool.not_eq_true]

/-- the same for a check that answers `some reason` or goes on (`Shield.claimAdmissible`) -/
theorem guard_none {α} {c : Prop} [Decidable c] {x : α} {a : Option α} :
    (if c then some x else a) = none ↔ ¬ c ∧ a = none := by
  split <;> simp [*]

theorem Except.error_of_not_ok {ε α} {x : Except ε α} (h : ∀ a, x ≠ .ok a) : ∃ e, x = .error e := by
  cases x with
  | error e => exact ⟨e, rfl⟩
  | ok a => exact absurd rfl (h a)

theorem Except.map_eq_ok {ε α β : Type} {f : α → β} {x : Except ε α} {b : β} (h : x.map f = .ok b) :
    ∃ a, x = .ok a ∧ b = f a := by
  cases x with
  | error _ => cases h
  | ok a => injection h with h; exact ⟨a, rfl, h.symm⟩

/-- what an operation returns under an invariant (`op_total`: it returns, and the value has `P`) holds of the value any run
    of it returned -/
theorem Except.of_total {ε α} {x : Except ε α} {P : α → Prop} (ht : ∃ a, x = .ok a ∧ P a) {a : α} (h : x = .ok a) : P a := by
  obtain ⟨b, hb, hp⟩ := ht
  cases h.symm.trans hb
  exact hp

/-- an operation that takes no ledger, run as `x.map (l, ·)` in a history: the ledger stays, the operation succeeded -/
theorem Except.map_pair_ok {ε α β} {x : Except ε α} {b b' : β} {a : α}
    (h : x.map (fun a => (b, a)) = .ok (b', a)) : b' = b ∧ x = .ok a := by
  cases x with
  | error _ => cases h
  | ok _ => cases h; exact ⟨rfl, rfl⟩

/-- two runs fail with the same error, or both return and what they return is related by `R` -/
def SameE {ε α β : Type} (R : α → β → Prop) : Except ε α → Except ε β → Prop
  | .ok p, .ok q => R p q
  | .error x, .error y => y = x
  | _, _ => False

namespace SameE
variable {ε α β : Type} {R : α → β → Prop}

theorem guard {p : Prop} [Decidable p] (x : ε) {u : Except ε α} {v : Except ε β} (h : ¬ p → SameE R u v) :
    SameE R (if p then .error x else u) (if p then .error x else v) := by
  by_cases hp : p
  · rw [if_pos hp, if_pos hp]; rfl
  · rw [if_neg hp, if_neg hp]; exact h hp

/-- an error that is passed on under `p` and otherwise dropped, keeping `a` resp. `b` -/
theorem orKeep {p : Prop} [Decidable p] (x : ε) {a : α} {b : β} (h : R a b) :
    SameE R (if p then .error x else .ok a) (if p then .error x else .ok b) :=
  guard x fun _ => h

/-- the way out; no `match` in it, so it serves every `match` of the models -/
theorem cases {x : Except ε α} {y : Except ε β} (h : SameE R x y) :
    (∃ e, x = .error e ∧ y = .error e) ∨ ∃ p q, x = .ok p ∧ y = .ok q ∧ R p q := by
  cases x <;> cases y
  · exact .inl ⟨_, rfl, by rw [show _ = _ from h]⟩
  · exact False.elim h
  · exact False.elim h
  · exact .inr ⟨_, _, rfl, rfl, h⟩

theorem map {α' β' : Type} {S : α' → β' → Prop} {x : Except ε α} {y : Except ε β} (h : SameE R x y) {f : α → α'} {g : β → β'}
    (hf : ∀ a b, R a b → S (f a) (g b)) : SameE S (x.map f) (y.map g) := by
  rcases h.cases with ⟨e, rfl, rfl⟩ | ⟨p, q, rfl, rfl, hpq⟩
  · rfl
  · exact hf p q hpq

end SameE

end Shentu
