import Shentu.Proofs.ShieldWrites
/-
  The notions of C02 (the shield module account holds exactly what it owes): `Keyed`, the store keys of providers, stakes
  and reimbursements are unique (what a KV store gives for free); `Same s s'`, a step touches nothing the module owes;
  `Frame s s'`, it does not even touch the stores.  The provider and stake stores are lists, so a step may rearrange them:
  `Same` therefore speaks of their sums, and only under unique keys.

  Every operation on the collateral book is `Same` (`Same.of_chain`: a write to that book rewrites provider records keeping
  their rewards, or adds one without rewards); so is `unstake`.
-/
namespace Shentu.Shield.Fund
open Shentu

@[simp] theorem sumI_nil {α} (f : α → Int) : sumI f [] = 0 := rfl
export Coll (sumI_cons sumI_append sumI_nonneg)

theorem sumI_mem_le {α} (f : α → Int) (l : List α) (h : ∀ x ∈ l, 0 ≤ f x) (p : α) (hp : p ∈ l) : f p ≤ sumI f l := by
  induction l with
  | nil => cases hp
  | cons x xs ih =>
    simp only [sumI_cons]
    have hx := h x List.mem_cons_self
    have hxs := sumI_nonneg f xs (fun y hy => h y (List.mem_cons_of_mem _ hy))
    rcases List.mem_cons.mp hp with h1 | h1
    · subst h1; omega
    · have := ih (fun y hy => h y (List.mem_cons_of_mem _ hy)) h1
      omega

/-- the keys of the provider, stake and reimbursement stores are unique (a KV store cannot hold two values under one key) -/
structure Keyed (s : State) : Prop where
  prov : (s.providers.map (·.addr)).Nodup
  stake : (s.stakes.map stakeKey).Nodup
  reimb : (s.reimbs.map (·.pid)).Nodup

/-- nothing the module owes is touched (the provider and stake stores may be rearranged, their sums are not) -/
structure Same (s s' : State) : Prop where
  reimbs : s'.reimbs = s.reimbs
  remaining : s'.remaining = s.remaining
  blockFees : s'.blockFees = s.blockFees
  prov : (s.providers.map (·.addr)).Nodup → (s'.providers.map (·.addr)).Nodup ∧ sumRewards s' = sumRewards s
  stakes : (s.stakes.map stakeKey).Nodup → (s'.stakes.map stakeKey).Nodup ∧ sumStakes s' = sumStakes s

/-- the step does not touch the provider, stake or reimbursement stores nor the fee pots -/
structure Frame (s s' : State) : Prop where
  providers : s'.providers = s.providers
  stakes : s'.stakes = s.stakes
  reimbs : s'.reimbs = s.reimbs
  remaining : s'.remaining = s.remaining
  blockFees : s'.blockFees = s.blockFees

/-- a write to the fields from which what the module owes is not read -/
theorem Frame.of_writes {s s' : State}
    (h : s' = { s with admin := s'.admin, pools := s'.pools, lists := s'.lists, withdraws := s'.withdraws,
                       origStakings := s'.origStakings, totalCollateral := s'.totalCollateral,
                       totalWithdrawing := s'.totalWithdrawing, totalShield := s'.totalShield, totalClaimed := s'.totalClaimed,
                       serviceFees := s'.serviceFees, stakingPool := s'.stakingPool, lastUpdate := s'.lastUpdate,
                       nextPool := s'.nextPool, nextPurchase := s'.nextPurchase, params := s'.params }) : Frame s s' := by
  rw [h]; exact ⟨rfl, rfl, rfl, rfl, rfl⟩

theorem Frame.refl (s : State) : Frame s s := .of_writes rfl

theorem Frame.same {s s' : State} (h : Frame s s') : Same s s' where
  reimbs := h.reimbs
  remaining := h.remaining
  blockFees := h.blockFees
  prov := fun hn => ⟨by rw [h.providers]; exact hn, by simp only [sumRewards, h.providers]⟩
  stakes := fun hn => ⟨by rw [h.stakes]; exact hn, by simp only [sumStakes, h.stakes]⟩

theorem Same.refl (s : State) : Same s s := (Frame.refl s).same
theorem Same.trans {a b c : State} (h1 : Same a b) (h2 : Same b c) : Same a c where
  reimbs := h2.reimbs.trans h1.reimbs
  remaining := h2.remaining.trans h1.remaining
  blockFees := h2.blockFees.trans h1.blockFees
  prov := fun hn => by
    obtain ⟨n1, e1⟩ := h1.prov hn
    obtain ⟨n2, e2⟩ := h2.prov n1
    exact ⟨n2, e2.trans e1⟩
  stakes := fun hn => by
    obtain ⟨n1, e1⟩ := h1.stakes hn
    obtain ⟨n2, e2⟩ := h2.stakes n1
    exact ⟨n2, e2.trans e1⟩

theorem Same.keyed {s s' : State} (h : Same s s') (hk : Keyed s) : Keyed s' :=
  ⟨(h.prov hk.prov).1, (h.stakes hk.stake).1, by rw [h.reimbs]; exact hk.reimb⟩

theorem Same.owed {s s' : State} (h : Same s s') (hk : Keyed s) : owedRaw s' = owedRaw s := by
  simp only [owedRaw, h.remaining, h.blockFees, (h.prov hk.prov).2, (h.stakes hk.stake).2, sumReimbs, h.reimbs]

theorem setProvider_addrs (s : State) (p' : Provider) :
    (setProvider s p').providers.map (·.addr) = s.providers.map (·.addr) :=
  Coll.updP_addrs p' s.providers

theorem setProvider_sum (f : Provider → Int) (s : State) (a : Addr) (p p' : Provider)
    (hn : (s.providers.map (·.addr)).Nodup) (hf : findProvider s a = some p) (ha : p'.addr = p.addr) :
    sumI f (setProvider s p').providers = sumI f s.providers - f p + f p' :=
  Coll.sumI_updP f p' p s.providers hn (Coll.findProvider_some hf).1 ha

theorem Same.of_chain {s s' : State} (h : Star CollWrite s s') : Same s s' := by
  refine h.lift Same.refl Same.trans (CollWrite.kinds ?_ ?_ ?_)
  · intro s s' a p p' hf ha hr hp hw
    refine ⟨by rw [hw], by rw [hw], by rw [hw], fun hn => ?_, fun hn => by rw [hw]; exact ⟨hn, rfl⟩⟩
    unfold sumRewards
    rw [hp]
    exact ⟨by rw [setProvider_addrs]; exact hn, by rw [setProvider_sum _ s a p p' hn hf ha, hr]; omega⟩
  · intro e s a hf
    refine ⟨rfl, rfl, rfl, fun hn => ⟨withFresh_nodup (e := e) hn hf, ?_⟩, fun hn => ⟨hn, rfl⟩⟩
    show sumI _ (insertProvider _ _) = sumI _ s.providers
    rw [Coll.sumI_perm _ (Coll.insertProvider_perm _ _), Coll.sumI_cons]
    show 0 + _ = _
    omega
  · intro s s' hp hw
    exact Frame.same ⟨hp, by rw [hw], by rw [hw], by rw [hw], by rw [hw]⟩

theorem unstake_same (e : Env) (s s' : State) (poolID : Nat) (a : Addr) (c : Coins)
    (h : unstake e s poolID a c = .ok s') : Same s s' := by
  obtain ⟨k, hk, rfl⟩ := Limit.unstake_ok h
  refine ⟨by simp, by simp, by simp, fun hn => ⟨by simpa using hn, by simp [sumRewards]⟩, fun hn => ?_⟩
  refine ⟨by rw [setStake_stakes]; exact Keyed.keys_upsert_nodup stakeKey _ hn, ?_⟩
  rw [sumStakes_setStake s _ hn]
  dsimp only
  rw [(PoolLm.findStake_key hk).1, (PoolLm.findStake_key hk).2, hk, Keyed.val_some]
  omega

theorem setPool_frame (s : State) (p : Pool) : Frame s (setPool s p) := .of_writes rfl

end Shentu.Shield.Fund
