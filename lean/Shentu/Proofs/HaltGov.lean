import Shentu.Proofs.GovStep
/-
  C08, governance part: the end-blocker (`RefundDepositsByProposalID` / `DeleteDepositsByProposalID` of the proposals
  that end) does not panic when the module account holds the recorded deposits (escrow invariant `Escrow`), and keeps the
  invariant; so does every atom of a message (`atom_escrow`): a deposit arrives in the module account as it is recorded.
-/
namespace Shentu.Halt.Gv
open Shentu Shentu.Gov

def depSum (ds : List Deposit) (d : Denom) : Int := (ds.map (fun x => Coins.amountOf x.amount d)).sum

/-- the escrow invariant: every recorded deposit is a valid amount, and the module account holds at least the sum of
    all recorded deposits -/
structure Escrow (e : Env) (w : World) : Prop where
  valid : ∀ x ∈ w.g.deposits, Coins.isAnyNegative x.amount = false
  covered : ∀ d, depSum w.g.deposits d ≤ w.l.balOf e.modAddr d

theorem Escrow.congr {e : Env} {w w' : World} (h : Escrow e w) (hl : w'.l = w.l) (hd : w'.g.deposits = w.g.deposits) :
    Escrow e w' := ⟨by rw [hd]; exact h.valid, by rw [hd, hl]; exact h.covered⟩

theorem depSum_cons (x : Deposit) (ds : List Deposit) (d : Denom) :
    depSum (x :: ds) d = Coins.amountOf x.amount d + depSum ds d := by simp [depSum]

theorem depSum_nonneg (ds : List Deposit) (hv : ∀ x ∈ ds, Coins.isAnyNegative x.amount = false) (d : Denom) : 0 ≤ depSum ds d :=
  sum_map_nonneg _ fun x hx => Coins.amountOf_nonneg_of_not_anyNegative x.amount (hv x hx) d

theorem depSum_split (p : Deposit → Bool) (ds : List Deposit) (d : Denom) :
    depSum ds d = depSum (ds.filter p) d + depSum (ds.filter (fun x => !(p x))) d :=
  sum_filter_split p _ ds

theorem refundDeposits_total (e : Env) (w : World) (pid : Nat) (h : Escrow e w) :
    ∃ w', refundDeposits e w pid = .ok w' ∧ Escrow e w' := by
  obtain ⟨l', hl', hc'⟩ := Ledger.paid_filter_total e.modAddr (fun x : Deposit => x.depositor) (fun x : Deposit => x.amount)
    (refundDeposits.go e) (fun _ => rfl) (fun _ _ _ _ => refund_go_cons) (·.pid == pid) w.g.deposits w.l
    (fun x hx => Coins.amountOf_nonneg_of_not_anyNegative _ (h.valid x hx)) h.covered
  unfold refundDeposits
  dsimp only
  rw [hl']
  exact ⟨_, rfl, fun x hx => h.valid x (List.mem_filter.mp hx).1, hc'⟩

theorem burnDeposits_total (e : Env) (w : World) (pid : Nat) (h : Escrow e w) :
    ∃ w', burnDeposits e w pid = .ok w' ∧ Escrow e w' := by
  have hcov := fun d => sum_filter_covered (·.pid == pid) (fun x : Deposit => Coins.amountOf x.amount d)
    (fun x hx => Coins.amountOf_nonneg_of_not_anyNegative _ (h.valid x hx) d) (h.covered d)
  have hcovers : Coins.covers (w.l.bal e.modAddr)
      ((w.g.deposits.filter (·.pid == pid)).foldl (fun acc x => Coins.add acc x.amount) ([] : Coins)) = true :=
    Ledger.covers_iff.mpr fun d _ => by rw [amountOf_foldl_amounts]; exact (hcov d).1
  unfold burnDeposits
  dsimp only
  rw [hcovers]
  simp only [Bool.not_true, Bool.false_eq_true, if_false]
  refine ⟨_, rfl, fun x hx => h.valid x (List.mem_filter.mp hx).1, fun d => ?_⟩
  dsimp only
  rw [Ledger.balOf_burn, amountOf_foldl_amounts, beq_self_eq_true, if_pos rfl]
  exact (hcov d).2

theorem finish_escrow (e : Env) (w : World) (p : Proposal) (pass : Bool) (t : Tally) (h : Escrow e w) :
    Escrow e (finish w p pass t) := by
  obtain ⟨c', s, hf, _⟩ := finish_shape w p pass t
  rw [hf]; exact h.congr rfl (setP_deposits _ _)

theorem finish_after {e : Env} {x : Except Err World} (hx : ∃ w1, x = .ok w1 ∧ Escrow e w1) (p : Proposal) (pass : Bool)
    (t : Tally) : ∃ w', x.map (fun w1 => finish w1 p pass t) = .ok w' ∧ Escrow e w' := by
  obtain ⟨w1, rfl, h1⟩ := hx
  exact ⟨_, rfl, finish_escrow e w1 p pass t h1⟩

theorem processActive_total (e : Env) (w : World) (p : Proposal) (h : Escrow e w) :
    ∃ w', processActive e w p = .ok w' ∧ Escrow e w' := by
  rw [processActive_eq]
  split
  · split
    · exact ⟨_, rfl, h.congr rfl (activateVotingPeriod_deposits ..)⟩
    · exact finish_after (refundDeposits_total e w p.id h) ..
  · have h0 : Escrow e { w with g := (stakeTally e w.g p 0).2.2.2 } := h.congr rfl (by rw [stakeTally_state])
    split
    · exact finish_after (burnDeposits_total e _ p.id h0) ..
    · exact finish_after (refundDeposits_total e _ p.id h0) ..

theorem processSecurityVote_total (e : Env) (w : World) (p : Proposal) (h : Escrow e w) :
    ∃ w', processSecurityVote e w p = .ok w' ∧ Escrow e w' := by
  rw [processSecurityVote_eq]
  split
  · exact ⟨w, rfl, h⟩
  · split
    · exact ⟨w, rfl, h⟩
    · split
      · exact finish_after (refundDeposits_total e w p.id h) ..
      · exact ⟨_, rfl, h.congr rfl (activateVotingPeriod_deposits ..)⟩

theorem endBlock_total (e : Env) (w : World) (h : Escrow e w) : ∃ w', endBlock e w = .ok w' ∧ Escrow e w' :=
  endBlock_total_of (fun _ p h => refundDeposits_total e _ p.id (h.congr rfl rfl)) (processActive_total e)
    (processSecurityVote_total e) w h

theorem upsertDeposit_valid (pid : Nat) (a : Addr) (amt : Coins) (hamt : Coins.isAnyNegative amt = false)
    (ds : List Deposit) (hv : ∀ x ∈ ds, Coins.isAnyNegative x.amount = false) :
    ∀ x ∈ upsertDeposit pid a amt ds, Coins.isAnyNegative x.amount = false :=
  forall_upsertDeposit hv (fun y hy _ _ => (Coins.isAnyNegative_eq_false_iff _).mpr fun d => by
    have h1 := Coins.amountOf_nonneg_of_not_anyNegative y.amount (hv y hy) d
    have h2 := Coins.amountOf_nonneg_of_not_anyNegative amt hamt d
    show 0 ≤ Coins.amountOf (Coins.add y.amount amt) d
    rw [Coins.amountOf_add]; omega) hamt

theorem depSum_upsertDeposit (pid : Nat) (a : Addr) (amt : Coins) (d : Denom) (ds : List Deposit) :
    depSum (upsertDeposit pid a amt ds) d = depSum ds d + Coins.amountOf amt d := by
  simpa [depSum, List.filter_eq_self.mpr] using sum_upsertDeposit (fun _ _ => true) pid a amt d ds

theorem escrowIn_margin {m a : Addr} (hne : a ≠ m) {l l' : Ledger} {amt : Coins} (h : l.send a m amt = .ok l') (pid : Nat)
    (ds : List Deposit) (d : Denom) :
    l'.balOf m d - depSum (upsertDeposit pid a amt ds) d = l.balOf m d - depSum ds d := by
  rw [depSum_upsertDeposit, Ledger.send_ok _ _ _ _ _ h, Ledger.balOf_move]
  have hm : (a == m) = false := by simpa using hne
  simp only [hm, Bool.false_eq_true, if_false, beq_self_eq_true, if_true]
  omega

/-- Every atom of a message keeps the escrow invariant: only `escrowIn` touches ledger or records, and there the coins
    arrive in the module account as they are recorded.  Side condition: the signer is not the module account itself (it
    cannot sign transactions). -/
theorem atom_escrow {e : Env} {a : Addr} {w w' : World} (hne : a ≠ e.modAddr) (h : Atom e a w w') (hi : Escrow e w) :
    Escrow e w' := by
  cases h with
  | «open» p _ _ => exact hi.congr rfl (setP_deposits ..)
  | edit q _ _ _ => exact hi.congr rfl (setP_deposits ..)
  | vote pid o _ _ => exact hi.congr rfl rfl
  | @escrowIn pid amt q l1 _ _ hsend =>
    refine ⟨upsertDeposit_valid pid a amt (Ledger.send_not_anyNegative hsend) _ hi.valid, fun d => ?_⟩
    have := escrowIn_margin hne hsend pid w.g.deposits d
    have := hi.covered d
    show depSum (upsertDeposit pid a amt w.g.deposits) d ≤ l1.balOf e.modAddr d
    omega

end Shentu.Halt.Gv
