import Shentu.Proofs.Tactics
import Shentu.Proofs.Guards
import Shentu.Proofs.BankLemmas
import Shentu.Proofs.DecRound
import Shentu.Proofs.ShieldStores
/-
  `purchaseShield` (`purchaseCore`) as three steps: the guards, the payment (`pcPaid`), the bookkeeping (`pcFinish`);
  what a successful call is in these terms is `purchaseCore_ok_iff`, and the two steps as one write to the state before
  them `pcFinish_paid`.  The three messages built on it are each opened
  once, as an equation (`Limit.purchase_eq`, `createPool_eq`, `updatePool_eq`), and what an accepted call is is read
  off that.  Then the claim lock (`secureCollaterals_steps`) and the final state of an accepted `pausePool`,
  `updateSponsor`, `unstake`, `withdrawRewards`, `withdrawReimbursement`.  The collateral books, the pool books, the
  module's funds, the fee clock and the limits all read purchases through these.
-/
namespace Shentu.Shield

/-- a transfer whose error is passed on, then the state `t`: how the paying operations end.  Stated at these types, not
    about variables: a `match` in a lemma is the matcher of the models only where the types coincide, and two stuck
    matchers are not unified. -/
theorem sent_ok_iff {r : Except Err Ledger} {t s' : State} {l' : Ledger} :
    (match r with | .error x => .error x | .ok l1 => .ok (l1, t) : Except Err (Ledger × State)) = .ok (l', s') ↔
      r = .ok l' ∧ s' = t := by
  cases r with
  | error x => exact ⟨fun h => (nomatch h), fun h => (nomatch h.1)⟩
  | ok l1 => exact ⟨fun h => (by cases h; exact ⟨rfl, rfl⟩), fun ⟨h1, h2⟩ => (by cases h1; rw [h2])⟩

end Shentu.Shield

namespace Shentu.Shield.PoolLm

/-- the stake record a staked purchase writes: the purchaser's stake in the pool, raised by the deposit -/
def stakeWith (s : State) (poolID : Nat) (purchaser : Addr) (amt : Int) : Stake :=
  match findStake s poolID purchaser with
  | some k => { k with amount := k.amount + amt }
  | none => { pool := poolID, purchaser := purchaser, amount := amt, requested := 0 }

theorem stakeWith_spec (s : State) (pid : Nat) (a : Addr) (amt : Int) :
    (stakeWith s pid a amt).pool = pid ∧ (stakeWith s pid a amt).purchaser = a ∧
    (stakeWith s pid a amt).amount = Keyed.val (·.amount) (findStake s pid a) + amt := by
  unfold stakeWith
  cases hf : findStake s pid a with
  | none => exact ⟨rfl, rfl, (Int.zero_add _).symm⟩
  | some k => exact ⟨(findStake_key hf).1, (findStake_key hf).2, rfl⟩

/-- the payment step of `purchaseShield`: fees to the module account, or a stake -/
def pcPaid (e : Env) (l : Ledger) (s : State) (poolID : Nat) (purchaser : Addr) (fees staking : Coins) : Except Err (Ledger × State) :=
  let pid := s.nextPurchase
  let s := { s with nextPurchase := pid + 1 }
  if !Coins.isZero fees then
    match l.send purchaser e.modAddr fees with
    | .error x => .error x
    | .ok l' =>
      let f := Dec.ofInt (Coins.amountOf fees e.bond)
      .ok (l', { s with serviceFees := Dec.add s.serviceFees f, remaining := Dec.add s.remaining f })
  else
    let amt := Coins.amountOf staking e.bond
    match l.send purchaser e.modAddr [(e.bond, amt)] with
    | .error x => .error x
    | .ok l' =>
      let s1 := setStake { s with stakingPool := s.stakingPool + amt } (stakeWith s poolID purchaser amt)
      .ok (l', { s1 with origStakings := (s1.origStakings.filter (·.1 != pid)) ++ [(pid, amt)] })

/-- the purchase record `purchaseShield` creates -/
def pcEntry (e : Env) (s : State) (shield fees : Coins) : Purchase :=
  { id := s.nextPurchase, endTime := e.t + s.params.protection, delTime := e.t + s.params.protection,
    shield := Coins.amountOf shield e.bond,
    fees := if Coins.isZero fees then Dec.zero else Dec.ofInt (Coins.amountOf fees e.bond) }

/-- the list record `purchaseShield` writes: the new entry at the end of the holder's list for the pool -/
def listWith (s : State) (poolID : Nat) (purchaser : Addr) (entry : Purchase) : PList :=
  match findList s poolID purchaser with
  | some x => { x with entries := x.entries ++ [entry] }
  | none => { pool := poolID, purchaser := purchaser, entries := [entry] }

theorem listWith_congr {s s' : State} (h : s'.lists = s.lists) (pid : Nat) (a : Addr) (en : Purchase) :
    listWith s' pid a en = listWith s pid a en := by
  unfold listWith findList; rw [h]

theorem listWith_key (s : State) (pid : Nat) (a : Addr) (entry : Purchase) : listKey (listWith s pid a entry) = (pid, a) := by
  unfold listWith
  cases hf : findList s pid a with
  | none => rfl
  | some x => exact findList_listKey (l := x) hf

theorem listWith_entries (s : State) (pid : Nat) (a : Addr) (entry : Purchase) :
    (listWith s pid a entry).entries = optEntries (findList s pid a) ++ [entry] := by
  unfold listWith; cases findList s pid a <;> rfl

/-- the bookkeeping step of `purchaseShield` -/
def pcFinish (e : Env) (s1 : State) (pool : Pool) (poolID : Nat) (purchaser : Addr) (entry : Purchase) : State :=
  let s2 := setPool { s1 with totalShield := s1.totalShield + entry.shield } { pool with shield := pool.shield + entry.shield }
  let s3 := setList s2 (listWith s2 poolID purchaser entry)
  if s3.lastUpdate == zeroTime then { s3 with lastUpdate := e.t } else s3

theorem purchaseCore_eq (e : Env) (l : Ledger) (s : State) (poolID : Nat) (shield : Coins) (purchaser : Addr) (fees staking : Coins) :
    purchaseCore e l s poolID shield purchaser fees staking =
    match findPool s poolID with
    | none => err "shield:no-pool"
    | some pool =>
      if !pool.active then err "shield:pool-inactive"
      else if Coins.isZero shield then err "shield:no-shield"
      else if Coins.isZero fees && Coins.isZero staking then err "shield:no-shield"
      else if s.totalShield + Coins.amountOf shield e.bond > s.totalCollateral - s.totalWithdrawing - s.totalClaimed then
        err "shield:not-enough-collateral"
      else if Coins.amountOf shield e.bond + pool.shield >
          min pool.limit (Dec.truncateInt (Dec.mul (Dec.ofInt (s.totalCollateral - s.totalWithdrawing - s.totalClaimed)) s.params.poolLimit)) then
        err "shield:pool-limit"
      else
        match pcPaid e l s poolID purchaser fees staking with
        | .error x => .error x
        | .ok (l', s1) => .ok (l', pcFinish e s1 pool poolID purchaser (pcEntry e s shield fees)) := by
  rfl

theorem purchaseCore_ok_iff {e : Env} {l l' : Ledger} {s s' : State} {poolID : Nat} {shield : Coins} {purchaser : Addr}
    {fees staking : Coins} :
    purchaseCore e l s poolID shield purchaser fees staking = .ok (l', s') ↔
    ∃ pool s1, findPool s poolID = some pool ∧ pool.active = true ∧ Coins.isZero shield = false ∧
      (Coins.isZero fees && Coins.isZero staking) = false ∧
      s.totalShield + Coins.amountOf shield e.bond ≤ s.totalCollateral - s.totalWithdrawing - s.totalClaimed ∧
      Coins.amountOf shield e.bond + pool.shield ≤
        min pool.limit (Dec.truncateInt (Dec.mul (Dec.ofInt (s.totalCollateral - s.totalWithdrawing - s.totalClaimed)) s.params.poolLimit)) ∧
      pcPaid e l s poolID purchaser fees staking = .ok (l', s1) ∧
      s' = pcFinish e s1 pool poolID purchaser (pcEntry e s shield fees) := by
  rw [purchaseCore_eq]
  cases findPool s poolID with
  | none => exact ⟨fun h => (nomatch h), fun ⟨_, _, h, _⟩ => (nomatch h)⟩
  | some pool =>
    -- the five guards are read in both directions at once, one `and_congr_right` each; what is left is the payment
    simp only [err_guard_iff, Option.some.injEq, Bool.not_eq_false', exists_and_left, exists_eq_left']
    rw [guard_iff, guard_iff, Int.not_lt, Int.not_lt]
    iterate 5 refine and_congr_right fun _ => ?_
    cases pcPaid e l s poolID purchaser fees staking with
    | error x => exact ⟨fun h => (nomatch h), fun ⟨_, h, _⟩ => (nomatch h)⟩
    | ok v => exact ⟨fun h => by cases h; exact ⟨_, rfl, rfl⟩, fun ⟨_, h1, h2⟩ => by cases h1; rw [h2]⟩

theorem purchaseCore_ok {e : Env} {l l' : Ledger} {s s' : State} {poolID : Nat} {shield : Coins} {purchaser : Addr} {fees staking : Coins}
    (h : purchaseCore e l s poolID shield purchaser fees staking = .ok (l', s')) :
    ∃ pool s1, findPool s poolID = some pool ∧ pool.active = true ∧ Coins.isZero shield = false ∧
      pcPaid e l s poolID purchaser fees staking = .ok (l', s1) ∧
      s' = pcFinish e s1 pool poolID purchaser (pcEntry e s shield fees) :=
  have ⟨pool, s1, hpool, hact, hzero, _, _, _, hpaid, hs'⟩ := purchaseCore_ok_iff.mp h
  ⟨pool, s1, hpool, hact, hzero, hpaid, hs'⟩

theorem pcPaid_ok_iff {e : Env} {l l' : Ledger} {s s1 : State} {poolID : Nat} {purchaser : Addr} {fees staking : Coins} :
    pcPaid e l s poolID purchaser fees staking = .ok (l', s1) ↔
      (if Coins.isZero fees = false then l.send purchaser e.modAddr fees
        else l.send purchaser e.modAddr [(e.bond, Coins.amountOf staking e.bond)]) = .ok l' ∧
      s1 = if Coins.isZero fees = false then
          { s with nextPurchase := s.nextPurchase + 1,
                   serviceFees := Dec.add s.serviceFees (Dec.ofInt (Coins.amountOf fees e.bond)),
                   remaining := Dec.add s.remaining (Dec.ofInt (Coins.amountOf fees e.bond)) }
        else
          { s with nextPurchase := s.nextPurchase + 1, stakingPool := s.stakingPool + Coins.amountOf staking e.bond,
                   stakes := (setStake s (stakeWith s poolID purchaser (Coins.amountOf staking e.bond))).stakes,
                   origStakings := s.origStakings.filter (·.1 != s.nextPurchase) ++
                     [(s.nextPurchase, Coins.amountOf staking e.bond)] } := by
  unfold pcPaid
  dsimp only
  cases Coins.isZero fees
  · rw [if_pos (show (!false) = true from rfl), if_pos rfl, if_pos rfl]; exact sent_ok_iff
  · rw [if_neg (show ¬ (!true) = true by decide), if_neg (by decide), if_neg (by decide), setStake_eq,
      setStake_stakes_congr (s := s)]
    · exact sent_ok_iff
    · rfl

theorem pcPaid_frame {e : Env} {l l' : Ledger} {s s1 : State} {poolID : Nat} {purchaser : Addr} {fees staking : Coins}
    (h : pcPaid e l s poolID purchaser fees staking = .ok (l', s1)) :
    s1 = { s with nextPurchase := s.nextPurchase + 1, serviceFees := s1.serviceFees, remaining := s1.remaining,
                  stakes := s1.stakes, stakingPool := s1.stakingPool, origStakings := s1.origStakings } := by
  obtain ⟨_, rfl⟩ := pcPaid_ok_iff.mp h
  split <;> rfl

theorem pcFinish_eq (e : Env) (s1 : State) (pool : Pool) (poolID : Nat) (purchaser : Addr) (entry : Purchase) :
    pcFinish e s1 pool poolID purchaser entry =
      { s1 with
        pools := s1.pools.map (fun x => if x.id == pool.id then { pool with shield := pool.shield + entry.shield } else x),
        lists := (setList s1 (listWith s1 poolID purchaser entry)).lists,
        totalShield := s1.totalShield + entry.shield,
        lastUpdate := if s1.lastUpdate == zeroTime then e.t else s1.lastUpdate } := by
  unfold pcFinish
  dsimp only
  generalize hs2 : setPool { s1 with totalShield := s1.totalShield + entry.shield }
    { pool with shield := pool.shield + entry.shield } = s2
  have hl : s2.lists = s1.lists := by rw [← hs2]; rfl
  rw [setList_eq, listWith_congr hl, setList_lists_congr hl]
  subst hs2
  show (if s1.lastUpdate == zeroTime then _ else _) = _
  by_cases hz : (s1.lastUpdate == zeroTime) = true
  · rw [if_pos hz, if_pos hz]; rfl
  · rw [if_neg hz, if_neg hz]; rfl

/-- the two steps together: the bookkeeping reads the fields the payment left alone, so an accepted purchase is `s` with
    the pool, the list, the total and the fee clock written, and the fee pots or the stake books as the payment left them -/
theorem pcFinish_paid {e : Env} {l l' : Ledger} {s s1 : State} {poolID : Nat} {purchaser : Addr} {fees staking : Coins}
    (h : pcPaid e l s poolID purchaser fees staking = .ok (l', s1)) (pool : Pool) (entry : Purchase) :
    pcFinish e s1 pool poolID purchaser entry =
      { s with
        nextPurchase := s.nextPurchase + 1, serviceFees := s1.serviceFees, remaining := s1.remaining,
        stakes := s1.stakes, stakingPool := s1.stakingPool, origStakings := s1.origStakings,
        pools := s.pools.map (fun x => if x.id == pool.id then { pool with shield := pool.shield + entry.shield } else x),
        lists := (setList s (listWith s poolID purchaser entry)).lists,
        totalShield := s.totalShield + entry.shield,
        lastUpdate := if s.lastUpdate == zeroTime then e.t else s.lastUpdate } := by
  have hl : s1.lists = s.lists := by rw [pcPaid_frame h]
  rw [pcFinish_eq, listWith_congr hl, setList_lists_congr hl, pcPaid_frame h]

/-- the fees booked on the new entry are the fees sent, and the bank sends no negative amount -/
theorem pcEntry_fees_nonneg {e : Env} {l l' : Ledger} {s s1 : State} {poolID : Nat} {purchaser : Addr} {fees staking : Coins}
    (h : pcPaid e l s poolID purchaser fees staking = .ok (l', s1)) (shield : Coins) :
    0 ≤ (pcEntry e s shield fees).fees.raw := by
  have hsend := (pcPaid_ok_iff.mp h).1
  show 0 ≤ (if Coins.isZero fees then Dec.zero else Dec.ofInt (Coins.amountOf fees e.bond)).raw
  cases hz : Coins.isZero fees with
  | true => exact Int.le_refl 0
  | false =>
    rw [hz, if_pos rfl] at hsend
    exact Dec.ofInt_nonneg _ (Coins.amountOf_nonneg_of_not_anyNegative _ (Ledger.send_not_anyNegative hsend) _)

end Shentu.Shield.PoolLm

namespace Shentu.Shield.Limit

/-- what a user purchase of `amt` costs at the standard rates: the fee, or for a staked purchase the deposit -/
def userCost (s : State) (staking : Bool) (amt : Int) : Int :=
  if staking then Dec.truncateInt (Dec.mulInt s.params.stakingRate amt)
  else Dec.truncateInt (Dec.mul (Dec.ofInt amt) s.params.feesRate)

theorem purchase_eq (e : Env) (l : Ledger) (s : State) (poolID : Nat) (shield : Coins) (purchaser : Addr) (staking : Bool) :
    purchase e l s poolID shield purchaser staking =
      if !staking && (poolID == 0 || !Coins.isAllPositive shield) then err "basic:shield:invalid-purchase"
      else if !Coins.isZero shield && s.params.minPurchase > Coins.amountOf shield e.bond && Coins.amountOf shield e.bond != 0 then
        err "shield:purchase-too-small"
      else purchaseCore e l s poolID shield purchaser
        (if staking then [] else [(e.bond, userCost s staking (Coins.amountOf shield e.bond))])
        (if staking then [(e.bond, userCost s staking (Coins.amountOf shield e.bond))] else []) := by
  unfold purchase userCost
  cases staking
  · simp only [Bool.not_false, Bool.true_and, Bool.false_eq_true, if_false, if_true]
  · simp only [Bool.not_true, Bool.false_and, Bool.false_eq_true, if_false, if_true]

/-- the state in which `createPool` makes its purchase -/
def withNewPool (s : State) (sponsor : String) (sponsorAddr : Addr) (limit : Int) : State :=
  { s with pools := s.pools ++ [{ id := s.nextPool, shield := 0, limit := limit, active := true, sponsor := sponsor, sponsorAddr := sponsorAddr }],
           nextPool := s.nextPool + 1 }

theorem createPool_eq (e : Env) (l : Ledger) (s : State) (creator : Addr) (shield fees : Coins) (sponsor : String)
    (sponsorAddr : Addr) (limit : Int) :
    createPool e l s creator shield fees sponsor sponsorAddr limit =
      if sponsor.trimAscii.toString == "" || !Coins.isAllPositive shield then err "basic:shield:invalid-pool"
      else if creator != s.admin then err "shield:not-admin"
      else purchaseCore e l (withNewPool s sponsor sponsorAddr limit) s.nextPool shield creator fees [] := rfl

theorem findPool_withNewPool (s : State) (sponsor : String) (sponsorAddr : Addr) (limit : Int)
    (hfresh : findPool s s.nextPool = none) :
    findPool (withNewPool s sponsor sponsorAddr limit) s.nextPool =
      some { id := s.nextPool, shield := 0, limit := limit, active := true, sponsor := sponsor, sponsorAddr := sponsorAddr } := by
  simp only [findPool, withNewPool] at hfresh ⊢
  rw [List.find?_append, hfresh]
  simp

/-- the pool as `updatePool` rewrites it before a purchase -/
def relimit (pool : Pool) (limit : Int) : Pool := if limit != 0 then { pool with limit := limit } else pool

theorem relimit_id (pool : Pool) (limit : Int) : (relimit pool limit).id = pool.id := by unfold relimit; split <;> rfl
theorem relimit_shield (pool : Pool) (limit : Int) : (relimit pool limit).shield = pool.shield := by unfold relimit; split <;> rfl
theorem relimit_active (pool : Pool) (limit : Int) : (relimit pool limit).active = pool.active := by unfold relimit; split <;> rfl
theorem relimit_limit (pool : Pool) (limit : Int) : (relimit pool limit).limit = if limit = 0 then pool.limit else limit := by
  unfold relimit; by_cases h : limit = 0 <;> simp [h]

theorem updatePool_eq (e : Env) (l : Ledger) (s : State) (updater : Addr) (poolID : Nat) (shield fees : Coins) (limit : Int) :
    updatePool e l s updater poolID shield fees limit =
      if poolID == 0 || Coins.isAnyNegative shield then err "basic:shield:invalid-pool"
      else if updater != s.admin then err "shield:not-admin"
      else match findPool s poolID with
      | none => err "shield:no-pool"
      | some pool =>
        if !Coins.isZero shield then purchaseCore e l (setPool s (relimit pool limit)) poolID shield updater fees []
        else if !Coins.isZero fees then
          match l.send updater e.modAddr fees with
          | .error x => .error x
          | .ok l' => .ok (l', { setPool s (relimit pool limit) with
              serviceFees := Dec.add s.serviceFees (Dec.ofInt (Coins.amountOf fees e.bond)),
              remaining := Dec.add s.remaining (Dec.ofInt (Coins.amountOf fees e.bond)) })
        else .ok (l, setPool s (relimit pool limit)) := rfl

end Shentu.Shield.Limit

namespace Shentu.Shield.PoolLm

theorem purchase_ok {e : Env} {l l' : Ledger} {s s' : State} {poolID : Nat} {shield : Coins} {purchaser : Addr} {staking : Bool}
    (h : purchase e l s poolID shield purchaser staking = .ok (l', s')) :
    (staking = false → poolID ≠ 0 ∧ Coins.isAllPositive shield = true) ∧
    (Coins.isZero shield = false → s.params.minPurchase > Coins.amountOf shield e.bond → Coins.amountOf shield e.bond = 0) ∧
    purchaseCore e l s poolID shield purchaser
      (if staking then [] else [(e.bond, Dec.truncateInt (Dec.mul (Dec.ofInt (Coins.amountOf shield e.bond)) s.params.feesRate))])
      (if staking then [(e.bond, Dec.truncateInt (Dec.mulInt s.params.stakingRate (Coins.amountOf shield e.bond)))] else [])
      = .ok (l', s') := by
  rw [Limit.purchase_eq] at h
  obtain ⟨hmsg, h⟩ := of_guard h
  obtain ⟨hmin, h⟩ := of_guard h
  refine ⟨fun hs => ?_, fun hz hlt => ?_, ?_⟩
  · simpa [hs] using hmsg
  · simpa [hz, hlt] using hmin
  · cases staking <;> exact h

theorem createPool_ok {e : Env} {l l' : Ledger} {s s' : State} {creator : Addr} {shield fees : Coins} {sponsor : String}
    {sponsorAddr : Addr} {limit : Int} (h : createPool e l s creator shield fees sponsor sponsorAddr limit = .ok (l', s')) :
    Coins.isAllPositive shield = true ∧ creator = s.admin ∧
    purchaseCore e l
      { s with pools := s.pools ++ [{ id := s.nextPool, shield := 0, limit := limit, active := true, sponsor := sponsor,
                                      sponsorAddr := sponsorAddr }],
               nextPool := s.nextPool + 1 }
      s.nextPool shield creator fees [] = .ok (l', s') := by
  rw [Limit.createPool_eq] at h
  obtain ⟨hmsg, h⟩ := of_guard h
  obtain ⟨hadmin, h⟩ := of_guard h
  bool_norm at hmsg hadmin
  exact ⟨hmsg.2, hadmin, h⟩

theorem updatePool_ok {e : Env} {l l' : Ledger} {s s' : State} {updater : Addr} {poolID : Nat} {shield fees : Coins} {limit : Int}
    (h : updatePool e l s updater poolID shield fees limit = .ok (l', s')) :
    Coins.isAnyNegative shield = false ∧ updater = s.admin ∧
    ∃ pool s1, findPool s poolID = some pool ∧ s1 = setPool s (if limit != 0 then { pool with limit := limit } else pool) ∧
      (purchaseCore e l s1 poolID shield updater fees [] = .ok (l', s') ∨
       Coins.isZero shield = true ∧
        (l.send updater e.modAddr fees = .ok l' ∧
          s' = { s1 with serviceFees := Dec.add s1.serviceFees (Dec.ofInt (Coins.amountOf fees e.bond)),
                         remaining := Dec.add s1.remaining (Dec.ofInt (Coins.amountOf fees e.bond)) } ∨
         l' = l ∧ s' = s1)) := by
  rw [Limit.updatePool_eq] at h
  obtain ⟨hmsg, h⟩ := of_guard h
  obtain ⟨hadmin, h⟩ := of_guard h
  bool_norm at hmsg hadmin
  cases hpool : findPool s poolID with
  | none => rw [hpool] at h; cases h
  | some pool =>
    rw [hpool] at h
    dsimp only at h
    refine ⟨hmsg.2, hadmin, pool, _, rfl, rfl, ?_⟩
    by_cases hz : Coins.isZero shield = true
    · refine Or.inr ⟨hz, ?_⟩
      rw [if_neg (by simp [hz])] at h
      by_cases hf : Coins.isZero fees = true
      · rw [if_neg (by simp [hf])] at h
        cases h
        exact Or.inr ⟨rfl, rfl⟩
      · rw [if_pos (by simpa using hf)] at h
        exact Or.inl (sent_ok_iff.mp h)
    · rw [if_pos (by simpa using hz)] at h
      exact Or.inl h

/-- the purchase a claim is locked against: the entry with the id, or the first entry of the list when there is none -/
def lockTarget (lst : PList) (purchaseID : Nat) : Option Purchase :=
  (lst.entries.find? (·.id == purchaseID)).orElse (fun _ => lst.entries.head?)

theorem lockTarget_of_find {lst : PList} {id : Nat} {en : Purchase} (h : lst.entries.find? (·.id == id) = some en) :
    lockTarget lst id = some en := by
  unfold lockTarget; rw [h]; rfl

theorem lockTarget_find {lst : PList} {id : Nat} {pu : Purchase} (h : lockTarget lst id = some pu) :
    lst.entries.find? (·.id == pu.id) = some pu := by
  unfold lockTarget at h
  cases hf : lst.entries.find? (·.id == id) with
  | some en =>
    rw [hf] at h
    have : en = pu := by simpa using h
    subst this
    have hid : en.id = id := by have := List.find?_some hf; simpa using this
    rw [hid]; exact hf
  | none =>
    rw [hf] at h
    have hh : lst.entries.head? = some pu := by simpa using h
    cases hl : lst.entries with
    | nil => rw [hl] at hh; cases hh
    | cons a as =>
      rw [hl] at hh
      have : a = pu := by simpa using hh
      subst this
      simp

/-- the purchase record after the lock: `loss` less shield, deletion not before the end of the vote -/
def lockedEntry (e : Env) (pu : Purchase) (loss dur : Int) : Purchase :=
  { pu with shield := pu.shield - loss, delTime := if pu.delTime < e.t + dur then e.t + dur else pu.delTime }

theorem secureCollaterals_steps {e : Env} {s s' : State} {poolID : Nat} {purchaser : Addr} {purchaseID : Nat} {loss dur : Int}
    (h : secureCollaterals e s poolID purchaser purchaseID loss dur = .ok s') :
    ∃ pool lst pu s1, findPool s poolID = some pool ∧ loss ≤ pool.shield ∧ s.totalClaimed + loss ≤ s.totalCollateral ∧
      findList s poolID purchaser = some lst ∧ lockTarget lst purchaseID = some pu ∧ loss ≤ pu.shield ∧
      secureLoop e (Dec.quo (Dec.ofInt (s.totalClaimed + loss)) (Dec.ofInt s.totalCollateral)) dur s.providers
        (s.totalClaimed + loss) s = .ok s1 ∧
      s' = { s1 with
             lists := (setList s1 { lst with entries := replaceFirst (·.id == pu.id) (fun _ => lockedEntry e pu loss dur) lst.entries }).lists,
             pools := s1.pools.map (fun x => if x.id == pool.id then { pool with shield := pool.shield - loss } else x),
             totalShield := s1.totalShield - loss, totalClaimed := s.totalClaimed + loss } := by
  unfold secureCollaterals at h
  cases hpool : findPool s poolID with
  | none => rw [hpool] at h; cases h
  | some pool =>
    rw [hpool] at h
    dsimp only at h
    obtain ⟨hls, h⟩ := of_guard h
    obtain ⟨hcl, h⟩ := of_guard h
    cases hlst : findList s poolID purchaser with
    | none => rw [hlst] at h; cases h
    | some lst =>
      rw [hlst] at h
      dsimp only at h
      cases hpu : lockTarget lst purchaseID <;> unfold lockTarget at hpu <;> rw [hpu] at h
      · cases h
      rename_i pu
      dsimp only at h
      obtain ⟨hlp, h⟩ := of_guard h
      obtain ⟨_, h⟩ := of_guard h
      cases hloop : secureLoop e (Dec.quo (Dec.ofInt (s.totalClaimed + loss)) (Dec.ofInt s.totalCollateral)) dur s.providers
          (s.totalClaimed + loss) s with
      | error x => rw [hloop] at h; cases h
      | ok s1 =>
        rw [hloop] at h
        cases h
        refine ⟨pool, lst, pu, s1, rfl, Int.not_lt.mp hls, Int.not_lt.mp hcl, rfl, hpu, Int.not_lt.mp hlp, rfl, ?_⟩
        rw [setList_eq]
        rfl

end Shentu.Shield.PoolLm

namespace Shentu.Shield.Limit

theorem pausePool_ok {s s' : State} {u : Addr} {poolID : Nat} {active : Bool}
    (h : pausePool s u poolID active = .ok s') :
    ∃ pool, findPool s poolID = some pool ∧ s' = setPool s { pool with active := active } := by
  unfold pausePool at h
  replace h := (of_guard (of_guard h).2).2
  cases hp : findPool s poolID with
  | none => rw [hp] at h; cases h
  | some pool => rw [hp] at h; cases (of_guard h).2; exact ⟨_, rfl, rfl⟩

theorem updateSponsor_ok {s s' : State} {u : Addr} {poolID : Nat} {sp : String} {spa : Addr}
    (h : updateSponsor s u poolID sp spa = .ok s') :
    ∃ pool, findPool s poolID = some pool ∧ s' = setPool s { pool with sponsor := sp, sponsorAddr := spa } := by
  unfold updateSponsor at h
  replace h := (of_guard (of_guard h).2).2
  cases hp : findPool s poolID with
  | none => rw [hp] at h; cases h
  | some pool => rw [hp] at h; cases h; exact ⟨_, rfl, rfl⟩

theorem unstake_ok {e : Env} {s s' : State} {poolID : Nat} {purchaser : Addr} {c : Coins}
    (h : unstake e s poolID purchaser c = .ok s') :
    ∃ k, findStake s poolID purchaser = some k ∧
      s' = setStake s { k with requested := k.requested + Coins.amountOf c e.bond } := by
  unfold unstake at h
  cases hk : findStake s poolID purchaser with
  | none => rw [hk] at h; cases h
  | some k => rw [hk] at h; cases (of_guard h).2; exact ⟨_, rfl, rfl⟩

theorem withdrawRewards_ok {e : Env} {l l' : Ledger} {s s' : State} {a : Addr}
    (h : withdrawRewards e l s a = .ok (l', s')) :
    ∃ p, findProvider s a = some p ∧ ((l' = l ∧ s' = s) ∨
      (Dec.truncateInt p.rewards ≠ 0 ∧ l.send e.modAddr a [(e.bond, Dec.truncateInt p.rewards)] = .ok l' ∧
        s' = { setProvider s { p with rewards := Dec.zero } with
               remaining := Dec.add s.remaining (Dec.sub p.rewards (Dec.ofInt (Dec.truncateInt p.rewards))) })) := by
  unfold withdrawRewards at h
  cases hp : findProvider s a with
  | none => rw [hp] at h; cases h
  | some p =>
    rw [hp] at h
    refine ⟨p, rfl, ?_⟩
    dsimp only at h
    by_cases hw : (Dec.truncateInt p.rewards == 0) = true
    · rw [if_pos hw] at h; cases h; exact .inl ⟨rfl, rfl⟩
    · rw [if_neg hw] at h
      exact .inr ⟨by simpa using hw, sent_ok_iff.mp h⟩

end Shentu.Shield.Limit

namespace Shentu.Shield.Fund

theorem withdrawReimbursement_iff {e : Env} {l l' : Ledger} {s s' : State} {pid : Nat} {a : Addr} :
    withdrawReimbursement e l s pid a = .ok (l', s') ↔
      ∃ r, s.reimbs.find? (·.pid == pid) = some r ∧ r.beneficiary = a ∧ r.payoutTime ≤ e.t ∧
        l.send e.modAddr a [(e.bond, r.amount)] = .ok l' ∧ s' = { s with reimbs := s.reimbs.filter (·.pid != pid) } := by
  unfold withdrawReimbursement
  cases hr : s.reimbs.find? (·.pid == pid) with
  | none => simp [err]
  | some r =>
    simp only [err_guard_iff, Option.some.injEq, exists_eq_left', bne_eq_false_iff_eq]
    refine and_congr_right fun _ => ?_
    rw [guard_iff, Int.not_lt]
    refine and_congr_right fun _ => ?_
    cases l.send e.modAddr a [(e.bond, r.amount)] with
    | error x => exact ⟨fun h => (nomatch h), fun h => (nomatch h.1)⟩
    | ok l2 => simp only [Except.ok.injEq, Prod.mk.injEq, @eq_comm _ _ s']
end Shentu.Shield.Fund
