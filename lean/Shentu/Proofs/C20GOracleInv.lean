import Shentu.Proofs.C20GLemmas
import Shentu.Proofs.OracleStep
/-
  The closing index of x/oracle stays exact: after every block of height `H` the state is `Exportable H`
  (distinct task keys; for every later block the index lists exactly the tasks that close then, in task order).
-/
namespace Shentu.C20GOrcInv
open Shentu Shentu.Oracle Shentu.C20GH

/-- distinct task keys, and the closing index is exact from block `c` on -/
def Idx (c : Int) (s : State) : Prop :=
  (s.tasks.map Task.key).Nodup ∧ ∀ k, c ≤ k → closingAt s k = idsAt k s.tasks

theorem exportable_iff (h : Int) (s : State) : Exportable h s ↔ Idx (h + 1) s := by
  constructor
  · intro hx; exact ⟨hx.keys, fun k hk => hx.index k (by omega)⟩
  · intro hi; exact ⟨hi.1, fun k hk => hi.2 k (by omega)⟩

/-- what the invariant reads of a task -/
def sig (t : Task) : String × String × Int := (t.contract, t.function, t.closing)

theorem keys_of_sig (ts : List Task) : ts.map Task.key = (ts.map sig).map (fun p => p.1 ++ p.2.1) := by
  induction ts with
  | nil => rfl
  | cons a l ih => simp only [List.map_cons, ih]; rfl

theorem idsAt_of_sig (k : Int) (ts : List Task) :
    idsAt k ts = ((ts.map sig).filter (fun p => p.2.2 == k)).map (fun p => (p.1, p.2.1)) := by
  induction ts with
  | nil => rfl
  | cons a l ih =>
    unfold idsAt at ih ⊢
    rw [ids_filter_cons, ih]
    simp only [List.map_cons, List.filter_cons]
    have : ((sig a).2.2 == k) = (a.closing == k) := rfl
    rw [this]
    split <;> simp [sig]

theorem nodup_of_sig {ts ts' : List Task} (h : ts'.map sig = ts.map sig) (hn : (ts.map Task.key).Nodup) :
    (ts'.map Task.key).Nodup := by
  rw [keys_of_sig, h, ← keys_of_sig]; exact hn

theorem idx_mono {c c' : Int} {s : State} (hc : c ≤ c') (h : Idx c s) : Idx c' s :=
  ⟨h.1, fun k hk => h.2 k (by omega)⟩

theorem closing_at {c : Int} {e : Env} {s : State} {k : String} {t : Task} (hi : Idx c s) (hc : c ≤ e.h)
    (hm : k ∈ (closingAt s e.h).map (fun i => i.1 ++ i.2)) (ht : findTask s k = some t) : t.closing = e.h := by
  rw [hi.2 e.h hc] at hm
  unfold idsAt ids at hm
  rw [List.map_map] at hm
  obtain ⟨x, hx, hxk⟩ := List.mem_map.1 hm
  have hx' := List.mem_filter.mp hx
  have hkey : x.key = t.key := by
    rw [(findTask_mem ht).2]; exact hxk
  have : x = t := eq_of_key_eq hi.1 hx'.1 (findTask_mem ht).1 hkey
  rw [← this]; simpa using hx'.2

theorem idx_sig {c : Int} {s s' : State} (h : Idx c s) (ht : s'.tasks.map sig = s.tasks.map sig)
    (hcl : s'.closing = s.closing) : Idx c s' := by
  refine ⟨?_, fun k hk => ?_⟩
  · exact nodup_of_sig ht h.1
  · rw [closingAt_congr hcl, idsAt_of_sig, ht, ← idsAt_of_sig]; exact h.2 k hk

theorem idx_frame {c : Int} {s s' : State} (h : Idx c s) (hf : s'.tasks = s.tasks ∧ s'.closing = s.closing) :
    Idx c s' :=
  idx_sig h (by rw [hf.1]) hf.2

theorem idx_empty (c : Int) (p : Params) :
    Idx c { ops := [], wds := [], total := [], tasks := [], closing := [], params := p } :=
  ⟨List.nodup_nil, fun _ _ => rfl⟩

theorem map_sig_update {k : String} {F : Task → Task} {l : List Task} (h : ∀ x ∈ l, x.key = k → sig (F x) = sig x) :
    (l.map (fun x => if x.key == k then F x else x)).map sig = l.map sig := by
  rw [List.map_map]
  refine List.map_congr_left fun x hx => ?_
  show sig (if x.key == k then F x else x) = sig x
  split
  · rename_i hk; exact h x hx (beq_iff_eq.mp hk)
  · rfl

theorem setTask_sig {s : State} {t t0 : Task} (hn : (s.tasks.map Task.key).Nodup)
    (hf : findTask s t.key = some t0) (hs : sig t = sig t0) :
    (setTask s t).tasks.map sig = s.tasks.map sig := by
  unfold setTask
  rw [hf]
  simp only [Option.isSome_some, if_true]
  exact map_sig_update (F := fun _ => t) fun x hx hk => by
    rw [eq_of_key_eq hn hx (findTask_mem hf).1 (hk.trans (findTask_mem hf).2.symm), hs]

theorem idx_setTask {c : Int} {s : State} {t t0 : Task} (h : Idx c s)
    (hf : findTask s t.key = some t0) (hs : sig t = sig t0) : Idx c (setTask s t) :=
  idx_sig h (setTask_sig h.1 hf hs) (setTask_closing s t)

theorem idx_delTask {c c' : Int} {s : State} {key : String} {t : Task} (h : Idx c s) (hc : c ≤ c')
    (hf : findTask s key = some t) (ht : t.closing < c') : Idx c' (delTask s key) := by
  refine ⟨?_, fun k hk => ?_⟩
  · exact h.1.sublist (List.Sublist.map _ List.filter_sublist)
  · rw [closingAt_congr (delTask_closing s key), h.2 k (by omega)]
    unfold idsAt delTask
    simp only [List.filter_filter]
    congr 1
    apply List.filter_congr
    intro x hx
    by_cases hk' : x.key = key
    · have : x = t := eq_of_key_eq h.1 hx (findTask_mem hf).1 (by rw [hk', (findTask_mem hf).2])
      have hne : ¬ x.closing = k := by rw [this]; omega
      simp [hne]
    · simp [hk']

theorem idsAt_append_one (k : Int) (ts : List Task) (t : Task) :
    idsAt k (ts ++ [t]) = idsAt k ts ++ (if t.closing = k then [(t.contract, t.function)] else []) := by
  unfold idsAt ids
  simp only [List.filter_append, List.map_append, List.filter_cons, List.filter_nil]
  by_cases h : t.closing = k <;> simp [h]

theorem idx_addTask {c : Int} {s : State} {t : Task} (h : Idx c s) (hf : findTask s t.key = none)
    (hc : c ≤ t.closing) : Idx c (addClosing (setTask s t) t.closing (t.contract, t.function)) := by
  have hts : (setTask s t).tasks = s.tasks ++ [t] := by
    unfold setTask; rw [hf]; rfl
  refine ⟨?_, fun k hk => ?_⟩
  · rw [addClosing_tasks, setTask_tasks]; exact Keyed.keys_upsert_nodup Task.key t h.1
  · rw [closingAt_addClosing, addClosing_tasks, hts, idsAt_append_one]
    by_cases hkk : k = t.closing
    · subst hkk
      simp only [if_true]
      rw [closingAt_congr (setTask_closing s t), h.2 _ hc]
    · have : ¬ t.closing = k := fun h' => hkk h'.symm
      simp only [hkk, this, if_false, List.append_nil]
      rw [closingAt_congr (setTask_closing s t), h.2 k hk]

theorem idx_stepE {c : Int} {e : Env} {l l' : Ledger} {s s' : State} {op : Op} (hop : op ≠ .endBlock)
    (h : stepE e l s op = .ok (l', s')) (hc : c ≤ e.h) (hi : Idx c s) : Idx e.h s' := by
  have hi' := idx_mono hc hi
  cases stepE_accepted h with
  | operator _ hm => exact idx_frame hi' ⟨hm.frame.1, hm.frame.2.1⟩
  | beginBlock _ hs => rw [hs]; exact idx_frame hi' ⟨rfl, rfl⟩
  | endBlock => exact absurd rfl hop
  | task hev =>
    cases hev with
    | @respond _ _ _ _ t _ _ _ ht _ _ _ _ hs =>
      rw [hs]
      exact idx_setTask hi' (t0 := t) (by show findTask s t.key = some t; rw [(findTask_mem ht).2]; exact ht) rfl
    | delete _ _ ht _ hcl _ hs => rw [hs]; exact idx_delTask hi hc ht hcl
    | @create _ _ _ _ _ _ _ window _ hk _ hpre hw hs =>
      rw [hs]; subst hk
      have hcb : e.h ≤ Gen.Oracle.ctClosingBlock e.h window := by simp only [Gen.Oracle.ctClosingBlock]; omega
      rcases hpre with ⟨hf, rfl⟩ | ⟨old, hf, hcl, rfl⟩
      · exact idx_addTask hi' hf hcb
      · exact idx_addTask (idx_delTask hi hc hf hcl) ((findTask_delTask s _ _).trans (if_pos rfl)) hcb

theorem sig_of_fin {t t' : Task} (h : C15HH.Fin t t') : sig t' = sig t := by
  unfold sig; rw [h.contract, h.function, h.closing]

theorem endOneE_sig {bond : Denom} {s : State} {key : String} {f : Task → Task} {incs : List (Addr × Coins)}
    (hn : (s.tasks.map Task.key).Nodup) (h : endOneE bond s key = .ok (f, incs)) :
    ∀ x ∈ s.tasks, x.key = key → sig (f x) = sig x := by
  rcases C15HH.endOneE_cases h with ⟨rfl, _⟩ | ⟨t, t', hf, _, hfin, rfl, _⟩
  · exact fun _ _ _ => rfl
  · intro x hxm hk
    rw [eq_of_key_eq hn hxm (findTask_mem hf).1 (by rw [hk, (findTask_mem hf).2])]
    exact sig_of_fin hfin

theorem endOne_keep {bond : Denom} {s s' : State} {id : String × String} (hn : (s.tasks.map Task.key).Nodup)
    (h : endOne bond s id = .ok s') : s'.tasks.map sig = s.tasks.map sig ∧ s'.closing = s.closing := by
  obtain ⟨f, incs, he, rfl⟩ := endOne_app h
  exact ⟨map_sig_update (endOneE_sig hn he), rfl⟩

theorem endOne_keys {bond : Denom} {s s' : State} {id : String × String} (hn : (s.tasks.map Task.key).Nodup)
    (h : endOne bond s id = .ok s') : (s'.tasks.map Task.key).Nodup :=
  nodup_of_sig (endOne_keep hn h).1 hn

theorem endFold_keep {bond : Denom} (l : List (String × String)) {s s' : State} (hn : (s.tasks.map Task.key).Nodup)
    (h : endFold bond l s = .ok s') : s'.tasks.map sig = s.tasks.map sig ∧ s'.closing = s.closing :=
  endFold_rel (I := fun a => (a.tasks.map Task.key).Nodup)
    (R := fun a b => b.tasks.map sig = a.tasks.map sig ∧ b.closing = a.closing) (fun _ => ⟨rfl, rfl⟩)
    (fun h1 h2 => ⟨h2.1.trans h1.1, h2.2.trans h1.2⟩) l
    (fun _ _ _ _ ha h1 => ⟨endOne_keep ha h1, endOne_keys ha h1⟩) hn h

theorem endBlock_keys {e : Env} {s s' : State} (hn : (s.tasks.map Task.key).Nodup) (h : endBlock e s = .ok s') :
    (s'.tasks.map Task.key).Nodup := by
  obtain ⟨s1, hf, rfl⟩ := endBlock_ok h
  exact nodup_of_sig (endFold_keep _ hn hf).1 hn

theorem idx_endBlock {c : Int} {e : Env} {s s' : State} (h : endBlock e s = .ok s') (hc : c ≤ e.h) (hi : Idx c s) :
    Idx (e.h + 1) s' := by
  obtain ⟨s1, hf, rfl⟩ := endBlock_ok h
  have k := endFold_keep _ hi.1 hf
  have hi1 : Idx c s1 := idx_sig hi k.1 k.2
  refine ⟨by rw [delClosing_tasks]; exact hi1.1, fun k' hk' => ?_⟩
  rw [closingAt_delClosing, delClosing_tasks, if_neg (by omega)]
  exact hi1.2 k' (by omega)

theorem idx_step {c : Int} {e : Env} {ls : Ledger × State} {op : Op} (hop : op ≠ .endBlock) (hc : c ≤ e.h)
    (hi : Idx c ls.2) : Idx e.h (step e ls op).2 :=
  step_ind (P := fun r => Idx e.h r.2) (idx_mono hc hi) fun _ _ h => idx_stepE hop h hc hi

abbrev Block := List Op

/-- the state after the messages of a block, before its end-blocker -/
def midBlock (e : Env) (ls : Ledger × State) (ops : Block) : Ledger × State :=
  ops.foldl (step e) (step e ls .beginBlock)

/-- one block: begin-blocker, the messages, end-blocker, all at the block's height -/
def runBlock (e : Env) (ls : Ledger × State) (ops : Block) : Ledger × State :=
  step e (midBlock e ls ops) .endBlock

def runBlocks : Ledger × State → List (Env × Block) → Ledger × State
  | ls, [] => ls
  | ls, (e, ops) :: rest => runBlocks (runBlock e ls ops) rest

/-- blocks at heights `h+1, h+2, ...`, no begin/end-blocker among the messages, the end-blocker never halts -/
def Good (h : Int) : Ledger × State → List (Env × Block) → Prop
  | _, [] => True
  | ls, (e, ops) :: rest =>
    e.h = h + 1 ∧ (∀ op ∈ ops, op ≠ .endBlock ∧ op ≠ .beginBlock) ∧
    (∃ r, stepE e (midBlock e ls ops).1 (midBlock e ls ops).2 .endBlock = .ok r) ∧
    Good (h + 1) (runBlock e ls ops) rest

theorem idx_midBlock {c : Int} {e : Env} (hc : c ≤ e.h) (ls : Ledger × State) (ops : Block)
    (ho : ∀ op ∈ ops, op ≠ .endBlock) (hi : Idx c ls.2) : Idx e.h (midBlock e ls ops).2 :=
  List.foldlRecOn (motive := fun ls : Ledger × State => Idx e.h ls.2) ops _ (idx_step (by intro h; cases h) hc hi)
    fun _ h op hm => idx_step (ho op hm) (Int.le_refl _) h

theorem exportable_runBlock {h : Int} {e : Env} {ls : Ledger × State} {ops : Block} (he : e.h = h + 1)
    (ho : ∀ op ∈ ops, op ≠ .endBlock)
    (hok : ∃ r, stepE e (midBlock e ls ops).1 (midBlock e ls ops).2 .endBlock = .ok r)
    (hx : Exportable h ls.2) : Exportable e.h (runBlock e ls ops).2 := by
  have hi : Idx e.h ls.2 := by rw [he]; exact (exportable_iff h ls.2).1 hx
  have hm := idx_midBlock (Int.le_refl _) ls ops ho hi
  obtain ⟨r, hr⟩ := hok
  rw [exportable_iff]
  unfold runBlock step
  rw [hr]
  exact idx_endBlock (Except.map_pair_ok (b' := r.1) (a := r.2) hr).2 (Int.le_refl _) hm

/-- the history theorem: after the blocks of heights `h+1 .. h+n` the state is exportable at height `h+n` -/
theorem exportable_runBlocks : ∀ (bs : List (Env × Block)) (h : Int) (ls : Ledger × State),
    Exportable h ls.2 → Good h ls bs → Exportable (h + bs.length) (runBlocks ls bs).2
  | [], h, ls, hx, _ => by simpa [runBlocks] using hx
  | (e, ops) :: rest, h, ls, hx, hg => by
    obtain ⟨he, ho, hok, hrest⟩ := hg
    have h1 := exportable_runBlock he (fun o hm => (ho o hm).1) hok hx
    rw [he] at h1
    have := exportable_runBlocks rest (h + 1) _ h1 hrest
    simp only [runBlocks, List.length_cons]
    have e2 : h + ((rest.length + 1 : Nat) : Int) = h + 1 + (rest.length : Int) := by omega
    rw [e2]; exact this

theorem exportable_from_empty (p : Params) (l : Ledger) (h : Int) (bs : List (Env × Block))
    (hg : Good h (l, Shentu.Genesis.Oracle.emptyState p) bs) :
    Exportable (h + bs.length) (runBlocks (l, Shentu.Genesis.Oracle.emptyState p) bs).2 :=
  exportable_runBlocks bs h _ ((exportable_iff h _).2 (idx_empty _ p)) hg

/-- non-vacuity: two blocks at heights 6 and 7 over the empty state satisfy the hypotheses of the history theorem -/
example (l : Ledger) (p : Params) (e6 e7 : Env) (h6 : e6.h = 6) (h7 : e7.h = 7) :
    Good 5 (l, Shentu.Genesis.Oracle.emptyState p) [(e6, []), (e7, [])] :=
  ⟨h6, by simp, ⟨_, rfl⟩, h7, by simp, ⟨_, rfl⟩, trivial⟩

end Shentu.C20GOrcInv

#print axioms Shentu.C20GOrcInv.exportable_iff
#print axioms Shentu.C20GOrcInv.idx_sig
#print axioms Shentu.C20GOrcInv.idx_stepE
#print axioms Shentu.C20GOrcInv.idx_endBlock
#print axioms Shentu.C20GOrcInv.exportable_runBlocks
#print axioms Shentu.C20GOrcInv.exportable_from_empty
