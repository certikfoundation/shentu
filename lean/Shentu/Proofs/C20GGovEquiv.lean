import Shentu.Model.GenesisGov
import Shentu.Proofs.C11HLemmas
/-
  Every operation of the governance model respects `Equiv` (the same records per proposal, however the records of different
  proposals are interleaved), and so does every history (`runW_equiv`).  `upsertDeposit` and `setVote` are read through
  their common shape `upd`.
-/

namespace Shentu.Genesis.Gov
open Shentu.Gov
variable {a b : State} {v w : World}
theorem Equiv.proposals (h : Equiv a b) : a.proposals = b.proposals := h.1
theorem Equiv.nextId (h : Equiv a b) : a.nextId = b.nextId := h.2.1
theorem Equiv.params (h : Equiv a b) : a.params = b.params := h.2.2.1
theorem Equiv.deposits (h : Equiv a b) (pid : Nat) :
    a.deposits.filter (·.pid == pid) = b.deposits.filter (·.pid == pid) := h.2.2.2.1 pid
theorem Equiv.votes (h : Equiv a b) (pid : Nat) : a.votes.filter (·.pid == pid) = b.votes.filter (·.pid == pid) :=
  h.2.2.2.2 pid
theorem EquivW.l (h : EquivW v w) : v.l = w.l := h.1
theorem EquivW.c (h : EquivW v w) : v.c = w.c := h.2.1
theorem EquivW.g (h : EquivW v w) : Equiv v.g w.g := h.2.2
end Shentu.Genesis.Gov

namespace Shentu.C20GGovH
open Shentu Shentu.Gov Shentu.Genesis.Gov

theorem equiv_refl (a : State) : Equiv a a := ⟨rfl, rfl, rfl, fun _ => rfl, fun _ => rfl⟩
theorem equiv_symm {a b : State} (h : Equiv a b) : Equiv b a :=
  ⟨h.proposals.symm, h.nextId.symm, h.params.symm, fun p => (h.deposits p).symm, fun p => (h.votes p).symm⟩
theorem equiv_trans {a b c : State} (h : Equiv a b) (k : Equiv b c) : Equiv a c :=
  ⟨h.proposals.trans k.proposals, h.nextId.trans k.nextId, h.params.trans k.params,
    fun p => (h.deposits p).trans (k.deposits p), fun p => (h.votes p).trans (k.votes p)⟩

theorem equivW_refl (a : World) : EquivW a a := ⟨rfl, rfl, equiv_refl _⟩
theorem equivW_symm {a b : World} (h : EquivW a b) : EquivW b a := ⟨h.l.symm, h.c.symm, equiv_symm h.g⟩
theorem equivW_trans {a b c : World} (h : EquivW a b) (k : EquivW b c) : EquivW a c :=
  ⟨h.l.trans k.l, h.c.trans k.c, equiv_trans h.g k.g⟩

theorem relE_err (k : String) : RelE (err k) (err k) := rfl
theorem relE_error (x : Err) : RelE (.error x) (.error x) := rfl
theorem relE_ok {a b : World} (h : EquivW a b) : RelE (.ok a) (.ok b) := h

/-- `RelE` is `SameE` at `EquivW`; only its error clause is written the other way round -/
theorem relE_iff {x y : Except Err World} : RelE x y ↔ SameE EquivW x y := by
  cases x <;> cases y <;> simp only [RelE, SameE, eq_comm]

theorem relE_cases {x y : Except Err World} (h : RelE x y) :
    (∃ e, x = .error e ∧ y = .error e) ∨ (∃ a b, x = .ok a ∧ y = .ok b ∧ EquivW a b) :=
  (relE_iff.mp h).cases

theorem relE_refl (x : Except Err World) : RelE x x := by
  cases x with
  | error s => rfl
  | ok a => exact equivW_refl a

theorem relE_guard {c : Prop} [Decidable c] {k : String} {x y : Except Err World} (h : ¬ c → RelE x y) :
    RelE (if c then err k else x) (if c then err k else y) :=
  relE_iff.mpr (SameE.guard _ fun hc => relE_iff.mp (h hc))

theorem relE_bind {x y : Except Err World} (h : RelE x y) {F G : World → Except Err World}
    (hF : ∀ a b, EquivW a b → RelE (F a) (G b)) :
    RelE (match (generalizing := false) x with | .error e => .error e | .ok a => F a)
      (match (generalizing := false) y with | .error e => .error e | .ok b => G b) := by
  rcases relE_cases h with ⟨e, rfl, rfl⟩ | ⟨a, b, rfl, rfl, hab⟩
  · exact relE_error e
  · exact hF a b hab

theorem relE_map {x y : Except Err World} (h : RelE x y) {f g : World → World}
    (hf : ∀ a b, EquivW a b → EquivW (f a) (g b)) : RelE (x.map f) (y.map g) :=
  relE_iff.mpr ((relE_iff.mp h).map hf)

/-- a failed transaction leaves the world as it was -/
theorem relE_orElse {x y : Except Err World} (h : RelE x y) {a b : World} (hab : EquivW a b) :
    EquivW (match (generalizing := false) x with | .ok w' => w' | .error _ => a)
      (match (generalizing := false) y with | .ok w' => w' | .error _ => b) := by
  rcases relE_cases h with ⟨e, rfl, rfl⟩ | ⟨_, _, rfl, rfl, h'⟩
  · exact hab
  · exact h'

theorem filter_drop {α : Type} (key : α → Nat) (pid q : Nat) (xs : List α) :
    (xs.filter (fun x => !(key x == pid))).filter (fun x => key x == q)
      = if pid = q then [] else xs.filter (fun x => key x == q) := by
  rw [List.filter_filter]
  split
  · rename_i h; subst h
    rw [List.filter_eq_nil_iff]; intro a _; simp
  · rename_i h
    apply List.filter_congr
    intro x _
    by_cases hx : key x = q
    · have : ¬ q = pid := fun h' => h h'.symm
      simp [hx, this]
    · simp [hx]

theorem findP_equiv {a b : State} (h : Equiv a b) (id : Nat) : findP a id = findP b id := by
  unfold findP; rw [h.proposals]

theorem setP_equiv {a b : State} (h : Equiv a b) (p : Proposal) : Equiv (setP a p) (setP b p) := by
  unfold setP
  rw [findP_equiv h]
  split
  · exact ⟨by show List.map _ a.proposals = List.map _ b.proposals; rw [h.proposals], h.nextId, h.params, h.deposits, h.votes⟩
  · exact ⟨by show a.proposals ++ _ = b.proposals ++ _; rw [h.proposals], h.nextId, h.params, h.deposits, h.votes⟩

theorem delP_equiv {a b : State} (h : Equiv a b) (id : Nat) : Equiv (delP a id) (delP b id) := by
  unfold delP
  exact ⟨by show List.filter _ a.proposals = List.filter _ b.proposals; rw [h.proposals], h.nextId, h.params, h.deposits,
    h.votes⟩

theorem activated_equiv (e : Env) {a b : State} (h : Equiv a b) (p : Proposal) : activated e a p = activated e b p := by
  unfold activated; rw [h.params]

theorem activate_equiv (e : Env) {a b : State} (h : Equiv a b) (p : Proposal) :
    Equiv (activateVotingPeriod e a p) (activateVotingPeriod e b p) := by
  unfold activateVotingPeriod
  rw [activated_equiv e h]
  exact setP_equiv h _

theorem dropVotes_equiv {a b : State} (h : Equiv a b) (pid : Nat) :
    Equiv { a with votes := a.votes.filter (fun v => !(v.pid == pid)) }
          { b with votes := b.votes.filter (fun v => !(v.pid == pid)) } := by
  refine ⟨h.proposals, h.nextId, h.params, h.deposits, ?_⟩
  intro q
  show List.filter _ (List.filter _ a.votes) = List.filter _ (List.filter _ b.votes)
  rw [filter_drop Vote.pid pid q a.votes, filter_drop Vote.pid pid q b.votes, h.votes q]

theorem dropDeposits_equiv {a b : State} (h : Equiv a b) (pid : Nat) :
    Equiv { a with deposits := a.deposits.filter (fun v => !(v.pid == pid)) }
          { b with deposits := b.deposits.filter (fun v => !(v.pid == pid)) } := by
  refine ⟨h.proposals, h.nextId, h.params, ?_, h.votes⟩
  intro q
  show List.filter _ (List.filter _ a.deposits) = List.filter _ (List.filter _ b.deposits)
  rw [filter_drop Deposit.pid pid q a.deposits, filter_drop Deposit.pid pid q b.deposits, h.deposits q]

theorem upsertDeposit_equiv {a b : State} (h : Equiv a b) (pid : Nat) (d : Addr) (amt : Coins) :
    Equiv { a with deposits := upsertDeposit pid d amt a.deposits }
          { b with deposits := upsertDeposit pid d amt b.deposits } := by
  refine ⟨h.proposals, h.nextId, h.params, ?_, h.votes⟩
  intro q
  have hh : ∀ y : Deposit, (y.pid == pid && y.depositor == d) = true → (y.pid == q) = (pid == q) := fun y hy => by
    rw [beq_iff_eq.mp (Bool.and_eq_true_iff.mp hy).1]
  show List.filter _ (upsertDeposit pid d amt a.deposits) = List.filter _ (upsertDeposit pid d amt b.deposits)
  rw [upsertDeposit_eq, upsertDeposit_eq]
  refine filter_upd_congr _ ?_ hh (h.deposits q)
  exact fun _ => rfl

theorem setVote_equiv {a b : State} (h : Equiv a b) (pid : Nat) (v : Addr) (o : Nat) :
    Equiv { a with votes := setVote pid v o a.votes } { b with votes := setVote pid v o b.votes } := by
  refine ⟨h.proposals, h.nextId, h.params, h.deposits, ?_⟩
  intro q
  have hh : ∀ y : Vote, (y.pid == pid && y.voter == v) = true → (y.pid == q) = (pid == q) := fun y hy => by
    rw [beq_iff_eq.mp (Bool.and_eq_true_iff.mp hy).1]
  show List.filter _ (setVote pid v o a.votes) = List.filter _ (setVote pid v o b.votes)
  rw [setVote_eq, setVote_eq]
  refine filter_upd_congr _ ?_ hh (h.votes q)
  exact fun _ => rfl

theorem vote_equiv {a b : World} (h : EquivW a b) (pid : Nat) (v : Addr) (o : Nat) :
    RelE (vote a pid v o) (vote b pid v o) := by
  unfold vote
  rw [findP_equiv h.g, h.c]
  refine relE_guard fun _ => ?_
  cases findP b.g pid with
  | none => exact relE_err _
  | some p =>
    refine relE_guard fun _ => relE_guard fun _ => relE_guard fun _ => relE_guard fun _ => ?_
    exact relE_ok ⟨h.l, rfl, setVote_equiv h.g pid v o⟩

theorem addDeposit_equiv (e : Env) {a b : World} (h : EquivW a b) (pid : Nat) (dep : Addr) (amt : Coins) :
    RelE (addDeposit e a pid dep amt) (addDeposit e b pid dep amt) := by
  unfold addDeposit
  rw [findP_equiv h.g, h.l]
  cases findP b.g pid with
  | none => exact relE_err _
  | some p =>
    refine relE_guard fun _ => ?_
    cases b.l.send dep e.modAddr amt with
    | error x => exact relE_error x
    | ok l' =>
      dsimp only
      apply relE_ok
      have hg1 := setP_equiv h.g { p with totalDeposit := Coins.add p.totalDeposit amt }
      refine ⟨rfl, h.c, ?_⟩
      dsimp only
      rw [hg1.params]
      split
      · exact upsertDeposit_equiv (activate_equiv e hg1 _) pid dep amt
      · exact upsertDeposit_equiv hg1 pid dep amt

theorem refundDeposits_equiv (e : Env) {a b : World} (h : EquivW a b) (pid : Nat) :
    RelE (refundDeposits e a pid) (refundDeposits e b pid) := by
  unfold refundDeposits
  dsimp only
  rw [h.g.deposits pid, h.l]
  cases refundDeposits.go e (List.filter (fun x => x.pid == pid) b.g.deposits) b.l with
  | error x => exact relE_error x
  | ok l' => exact relE_ok ⟨rfl, h.c, dropDeposits_equiv h.g pid⟩

theorem burnDeposits_equiv (e : Env) {a b : World} (h : EquivW a b) (pid : Nat) :
    RelE (burnDeposits e a pid) (burnDeposits e b pid) := by
  unfold burnDeposits
  dsimp only
  rw [h.g.deposits pid, h.l]
  split
  · exact relE_refl _
  · exact relE_ok ⟨rfl, h.c, dropDeposits_equiv h.g pid⟩

theorem securityTally_equiv {a b : State} (h : Equiv a b) (c : Cert.State) (p : Proposal) :
    securityTally a c p = securityTally b c p := by
  have hf : ∀ l : List Vote, l.filter (fun v => v.pid == p.id && v.option != 0 && Cert.isCertifier c v.voter)
      = (l.filter (fun v => v.pid == p.id)).filter (fun v => v.option != 0 && Cert.isCertifier c v.voter) := by
    intro l
    rw [List.filter_filter]
    apply List.filter_congr
    intro x _
    cases (x.pid == p.id) <;> cases (x.option != 0) <;> cases (Cert.isCertifier c x.voter) <;> rfl
  unfold securityTally
  dsimp only
  rw [hf a.votes, hf b.votes, h.votes p.id, h.params]

theorem stakeTally_equiv (e : Env) {a b : State} (h : Equiv a b) (p : Proposal) (cd : Int) :
    (stakeTally e a p cd).1 = (stakeTally e b p cd).1 ∧ (stakeTally e a p cd).2.1 = (stakeTally e b p cd).2.1 ∧
    (stakeTally e a p cd).2.2.1 = (stakeTally e b p cd).2.2.1 ∧
    Equiv (stakeTally e a p cd).2.2.2 (stakeTally e b p cd).2.2.2 := by
  unfold stakeTally
  dsimp only
  rw [h.votes p.id, h.params]
  exact ⟨rfl, rfl, rfl, ⟨h.proposals, h.nextId, rfl, h.deposits, (dropVotes_equiv h p.id).votes⟩⟩

theorem runHandler_equiv {a b : World} (h : EquivW a b) (p : Proposal) : RelE (runHandler a p) (runHandler b p) := by
  unfold runHandler
  rw [h.c]
  split
  · cases Cert.handleUpdate b.c p.cuCertifier p.cuAlias p.cuProposer p.cuAdd with
    | error x => exact relE_error x
    | ok c' => exact relE_ok ⟨h.l, rfl, h.g⟩
  · exact relE_ok h

theorem finish_equiv {a b : World} (h : EquivW a b) (p : Proposal) (pass : Bool) (t : Tally) :
    EquivW (finish a p pass t) (finish b p pass t) := by
  unfold finish
  split
  · rcases relE_cases (runHandler_equiv h p) with ⟨x, hx, hy⟩ | ⟨a', b', hx, hy, hab⟩
    · rw [hx, hy]; exact ⟨h.l, h.c, setP_equiv h.g _⟩
    · rw [hx, hy]; exact ⟨hab.l, hab.c, setP_equiv hab.g _⟩
  · exact ⟨h.l, h.c, setP_equiv h.g _⟩

theorem processActive_equiv (e : Env) {a b : World} (h : EquivW a b) (p : Proposal) :
    RelE (processActive e a p) (processActive e b p) := by
  obtain ⟨h1, h2, h3, h4⟩ := stakeTally_equiv e h.g p 0
  rw [processActive_eq, processActive_eq, securityTally_equiv h.g, h.c, h1, h2, h3]
  split
  · split
    · exact relE_ok ⟨h.l, rfl, activate_equiv e (dropVotes_equiv h.g p.id) p⟩
    · exact relE_map (refundDeposits_equiv e h p.id) fun _ _ hab => finish_equiv hab p _ _
  · have hw : EquivW { a with g := (stakeTally e a.g p 0).2.2.2, c := b.c } { b with g := (stakeTally e b.g p 0).2.2.2 } :=
      ⟨h.l, rfl, h4⟩
    refine relE_map ?_ fun _ _ hab => finish_equiv hab p _ _
    split
    · exact burnDeposits_equiv e hw p.id
    · exact refundDeposits_equiv e hw p.id

theorem processSecurityVote_equiv (e : Env) {a b : World} (h : EquivW a b) (p : Proposal) :
    RelE (processSecurityVote e a p) (processSecurityVote e b p) := by
  rw [processSecurityVote_eq, processSecurityVote_eq, securityTally_equiv h.g, h.c]
  split; · exact relE_ok h
  split; · exact relE_ok h
  split
  · exact relE_map (refundDeposits_equiv e h p.id) fun _ _ hab => finish_equiv hab p true _
  · exact relE_ok ⟨h.l, rfl, activate_equiv e (dropVotes_equiv h.g p.id) p⟩

theorem foldIds_equiv (f : World → Proposal → Except Err World)
    (hf : ∀ a b p, EquivW a b → RelE (f a p) (f b p)) :
    ∀ (ids : List Nat) (a b : World), EquivW a b → RelE (foldIds f ids a) (foldIds f ids b) := by
  intro ids
  induction ids with
  | nil => intro a b h; exact relE_ok h
  | cons id ids ih =>
    intro a b h
    simp only [foldIds]
    rw [findP_equiv h.g]
    cases findP b.g id with
    | none => exact ih a b h
    | some p =>
      exact relE_bind (hf a b p h) ih

theorem dropStep_equiv (e : Env) (a b : World) (p : Proposal) (h : EquivW a b) :
    RelE (refundDeposits e { a with g := delP a.g p.id } p.id) (refundDeposits e { b with g := delP b.g p.id } p.id) := by
  have hw : EquivW { a with g := delP a.g p.id } { b with g := delP b.g p.id } := ⟨h.l, h.c, delP_equiv h.g p.id⟩
  exact refundDeposits_equiv e hw p.id

theorem endBlock_equiv (e : Env) {a b : World} (h : EquivW a b) : RelE (endBlock e a) (endBlock e b) := by
  unfold endBlock
  dsimp only
  rw [h.g.proposals]
  refine relE_bind (foldIds_equiv _ (dropStep_equiv e) _ a b h) fun a1 b1 h1 => ?_
  rw [h1.g.proposals]
  refine relE_bind (foldIds_equiv _ (fun a b p hab => processActive_equiv e hab p) _ a1 b1 h1) fun a2 b2 h2 => ?_
  rw [h2.g.proposals]
  exact foldIds_equiv _ (fun a b p hab => processSecurityVote_equiv e hab p) _ a2 b2 h2

theorem bump_equiv {a b : State} (h : Equiv a b) (n : Nat) : Equiv { a with nextId := n } { b with nextId := n } :=
  ⟨h.proposals, rfl, h.params, h.deposits, h.votes⟩

theorem submit_equiv (e : Env) {a b : World} (h : EquivW a b) (pr : Addr) (p0 : Proposal) (dep : Coins) :
    RelE (submit e a pr p0 dep) (submit e b pr p0 dep) := by
  unfold submit
  dsimp only
  rw [h.c, h.g.params, h.g.nextId]
  refine relE_guard fun _ => relE_guard fun _ => relE_guard fun _ => ?_
  rcases relE_cases (runHandler_equiv h p0) with ⟨x, hx, hy⟩ | ⟨a', b', hx, hy, hab⟩
  · rw [hx, hy]; exact relE_err _
  · rw [hx, hy]
    dsimp only
    split
    · exact relE_ok ⟨h.l, rfl, activate_equiv e (bump_equiv (setP_equiv h.g _) _) _⟩
    · refine addDeposit_equiv e ?_ _ _ _
      exact ⟨h.l, rfl, bump_equiv (setP_equiv h.g _) _⟩

open Shentu.C11H (env Op stepW runW)

theorem stepW_equiv (m : Addr) {a b : World} (h : EquivW a b) (op : Op) : EquivW (stepW m a op) (stepW m b op) := by
  cases op with
  | submit x pr p0 dep =>
    simp only [stepW]
    split
    · exact h
    · exact relE_orElse (submit_equiv (env m x) h pr p0 dep) h
  | deposit x pid d amt =>
    simp only [stepW]
    split
    · exact h
    · exact relE_orElse (addDeposit_equiv (env m x) h pid d amt) h
  | vote pid v o => exact relE_orElse (vote_equiv h pid v o) h
  | endBlock x => exact relE_orElse (endBlock_equiv (env m x) h) h
  | transfer s d amt =>
    simp only [stepW]
    rw [h.l]
    split
    · exact h
    · cases b.l.send s d amt with
      | error x => exact h
      | ok l' => exact ⟨rfl, h.c, h.g⟩

theorem runW_equiv (m : Addr) (ops : List Op) {a b : World} (h : EquivW a b) : EquivW (runW m a ops) (runW m b ops) :=
  List.foldl_rel (r := EquivW) h (fun op _ _ _ h => stepW_equiv m h op)

end Shentu.C20GGovH
