import Shentu.Proofs.C09qStore
/-
  One step of the unbonding queue at a pair `(d, v)`: the entries `os` go and the entries `ns` come.  `undelegate` inserts
  (`[]`, `[e]`), a round of the delay re-times (`[e]`, `[⟨D, e.bal⟩]`), a payout removes (`[e]`, `[]`) or shrinks
  (`[e]`, `[⟨e.t, e.bal - x⟩]`).

  The records follow (`Edit`): the pair's entries are rewritten so that `os ++ new ~ ns ++ old`; counts, membership and every
  sum over the records are read off that one permutation, at every pair (`atKey` is what came or went there).  The queue
  follows (`Step`): the pair leaves the slices of the times in `os` and joins those of the times in `ns`.  `Step.inv` is where
  these three operations keep the queue invariant.  The end-blocker is not a chain of steps: its queue side is one filter over
  the slices, so `Block.endBlock_inv` reads the invariant off the closed forms; on the records the completion of one pair is
  an `Edit` (the mature entries, `[]`: `Block.complete_edit`), which gives its sums.
-/
namespace Shentu.UbdQueue
open Shentu.UbdQueue.Store

/-- the sum of a weight over entries; `balSum`, lengths and the filtered sums of the statements are of this form -/
def wsum (w : Entry → Int) (es : List Entry) : Int := (es.map w).sum

theorem wsum_cons (w : Entry → Int) (e : Entry) (es : List Entry) : wsum w (e :: es) = w e + wsum w es := by simp [wsum]

theorem wsum_append (w : Entry → Int) (l1 l2 : List Entry) : wsum w (l1 ++ l2) = wsum w l1 + wsum w l2 := by
  simp [wsum, List.sum_append]

theorem wsum_nil (w : Entry → Int) : wsum w [] = 0 := rfl

/-- the sum over all records of a weight that is given the key and the entry -/
def sumE (us : List Ubd) (g : String → String → Entry → Int) : Int := sumU us (fun d v es => wsum (g d v) es)

theorem total_eq_sumE (us : List Ubd) : total us = sumE us (fun _ _ e => e.bal) := rfl

theorem wsum_filter (f : Entry → Bool) (c : Prop) [Decidable c] (es : List Entry) :
    (if c then balSum (es.filter f) else 0) = wsum (fun e => if c ∧ f e = true then e.bal else 0) es := by
  induction es with
  | nil => simp [balSum, wsum]
  | cons e es ih =>
    rw [wsum_cons, ← ih]
    by_cases hc : c <;> cases hf : f e <;> simp [hc, hf, balSum_cons]

theorem wsum_ite (c : Prop) [Decidable c] (es : List Entry) :
    (if c then balSum es else 0) = wsum (fun e => if c then e.bal else 0) es := by
  induction es with
  | nil => simp [balSum, wsum]
  | cons e es ih => rw [wsum_cons, ← ih]; by_cases hc : c <;> simp [hc, balSum_cons]

theorem byTime_eq_sumE (us : List Ubd) (d : String) (t : Int) :
    byTime us d t = sumE us (fun d' _ e => if d' = d ∧ decide (e.t ≤ t) = true then e.bal else 0) := by
  rw [byTime_eq]; exact sumU_congr (fun u _ => wsum_filter _ _ _)

theorem outstanding_eq_sumE (us : List Ubd) (d : String) :
    outstanding us d = sumE us (fun d' _ e => if d' = d then e.bal else 0) := by
  rw [outstanding_eq]; exact sumU_congr (fun u _ => wsum_ite _ _)

/-- the records `us'` are `us` with the entries of the pair `(d, v)` rewritten: `os` went, `ns` came, up to order -/
def Edit (us us' : List Ubd) (d v : String) (os ns : List Entry) : Prop :=
  ∃ es', us' = setEntries us d v es' ∧ (os ++ es').Perm (ns ++ getEntries us d v)

/-- what came or went at the pair `(d', v')` in an edit at `(d, v)` -/
abbrev atKey (d v d' v' : String) (l : List Entry) : List Entry := if (d', v') = (d, v) then l else []

theorem setUbd_eq_setEntries (us : List Ubd) (d v : String) {es : List Entry} (h : es.isEmpty = false) :
    setUbd us d v es = setEntries us d v es := by rw [setEntries, h]; rfl

namespace Edit
variable {us us' : List Ubd} {d v : String} {os ns : List Entry}

theorem keys (h : Edit us us' d v os ns) (hk : us.Pairwise (fun x y => ¬ (x.del = y.del ∧ x.val = y.val))) :
    us'.Pairwise (fun x y => ¬ (x.del = y.del ∧ x.val = y.val)) := by
  obtain ⟨es', rfl, _⟩ := h
  exact keys_setEntries hk _ _ _

theorem perm (h : Edit us us' d v os ns) (d' v' : String) :
    (atKey d v d' v' os ++ getEntries us' d' v').Perm (atKey d v d' v' ns ++ getEntries us d' v') := by
  obtain ⟨es', rfl, hp⟩ := h
  rw [getEntries_setEntries]
  by_cases hk : d' = d ∧ v' = v
  · obtain ⟨rfl, rfl⟩ := hk
    rwa [atKey, atKey, if_pos rfl, if_pos rfl, if_pos ⟨rfl, rfl⟩]
  · have hne : ¬ (d', v') = (d, v) := fun e => hk (Prod.mk.inj e)
    rw [atKey, atKey, if_neg hne, if_neg hne, if_neg hk]

theorem countP (h : Edit us us' d v os ns) (f : Entry → Bool) (d' v' : String) :
    (getEntries us' d' v').countP f + (atKey d v d' v' os).countP f
      = (getEntries us d' v').countP f + (atKey d v d' v' ns).countP f := by
  have := (h.perm d' v').countP_eq f
  simp only [List.countP_append] at this
  omega

theorem mem (h : Edit us us' d v os ns) {d' v' : String} {e : Entry} (he : e ∈ getEntries us' d' v') :
    e ∈ getEntries us d' v' ∨ ((d', v') = (d, v) ∧ e ∈ ns) := by
  rcases List.mem_append.mp ((h.perm d' v').mem_iff.mp (List.mem_append_right _ he)) with m | m
  · unfold atKey at m
    split at m
    · rename_i hk; exact Or.inr ⟨hk, m⟩
    · cases m
  · exact Or.inl m

theorem sum (h : Edit us us' d v os ns) (hk : us.Pairwise (fun x y => ¬ (x.del = y.del ∧ x.val = y.val)))
    (g : String → String → Entry → Int) :
    sumE us' g + wsum (g d v) os = sumE us g + wsum (g d v) ns := by
  obtain ⟨es', rfl, hp⟩ := h
  have hp : wsum (g d v) _ = wsum (g d v) _ := sum_map_perm (g d v) hp
  rw [wsum_append, wsum_append] at hp
  unfold sumE
  rw [sumU_setEntries hk d v es' _ rfl]; omega

end Edit

/-- one step at the pair `(d, v)`: the records are edited, the queue loses the pair at the times of `os` and gains it at the
    times of `ns`, and what is left of a slice once `(d, v)` is filtered out stays as it is -/
structure Step (s s' : State) (d v : String) (os ns : List Entry) : Prop where
  edit : Edit s.ubds s'.ubds d v os ns
  times : s'.queue.Pairwise (fun x y => x.1 < y.1)
  queued : ∀ d' v' t, (getSlice s'.queue t).count (d', v') + (atKey d v d' v' os).countP (fun e => e.t == t)
    = (getSlice s.queue t).count (d', v') + (atKey d v d' v' ns).countP (fun e => e.t == t)
  others : ∀ f : Pair → Bool, f (d, v) = false → ∀ t, (getSlice s'.queue t).filter f = (getSlice s.queue t).filter f

theorem Step.inv {s s' : State} {d v : String} {os ns : List Entry} (st : Step s s' d v os ns) (h : Inv s) : Inv s' where
  times := st.times
  keys := st.edit.keys h.keys
  counts := fun d' v' t => by
    have hc := h.counts d' v' t
    have hq := st.queued d' v' t
    have he := st.edit.countP (fun e => e.t == t) d' v'
    unfold queuedAt entriesAt at hc ⊢
    omega

theorem Step.frame_queue {s s' : State} {d v : String} {os ns : List Entry} (st : Step s s' d v os ns) (d' : String)
    (hd : d' ≠ d) (t : Int) :
    (getSlice s'.queue t).filter (fun pr => pr.1 == d') = (getSlice s.queue t).filter (fun pr => pr.1 == d') :=
  st.others _ (by simpa using fun e => hd e.symm) t

theorem filter_insertUBDQueue (q : List Slice) (pr : Pair) (t t' : Int) (f : Pair → Bool) (hf : f pr = false) :
    (getSlice (insertUBDQueue q pr t) t').filter f = (getSlice q t').filter f := by
  rw [getSlice_insertUBDQueue]
  split
  · rename_i ht; rw [ht, List.filter_append, List.filter_cons_of_neg (by simp [hf])]; simp
  · rfl

namespace Store

theorem undelegate_step (s : State) (d v : String) (t bal : Int) (h : WF s) :
    Step s (undelegate s d v t bal) d v [] [⟨t, bal⟩] where
  edit := ⟨_, setUbd_eq_setEntries _ _ _ (by simp), (List.perm_append_comm : (getEntries s.ubds d v ++ [_]).Perm _)⟩
  times := times_insertUBDQueue h.times _ _
  queued := by
    intro d' v' t'
    show (getSlice (insertUBDQueue s.queue (d, v) t) t').count (d', v') + _ = _
    rw [count_insertUBDQueue]
    by_cases hx : (d', v') = (d, v) <;> by_cases ht : t' = t <;> simp [atKey, hx, ht, eq_comm (a := t)]
  others := fun f hf t' => filter_insertUBDQueue _ _ _ _ f hf

theorem undelegate_inv (s : State) (d v : String) (t bal : Int) (h : Inv s) : Inv (undelegate s d v t bal) :=
  (undelegate_step s d v t bal h.toWF).inv h

end Store
end Shentu.UbdQueue
