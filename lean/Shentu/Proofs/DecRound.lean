import Shentu.Base.Dec
/-
  How `sdk.Dec` rounds, as inequalities between integers: truncation (`Int.tdiv`), rounding half to even (`chopRound`)
  and rounding up (`chopRoundUp`) at 18 digits (namespace `DecRound`); and what follows for the operations of `Dec`:
  signs, exactness on whole numbers, a ratio `a / T` with `0 ≤ a ≤ T` lies in [0, 1], a truncated share
  `truncate (c · ratio)` lies between 0 and `c`; at the end, what the shares `⌊a·w/T⌋` of an amount over a list of weights
  add up to (`tdiv_shares`).
-/
theorem Shentu.Dec.prec_pos : 0 < Shentu.Dec.prec := by decide
theorem Shentu.Dec.prec_ne : Shentu.Dec.prec ≠ 0 := by decide

namespace Shentu.DecRound

theorem tdiv_mul_le (n d : Int) (hn : 0 ≤ n) (hd : 0 < d) : n.tdiv d * d ≤ n := by
  rw [Int.tdiv_eq_ediv_of_nonneg hn]
  exact Int.ediv_mul_le n (Int.ne_of_gt hd)

theorem lt_tdiv_succ_mul (n d : Int) (hn : 0 ≤ n) (hd : 0 < d) : n < (n.tdiv d + 1) * d := by
  rw [Int.tdiv_eq_ediv_of_nonneg hn]
  exact Int.lt_ediv_add_one_mul_self n hd

/-- half-even rounding of a non-negative value moves it by at most half a unit, and when it moves it down by exactly
    half a unit the result is even -/
theorem chopRound_spec (z : Int) (hz : 0 ≤ z) :
    2 * z - Dec.prec ≤ 2 * (Dec.chopRound z * Dec.prec) ∧ 2 * (Dec.chopRound z * Dec.prec) ≤ 2 * z + Dec.prec ∧
    (2 * (Dec.chopRound z * Dec.prec) = 2 * z - Dec.prec → Dec.chopRound z % 2 = 0) := by
  unfold Dec.chopRound Dec.chopRoundNonneg
  rw [if_neg (by omega)]
  have hq : 0 ≤ z / 1000000000000000000 := by omega
  simp only [Int.tdiv_eq_ediv_of_nonneg hz, Int.tmod_eq_emod_of_nonneg hz, Dec.prec, Dec.half, beq_iff_eq,
    Int.tmod_eq_emod_of_nonneg hq]
  omega

theorem chopRoundUp_bounds (z : Int) (hz : 0 ≤ z) :
    z ≤ Dec.chopRoundUp z * Dec.prec ∧ Dec.chopRoundUp z * Dec.prec < z + Dec.prec := by
  unfold Dec.chopRoundUp Dec.chopRoundUpNonneg
  rw [if_neg (by omega)]
  simp only [Int.tdiv_eq_ediv_of_nonneg hz, Int.tmod_eq_emod_of_nonneg hz, Dec.prec, beq_iff_eq]
  omega

/-- in `a / T` one factor `10^18` of the scaling cancels before the division -/
theorem quo_ofInt_raw (a T : Int) :
    (Dec.quo (Dec.ofInt a) (Dec.ofInt T)).raw = Dec.chopRound ((a * Dec.prec * Dec.prec).tdiv T) :=
  congrArg Dec.chopRound (Int.mul_tdiv_mul_of_pos_left _ _ Dec.prec_pos)

/-- `b` times the quotient `a / b` misses `a` (at 18 digits) by at most `b/2`, half a unit of rounding per unit of `b`,
    and below also by the `b/10^18` that the truncation before the rounding costs -/
theorem quo_bounds (a b : Dec) (ha : 0 ≤ a.raw) (hb : 0 < b.raw) :
    2 * ((Dec.quo a b).raw * b.raw) ≤ 2 * (a.raw * Dec.prec) + b.raw ∧
    Dec.prec * (2 * (a.raw * Dec.prec)) < Dec.prec * (2 * ((Dec.quo a b).raw * b.raw)) + b.raw * (Dec.prec + 2) ∧
    0 ≤ (Dec.quo a b).raw := by
  have hP := Int.le_of_lt Dec.prec_pos
  have hn : 0 ≤ a.raw * Dec.prec * Dec.prec := Int.mul_nonneg (Int.mul_nonneg ha hP) hP
  have hz0 := Int.tdiv_nonneg hn (Int.le_of_lt hb)
  have hz1 := tdiv_mul_le _ b.raw hn hb
  have hz2 := lt_tdiv_succ_mul _ b.raw hn hb
  obtain ⟨hc1, hc2, -⟩ := chopRound_spec _ hz0
  unfold Dec.quo
  dsimp only
  generalize (a.raw * Dec.prec * Dec.prec).tdiv b.raw = z at *
  generalize Dec.chopRound z = c at *
  -- the rounding `|2·c·P − 2·z| ≤ P` times `b`, in terms of `z·b` and `c·b`
  have h1 := Int.mul_le_mul_of_nonneg_right hc1 (Int.le_of_lt hb)
  have h2 := Int.mul_le_mul_of_nonneg_right hc2 (Int.le_of_lt hb)
  rw [Int.add_mul, Int.one_mul] at hz2
  rw [Int.sub_mul, Int.mul_assoc 2 z, Int.mul_assoc 2 (c * _), Int.mul_right_comm c] at h1
  rw [Int.add_mul, Int.mul_assoc 2 z, Int.mul_assoc 2 (c * _), Int.mul_right_comm c] at h2
  generalize z * b.raw = X at *
  generalize c * b.raw = Y at *
  simp only [Dec.prec] at *
  omega

/-- `quo_bounds` for a ratio of whole numbers, the common factor `10^18` cancelled -/
theorem quo_ofInt_bounds (a T : Int) (ha : 0 ≤ a) (hT : 0 < T) :
    2 * a * Dec.prec * Dec.prec - 2 * T - T * Dec.prec < 2 * Dec.prec * (T * (Dec.quo (Dec.ofInt a) (Dec.ofInt T)).raw) ∧
    2 * Dec.prec * (T * (Dec.quo (Dec.ofInt a) (Dec.ofInt T)).raw) ≤ 2 * a * Dec.prec * Dec.prec + T * Dec.prec := by
  have hP := Dec.prec_pos
  obtain ⟨h1, h2, -⟩ := quo_bounds (Dec.ofInt a) (Dec.ofInt T) (Int.mul_nonneg ha (Int.le_of_lt hP)) (Int.mul_pos hT hP)
  have e (x : Int) : (Dec.ofInt x).raw = x * Dec.prec := rfl
  rw [e, e, Int.mul_left_comm _ T, ← Int.mul_assoc T] at h1 h2
  generalize T * (Dec.quo (Dec.ofInt a) (Dec.ofInt T)).raw = Y at *
  simp only [Dec.prec] at *
  omega

/-- two quotients by the same `b` exceed the exact `(a1 + a2) / b` by at most one unit of the 18th digit together -/
theorem quo_pair_le (a1 a2 b : Dec) (h1 : 0 ≤ a1.raw) (h2 : 0 ≤ a2.raw) (hb : 0 < b.raw) :
    ((Dec.quo a1 b).raw + (Dec.quo a2 b).raw) * b.raw ≤ (a1.raw + a2.raw) * Dec.prec + b.raw := by
  have q1 := (quo_bounds a1 b h1 hb).1
  have q2 := (quo_bounds a2 b h2 hb).1
  rw [Int.add_mul, Int.add_mul]
  omega

theorem quo_pair_le_of_lt (a1 a2 b : Dec) (h1 : 0 ≤ a1.raw) (h2 : 0 ≤ a2.raw) (hb : 0 < b.raw) (k : Int)
    (h : (a1.raw + a2.raw) * Dec.prec + b.raw < (k + 1) * b.raw) : (Dec.quo a1 b).raw + (Dec.quo a2 b).raw ≤ k :=
  Int.le_of_lt_add_one (Int.lt_of_mul_lt_mul_right (Int.lt_of_le_of_lt (quo_pair_le a1 a2 b h1 h2 hb) h) (Int.le_of_lt hb))

end Shentu.DecRound

namespace Shentu.Dec

theorem add_ofInt_zero (d : Dec) : add d (ofInt 0) = d := by
  cases d; simp [add, ofInt]

theorem truncateInt_bounds (d : Dec) (h : 0 ≤ d.raw) : 0 ≤ truncateInt d ∧ truncateInt d * prec ≤ d.raw :=
  ⟨Int.tdiv_nonneg h (Int.le_of_lt prec_pos), DecRound.tdiv_mul_le _ _ h prec_pos⟩

theorem chopRound_nonneg (x : Int) (h : 0 ≤ x) : 0 ≤ chopRound x := by
  obtain ⟨h1, -, -⟩ := DecRound.chopRound_spec x h
  simp only [prec] at h1
  omega

theorem chopRound_le (x k : Int) (h : 0 ≤ x) (hk : x ≤ k * prec) : chopRound x ≤ k := by
  obtain ⟨-, h2, -⟩ := DecRound.chopRound_spec x h
  simp only [prec] at h2 hk
  omega

theorem chopRoundNonneg_mul_prec (k : Int) : chopRoundNonneg (k * prec) = k := by
  unfold chopRoundNonneg
  simp [Int.mul_tdiv_cancel k prec_ne, Int.mul_tmod_left]

/-- also for negative `k`, which `DecRound.chopRound_spec` does not cover -/
theorem chopRound_mul_prec (k : Int) : chopRound (k * prec) = k := by
  unfold chopRound
  split
  · have : -(k * prec) = (-k) * prec := by rw [Int.neg_mul]
    rw [this, chopRoundNonneg_mul_prec]; omega
  · exact chopRoundNonneg_mul_prec k

theorem mul_ofInt (c : Int) (r : Dec) : mul (ofInt c) r = ⟨c * r.raw⟩ := by
  unfold mul ofInt
  have : c * prec * r.raw = (c * r.raw) * prec := by
    rw [Int.mul_assoc, Int.mul_comm prec, ← Int.mul_assoc]
  simp only [this, chopRound_mul_prec]

theorem ofInt_nonneg (i : Int) (h : 0 ≤ i) : 0 ≤ (ofInt i).raw := Int.mul_nonneg h (Int.le_of_lt prec_pos)

theorem mul_nonneg (a b : Dec) (ha : 0 ≤ a.raw) (hb : 0 ≤ b.raw) : 0 ≤ (mul a b).raw :=
  chopRound_nonneg _ (Int.mul_nonneg ha hb)

theorem quo_nonneg (a b : Dec) (ha : 0 ≤ a.raw) (hb : 0 ≤ b.raw) : 0 ≤ (quo a b).raw :=
  chopRound_nonneg _ (Int.tdiv_nonneg (Int.mul_nonneg (Int.mul_nonneg ha (Int.le_of_lt prec_pos)) (Int.le_of_lt prec_pos)) hb)

theorem quoInt_nonneg (a : Dec) (i : Int) (ha : 0 ≤ a.raw) (hi : 0 ≤ i) : 0 ≤ (quoInt a i).raw :=
  Int.tdiv_nonneg ha hi

theorem quo_ofInt_nonneg (a T : Int) (ha : 0 ≤ a) (hT : 0 < T) : 0 ≤ (quo (ofInt a) (ofInt T)).raw :=
  quo_nonneg _ _ (ofInt_nonneg a ha) (ofInt_nonneg T (Int.le_of_lt hT))

theorem quo_ofInt_le_one (a T : Int) (ha : 0 ≤ a) (hT : 0 < T) (haT : a ≤ T) : (quo (ofInt a) (ofInt T)).raw ≤ prec := by
  have hp := Int.le_of_lt prec_pos
  have hN : 0 ≤ a * prec * prec := Int.mul_nonneg (Int.mul_nonneg ha hp) hp
  rw [DecRound.quo_ofInt_raw]
  apply chopRound_le _ _ (Int.tdiv_nonneg hN (Int.le_of_lt hT))
  rw [Int.tdiv_eq_ediv_of_nonneg hN]
  apply Int.ediv_le_of_le_mul hT
  rw [Int.mul_assoc, Int.mul_comm]
  exact Int.mul_le_mul_of_nonneg_left haT (Int.mul_nonneg hp hp)

theorem trunc_mul_ofInt_nonneg (c : Int) (r : Dec) (hc : 0 ≤ c) (hr : 0 ≤ r.raw) : 0 ≤ truncateInt (mul (ofInt c) r) := by
  rw [mul_ofInt]
  unfold truncateInt
  exact Int.tdiv_nonneg (Int.mul_nonneg hc hr) (Int.le_of_lt prec_pos)

theorem trunc_mul_ofInt_le (c : Int) (r : Dec) (hc : 0 ≤ c) (hr : 0 ≤ r.raw) (hr1 : r.raw ≤ prec) :
    truncateInt (mul (ofInt c) r) ≤ c := by
  rw [mul_ofInt]
  unfold truncateInt
  rw [Int.tdiv_eq_ediv_of_nonneg (Int.mul_nonneg hc hr)]
  apply Int.ediv_le_of_le_mul prec_pos
  exact Int.mul_le_mul_of_nonneg_left hr1 hc

theorem trunc_mul_ofInt (a : Int) (r : Dec) : truncateInt (mul (ofInt a) r) = Int.tdiv (a * r.raw) prec := by
  rw [mul_ofInt]; rfl

theorem trunc_mul_ofInt_zero (r : Dec) : truncateInt (mul (ofInt 0) r) = 0 := by
  rw [trunc_mul_ofInt]; simp
theorem trunc_mulInt_zero (r : Dec) : truncateInt (mulInt r 0) = 0 := by
  show Int.tdiv (r.raw * 0) prec = 0
  simp

theorem add_raw (a b : Dec) : (add a b).raw = a.raw + b.raw := rfl
theorem sub_raw (a b : Dec) : (sub a b).raw = a.raw - b.raw := rfl

theorem change_nonneg (d : Dec) (h : 0 ≤ d.raw) : 0 ≤ (sub d (ofInt (truncateInt d))).raw := by
  have := (truncateInt_bounds d h).2
  show 0 ≤ d.raw - truncateInt d * prec
  omega

theorem nonneg_of_truncate_pos (d : Dec) (h : 0 < truncateInt d) : 0 ≤ d.raw := by
  unfold truncateInt at h
  by_cases hd : 0 ≤ d.raw
  · exact hd
  · exfalso
    have h1 : d.raw = -(-d.raw) := by omega
    rw [h1, Int.neg_tdiv] at h
    have := Int.tdiv_nonneg (a := -d.raw) (b := prec) (by omega) (Int.le_of_lt prec_pos)
    omega

end Shentu.Dec

namespace Shentu.DecRound

/-- shares `⌊a·w/T⌋` of an amount over non-negative weights: times `T` they add up to at most `a · Σ w` and fall short of
    it by less than one `T` per share -/
theorem tdiv_shares (a T : Int) (ha : 0 ≤ a) (hT : 0 < T) : ∀ (ws : List Int), (∀ w ∈ ws, 0 ≤ w) →
    (ws.map (fun w => Int.tdiv (a * w) T)).sum * T ≤ a * ws.sum ∧
    a * ws.sum - (ws.length : Int) * (T - 1) ≤ (ws.map (fun w => Int.tdiv (a * w) T)).sum * T
  | [], _ => by simp
  | w :: ws, h => by
    obtain ⟨i1, i2⟩ := tdiv_shares a T ha hT ws (fun x hx => h x (List.mem_cons_of_mem _ hx))
    have hp : 0 ≤ a * w := Int.mul_nonneg ha (h w List.mem_cons_self)
    have hup := tdiv_mul_le (a * w) T hp hT
    have hlo := lt_tdiv_succ_mul (a * w) T hp hT
    rw [Int.add_mul, Int.one_mul] at hlo
    simp only [List.map_cons, List.sum_cons, List.length_cons, Int.natCast_add, Int.add_mul, Int.mul_add]
    omega

end Shentu.DecRound
