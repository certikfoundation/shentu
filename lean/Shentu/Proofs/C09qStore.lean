import Shentu.Proofs.C09qDefs
import Shentu.Proofs.Keys
import Shentu.Proofs.Lists
/-
  The two stores of Model/UbdQueue.lean as maps: what a lookup returns after a write, and that writes keep the keys unique
  (slices strictly ordered by time, one record per delegator/validator pair); what cutting one pair out of a slice and
  appending one does to the slices; sums over the records after a write; the invariant in the empty state.
-/
namespace Shentu.UbdQueue.Store
open Shentu.UbdQueue

@[simp] theorem getSlice_nil (t : Int) : getSlice [] t = [] := rfl

theorem getSlice_cons (x : Slice) (xs : List Slice) (t : Int) :
    getSlice (x :: xs) t = if x.1 = t then x.2 else getSlice xs t := by
  by_cases h : x.1 = t
  · simp [getSlice, List.find?, h]
  · have : (x.1 == t) = false := by simpa using h
    simp only [getSlice, List.find?, this, h, if_false]

theorem getSlice_filter (q : List Slice) (f : Int → Bool) (t : Int) :
    getSlice (q.filter (fun s => f s.1)) t = if f t then getSlice q t else [] := by
  induction q with
  | nil => simp
  | cons x xs ih =>
    cases hx : f x.1
    · rw [List.filter_cons_of_neg (by simp [hx]), ih, getSlice_cons]
      by_cases h : x.1 = t
      · subst h; simp [hx]
      · simp [h]
    · rw [List.filter_cons_of_pos (by simp [hx]), getSlice_cons, getSlice_cons, ih]
      by_cases h : x.1 = t
      · subst h; simp [hx]
      · simp [h]

theorem getSlice_removeSlice (q : List Slice) (t t' : Int) :
    getSlice (removeSlice q t) t' = if t' = t then [] else getSlice q t' := by
  unfold removeSlice
  rw [getSlice_filter q (fun x => !(x == t))]
  by_cases h : t' = t <;> simp [h]

theorem getSlice_insertSlice (q : List Slice) (sl : Slice) (t' : Int) (hq : ∀ x ∈ q, x.1 ≠ sl.1) :
    getSlice (insertSlice sl q) t' = if t' = sl.1 then sl.2 else getSlice q t' := by
  unfold getSlice
  rw [find_insert insertSlice (c := fun x sl : Slice => x.1 < sl.1) (fun _ => rfl) (fun _ _ _ => rfl) (·.1 == t') sl q
    (fun h y hy => by simp only [beq_iff_eq] at h; simpa [← h] using hq y hy)]
  by_cases h : t' = sl.1
  · simp [h]
  · rw [if_neg (by simpa using fun e : sl.1 = t' => h e.symm), if_neg h]

theorem getSlice_setSlice (q : List Slice) (t t' : Int) (ps : List Pair) :
    getSlice (setSlice q t ps) t' = if t' = t then ps else getSlice q t' := by
  unfold setSlice
  rw [getSlice_insertSlice]
  · by_cases h : t' = t <;> simp [h, getSlice_removeSlice]
  · intro x hx; simp [removeSlice] at hx; exact hx.2

theorem getSlice_insertUBDQueue (q : List Slice) (p : Pair) (t t' : Int) :
    getSlice (insertUBDQueue q p t) t' = if t' = t then getSlice q t ++ [p] else getSlice q t' := by
  unfold insertUBDQueue
  by_cases he : (getSlice q t).isEmpty
  · have : getSlice q t = [] := by simpa using he
    simp [getSlice_setSlice, this]
  · simp [he, getSlice_setSlice]

theorem times_removeSlice {q : List Slice} (h : q.Pairwise (fun x y => x.1 < y.1)) (t : Int) :
    (removeSlice q t).Pairwise (fun x y => x.1 < y.1) := h.filter _

theorem mem_insertSlice {q : List Slice} {sl y : Slice} : y ∈ insertSlice sl q ↔ y = sl ∨ y ∈ q :=
  (insert_perm insertSlice (c := fun x sl : Slice => x.1 < sl.1) (fun _ => rfl) (fun _ _ _ => rfl) sl q).mem_iff.trans List.mem_cons

theorem times_insertSlice {q : List Slice} (h : q.Pairwise (fun x y => x.1 < y.1)) (sl : Slice)
    (hq : ∀ x ∈ q, x.1 ≠ sl.1) : (insertSlice sl q).Pairwise (fun x y => x.1 < y.1) :=
  insert_pairwise insertSlice (c := fun x sl : Slice => x.1 < sl.1) (R := fun x y : Slice => x.1 < y.1) (fun _ => rfl)
    (fun _ _ _ => rfl) Int.lt_trans sl q (fun y hy => by have := hq y hy; split <;> omega) h

theorem times_setSlice {q : List Slice} (h : q.Pairwise (fun x y => x.1 < y.1)) (t : Int) (ps : List Pair) :
    (setSlice q t ps).Pairwise (fun x y => x.1 < y.1) := by
  unfold setSlice
  apply times_insertSlice (times_removeSlice h t)
  intro x hx; simp [removeSlice] at hx; exact hx.2

theorem times_insertUBDQueue {q : List Slice} (h : q.Pairwise (fun x y => x.1 < y.1)) (p : Pair) (t : Int) :
    (insertUBDQueue q p t).Pairwise (fun x y => x.1 < y.1) := by
  unfold insertUBDQueue; dsimp only; split <;> exact times_setSlice h _ _

@[simp] theorem getEntries_nil (d v : String) : getEntries [] d v = [] := rfl

theorem is_iff (u : Ubd) (d v : String) : u.is d v = true ↔ (u.del = d ∧ u.val = v) := by
  simp [Ubd.is]

theorem getEntries_cons (x : Ubd) (xs : List Ubd) (d v : String) :
    getEntries (x :: xs) d v = if x.del = d ∧ x.val = v then x.entries else getEntries xs d v := by
  unfold getEntries
  rw [List.find?_cons]
  by_cases h : x.del = d ∧ x.val = v
  · rw [(is_iff x d v).mpr h, if_pos h]
  · rw [Bool.eq_false_iff.mpr (mt (is_iff x d v).mp h), if_neg h]

theorem getEntries_removeUbd (us : List Ubd) (d v d' v' : String) :
    getEntries (removeUbd us d v) d' v' = if d' = d ∧ v' = v then [] else getEntries us d' v' := by
  unfold getEntries
  rw [show (removeUbd us d v).find? (·.is d' v') = _ from
    Keyed.find_remove (fun u : Ubd => (u.del, u.val)) (d, v) (d', v') us]
  by_cases h : d' = d ∧ v' = v
  · rw [if_pos (by rw [h.1, h.2]), if_pos h]
  · rw [if_neg (fun e => h (by cases e; exact ⟨rfl, rfl⟩)), if_neg h]; rfl

theorem getEntries_insertUbd (us : List Ubd) (u : Ubd) (d' v' : String)
    (hq : ∀ x ∈ us, ¬ (x.del = u.del ∧ x.val = u.val)) :
    getEntries (insertUbd u us) d' v' = if d' = u.del ∧ v' = u.val then u.entries else getEntries us d' v' := by
  unfold getEntries
  rw [find_insert insertUbd (c := fun x u : Ubd => x.keyLt u = true) (fun _ => rfl) (fun _ _ _ => rfl) (·.is d' v') u us
    (fun h y hy => by rw [is_iff] at h; rw [Bool.eq_false_iff, Ne, is_iff, ← h.1, ← h.2]; exact hq y hy)]
  by_cases h : d' = u.del ∧ v' = u.val
  · rw [(is_iff u d' v').mpr ⟨h.1.symm, h.2.symm⟩, if_pos rfl, if_pos h]
  · rw [Bool.eq_false_iff.mpr (mt (is_iff u d' v').mp fun e => h ⟨e.1.symm, e.2.symm⟩), if_neg h]; rfl

theorem mem_removeUbd {us : List Ubd} {d v : String} {x : Ubd} :
    x ∈ removeUbd us d v ↔ x ∈ us ∧ ¬ (x.del = d ∧ x.val = v) := by
  rw [removeUbd, List.mem_filter, ← is_iff, Bool.not_eq_true, Bool.not_eq_eq_eq_not, Bool.not_true]

theorem getEntries_setUbd (us : List Ubd) (d v d' v' : String) (es : List Entry) :
    getEntries (setUbd us d v es) d' v' = if d' = d ∧ v' = v then es else getEntries us d' v' := by
  unfold setUbd
  rw [getEntries_insertUbd]
  · by_cases h : d' = d ∧ v' = v <;> simp [h, getEntries_removeUbd]
  · intro x hx; exact (mem_removeUbd.mp hx).2

theorem getEntries_setEntries (us : List Ubd) (d v d' v' : String) (es : List Entry) :
    getEntries (setEntries us d v es) d' v' = if d' = d ∧ v' = v then es else getEntries us d' v' := by
  unfold setEntries
  by_cases he : es.isEmpty
  · have : es = [] := by simpa using he
    simp [getEntries_removeUbd, this]
  · simp [he, getEntries_setUbd]

theorem keys_removeUbd {us : List Ubd} (h : us.Pairwise (fun x y => ¬ (x.del = y.del ∧ x.val = y.val))) (d v : String) :
    (removeUbd us d v).Pairwise (fun x y => ¬ (x.del = y.del ∧ x.val = y.val)) := h.filter _

theorem insertUbd_perm (u : Ubd) (us : List Ubd) : (insertUbd u us).Perm (u :: us) :=
  insert_perm insertUbd (c := fun x u : Ubd => x.keyLt u = true) (fun _ => rfl) (fun _ _ _ => rfl) u us

theorem mem_insertUbd {us : List Ubd} {u y : Ubd} : y ∈ insertUbd u us ↔ y = u ∨ y ∈ us :=
  (insertUbd_perm u us).mem_iff.trans List.mem_cons

theorem keys_insertUbd {us : List Ubd} (h : us.Pairwise (fun x y => ¬ (x.del = y.del ∧ x.val = y.val))) (u : Ubd)
    (hq : ∀ x ∈ us, ¬ (x.del = u.del ∧ x.val = u.val)) :
    (insertUbd u us).Pairwise (fun x y => ¬ (x.del = y.del ∧ x.val = y.val)) :=
  ((insertUbd_perm u us).pairwise_iff (fun hxy e => hxy ⟨e.1.symm, e.2.symm⟩)).mpr
    (List.pairwise_cons.mpr ⟨fun y hy e => hq y hy ⟨e.1.symm, e.2.symm⟩, h⟩)

theorem keys_setUbd {us : List Ubd} (h : us.Pairwise (fun x y => ¬ (x.del = y.del ∧ x.val = y.val))) (d v : String)
    (es : List Entry) : (setUbd us d v es).Pairwise (fun x y => ¬ (x.del = y.del ∧ x.val = y.val)) := by
  unfold setUbd
  apply keys_insertUbd (keys_removeUbd h d v)
  intro x hx; exact (mem_removeUbd.mp hx).2

theorem keys_setEntries {us : List Ubd} (h : us.Pairwise (fun x y => ¬ (x.del = y.del ∧ x.val = y.val))) (d v : String)
    (es : List Entry) : (setEntries us d v es).Pairwise (fun x y => ¬ (x.del = y.del ∧ x.val = y.val)) := by
  unfold setEntries; split
  · exact keys_removeUbd h d v
  · exact keys_setUbd h d v es

theorem getSlice_eq_nil {q : List Slice} {t : Int} (h : ∀ x ∈ q, x.1 ≠ t) : getSlice q t = [] := by
  induction q with
  | nil => rfl
  | cons x xs ih =>
    rw [getSlice_cons, if_neg (h x (by simp))]
    exact ih (fun y hy => h y (by simp [hy]))

theorem mem_getSlice {q : List Slice} {t : Int} {p : Pair} (h : p ∈ getSlice q t) : ∃ sl ∈ q, sl.1 = t ∧ p ∈ sl.2 := by
  induction q with
  | nil => simp at h
  | cons x xs ih =>
    rw [getSlice_cons] at h
    by_cases hx : x.1 = t
    · rw [if_pos hx] at h; exact ⟨x, by simp, hx, h⟩
    · rw [if_neg hx] at h
      obtain ⟨sl, h1, h2, h3⟩ := ih h
      exact ⟨sl, by simp [h1], h2, h3⟩

theorem getEntries_eq_nil {us : List Ubd} {d v : String} (h : ∀ y ∈ us, ¬ (y.del = d ∧ y.val = v)) :
    getEntries us d v = [] := by
  induction us with
  | nil => rfl
  | cons x xs ih =>
    rw [getEntries_cons, if_neg (h x (by simp))]
    exact ih (fun y hy => h y (by simp [hy]))

theorem mem_of_getEntries {us : List Ubd} {d v : String} {e : Entry} (h : e ∈ getEntries us d v) :
    ∃ u ∈ us, u.del = d ∧ e ∈ u.entries := by
  induction us with
  | nil => simp at h
  | cons x xs ih =>
    rw [getEntries_cons] at h
    split at h
    · rename_i hx; exact ⟨x, by simp, hx.1, h⟩
    · obtain ⟨u, hu, r⟩ := ih h; exact ⟨u, by simp [hu], r⟩

theorem getEntries_of_mem {us : List Ubd} (hk : us.Pairwise (fun x y => ¬ (x.del = y.del ∧ x.val = y.val))) {u : Ubd}
    (hu : u ∈ us) : getEntries us u.del u.val = u.entries := by
  induction us with
  | nil => simp at hu
  | cons x xs ih =>
    rw [List.pairwise_cons] at hk
    rw [getEntries_cons]
    rcases List.mem_cons.mp hu with e | e
    · subst e; simp
    · rw [if_neg (hk.1 u e)]; exact ih hk.2 e

theorem eraseP_beq_spec {pr : Pair} (l : List Pair) (hm : pr ∈ l) :
    ∃ l1 l2, l = l1 ++ pr :: l2 ∧ l.eraseP (· == pr) = l1 ++ l2 := by
  obtain ⟨a, l1, l2, _, ha, hl, he⟩ := List.exists_of_eraseP (p := (· == pr)) hm (by simp)
  have : a = pr := by simpa using ha
  subst this
  exact ⟨l1, l2, hl, he⟩

theorem eraseLastP_beq_spec {pr : Pair} (l : List Pair) (hm : pr ∈ l) :
    ∃ l1 l2, l = l1 ++ pr :: l2 ∧ eraseLastP (· == pr) l = l1 ++ l2 := by
  obtain ⟨m1, m2, hl, he⟩ := eraseP_beq_spec l.reverse (List.mem_reverse.mpr hm)
  refine ⟨m2.reverse, m1.reverse, ?_, ?_⟩
  · simpa using congrArg List.reverse hl
  · unfold eraseLastP; rw [he]; simp

/-- `q'` is `q` with one occurrence of `pr` cut out of the slice of `T` -/
def CutAt (q q' : List Slice) (pr : Pair) (T : Int) : Prop :=
  ∃ l1 l2, getSlice q T = l1 ++ pr :: l2 ∧ ∀ t', getSlice q' t' = if t' = T then l1 ++ l2 else getSlice q t'

/-- the common shape of `unqueueLast` and `unqueueFirst`: when the pair is in the slice, the wholesale deletion of a slice of
    one pair deletes that pair -/
theorem cutAt_of_eraser {q : List Slice} {pr : Pair} {T : Int} {er : List Pair → List Pair}
    (her : ∀ l, pr ∈ l → ∃ l1 l2, l = l1 ++ pr :: l2 ∧ er l = l1 ++ l2) (hm : pr ∈ getSlice q T) :
    CutAt q (if (getSlice q T).length > 1 then (if (getSlice q T).any (· == pr) then setSlice q T (er (getSlice q T)) else q)
      else removeSlice q T) pr T := by
  obtain ⟨l1, l2, hl, he⟩ := her _ hm
  refine ⟨l1, l2, hl, fun t' => ?_⟩
  have hany : (getSlice q T).any (· == pr) = true := List.any_eq_true.mpr ⟨pr, hm, by simp⟩
  by_cases hlen : (getSlice q T).length > 1
  · rw [if_pos hlen, if_pos hany, getSlice_setSlice, he]
  · have : l1 ++ l2 = [] := by
      apply List.eq_nil_of_length_eq_zero
      rw [hl] at hlen
      simp only [List.length_append, List.length_cons] at hlen ⊢
      omega
    rw [if_neg hlen, getSlice_removeSlice, this]

theorem unqueueLast_cut {q : List Slice} {pr : Pair} {T : Int} (hm : pr ∈ getSlice q T) :
    CutAt q (unqueueLast q pr T) pr T := cutAt_of_eraser eraseLastP_beq_spec hm

theorem unqueueFirst_cut {q : List Slice} {pr : Pair} {T : Int} (hm : pr ∈ getSlice q T) :
    CutAt q (unqueueFirst q pr T) pr T := cutAt_of_eraser eraseP_beq_spec hm

theorem CutAt.count {q q' : List Slice} {pr : Pair} {T : Int} (h : CutAt q q' pr T) (x : Pair) (t' : Int) :
    (getSlice q' t').count x + (if t' = T ∧ x = pr then 1 else 0) = (getSlice q t').count x := by
  obtain ⟨l1, l2, hl, hs⟩ := h
  rw [hs]
  by_cases ht : t' = T
  · subst ht
    rw [if_pos rfl, hl]
    by_cases hx : x = pr
    · subst hx; simp [List.count_append]; omega
    · have : (pr == x) = false := by simpa using fun e => hx e.symm
      simp [List.count_append, List.count_cons, hx, this]
  · simp [ht]

theorem CutAt.filter {q q' : List Slice} {pr : Pair} {T : Int} (h : CutAt q q' pr T) (f : Pair → Bool) (hf : f pr = false)
    (t' : Int) : (getSlice q' t').filter f = (getSlice q t').filter f := by
  obtain ⟨l1, l2, hl, hs⟩ := h
  rw [hs]
  split
  · rename_i ht; subst ht; simp [hl, hf]
  · rfl

theorem count_insertUBDQueue (q : List Slice) (pr x : Pair) (t t' : Int) :
    (getSlice (insertUBDQueue q pr t) t').count x = (getSlice q t').count x + if t' = t ∧ x = pr then 1 else 0 := by
  rw [getSlice_insertUBDQueue]
  by_cases ht : t' = t
  · subst ht
    by_cases hx : x = pr
    · subst hx; simp [List.count_append]
    · have : (pr == x) = false := by simpa using fun e => hx e.symm
      simp [List.count_append, List.count_cons, hx, this]
  · simp [ht]

/-- `unqueueLast` and `unqueueFirst` are of this form (as in `cutAt_of_eraser`); neither the two tests nor the new slice
    matter for the order -/
theorem times_unqueue {q : List Slice} (h : q.Pairwise (fun x y => x.1 < y.1)) (c1 c2 : Prop) [Decidable c1] [Decidable c2]
    (T : Int) (l : List Pair) :
    (if c1 then (if c2 then setSlice q T l else q) else removeSlice q T).Pairwise (fun x y => x.1 < y.1) := by
  split
  · split
    · exact times_setSlice h _ _
    · exact h
  · exact times_removeSlice h _

theorem times_unqueueLast {q : List Slice} (h : q.Pairwise (fun x y => x.1 < y.1)) (pr : Pair) (T : Int) :
    (unqueueLast q pr T).Pairwise (fun x y => x.1 < y.1) := times_unqueue h _ _ _ _

theorem times_unqueueFirst {q : List Slice} (h : q.Pairwise (fun x y => x.1 < y.1)) (pr : Pair) (T : Int) :
    (unqueueFirst q pr T).Pairwise (fun x y => x.1 < y.1) := times_unqueue h _ _ _ _

theorem balSum_cons (e : Entry) (es : List Entry) : balSum (e :: es) = e.bal + balSum es := by simp [balSum]

theorem balSum_append (l1 l2 : List Entry) : balSum (l1 ++ l2) = balSum l1 + balSum l2 := by
  simp [balSum, List.sum_append]

theorem balSum_perm {l1 l2 : List Entry} (h : l1.Perm l2) : balSum l1 = balSum l2 :=
  sum_map_perm (fun e : Entry => e.bal) h

theorem balSum_nonneg {l : List Entry} (h : ∀ e ∈ l, 0 ≤ e.bal) : 0 ≤ balSum l := sum_map_nonneg _ h

theorem count_map_pair (m : List Entry) (d0 v0 d v : String) (e : Entry) :
    (m.map (fun x => (d0, v0, x))).count (d, v, e) = if d0 = d ∧ v0 = v then m.count e else 0 := by
  induction m with
  | nil => simp
  | cons x xs ih =>
    simp only [List.map_cons, List.count_cons, ih, beq_iff_eq, Prod.mk.injEq, ← and_assoc]
    by_cases h : d0 = d ∧ v0 = v <;> simp [h]

/-- the sum over all records of a weight that is given the key and the entries: `total`, `outstanding`, `atTime`, `byTime`
    are of this form -/
def sumU (us : List Ubd) (g : String → String → List Entry → Int) : Int := (us.map (fun u => g u.del u.val u.entries)).sum

theorem sumU_cons (x : Ubd) (xs : List Ubd) (g : String → String → List Entry → Int) :
    sumU (x :: xs) g = g x.del x.val x.entries + sumU xs g := by simp [sumU]

theorem sum_filter_del (us : List Ubd) (d : String) (f : String → List Entry → Int) :
    ((us.filter (·.del == d)).map (fun u => f u.val u.entries)).sum = sumU us (fun d' v es => if d' = d then f v es else 0) := by
  induction us with
  | nil => rfl
  | cons x xs ih =>
    rw [sumU_cons, ← ih]
    by_cases h : x.del = d <;> simp [h]

theorem outstanding_eq (us : List Ubd) (d : String) :
    outstanding us d = sumU us (fun d' _ es => if d' = d then balSum es else 0) := sum_filter_del us d (fun _ es => balSum es)

theorem atTime_eq (us : List Ubd) (d : String) (t : Int) :
    atTime us d t = sumU us (fun d' _ es => if d' = d then balSum (es.filter (fun e => e.t == t)) else 0) :=
  sum_filter_del us d (fun _ es => balSum (es.filter (fun e => e.t == t)))

theorem byTime_eq (us : List Ubd) (d : String) (t : Int) :
    byTime us d t = sumU us (fun d' _ es => if d' = d then balSum (es.filter (fun e => decide (e.t ≤ t))) else 0) :=
  sum_filter_del us d (fun _ es => balSum (es.filter (fun e => decide (e.t ≤ t))))

theorem sumU_le {us : List Ubd} {g g' : String → String → List Entry → Int}
    (h : ∀ u ∈ us, g u.del u.val u.entries ≤ g' u.del u.val u.entries) : sumU us g ≤ sumU us g' := by
  induction us with
  | nil => simp [sumU]
  | cons x xs ih =>
    rw [sumU_cons, sumU_cons]
    have := ih (fun u hu => h u (by simp [hu]))
    have := h x (by simp)
    omega

theorem sumU_congr {us : List Ubd} {g g' : String → String → List Entry → Int}
    (h : ∀ u ∈ us, g u.del u.val u.entries = g' u.del u.val u.entries) : sumU us g = sumU us g' :=
  Int.le_antisymm (sumU_le (fun u hu => Int.le_of_eq (h u hu))) (sumU_le (fun u hu => Int.le_of_eq (h u hu).symm))

theorem sumU_zero (us : List Ubd) : sumU us (fun _ _ _ => 0) = 0 := by
  induction us with
  | nil => rfl
  | cons x xs ih => rw [sumU_cons, ih]; rfl

theorem sumU_insertUbd (u : Ubd) (us : List Ubd) (g : String → String → List Entry → Int) :
    sumU (insertUbd u us) g = sumU us g + g u.del u.val u.entries := by
  induction us with
  | nil => simp [insertUbd, sumU]
  | cons x xs ih =>
    unfold insertUbd; split
    · rw [sumU_cons, sumU_cons, ih]; omega
    · simp only [sumU_cons]; omega

theorem sumU_removeUbd {us : List Ubd} (hk : us.Pairwise (fun x y => ¬ (x.del = y.del ∧ x.val = y.val))) (d v : String)
    (g : String → String → List Entry → Int) (hg : g d v [] = 0) :
    sumU (removeUbd us d v) g = sumU us g - g d v (getEntries us d v) := by
  unfold getEntries
  cases h : us.find? (·.is d v) with
  | none =>
    rw [show removeUbd us d v = us from
      Keyed.remove_fix (fun u : Ubd => (u.del, u.val)) (d, v) us (Keyed.not_mem_keys _ h), hg, Int.sub_zero]
  | some o =>
    obtain ⟨rfl, rfl⟩ := (is_iff o d v).mp (List.find?_some (p := fun x : Ubd => x.is d v) h)
    -- `WF.keys` read as distinctness of the keys `(del, val)`
    exact Keyed.sum_remove (fun u : Ubd => (u.del, u.val)) (k := (o.del, o.val)) (fun u => g u.del u.val u.entries)
      (List.pairwise_map.mpr (hk.imp fun h e => h (Prod.mk.inj e))) h

/-- a record is written: the weight after (`g'`) may differ from the weight before (`g`) at the written key -/
theorem sumU_setUbd {us : List Ubd} (hk : us.Pairwise (fun x y => ¬ (x.del = y.del ∧ x.val = y.val))) (d v : String)
    (es : List Entry) (g g' : String → String → List Entry → Int) (hg : g d v [] = 0)
    (hgg : ∀ u ∈ us, ¬ (u.del = d ∧ u.val = v) → g' u.del u.val u.entries = g u.del u.val u.entries) :
    sumU (setUbd us d v es) g' = sumU us g - g d v (getEntries us d v) + g' d v es := by
  unfold setUbd
  rw [sumU_insertUbd, sumU_congr (g := g') (g' := g), sumU_removeUbd hk d v g hg]
  intro u hu
  exact hgg u (mem_removeUbd.mp hu).1 (mem_removeUbd.mp hu).2

theorem sumU_setEntries {us : List Ubd} (hk : us.Pairwise (fun x y => ¬ (x.del = y.del ∧ x.val = y.val))) (d v : String)
    (es : List Entry) (g : String → String → List Entry → Int) (hg : g d v [] = 0) :
    sumU (setEntries us d v es) g = sumU us g - g d v (getEntries us d v) + g d v es := by
  unfold setEntries; split
  · rename_i he
    have : es = [] := by simpa using he
    rw [sumU_removeUbd hk d v g hg, this, hg]; omega
  · exact sumU_setUbd hk d v es g g hg (fun _ _ _ => rfl)

theorem _root_.Shentu.UbdQueue.Inv.queued_of_entry {s : State} (h : Inv s) {d v : String} {t : Int} (he : 0 < entriesAt s d v t) :
    (d, v) ∈ getSlice s.queue t :=
  List.count_pos_iff.mp (by have := h.counts d v t; unfold queuedAt at this; omega)

theorem _root_.Shentu.UbdQueue.Inv.entry_of_queued {s : State} (h : Inv s) {d v : String} {t : Int} (hq : (d, v) ∈ getSlice s.queue t) :
    0 < entriesAt s d v t := by
  have := h.counts d v t
  have := List.count_pos_iff.mpr hq
  unfold queuedAt at *
  omega

theorem entriesAt_pos {s : State} {d v : String} {e : Entry} (he : e ∈ getEntries s.ubds d v) : 0 < entriesAt s d v e.t :=
  List.countP_pos_iff.mpr ⟨e, he, by simp⟩

theorem inv_empty : Inv ({} : State) := ⟨⟨List.Pairwise.nil, List.Pairwise.nil⟩, fun _ _ _ => rfl⟩

end Shentu.UbdQueue.Store
