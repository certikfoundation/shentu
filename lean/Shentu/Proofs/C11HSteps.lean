import Shentu.Proofs.C11HLemmas
import Shentu.Props.C11
/-
  C11 at the level of histories, the end blocker: what settling one proposal (refund or burn of all its records) does to
  the ledger, to the records and to the payment log; every sub-step of the end blocker either pays nothing (`Kept`) or
  settles one proposal (`Settled`); hence the end blocker keeps the escrow invariant and moves coins as logged.
-/
namespace Shentu.C11H
open Shentu Shentu.Gov
open Shentu.Halt.Gv (depSum depSum_split)
open Shentu.Props.C11 (recOf)

@[simp] theorem paidTot_nil (pid : Nat) (a : Addr) (d : Denom) : paidTot [] pid a d = 0 := rfl
@[simp] theorem refundedTo_nil (a : Addr) (d : Denom) : refundedTo [] a d = 0 := rfl
@[simp] theorem burnedSum_nil (d : Denom) : burnedSum [] d = 0 := rfl
@[simp] theorem depTot_nil (pid : Nat) (a : Addr) (d : Denom) : depTot [] pid a d = 0 := rfl

@[simp] theorem paidTot_append (L L' : List Pay) (pid : Nat) (a : Addr) (d : Denom) :
    paidTot (L ++ L') pid a d = paidTot L pid a d + paidTot L' pid a d := by
  simp [paidTot, List.filter_append, List.map_append, List.sum_append]
@[simp] theorem refundedTo_append (L L' : List Pay) (a : Addr) (d : Denom) :
    refundedTo (L ++ L') a d = refundedTo L a d + refundedTo L' a d := by
  simp [refundedTo, List.filter_append, List.map_append, List.sum_append]
@[simp] theorem burnedSum_append (L L' : List Pay) (d : Denom) :
    burnedSum (L ++ L') d = burnedSum L d + burnedSum L' d := by
  simp [burnedSum, List.filter_append, List.map_append, List.sum_append]
@[simp] theorem depTot_append (L L' : List DepEv) (pid : Nat) (a : Addr) (d : Denom) :
    depTot (L ++ L') pid a d = depTot L pid a d + depTot L' pid a d := by
  simp [depTot, List.filter_append, List.map_append, List.sum_append]

theorem depTot_single (pid : Nat) (a : Addr) (amt : Coins) (pid' : Nat) (a' : Addr) (d : Denom) :
    depTot [{ pid := pid, depositor := a, amount := amt }] pid' a' d =
      if pid == pid' && a == a' then Coins.amountOf amt d else 0 := by
  simp only [depTot, List.filter_cons, List.filter_nil]
  by_cases h : (pid == pid' && a == a') <;> simp [h]

theorem recOf_cons (x : Deposit) (xs : List Deposit) (pid : Nat) (a : Addr) (d : Denom) :
    recOf (x :: xs) pid a d =
      (if x.pid == pid && x.depositor == a then Coins.amountOf x.amount d else 0) + recOf xs pid a d := by
  simp only [recOf, List.filter_cons]
  split <;> simp

theorem paidTot_cons (x : Pay) (xs : List Pay) (pid : Nat) (a : Addr) (d : Denom) :
    paidTot (x :: xs) pid a d =
      (if x.pid == pid && x.to == a then Coins.amountOf x.amount d else 0) + paidTot xs pid a d := by
  simp only [paidTot, List.filter_cons]
  split <;> simp

theorem payOf_cons (b : Bool) (x : Deposit) (xs : List Deposit) (pid : Nat) :
    payOf b (x :: xs) pid =
      if x.pid == pid then { pid := pid, to := x.depositor, amount := x.amount, burned := b } :: payOf b xs pid
      else payOf b xs pid := by
  simp only [payOf, List.filter_cons]
  split <;> simp

theorem recOf_split (b : Bool) (ds : List Deposit) (pid pid' : Nat) (a : Addr) (d : Denom) :
    recOf ds pid' a d = recOf (ds.filter (fun x => !(x.pid == pid))) pid' a d + paidTot (payOf b ds pid) pid' a d := by
  induction ds with
  | nil => simp [recOf, payOf, paidTot]
  | cons x xs ih =>
    rw [recOf_cons, payOf_cons, List.filter_cons, ih]
    by_cases h1 : x.pid == pid
    · have e1 := beq_iff_eq.mp h1
      simp only [h1, Bool.not_true, Bool.false_eq_true, if_false, if_true, paidTot_cons]
      rw [e1]; omega
    · have h1' : (x.pid == pid) = false := by simpa using h1
      simp only [h1', Bool.not_false, if_true, Bool.false_eq_true, if_false, recOf_cons]
      omega

theorem refundedTo_payOf_false (ds : List Deposit) (pid : Nat) (a : Addr) (d : Denom) :
    refundedTo (payOf false ds pid) a d =
      (((ds.filter (·.pid == pid)).filter (·.depositor == a)).map (fun x => Coins.amountOf x.amount d)).sum := by
  simp [refundedTo, payOf, List.filter_map, Function.comp_def]

theorem refundedTo_payOf_true (ds : List Deposit) (pid : Nat) (a : Addr) (d : Denom) :
    refundedTo (payOf true ds pid) a d = 0 := by
  unfold refundedTo payOf
  rw [List.filter_map, List.filter_eq_nil_iff.mpr (fun _ _ => by simp)]
  rfl

theorem burnedSum_payOf_false (ds : List Deposit) (pid : Nat) (d : Denom) : burnedSum (payOf false ds pid) d = 0 := by
  unfold burnedSum payOf
  rw [List.filter_map, List.filter_eq_nil_iff.mpr (fun _ _ => by simp)]
  rfl

theorem burnedSum_payOf_true (ds : List Deposit) (pid : Nat) (d : Denom) :
    burnedSum (payOf true ds pid) d = depSum (ds.filter (·.pid == pid)) d := by
  simp [burnedSum, payOf, depSum, List.filter_map, Function.comp_def]

theorem refund_go_mod (e : Env) (ds : List Deposit) (l l' : Ledger) (h : refundDeposits.go e ds l = .ok l')
    (hf : ∀ x ∈ ds, x.depositor ≠ e.modAddr) (d : Denom) : l'.balOf e.modAddr d = l.balOf e.modAddr d - depSum ds d := by
  rw [(refund_go_ok e ds l l' h).1, Ledger.balOf_paid, if_pos (beq_self_eq_true _),
    List.filter_eq_nil_iff.mpr (fun x hx => by simpa using hf x hx)]
  simp [depSum]

/-- the ledger and the records move as the log says -/
structure Moves (m : Addr) (w : World) (L : List Pay) (w' : World) : Prop where
  /-- every account other than the module account receives exactly the refunds logged for it -/
  paid : ∀ a d, a ≠ m → w'.l.balOf a d = w.l.balOf a d + refundedTo L a d
  /-- the supply drops by exactly the logged burns -/
  supply : ∀ d, Coins.amountOf w'.l.supply d = Coins.amountOf w.l.supply d - burnedSum L d
  /-- what leaves the records of (proposal, depositor) is what the log says was refunded to, or burned for, them -/
  recs : ∀ pid a d, recOf w.g.deposits pid a d = recOf w'.g.deposits pid a d + paidTot L pid a d

theorem Moves.refl (m : Addr) (w : World) : Moves m w [] w :=
  ⟨fun _ _ _ => by simp, fun _ => by simp, fun _ _ _ => by simp⟩

theorem Moves.trans {m : Addr} {w w1 w2 : World} {L1 L2 : List Pay} (h1 : Moves m w L1 w1) (h2 : Moves m w1 L2 w2) :
    Moves m w (L1 ++ L2) w2 := by
  refine ⟨?_, ?_, ?_⟩
  · intro a d ha; rw [h2.paid a d ha, h1.paid a d ha, refundedTo_append]; omega
  · intro d; rw [h2.supply d, h1.supply d, burnedSum_append]; omega
  · intro pid a d; rw [h1.recs pid a d, h2.recs pid a d, paidTot_append]; omega

/-- a sub-step that pays nothing: ledger and records untouched, no live proposal ends -/
structure Kept (w w' : World) : Prop where
  l : w'.l = w.l
  deps : w'.g.deposits = w.g.deposits
  live : ∀ id, Live w.g id → Live w'.g id

theorem Kept.refl (w : World) : Kept w w := ⟨rfl, rfl, fun _ h => h⟩

theorem Kept.escrow {m : Addr} {w w' : World} (k : Kept w w') (h : EscrowInv m w) : EscrowInv m w' := by
  refine ⟨?_, ?_, ?_, ?_⟩
  · intro d; rw [k.l, k.deps]; exact h.held d
  · rw [k.deps]; intro x hx; exact k.live _ (h.live x hx)
  · rw [k.deps]; exact h.valid
  · rw [k.deps]; exact h.foreign

theorem Kept.moves (m : Addr) {w w' : World} (k : Kept w w') : Moves m w [] w' :=
  ⟨fun _ _ _ => by rw [k.l]; simp, fun _ => by rw [k.l]; simp, fun _ _ _ => by rw [k.deps]; simp⟩

/-- the total the veto branch burns -/
def burnTotal (ds : List Deposit) (pid : Nat) : Coins :=
  (ds.filter (·.pid == pid)).foldl (fun acc d => Coins.add acc d.amount) ([] : Coins)

theorem burnTotal_amount (ds : List Deposit) (pid : Nat) (d : Denom) :
    Coins.amountOf (burnTotal ds pid) d = depSum (ds.filter (·.pid == pid)) d :=
  amountOf_foldl_amounts _ d

/-- a sub-step that settles proposal `pid`: all its records are deleted, and their amounts are refunded one by one to
    the depositors (`burned = false`) or burned in one go (`burned = true`); afterwards the proposal is gone or decided -/
structure Settled (e : Env) (w w' : World) (pid : Nat) (burned : Bool) : Prop where
  deps : w'.g.deposits = w.g.deposits.filter (fun d => !(d.pid == pid))
  others : ∀ id, id ≠ pid → findP w'.g id = findP w.g id
  refund : burned = false → refundDeposits.go e (w.g.deposits.filter (·.pid == pid)) w.l = .ok w'.l
  burn : burned = true → w'.l = w.l.burn e.modAddr (burnTotal w.g.deposits pid)
  ended : ¬ Live w'.g pid

theorem Settled.escrow {e : Env} {w w' : World} {pid : Nat} {b : Bool} (s : Settled e w w' pid b)
    (h : EscrowInv e.modAddr w) : EscrowInv e.modAddr w' := by
  have hsplit := depSum_split (·.pid == pid) w.g.deposits
  refine ⟨?_, ?_, ?_, ?_⟩
  · intro d
    rw [s.deps]
    cases b with
    | false =>
      have := refund_go_mod e _ _ _ (s.refund rfl) (fun x hx => h.foreign x (List.mem_filter.mp hx).1) d
      rw [this, h.held d, hsplit d]; omega
    | true =>
      rw [s.burn rfl, Ledger.balOf_burn, burnTotal_amount, h.held d, hsplit d]
      simp only [beq_self_eq_true, if_true]; omega
  · rw [s.deps]
    intro x hx
    have hx' := List.mem_filter.mp hx
    have hne : x.pid ≠ pid := by simpa using hx'.2
    obtain ⟨p, hp, hs⟩ := h.live x hx'.1
    exact ⟨p, by rw [s.others _ hne]; exact hp, hs⟩
  · rw [s.deps]; intro x hx; exact h.valid x (List.mem_filter.mp hx).1
  · rw [s.deps]; intro x hx; exact h.foreign x (List.mem_filter.mp hx).1

theorem Settled.moves {e : Env} {w w' : World} {pid : Nat} {b : Bool} (s : Settled e w w' pid b) :
    Moves e.modAddr w (payOf b w.g.deposits pid) w' := by
  refine ⟨?_, ?_, ?_⟩
  · intro a d ha
    cases b with
    | false =>
      rw [Shentu.Props.C11.refund_go_bal e _ _ _ (s.refund rfl) a d ha, refundedTo_payOf_false]
    | true =>
      rw [s.burn rfl, refundedTo_payOf_true, Ledger.balOf_burn]
      have hm : (e.modAddr == a) = false := by simpa using Ne.symm ha
      simp [hm]
  · intro d
    cases b with
    | false =>
      rw [(Shentu.Props.C11.refund_go_supply e _ _ _ (s.refund rfl)).1, burnedSum_payOf_false]; omega
    | true =>
      rw [s.burn rfl, burnedSum_payOf_true, Ledger.supply_burn, Coins.amountOf_sub, burnTotal_amount]
  · intro pid' a d
    rw [s.deps]; exact recOf_split b _ pid pid' a d

theorem not_live_of_status {g : State} {id : Nat} {q : Proposal} (h : findP g id = some q)
    (hs : q.status = 4 ∨ q.status = 5 ∨ q.status = 6) : ¬ Live g id := by
  rintro ⟨p, hp, hl⟩
  rw [h] at hp; injection hp with hp; subst hp
  omega

theorem drop_settled {e : Env} {w w' : World} {p : Proposal}
    (h : refundDeposits e { w with g := delP w.g p.id } p.id = .ok w') :
    Settled e w w' p.id false ∧ w'.g.nextId = w.g.nextId := by
  have ho := drop_others h
  obtain ⟨l', hgo, rfl⟩ := refundDeposits_ok h
  refine ⟨⟨rfl, ho.1, fun _ => hgo, (nomatch ·), ?_⟩, ho.2⟩
  · rintro ⟨q, hq, _⟩
    have hq' : findP (delP w.g p.id) p.id = some q := hq
    rw [findP_delP, if_pos (beq_self_eq_true _)] at hq'
    cases hq'

theorem endStep_sub {e : Env} {w w' : World} {p : Proposal} (h : EndStep e w p w') :
    (p.status = 2 ∧ (securityTally w.g w.c p).2.1 = false ∧ Kept w w') ∨
    ∃ b pass, Verdict e w p b pass ∧ Settled e w w' p.id b := by
  have ho := h.others.1
  cases h with
  | nextRound h2 hv =>
    exact Or.inl ⟨h2, hv, rfl, activateVotingPeriod_deposits .., fun _ hl => live_activate (live_congr rfl hl)⟩
  | @settle b pass l' t hp hv =>
    obtain ⟨c', s, hf, hs⟩ := finish_shape (paidOut w p.id l' (votesAfter w p)) p pass t
    rw [hf] at ho ⊢
    exact Or.inr ⟨b, pass, hv, setP_deposits .., ho, hp.refund, hp.burn, not_live_of_status (findP_setP_self ..)
      (by rcases hs with ⟨rfl, _⟩ | ⟨rfl | rfl, _⟩ <;> simp)⟩

/-- a sub-step with its log: it pays nothing, or it settles one proposal and the log lists that proposal's records -/
def Sub (e : Env) (w : World) (L : List Pay) (w' : World) : Prop :=
  (Kept w w' ∧ L = []) ∨ ∃ pid b, Settled e w w' pid b ∧ L = payOf b w.g.deposits pid

theorem Sub.escrow {e : Env} {w w' : World} {L : List Pay} (s : Sub e w L w') (h : EscrowInv e.modAddr w) :
    EscrowInv e.modAddr w' := by
  rcases s with ⟨k, _⟩ | ⟨pid, b, s, _⟩
  · exact k.escrow h
  · exact s.escrow h

theorem Sub.moves {e : Env} {w w' : World} {L : List Pay} (s : Sub e w L w') : Moves e.modAddr w L w' := by
  rcases s with ⟨k, hL⟩ | ⟨pid, b, s, hL⟩
  · rw [hL]; exact k.moves _
  · rw [hL]; exact s.moves

theorem drop_sub {e : Env} {w w' : World} {p : Proposal}
    (h : refundDeposits e { w with g := delP w.g p.id } p.id = .ok w') : Sub e w (dropLog w p) w' :=
  Or.inr ⟨p.id, false, (drop_settled h).1, rfl⟩

theorem processActive_sub {e : Env} {w w' : World} {p : Proposal} (h : processActive e w p = .ok w') :
    Sub e w (activeLog e w p) w' := by
  unfold activeLog
  rcases endStep_sub (processActive_endStep h) with ⟨h2, hv, k⟩ | ⟨b, pass, hver, s⟩
  · exact Or.inl ⟨k, by simp [h2, hv]⟩
  · refine Or.inr ⟨p.id, b, s, ?_⟩
    cases hver with
    | cert h2 hv => simp [h2, hv]
    | stake h2 => simp [h2]

theorem processSecurityVote_sub {e : Env} {w w' : World} {p : Proposal} (h : processSecurityVote e w p = .ok w') :
    Sub e w (secLog w p) w' := by
  unfold secLog
  rcases processSecurityVote_endStep h with ⟨rfl, hq⟩ | ⟨h2, hp, hs⟩
  · exact Or.inl ⟨Kept.refl _, by rcases hq with hq | hq <;> simp [hq]⟩
  · rcases endStep_sub hs with ⟨_, hv, k⟩ | ⟨b, pass, hver, s⟩
    · exact Or.inl ⟨k, by simp [h2, hp, hv]⟩
    · refine Or.inr ⟨p.id, b, s, ?_⟩
      cases hver with
      | cert _ hv => simp [h2, hp, hv, Gen.Gov.earlyPassRefunds_eq]
      | stake hn => exact absurd h2 hn

theorem foldIds_sub (e : Env) (f : World → Proposal → Except Err World) (lg : World → Proposal → List Pay)
    (hf : ∀ w p w', f w p = .ok w' → Sub e w (lg w p) w') (ids : List Nat) (w w' : World) (h : foldIds f ids w = .ok w') :
    (EscrowInv e.modAddr w → EscrowInv e.modAddr w') ∧ Moves e.modAddr w (foldLog f lg ids w) w' := by
  -- along the loop: the log of the whole is what was logged so far and the log of what is left
  obtain ⟨i1, L, mv, eq⟩ := foldIds_ind
    (fun rest w1 => (EscrowInv e.modAddr w → EscrowInv e.modAddr w1) ∧
      ∃ L, Moves e.modAddr w L w1 ∧ foldLog f lg ids w = L ++ foldLog f lg rest w1) f
    (fun id rest w1 hn ⟨i1, L, mv, eq⟩ => ⟨i1, L, mv, by rw [eq, foldLog, hn]⟩)
    (fun id rest w1 p w2 ⟨i1, L, mv, eq⟩ hp hfp =>
      have s := hf w1 p w2 hfp
      ⟨fun hi => s.escrow (i1 hi), L ++ lg w1 p, mv.trans s.moves, by rw [eq, foldLog, hp]; dsimp only; rw [hfp, List.append_assoc]⟩)
    ids w w' ⟨id, [], Moves.refl _ _, rfl⟩ h
  rw [eq, foldLog, List.append_nil]
  exact ⟨i1, mv⟩

theorem endBlock_sub {e : Env} {w w' : World} (h : endBlock e w = .ok w') :
    (EscrowInv e.modAddr w → EscrowInv e.modAddr w') ∧ Moves e.modAddr w (endBlockLog e w) w' := by
  obtain ⟨w1, w2, hw1, hw2, h⟩ := endBlock_ok_iff.mp h
  unfold selIds at hw1 hw2 h
  unfold endBlockLog
  dsimp only
  rw [hw1]
  dsimp only
  rw [hw2]
  dsimp only
  obtain ⟨a1, a2⟩ := foldIds_sub e _ dropLog (fun w p w' hh => drop_sub hh) _ _ _ hw1
  obtain ⟨b1, b2⟩ := foldIds_sub e _ (activeLog e) (fun w p w' hh => processActive_sub hh) _ _ _ hw2
  obtain ⟨c1, c2⟩ := foldIds_sub e _ secLog (fun w p w' hh => processSecurityVote_sub hh) _ _ _ h
  exact ⟨fun hi => c1 (b1 (a1 hi)), a2.trans (b2.trans c2)⟩

end Shentu.C11H
