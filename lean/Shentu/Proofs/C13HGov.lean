import Shentu.Proofs.GovStep
import Shentu.Proofs.C13HLemmas
/-
  The link from the governance model to the council: which part of every governance step can
  touch the `Cert.State` component of the world.
-/
namespace Shentu.C13H
open Shentu Shentu.Gov

/-- the tally of the round the proposal is in, computed on the world `w`, says "pass" -/
def TallyPassed (e : Env) (w : World) (p : Proposal) : Prop :=
  (p.status = 2 ∧ (securityTally w.g w.c p).1 = true) ∨ (p.status ≠ 2 ∧ (stakeTally e w.g p 0).1 = true)

/-- the council operation a certifier-update proposal stands for -/
def opOf (p : Proposal) : Op := .govUpdate p.cuCertifier p.cuAlias p.cuProposer p.cuAdd

/-- the step from the world `w` to the world `w'` finalised the stored proposal `p` as passed: `p` is stored in `w`,
    its kind is "certifierUpdate", its tally computed on `w` passed, the handler applied to the council of `w`
    accepted and produced the council of `w'`, and `p` is stored in `w'` with status 4 (passed) -/
def FinalisedAt (e : Env) (w : World) (p : Proposal) (w' : World) : Prop :=
  findP w.g p.id = some p ∧ p.kind = "certifierUpdate" ∧ TallyPassed e w p ∧
    exec w.c (opOf p) = .ok w'.c ∧ (∃ t, findP w'.g p.id = some { p with status := 4, tally := t })

/-- one finalisation of a passed certifier-update proposal that takes the council from `c` to `c'` -/
def Finalised (e : Env) (c c' : Cert.State) (p : Proposal) : Prop :=
  ∃ w w' : World, w.c = c ∧ w'.c = c' ∧ FinalisedAt e w p w'

inductive Chain (e : Env) : Cert.State → List Proposal → Cert.State → Prop
  | nil (c : Cert.State) : Chain e c [] c
  | cons {c c1 c2 : Cert.State} {p : Proposal} {ps : List Proposal} :
      Finalised e c c1 p → Chain e c1 ps c2 → Chain e c (p :: ps) c2

theorem Chain.append {e : Env} {c c1 c2 : Cert.State} {ps qs : List Proposal}
    (h1 : Chain e c ps c1) (h2 : Chain e c1 qs c2) : Chain e c (ps ++ qs) c2 := by
  induction h1 with
  | nil c => exact h2
  | cons hf _ ih => exact Chain.cons hf (ih h2)

theorem Chain.all {e : Env} {Q : Proposal → Prop} (hQ : ∀ c c1 p, Finalised e c c1 p → Q p) {c c' : Cert.State}
    {ps : List Proposal} (h : Chain e c ps c') : ∀ p ∈ ps, Q p := by
  induction h with
  | nil c => exact fun _ hp => nomatch hp
  | cons hf _ ih =>
    intro q hq
    rcases List.mem_cons.mp hq with rfl | hq
    · exact hQ _ _ _ hf
    · exact ih q hq

theorem Chain.kinds {e : Env} {c c' : Cert.State} {ps : List Proposal} (h : Chain e c ps c') :
    ∀ p ∈ ps, p.kind = "certifierUpdate" :=
  h.all fun _ _ _ ⟨_, _, _, _, _, hk, _⟩ => hk

theorem refundDeposits_c {e : Env} {w w' : World} {pid : Nat} (h : refundDeposits e w pid = .ok w') : w'.c = w.c := by
  obtain ⟨_, _, rfl⟩ := refundDeposits_ok h; rfl

theorem runHandler_c {w w' : World} {p : Proposal} (h : runHandler w p = .ok w') :
    w'.c = w.c ∨ (p.kind = "certifierUpdate" ∧ exec w.c (opOf p) = .ok w'.c) := by
  unfold runHandler at h
  by_cases hk : (p.kind == "certifierUpdate") = true
  · rw [if_pos hk] at h
    cases hc : Cert.handleUpdate w.c p.cuCertifier p.cuAlias p.cuProposer p.cuAdd with
    | error x => rw [hc] at h; cases h
    | ok c' => rw [hc] at h; cases h; exact Or.inr ⟨by simpa using hk, hc⟩
  · rw [if_neg hk] at h; cases h; exact Or.inl rfl

theorem finish_c (w : World) (p : Proposal) (pass : Bool) (t : Tally) :
    (finish w p pass t).c = w.c ∨
    (pass = true ∧ p.kind = "certifierUpdate" ∧ exec w.c (opOf p) = .ok (finish w p pass t).c ∧
      findP (finish w p pass t).g p.id = some { p with status := 4, tally := t }) := by
  obtain ⟨c', s, hf, ⟨rfl, hp, hh⟩ | ⟨_, rfl, _⟩⟩ := finish_shape w p pass t
  · rw [hf]
    rcases runHandler_c hh with hc | ⟨hk, hex⟩
    · exact Or.inl hc
    · exact Or.inr ⟨hp, hk, hex, findP_setP_self _ _⟩
  · rw [hf]; exact Or.inl rfl

theorem endStep_c {e : Env} {w w' : World} {p : Proposal} (h : EndStep e w p w') (hp : findP w.g p.id = some p) :
    w'.c = w.c ∨ FinalisedAt e w p w' := by
  cases h with
  | nextRound _ _ => exact Or.inl rfl
  | @settle b pass l' t _ hv =>
    rcases finish_c (paidOut w p.id l' (votesAfter w p)) p pass t with hc | ⟨hpass, hk, hex, h4⟩
    · exact Or.inl hc
    · refine Or.inr ⟨hp, hk, ?_, hex, t, h4⟩
      cases hv with
      | cert h2 _ => exact Or.inl ⟨h2, hpass⟩
      | stake h2 => exact Or.inr ⟨h2, hpass⟩

theorem processActive_c {e : Env} {w w' : World} {p : Proposal} (hp : findP w.g p.id = some p)
    (h : processActive e w p = .ok w') : w'.c = w.c ∨ FinalisedAt e w p w' := endStep_c (processActive_endStep h) hp

theorem processSecurityVote_c {e : Env} {w w' : World} {p : Proposal} (hp : findP w.g p.id = some p)
    (h : processSecurityVote e w p = .ok w') : w'.c = w.c ∨ FinalisedAt e w p w' := by
  rcases processSecurityVote_endStep h with ⟨rfl, _⟩ | ⟨_, _, hs⟩
  · exact Or.inl rfl
  · exact endStep_c hs hp

/-- one call of a loop body of the end blocker on the stored proposal `p`: the deposit-period clean-up,
    the end of a voting period, or the early decision of the certifier round -/
def Hop (e : Env) (w : World) (p : Proposal) (w1 : World) : Prop :=
  findP w.g p.id = some p ∧
  (refundDeposits e { w with g := delP w.g p.id } p.id = .ok w1 ∨ processActive e w p = .ok w1 ∨
    processSecurityVote e w p = .ok w1)

/-- the actual execution of an end blocker as a path of worlds: every hop is a real call of a loop body;
    a hop either keeps the council or finalises its proposal as passed; the finalised proposals are listed in order -/
inductive Path (e : Env) : World → List Proposal → World → Prop
  | nil (w : World) : Path e w [] w
  | quiet {w w1 w2 : World} {p : Proposal} {ps : List Proposal} :
      Hop e w p w1 → w1.c = w.c → Path e w1 ps w2 → Path e w ps w2
  | update {w w1 w2 : World} {p : Proposal} {ps : List Proposal} :
      Hop e w p w1 → FinalisedAt e w p w1 → Path e w1 ps w2 → Path e w (p :: ps) w2

theorem Path.append {e : Env} {w w1 w2 : World} {ps qs : List Proposal}
    (h1 : Path e w ps w1) (h2 : Path e w1 qs w2) : Path e w (ps ++ qs) w2 := by
  induction h1 with
  | nil w => exact h2
  | quiet hh hc _ ih => exact Path.quiet hh hc (ih h2)
  | update hh hf _ ih => exact Path.update hh hf (ih h2)

theorem Path.chain {e : Env} {w w' : World} {ps : List Proposal} (h : Path e w ps w') : Chain e w.c ps w'.c := by
  induction h with
  | nil w => exact Chain.nil _
  | quiet _ hc _ ih => rw [← hc]; exact ih
  | update _ hf _ ih => exact Chain.cons ⟨_, _, rfl, rfl, hf⟩ ih

theorem Path.hop {e : Env} {w w' : World} {p : Proposal} (hop : Hop e w p w')
    (hc : w'.c = w.c ∨ FinalisedAt e w p w') : ∃ ps, Path e w ps w' :=
  match hc with
  | .inl hc => ⟨[], Path.quiet hop hc (Path.nil _)⟩
  | .inr hf => ⟨[p], Path.update hop hf (Path.nil _)⟩

theorem endBlock_path {e : Env} {w w' : World} (h : endBlock e w = .ok w') : ∃ ps, Path e w ps w' :=
  endBlock_rel (R := fun w w' => ∃ ps, Path e w ps w') (fun w => ⟨[], Path.nil w⟩)
    (fun ⟨ps, h1⟩ ⟨qs, h2⟩ => ⟨ps ++ qs, h1.append h2⟩)
    (fun _ _ _ hp hh => Path.hop ⟨hp, Or.inl hh⟩ (Or.inl (refundDeposits_c hh :)))
    (fun _ _ _ hp hh => Path.hop ⟨hp, Or.inr (Or.inl hh)⟩ (processActive_c hp hh))
    (fun _ _ _ hp hh => Path.hop ⟨hp, Or.inr (Or.inr hh)⟩ (processSecurityVote_c hp hh)) h

theorem atoms_c {e : Env} {a : Addr} {w w' : World} (s : Star (Atom e a) w w') : w'.c = w.c :=
  s.keep (P := fun w1 => w1.c = w.c) (fun t h => by cases t <;> exact h) rfl

/-- everything the governance model can do to the world -/
inductive GovOp where
  | submit (proposer : Addr) (p0 : Proposal) (deposit : Coins)
  | deposit (pid : Nat) (depositor : Addr) (amt : Coins)
  | vote (pid : Nat) (voter : Addr) (option : Nat)
  | endBlock

def GovOp.isEndBlock : GovOp → Bool
  | .endBlock => true
  | _ => false

def govExec (e : Env) (w : World) : GovOp → Except Err World
  | .submit a p0 d => submit e w a p0 d
  | .deposit pid a amt => addDeposit e w pid a amt
  | .vote pid a o => vote w pid a o
  | .endBlock => endBlock e w

/-- a refused message is reverted, a failing end blocker halts the chain: the world stays -/
def govStep (e : Env) (w : World) (o : GovOp) : World :=
  match govExec e w o with
  | .ok w' => w'
  | .error _ => w

def govRun (w : World) (h : List (Env × GovOp)) : World := h.foldl (fun w eo => govStep eo.1 w eo.2) w

theorem govExec_chain {e : Env} {w w' : World} {o : GovOp} (h : govExec e w o = .ok w') :
    ∃ ps, Chain e w.c ps w'.c ∧ (o.isEndBlock = false → ps = []) := by
  have quiet (hc : w'.c = w.c) : ∃ ps, Chain e w.c ps w'.c ∧ (o.isEndBlock = false → ps = []) :=
    ⟨[], hc ▸ Chain.nil _, fun _ => rfl⟩
  cases o with
  | submit a p0 d => exact quiet (atoms_c (submit_atoms h))
  | deposit pid a amt => exact quiet (atoms_c (addDeposit_atoms h))
  | vote pid a o => exact quiet (atoms_c (vote_atoms (e := e) h))
  | endBlock =>
    obtain ⟨ps, hp⟩ := endBlock_path h
    exact ⟨ps, hp.chain, nofun⟩

theorem govStep_chain (e : Env) (w : World) (o : GovOp) :
    ∃ ps, Chain e w.c ps (govStep e w o).c ∧ (o.isEndBlock = false → ps = []) := by
  unfold govStep
  cases h : govExec e w o with
  | ok w' => exact govExec_chain h
  | error x => exact ⟨[], Chain.nil _, fun _ => rfl⟩

/-- every governance update in the list was accepted when its turn came -/
def AllAccepted (c : Cert.State) (ups : List Op) : Prop := (∀ o ∈ ups, o.isGov = true) ∧ passedUpdates c ups = ups

theorem AllAccepted.append {c : Cert.State} {xs ys : List Op} (h1 : AllAccepted c xs) (h2 : AllAccepted (run c xs) ys) :
    AllAccepted c (xs ++ ys) := by
  refine ⟨?_, ?_⟩
  · intro o ho
    rcases List.mem_append.mp ho with h | h
    · exact h1.1 o h
    · exact h2.1 o h
  · rw [passedUpdates_append, h1.2, h2.2]

theorem isGov_of_mem_map_opOf {ps : List Proposal} {o : Op} (ho : o ∈ ps.map opOf) : o.isGov = true := by
  obtain ⟨p, _, rfl⟩ := List.mem_map.mp ho
  rfl

theorem filter_isGov_map_opOf (ps : List Proposal) : (ps.map opOf).filter Op.isGov = ps.map opOf :=
  List.filter_eq_self.mpr fun _ ho => isGov_of_mem_map_opOf ho

theorem Chain.accepted {e : Env} {c c' : Cert.State} {ps : List Proposal} (h : Chain e c ps c') :
    AllAccepted c (ps.map opOf) ∧ c' = run c (ps.map opOf) := by
  have hrun : c' = run c (ps.map opOf) ∧ passedUpdates c (ps.map opOf) = ps.map opOf := by
    induction h with
    | nil c => exact ⟨rfl, rfl⟩
    | cons hf _ ih =>
      obtain ⟨_, _, rfl, rfl, _, _, _, hex, _⟩ := hf
      simp only [List.map_cons, run_cons, passedUpdates, step_of_ok hex, succeeds_of_ok hex]
      exact ⟨ih.1, by rw [ih.2]; rfl⟩
  exact ⟨⟨fun _ ho => isGov_of_mem_map_opOf ho, hrun.2⟩, hrun.1⟩

theorem Chain.finalised {e : Env} {c c' : Cert.State} {ps : List Proposal} (h : Chain e c ps c') :
    ∀ p ∈ ps, ∃ c1 c2, Finalised e c1 c2 p :=
  h.all fun _ _ _ hf => ⟨_, _, hf⟩

/-- the three signed messages of the cert module -/
inductive Msg where
  | issue (signer : Addr) (kind content : String)
  | revoke (signer : Addr) (id : Nat)
  | certifyPlatform (signer : Addr) (pubkey desc : String)

def Msg.toOp : Msg → Op
  | .issue a k c => .issue a k c
  | .revoke a id => .revoke a id
  | .certifyPlatform a pk d => .certifyPlatform a pk d

theorem Msg.toOp_not_gov (m : Msg) : m.toOp.isGov = false := by cases m <;> rfl

/-- one event of a chain history: a cert message, or a governance message or block end in its environment -/
inductive WOp where
  | cert (m : Msg)
  | gov (e : Env) (o : GovOp)

def wstep (w : World) : WOp → World
  | .cert m => { w with c := step w.c m.toOp }
  | .gov e o => govStep e w o

def wrun (w : World) (h : List WOp) : World := h.foldl wstep w

/-- A history of any machine whose every step moves the council by a run of cert operations, all governance updates
    among them accepted: so does the whole history, and each of the operations comes from a step of it (`Q`). -/
theorem council_of_steps {σ ι : Type} {f : σ → ι → σ} {c : σ → Cert.State} {Q : ι → Op → Prop}
    (hstep : ∀ s i, ∃ ops, c (f s i) = run (c s) ops ∧ passedUpdates (c s) ops = ops.filter Op.isGov ∧ ∀ o ∈ ops, Q i o)
    (l : List ι) (s : σ) : ∃ ops, c (l.foldl f s) = run (c s) ops ∧ passedUpdates (c s) ops = ops.filter Op.isGov ∧
      ∀ o ∈ ops, ∃ i ∈ l, Q i o := by
  induction l generalizing s with
  | nil => exact ⟨[], rfl, rfl, fun o ho => nomatch ho⟩
  | cons i l ih =>
    obtain ⟨a, ha, hpa, hqa⟩ := hstep s i
    obtain ⟨b, hb, hpb, hqb⟩ := ih (f s i)
    refine ⟨a ++ b, ?_, ?_, fun o ho => ?_⟩
    · rw [List.foldl_cons, hb, ha, run_append]
    · rw [passedUpdates_append, hpa, ← ha, hpb, List.filter_append]
    · rcases List.mem_append.mp ho with ho | ho
      · exact ⟨i, List.mem_cons_self, hqa o ho⟩
      · obtain ⟨j, hj, hq⟩ := hqb o ho
        exact ⟨j, List.mem_cons_of_mem _ hj, hq⟩

end Shentu.C13H
