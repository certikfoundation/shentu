import Shentu.Proofs.ShieldOps
import Shentu.Proofs.ShieldPurchase
/-
  What the operations of x/shield compute, as C06 (purchase limits, deposits, staking hooks) reads it: the lookups after
  a write to the pool and provider stores; what an accepted purchase books (`Booked`); the provider records after a
  deposit (in its named state `depositState` of `ShieldOps`) and after the staking hook (over `stakingHook_none`,
  `stakingHook_some` and `forcedState`, which stand in `ShieldOps` under this namespace).  The three purchase messages as equations are in `ShieldPurchase`.
-/
namespace Shentu.Shield.Limit
open Shentu

theorem findPool_setPool (s : State) (p : Pool) (id : Nat) :
    findPool (setPool s p) id = if id = p.id then (findPool s id).map (fun _ => p) else findPool s id :=
  Keyed.find_replace Pool.id rfl id s.pools

/-- the fields C06 talks about are as they were -/
structure SameCore (s s' : State) : Prop where
  pools : s'.pools = s.pools
  providers : s'.providers = s.providers
  withdraws : s'.withdraws = s.withdraws
  totalCollateral : s'.totalCollateral = s.totalCollateral
  totalWithdrawing : s'.totalWithdrawing = s.totalWithdrawing
  totalShield : s'.totalShield = s.totalShield
  totalClaimed : s'.totalClaimed = s.totalClaimed
  params : s'.params = s.params
  admin : s'.admin = s.admin

theorem SameCore.refl (s : State) : SameCore s s := ⟨rfl, rfl, rfl, rfl, rfl, rfl, rfl, rfl, rfl⟩
theorem SameCore.trans {a b c : State} (h1 : SameCore a b) (h2 : SameCore b c) : SameCore a c :=
  ⟨h2.pools.trans h1.pools, h2.providers.trans h1.providers, h2.withdraws.trans h1.withdraws,
   h2.totalCollateral.trans h1.totalCollateral, h2.totalWithdrawing.trans h1.totalWithdrawing,
   h2.totalShield.trans h1.totalShield, h2.totalClaimed.trans h1.totalClaimed, h2.params.trans h1.params,
   h2.admin.trans h1.admin⟩

/-- what booking a purchase of `amt` in `pool` does to the fields C06 talks about -/
structure Booked (s1 s' : State) (pool : Pool) (amt : Int) : Prop where
  pools : s'.pools = s1.pools.map (fun x => if x.id == pool.id then { pool with shield := pool.shield + amt } else x)
  totalShield : s'.totalShield = s1.totalShield + amt
  providers : s'.providers = s1.providers
  withdraws : s'.withdraws = s1.withdraws
  totalCollateral : s'.totalCollateral = s1.totalCollateral
  totalWithdrawing : s'.totalWithdrawing = s1.totalWithdrawing
  totalClaimed : s'.totalClaimed = s1.totalClaimed
  params : s'.params = s1.params
  admin : s'.admin = s1.admin

theorem purchaseCore_booked {e : Env} {l l' : Ledger} {s s' : State} {poolID : Nat} {shield : Coins} {purchaser : Addr}
    {fees staking : Coins}
    (h : purchaseCore e l s poolID shield purchaser fees staking = .ok (l', s')) :
    ∃ pool, findPool s poolID = some pool ∧ Booked s s' pool (Coins.amountOf shield e.bond) := by
  obtain ⟨pool, s1, hp, _, _, hpaid, rfl⟩ := PoolLm.purchaseCore_ok h
  refine ⟨pool, hp, ?_⟩
  rw [PoolLm.pcFinish_paid hpaid]
  exact ⟨rfl, rfl, rfl, rfl, rfl, rfl, rfl, rfl, rfl⟩

theorem findPool_setPool_some {s : State} {id : Nat} {pool : Pool} (hp : findPool s id = some pool) (p' : Pool)
    (hid : p'.id = pool.id) (j : Nat) : findPool (setPool s p') j = if j = id then some p' else findPool s j :=
  Keyed.find_replace_some Pool.id hp p' hid j

theorem findPool_setPool_shield {s : State} {id : Nat} {pool : Pool} (hp : findPool s id = some pool) (p' : Pool)
    (hid : p'.id = pool.id) (hs : p'.shield = pool.shield) (j : Nat) :
    (findPool (setPool s p') j).map (·.shield) = (findPool s j).map (·.shield) := by
  rw [findPool_setPool_some hp p' hid]
  split
  · rename_i hj; rw [hj, hp]; exact congrArg some hs
  · rfl

theorem Booked.lookup {s s' : State} {pool : Pool} {amt : Int} (h : Booked s s' pool amt) {poolID : Nat}
    (hp : findPool s poolID = some pool) (id : Nat) :
    findPool s' id = if id = poolID then some { pool with shield := pool.shield + amt } else findPool s id := by
  have : findPool s' id = findPool (setPool s { pool with shield := pool.shield + amt }) id := by
    simp only [findPool, h.pools, setPool]
  exact this.trans (findPool_setPool_some hp { pool with shield := pool.shield + amt } rfl id)

theorem findProvider_setProvider_some {s : State} {a : Addr} {p : Provider} (hp : findProvider s a = some p) (p' : Provider)
    (ha : p'.addr = p.addr) (b : Addr) :
    findProvider (setProvider s p') b = if b = a then some p' else findProvider s b :=
  Keyed.find_replace_some Provider.addr hp p' ha b

theorem findProvider_requested (e : Env) {s : State} {a : Addr} {p : Provider} (hp : findProvider s a = some p) (amount : Int)
    (b : Addr) :
    findProvider (requested e s a amount p) b =
      if b = a then some { p with withdrawing := p.withdrawing + amount } else findProvider s b :=
  findProvider_setProvider_some (s := s) hp { p with withdrawing := p.withdrawing + amount } rfl b

theorem depositRecord_addr (e : Env) (s : State) (a : Addr) : (depositRecord e s a).addr = a := by
  unfold depositRecord
  cases hf : findProvider s a with
  | some p => exact (Coll.findProvider_some hf).2
  | none => rfl

theorem findProvider_depositState (e : Env) (s : State) (a : Addr) (amt : Int) (b : Addr) :
    findProvider (depositState e s a amt) b =
      if b = a then some { depositRecord e s a with collateral := (depositRecord e s a).collateral + amt }
      else findProvider s b := by
  refine (Coll.find_updP { depositRecord e s a with collateral := (depositRecord e s a).collateral + amt } _ b).trans ?_
  show (if b = (depositRecord e s a).addr then _ else _) = _
  rw [depositRecord_addr]
  cases hf : findProvider s a with
  | some p =>
    by_cases hb : b = a
    · subst hb; rw [if_pos rfl, if_pos rfl]; exact congrArg _ hf
    · rw [if_neg hb, if_neg hb]; rfl
  | none =>
    by_cases hb : b = a
    · subst hb; rw [if_pos rfl, if_pos rfl]
      exact congrArg _ (find_insertProvider_self (freshProvider e b) s.providers hf)
    · rw [if_neg hb, if_neg hb]
      exact find_insertProvider_ne (freshProvider e a) s.providers b hb

theorem findProvider_forcedState (e : Env) (s : State) (a : Addr) (p : Provider) (staked : Int)
    (hp : findProvider s a = some p) (b : Addr) :
    findProvider (forcedState e s a p staked) b =
      if b = a then some { p with bonded := staked, withdrawing := p.withdrawing + (p.collateral - p.withdrawing - staked) }
      else findProvider s b := by
  have h1 := findProvider_setProvider_some hp { p with bonded := staked } rfl
  refine (findProvider_requested e ((h1 a).trans (if_pos rfl)) _ b).trans ?_
  split
  · rfl
  · exact (h1 b).trans (if_neg ‹_›)

/-- the record of a provider after the hook: the reported stake is recorded and the shortfall, if there is one, is added to
    what is being withdrawn -/
theorem findProvider_stakingHook_some {e : Env} {s s' : State} {a : Addr} {staked : Int} {p : Provider}
    (hp : findProvider s a = some p) (h : stakingHook e s a staked = .ok s') (b : Addr) :
    findProvider s' b =
      if b = a then some { p with bonded := staked,
                                  withdrawing := p.withdrawing + max 0 (p.collateral - p.withdrawing - staked) }
      else findProvider s b := by
  rw [stakingHook_some e s a staked p hp] at h
  split at h
  · split at h
    · cases h
    · cases h; rw [Int.max_eq_right (by omega)]; exact findProvider_forcedState e s a p staked hp b
  · cases h; rw [Int.max_eq_left (by omega), Int.add_zero]; exact findProvider_setProvider_some hp { p with bonded := staked } rfl b

theorem findProvider_stakingHook {e : Env} {s s' : State} {a : Addr} {staked : Int}
    (h : stakingHook e s a staked = .ok s') {b : Addr} (hb : b ≠ a) : findProvider s' b = findProvider s b := by
  cases hp : findProvider s a with
  | none => rw [stakingHook_none e s a staked hp] at h; cases h; rfl
  | some p => exact (findProvider_stakingHook_some hp h b).trans (if_neg hb)

end Shentu.Shield.Limit
