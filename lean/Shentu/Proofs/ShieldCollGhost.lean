import Shentu.Proofs.ShieldCollQueue
/-
  Ghost bookkeeping for C07: the log of withdrawal requests (explicit ones and the ones forced by the staking
  hooks) and how much the amount maturing by a time `T` can grow in one step.
-/
namespace Shentu.Shield.Coll
open List

/-- a logged request: who, how much, when it was made -/
structure Req where
  addr : Addr
  amount : Int
  time : Int
  deriving DecidableEq, Repr, Inhabited

/-- the amount `a` has requested at or before `T − P` -/
def logSum (P : Int) (log : List Req) (a : Addr) (T : Int) : Int :=
  sumI (·.amount) (log.filter (fun r => r.addr == a && decide (r.time + P ≤ T)))

@[simp] theorem logSum_nil (P : Int) (a : Addr) (T : Int) : logSum P [] a T = 0 := rfl

theorem logSum_cons (P : Int) (r : Req) (log : List Req) (a : Addr) (T : Int) :
    logSum P (r :: log) a T = (if r.addr == a && decide (r.time + P ≤ T) then r.amount else 0) + logSum P log a T := by
  unfold logSum
  by_cases h : (r.addr == a && decide (r.time + P ≤ T)) = true
  · simp only [List.filter_cons, h, if_true, sumI_cons]
  · simp only [List.filter_cons, h]; simp

theorem logSum_append (P : Int) (l1 l2 : List Req) (a : Addr) (T : Int) :
    logSum P (l1 ++ l2) a T = logSum P l1 a T + logSum P l2 a T := by
  unfold logSum; rw [List.filter_append, sumI_append]

/-- in going from `q` to `q'`, what matures by any time grows by at most the requests `add` made a full period earlier -/
def QGrow (P : Int) (add : List Req) (q q' : List Withdraw) : Prop :=
  ∀ a T, dueBy a T q' ≤ dueBy a T q + logSum P add a T

theorem QGrow.refl (P : Int) (q : List Withdraw) : QGrow P [] q q := by
  intro a T; simp

theorem QGrow.of_le {P : Int} {q q' : List Withdraw} (h : ∀ a T, dueBy a T q' ≤ dueBy a T q) : QGrow P [] q q' := by
  intro a T; have := h a T; simp; omega

theorem QGrow.trans {P : Int} {add1 add2 : List Req} {q1 q2 q3 : List Withdraw} (h1 : QGrow P add1 q1 q2)
    (h2 : QGrow P add2 q2 q3) : QGrow P (add1 ++ add2) q1 q3 := by
  intro a T
  have := h1 a T
  have := h2 a T
  rw [logSum_append]; omega

theorem dueBy_insertWithdraw (b : Addr) (T : Int) (w : Withdraw) (q : List Withdraw) :
    dueBy b T (insertWithdraw w q) = (if w.addr == b && decide (w.time ≤ T) then w.amount else 0) + dueBy b T q := by
  unfold dueBy; rw [wsum_insertWithdraw]

theorem requested_qgrow {e : Env} {s : State} {a : Addr} {amount : Int} {p : Provider} :
    QGrow s.params.withdrawPeriod [⟨a, amount, e.t⟩] s.withdraws (requested e s a amount p).withdraws := by
  intro b T
  show dueBy b T (insertWithdraw _ _) ≤ _
  rw [dueBy_insertWithdraw, logSum_cons, logSum_nil]
  simp only
  omega

/-- the request logged by a call of `WithdrawCollateral` -/
def requestLog (e : Env) (a : Addr) (amount : Int) : List Req := if amount = 0 then [] else [⟨a, amount, e.t⟩]

theorem withdrawCollateral_qgrow {e : Env} {s s' : State} {a : Addr} {amount : Int}
    (h : withdrawCollateral e s a amount = .ok s') :
    QGrow s.params.withdrawPeriod (requestLog e a amount) s.withdraws s'.withdraws := by
  rcases withdrawCollateral_ok h with ⟨h0, h1⟩ | ⟨h0, p, hf, hle, h1⟩
  · rw [h1]; simp only [requestLog, h0, if_true]; exact QGrow.refl _ _
  · subst h1; simp only [requestLog, h0, if_false]; exact requested_qgrow

/-- the request logged by the staking hook: the forced withdrawal, if any -/
def hookLog (e : Env) (s : State) (a : Addr) (staked : Int) : List Req :=
  match findProvider s a with
  | none => []
  | some p => if p.collateral - p.withdrawing - staked > 0 then [⟨a, p.collateral - p.withdrawing - staked, e.t⟩] else []

/-- the request logged by `stakingChanged`: that of the hook run with the recomputed stake `e.bondedAfter a`, if the step has one -/
def changedLog (e : Env) (s : State) (a : Addr) : List Req :=
  match e.bondedAfter a with
  | none => []
  | some b => hookLog e s a b

theorem stakingHook_log {e : Env} {s s' : State} {a : Addr} {staked : Int} (h : stakingHook e s a staked = .ok s') :
    (hookLog e s a staked = [] ∧ s'.withdraws = s.withdraws) ∨
    ∃ p, findProvider s a = some p ∧ 0 < p.collateral - p.withdrawing - staked ∧ 0 ≤ staked ∧
      hookLog e s a staked = [⟨a, p.collateral - p.withdrawing - staked, e.t⟩] ∧
      s' = requested e (rebonded s p staked) a (p.collateral - p.withdrawing - staked) { p with bonded := staked } := by
  rcases stakingHook_spec e s s' a staked h with ⟨hf, h1⟩ | ⟨p, hf, ⟨hw, h1⟩ | ⟨hw, hst, h1⟩⟩
  · exact .inl ⟨by simp only [hookLog, hf], by rw [h1]⟩
  · exact .inl ⟨by simp only [hookLog, hf, if_neg (Int.not_lt.mpr hw)], by rw [h1]; rfl⟩
  · exact .inr ⟨p, hf, hw, hst, by simp only [hookLog, hf, gt_iff_lt, if_pos hw], h1⟩

theorem stakingHook_qgrow {e : Env} {s s' : State} {a : Addr} {staked : Int} (h : stakingHook e s a staked = .ok s') :
    QGrow s.params.withdrawPeriod (hookLog e s a staked) s.withdraws s'.withdraws := by
  rcases stakingHook_log h with ⟨h0, h1⟩ | ⟨p, _, _, _, h0, rfl⟩
  · rw [h0, h1]; exact QGrow.refl _ _
  · rw [h0]; exact requested_qgrow (s := rebonded s p staked)

theorem stakingChanged_qgrow {e : Env} {s s' : State} {a : Addr} (h : stakingChanged e s a = .ok s') :
    QGrow s.params.withdrawPeriod (changedLog e s a) s.withdraws s'.withdraws := by
  unfold changedLog
  cases hb : e.bondedAfter a with
  | none => rw [stakingChanged_none s hb] at h; cases h; exact QGrow.refl _ _
  | some b => rw [stakingChanged_some s hb] at h; exact stakingHook_qgrow h

theorem Postponed.qgrow {P : Int} {q q' : List Withdraw} (h : Postponed q q') (hp : ∀ w ∈ q, 0 < w.amount) : QGrow P [] q q' :=
  QGrow.of_le (h.early hp)

theorem PayoutLike.qgrow {P : Int} {a : Addr} {payout : Int} {s s' : State} (h : PayoutLike a payout s s') :
    QGrow P [] s.withdraws s'.withdraws :=
  QGrow.of_le (fun _ _ => h.le _ (fun _ _ => rfl))

theorem dueBy_filter_not_due (b : Addr) (t T : Int) (q : List Withdraw) (h : t ≤ T) :
    dueBy b T (q.filter (fun w => !(decide (w.time ≤ t)))) = dueBy b T q - dueBy b t q := by
  induction q with
  | nil => simp [dueBy]
  | cons x xs ih =>
    unfold dueBy at *
    by_cases hx : x.time ≤ t
    · have hx' : x.time ≤ T := by omega
      simp only [List.filter_cons, hx, decide_true, Bool.not_true, wsum_cons, hx', Bool.and_true]
      simp only [Bool.false_eq_true, if_false]
      rw [ih]; split <;> omega
    · simp only [List.filter_cons, hx, decide_false, Bool.not_false, if_true, wsum_cons, Bool.and_false]
      simp only [Bool.false_eq_true, if_false]
      rw [ih]; omega

theorem dueBy_nonneg (b : Addr) (T : Int) (q : List Withdraw) (hp : ∀ w ∈ q, 0 < w.amount) : 0 ≤ dueBy b T q :=
  wsum_nonneg _ _ hp

end Shentu.Shield.Coll
