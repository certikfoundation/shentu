import Shentu.Proofs.OracleEffect
import Shentu.Proofs.CoinsCanon
/-
  C08, oracle part: `beginBlock` (payment of mature withdrawals) and `endBlock` (aggregation and bounty distribution
  of the tasks that close) do not panic; `endBlock` moves no collateral.
-/
namespace Shentu.Oracle

theorem sameColl_endOne (bond : Denom) (s s' : State) (id : String × String) (h : endOne bond s id = .ok s') : SameColl s s' := by
  obtain ⟨f, incs, _, rfl⟩ := endOne_app h
  exact .of_ops rfl rfl

theorem sameColl_endBlock (e : Env) (s s' : State) (h : endBlock e s = .ok s') : SameColl s s' := by
  obtain ⟨s1, hf, rfl⟩ := endBlock_ok h
  have := endFold_rel (I := fun _ => True) SameColl.refl SameColl.trans _
    (fun id _ _ _ _ h1 => ⟨sameColl_endOne _ _ _ id h1, trivial⟩) trivial hf
  exact this.trans (sameColl_delClosing _ _)

end Shentu.Oracle

namespace Shentu.Halt.Orc
open Shentu Shentu.Oracle

def wdSum (ws : List Withdraw) (d : Denom) : Int := (ws.map (fun w => Coins.amountOf w.amt d)).sum

/-- the funding invariant of the withdrawal queue: every pending withdrawal is a valid amount and the module account
    covers all of them together -/
structure Funded (e : Env) (l : Ledger) (s : State) : Prop where
  valid : ∀ w ∈ s.wds, Coins.isAnyNegative w.amt = false
  covered : ∀ d, wdSum s.wds d ≤ l.balOf e.modAddr d

theorem wdSum_split (p : Withdraw → Bool) (ws : List Withdraw) (d : Denom) :
    wdSum ws d = wdSum (ws.filter p) d + wdSum (ws.filter (fun w => !(p w))) d :=
  sum_filter_split p _ ws

theorem payWithdraws_bal (e : Env) (ws : List Withdraw) (l l' : Ledger) (h : payWithdraws e ws l = .ok l') (d : Denom) :
    l.balOf e.modAddr d - wdSum ws d ≤ l'.balOf e.modAddr d := by
  obtain ⟨rfl, hnn⟩ := payWithdraws_ok e ws l l' h
  exact Ledger.balOf_paid_src_ge _ _ _ d ws l fun w hw => hnn w hw d

/-- **`BeginBlocker` never halts** on a funded withdrawal queue, and leaves it funded -/
theorem beginBlock_total (e : Env) (l : Ledger) (s : State) (hf : Funded e l s) :
    ∃ l' s', beginBlock e l s = .ok (l', s') ∧ Funded e l' s' := by
  obtain ⟨l', hl', hc'⟩ := Ledger.paid_filter_total e.modAddr (fun w : Withdraw => w.addr) (fun w : Withdraw => w.amt)
    (payWithdraws e) (fun _ => rfl) (fun _ _ _ _ => payWithdraws_cons) (mature e.h) s.wds l
    (fun w hw => Coins.amountOf_nonneg_of_not_anyNegative _ (hf.valid w hw)) hf.covered
  unfold beginBlock
  rw [hl']
  exact ⟨l', _, rfl, fun w hw => hf.valid w (List.mem_filter.mp hw).1, hc'⟩

def CollNonneg (bond : Denom) (s : State) : Prop := ∀ a o, findOp s a = some o → 0 ≤ Coins.amountOf o.coll bond

def TasksOk (s : State) : Prop :=
  ∀ t ∈ s.tasks, Coins.isAnyNegative t.bounty = false ∧ ∀ r ∈ t.responses, 0 ≤ r.score ∧ r.score ≤ 100

/-- what makes aggregation and bounty distribution total: positive epsilons (no division by zero), non-negative
    collateral, valid bounties, scores in range -/
structure EndInv (bond : Denom) (s : State) : Prop where
  eps1 : 0 < s.params.eps1
  eps2 : 0 < s.params.eps2
  coll : CollNonneg bond s
  tasks : TasksOk s

/-- the empty store of a fresh chain, with positive epsilons -/
theorem EndInv.empty (bond : Denom) (p : Params) (h1 : 0 < p.eps1) (h2 : 0 < p.eps2) :
    EndInv bond { ops := [], wds := [], total := [], tasks := [], closing := [], params := p } :=
  ⟨h1, h2, fun _ _ hf => (nomatch hf), fun _ ht => (nomatch ht)⟩

theorem CollNonneg.same {bond : Denom} {s s' : State} (h : CollNonneg bond s) (hs : SameColl s s') : CollNonneg bond s' := by
  intro a o' ho'
  rcases map_eq_cases (hs.2 a) with ⟨h1, _⟩ | ⟨o1, o, h1, h2, hc⟩
  · rw [show s'.ops.find? (fun x => x.addr == a) = some o' from ho'] at h1; cases h1
  · rw [show s'.ops.find? (fun x => x.addr == a) = some o' from ho'] at h1; cases h1; rw [hc]; exact h a o h2

theorem TasksOk.setTask {s : State} (h : TasksOk s) (t : Task) (hb : Coins.isAnyNegative t.bounty = false)
    (hr : ∀ r ∈ t.responses, 0 ≤ r.score ∧ r.score ≤ 100) : TasksOk (setTask s t) := by
  intro x hx
  rcases Keyed.mem_upsert Task.key (setTask_tasks s t ▸ hx) with h1 | h1
  · subst h1; exact ⟨hb, hr⟩
  · exact h x h1

/-- `EndInv` reads the parameters, the operators' collateral and the tasks -/
theorem EndInv.frame {bond : Denom} {s s' : State} (hi : EndInv bond s) (hp : s'.params = s.params) (hc : SameColl s s')
    (ht : TasksOk s') : EndInv bond s' :=
  ⟨by rw [hp]; exact hi.eps1, by rw [hp]; exact hi.eps2, hi.coll.same hc, ht⟩

theorem aggregate_not_panic (bond : Denom) (s : State) (key : String) (x : Err) (h : aggregate bond s key = .error x) :
    x.isPanic = false := by
  rw [aggregate_eq_pure] at h
  cases ht : findTask s key with
  | none => rw [ht] at h; cases h; simp [Err.isPanic]
  | some t =>
    rw [ht] at h; dsimp only at h
    by_cases hp : Gen.Oracle.aggPending t.status = true
    · rw [if_pos hp] at h; cases h; simp [Err.isPanic]
    · rw [if_neg hp] at h; cases h

theorem aggregate_inv (bond : Denom) (s s' : State) (key : String) (h : aggregate bond s key = .ok s') (hi : EndInv bond s) :
    EndInv bond s' := by
  obtain ⟨t, t', hft, _, hfin, rfl⟩ := aggregate_ok h
  have ht := hi.tasks t (findTask_mem hft).1
  exact hi.frame (setTask_params ..) (sameColl_setTask s _)
    (hi.tasks.setTask _ (hfin.bounty ▸ ht.1) (C15HH.scores_of_rsig hfin.resp ht.2))

theorem amplifier_nonneg : 0 ≤ Gen.Oracle.amplifier := by decide

theorem respWeight_total (bond : Denom) (s : State) (b : Nat) (r : Response) (h1 : 0 < s.params.eps1) (h2 : 0 < s.params.eps2)
    (hc : CollNonneg bond s) (hs : 0 ≤ r.score ∧ r.score ≤ 100) :
    ∃ x, respWeight bond s b r = .ok x ∧ ∀ w, x = some w → 0 ≤ w := by
  unfold respWeight collateralAmount
  cases hf : findOp s r.op with
  | none => exact ⟨none, rfl, fun w hw => by cases hw⟩
  | some o =>
    have hc0 : 0 ≤ Gen.Oracle.collWeight (Coins.amountOf o.coll bond) := hc r.op o hf
    dsimp only
    split
    · refine ⟨_, rfl, fun w hw => ?_⟩
      injection hw with hw; rw [← hw]; exact hc0
    · have hne : ¬ (r.score + s.params.eps1 == 0) = true := by
        intro hh; have := beq_iff_eq.mp hh; omega
      rw [if_neg hne]
      refine ⟨_, rfl, fun w hw => ?_⟩
      injection hw with hw; rw [← hw]
      unfold Gen.Oracle.tvWeightLow
      exact Int.tdiv_nonneg (Int.mul_nonneg amplifier_nonneg hc0) (by omega)
    · have hne : ¬ (100 - r.score + s.params.eps2 == 0) = true := by
        intro hh; have := beq_iff_eq.mp hh; omega
      rw [if_neg hne]
      refine ⟨_, rfl, fun w hw => ?_⟩
      injection hw with hw; rw [← hw]
      unfold Gen.Oracle.tvWeightHigh Gen.Oracle.maxScore
      exact Int.tdiv_nonneg (Int.mul_nonneg amplifier_nonneg hc0) (by omega)

theorem weights_nonneg (bond : Denom) (s : State) (b : Nat) (h1 : 0 < s.params.eps1) (h2 : 0 < s.params.eps2)
    (hc : CollNonneg bond s) {rs : List Response} (hrs : ∀ r ∈ rs, 0 ≤ r.score ∧ r.score ≤ 100) :
    ∀ w ∈ C15HH.weights bond s b rs, 0 ≤ w := by
  intro w hm
  obtain ⟨r, hr, hwr⟩ := List.mem_filterMap.mp hm
  obtain ⟨x, hx, hnn⟩ := respWeight_total bond s b r h1 h2 hc (hrs r hr)
  rw [C15HH.wt_some hwr] at hx; cases hx; exact hnn w rfl

theorem totalValid_eq (bond : Denom) (s : State) (b : Nat) (h1 : 0 < s.params.eps1) (h2 : 0 < s.params.eps2)
    (hc : CollNonneg bond s) :
    ∀ (rs : List Response) (acc : Int), (∀ r ∈ rs, 0 ≤ r.score ∧ r.score ≤ 100) →
      totalValid bond s b rs acc = .ok (acc + (C15HH.weights bond s b rs).sum) := by
  intro rs
  induction rs with
  | nil => intro acc _; simp [totalValid, C15HH.weights]
  | cons r rest ih =>
    intro acc hrs
    have hrest : ∀ x ∈ rest, 0 ≤ x.score ∧ x.score ≤ 100 := fun x hx => hrs x (List.mem_cons_of_mem _ hx)
    rcases respWeight_total bond s b r h1 h2 hc (hrs r List.mem_cons_self) with ⟨x, hx, _⟩
    rw [totalValid, hx]
    unfold C15HH.weights; rw [List.filterMap_cons]
    by_cases he : eligible s b r = true
    · rw [if_pos he]
      cases x with
      | none => rw [C15HH.wt_none_of (fun _ => hx)]; exact ih acc hrest
      | some w => rw [C15HH.wt_some_of he hx]; dsimp only; rw [ih _ hrest, List.sum_cons, Int.add_assoc]; rfl
    · rw [if_neg he, C15HH.wt_none_of (fun h' => absurd h' he)]; exact ih acc hrest

theorem totalValid_total (bond : Denom) (s : State) (b : Nat) (h1 : 0 < s.params.eps1) (h2 : 0 < s.params.eps2)
    (hc : CollNonneg bond s) (rs : List Response) (acc : Int) (hrs : ∀ r ∈ rs, 0 ≤ r.score ∧ r.score ≤ 100) :
    ∃ tv, totalValid bond s b rs acc = .ok tv ∧ acc ≤ tv := by
  have := sum_map_nonneg id (weights_nonneg bond s b h1 h2 hc hrs)
  rw [List.map_id] at this
  exact ⟨_, totalValid_eq bond s b h1 h2 hc rs acc hrs, by omega⟩

/-- the part of the oracle state that paying rewards leaves alone -/
structure PayFrame (s s' : State) : Prop where
  same : SameColl s s'
  tasks : s'.tasks = s.tasks
  params : s'.params = s.params

theorem PayFrame.withCredits (incs : List (Addr × Coins)) (u : State) : PayFrame u (withCredits incs u) :=
  ⟨.of_ops rfl rfl, rfl, rfl⟩

/-- paying one coin has a value; read in the fixed state `s`, there is no state to carry along -/
theorem payCoinE_total (bond : Denom) (b : Nat) (dn : Denom) (amount tv : Int) (ha : 0 ≤ amount) (htv : 0 ≤ tv) {s : State}
    (h1 : 0 < s.params.eps1) (h2 : 0 < s.params.eps2) (hc : CollNonneg bond s) :
    ∀ (rs done : List Response), (∀ r ∈ rs, 0 ≤ r.score ∧ r.score ≤ 100) →
      ∃ p, payCoinE bond b dn amount tv s rs done = .ok p := by
  intro rs
  induction rs with
  | nil => intro done _; exact ⟨_, by unfold payCoinE; rfl⟩
  | cons r rest ih =>
    intro done hrs
    have hrest : ∀ x ∈ rest, 0 ≤ x.score ∧ x.score ≤ 100 := fun x hx => hrs x (List.mem_cons_of_mem _ hx)
    unfold payCoinE
    split
    · rcases respWeight_total bond s b r h1 h2 hc (hrs r List.mem_cons_self) with ⟨x, hx, hnn⟩
      rw [payAmount_eq, hx]
      cases x with
      | none => exact ih _ hrest
      | some w =>
        dsimp only
        have hamt := Int.tdiv_nonneg (Int.mul_nonneg ha (hnn w rfl)) htv
        generalize Int.tdiv (amount * w) tv = amt at hamt
        rw [if_neg (by omega : ¬ amt < 0)]
        cases findOp s r.op with
        | none => exact ih _ hrest
        | some o =>
          obtain ⟨p, hp⟩ := ih (done ++ [{ r with reward := if amt == 0 then [] else [(dn, amt)] }]) hrest
          dsimp only; rw [hp]; exact ⟨_, rfl⟩
    · exact ih _ hrest

theorem payAllE_total (bond : Denom) (b : Nat) (tv : Int) (htv : 0 ≤ tv) {s : State}
    (h1 : 0 < s.params.eps1) (h2 : 0 < s.params.eps2) (hc : CollNonneg bond s) :
    ∀ (cs : List (Denom × Int)) (rs : List Response), (∀ c ∈ cs, 0 ≤ c.2) → (∀ r ∈ rs, 0 ≤ r.score ∧ r.score ≤ 100) →
      ∃ p, payAllE bond b tv s cs rs = .ok p := by
  intro cs
  induction cs with
  | nil => intro rs _ _; exact ⟨_, by unfold payAllE; rfl⟩
  | cons c cs ih =>
    intro rs hcs hrs
    obtain ⟨⟨incs1, rs1⟩, e1⟩ := payCoinE_total bond b c.1 c.2 tv (hcs c List.mem_cons_self) htv h1 h2 hc rs [] hrs
    have hsig := C15HH.payCoinE_rsig _ _ _ _ _ _ _ _ _ _ e1
    obtain ⟨p2, e2⟩ := ih rs1 (fun x hx => hcs x (List.mem_cons_of_mem _ hx)) (C15HH.scores_of_rsig hsig hrs)
    unfold payAllE
    rw [e1]; dsimp only; rw [e2]
    exact ⟨_, rfl⟩

theorem payAll_total (bond : Denom) (b : Nat) (tv : Int) (htv : 0 ≤ tv) :
    ∀ (cs : List (Denom × Int)) (s : State) (rs : List Response), (∀ c ∈ cs, 0 ≤ c.2) →
      0 < s.params.eps1 → 0 < s.params.eps2 → CollNonneg bond s → (∀ r ∈ rs, 0 ≤ r.score ∧ r.score ≤ 100) →
      ∃ s' out, payAll bond b tv cs s rs = .ok (s', out) ∧ PayFrame s s' ∧ ∀ r ∈ out, 0 ≤ r.score ∧ r.score ≤ 100 := by
  intro cs s rs hcs h1 h2 hc hrs
  obtain ⟨⟨incs, out⟩, he⟩ := payAllE_total bond b tv htv h1 h2 hc cs rs hcs hrs
  exact ⟨_, out, by rw [payAll_eq bond b tv s cs s rs (View.refl s), he]; rfl, .withCredits incs s,
    C15HH.scores_of_rsig (C15HH.payAllE_rsig _ _ _ _ _ _ _ _ he) hrs⟩

theorem distributeBounty_no_panic (bond : Denom) (s : State) (t : Task) (hi : EndInv bond s) (ht : t ∈ s.tasks) :
    (∃ s', distributeBounty bond s t = .ok s' ∧ EndInv bond s') ∨
    (∃ x, distributeBounty bond s t = .error x ∧ x.isPanic = false) := by
  have htk := hi.tasks t ht
  rcases totalValid_total bond s (branch s t) hi.eps1 hi.eps2 hi.coll t.responses 0 htk.2 with ⟨tv, htv, hle⟩
  unfold distributeBounty
  rw [htv]
  dsimp only
  by_cases hno : Gen.Oracle.dbNoValid tv = true
  · rw [if_pos hno]
    exact Or.inr ⟨_, rfl, by simp [Err.isPanic]⟩
  · rw [if_neg hno]
    rcases payAll_total bond (branchDB s t) tv hle (Coins.canon t.bounty) s t.responses (Coins.canon_nonneg _ htk.1) hi.eps1 hi.eps2
      hi.coll htk.2 with ⟨s1, rs, hs1, hf1, hout⟩
    rw [hs1]
    dsimp only
    refine Or.inl ⟨_, rfl, ?_⟩
    have ht1 : TasksOk s1 := by unfold TasksOk; rw [hf1.tasks]; exact hi.tasks
    exact hi.frame ((setTask_params ..).trans hf1.params) (hf1.same.trans (sameColl_setTask _ _)) (ht1.setTask _ htk.1 hout)

theorem endOne_total (bond : Denom) (s : State) (id : String × String) (hi : EndInv bond s) :
    ∃ s', endOne bond s id = .ok s' ∧ EndInv bond s' := by
  unfold endOne
  dsimp only
  cases hagg : aggregate bond s (id.1 ++ id.2) with
  | error x =>
    dsimp only
    rw [aggregate_not_panic bond s _ x hagg]
    exact ⟨s, rfl, hi⟩
  | ok s1 =>
    dsimp only
    have hi1 := aggregate_inv bond s s1 _ hagg hi
    cases hft : findTask s1 (id.1 ++ id.2) with
    | none => exact ⟨s1, rfl, hi1⟩
    | some t =>
      dsimp only
      rcases distributeBounty_no_panic bond s1 t hi1 (findTask_mem hft).1 with ⟨s2, hs2, hi2⟩ | ⟨x, hx, hp⟩
      · rw [hs2]; exact ⟨s2, rfl, hi2⟩
      · rw [hx]
        dsimp only
        rw [hp]
        exact ⟨s1, rfl, hi1⟩

theorem endOne_endInv {bond : Denom} {s s' : State} {id : String × String} (hi : EndInv bond s)
    (h : endOne bond s id = .ok s') : EndInv bond s' :=
  Except.of_total (endOne_total bond s id hi) h

theorem endFold_total (bond : Denom) (ids : List (String × String)) (s : State) (hi : EndInv bond s) :
    ∃ s', endFold bond ids s = .ok s' ∧ EndInv bond s' :=
  endFold_eq bond ids s ▸ foldlM_total (fun id _ s hi => endOne_total bond s id hi) hi

/-- **`EndBlocker` never halts** under the invariant, and keeps it -/
theorem endBlock_total (e : Env) (s : State) (hi : EndInv e.bond s) :
    ∃ s', endBlock e s = .ok s' ∧ EndInv e.bond s' := by
  rcases endFold_total e.bond (closingAt s e.h) s hi with ⟨s1, hs1, hi1⟩
  unfold endBlock
  rw [hs1]
  exact ⟨_, rfl, hi1.frame rfl (sameColl_delClosing _ _) hi1.tasks⟩

end Shentu.Halt.Orc
