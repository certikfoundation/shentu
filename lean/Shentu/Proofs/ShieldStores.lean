import Shentu.Model.Shield
import Shentu.Proofs.Keys
/-
  The stores of the shield model as the proofs use them.  `setList` and `setStake` write one field (`setList_eq`,
  `setStake_eq`), `setPool`, `setProvider`, `deleteList`, `closePools`, `claimEnd` are plain record updates: hence one
  projection lemma per update and field (under `Fund`, and the same statements once more under `PoolLm`, the namespace
  the pool books open), so that `simp only [...]` can normalise any projection of an updated state.  The
  purchase lists and the stakes are lists under the key (pool, purchaser), written by `Keyed.upsert` (`setList_lists`,
  `setStake_stakes`); pools and providers are lists under their id and address.  What lookup, membership, the keys and a
  sum do after a write is in `Proofs/Keys.lean`.
-/
namespace Shentu.Shield.PoolLm

theorem setList_eq (s : State) (l : PList) : setList s l = { s with lists := (setList s l).lists } := by
  unfold setList; split <;> rfl

theorem setStake_eq (s : State) (k : Stake) : setStake s k = { s with stakes := (setStake s k).stakes } := by
  unfold setStake; split <;> rfl

theorem setList_lists_congr {s s' : State} (h : s'.lists = s.lists) (l : PList) : (setList s' l).lists = (setList s l).lists := by
  unfold setList findList
  rw [h]
  split <;> rfl

theorem setList_of_lists {s s0 : State} (l : PList) (h : s.lists = s0.lists) :
    setList s l = { s with lists := (setList s0 l).lists } := by
  rw [setList_eq, setList_lists_congr h]

theorem setStake_stakes_congr {s s' : State} (h : s'.stakes = s.stakes) (k : Stake) : (setStake s' k).stakes = (setStake s k).stakes := by
  unfold setStake findStake
  rw [h]
  split <;> rfl

end Shentu.Shield.PoolLm

namespace Shentu.Shield.Fund
open Shentu

@[simp] theorem setPool_admin (s : State) (p : Pool) : (setPool s p).admin = s.admin := rfl
@[simp] theorem setPool_lists (s : State) (p : Pool) : (setPool s p).lists = s.lists := rfl
@[simp] theorem setPool_providers (s : State) (p : Pool) : (setPool s p).providers = s.providers := rfl
@[simp] theorem setPool_withdraws (s : State) (p : Pool) : (setPool s p).withdraws = s.withdraws := rfl
@[simp] theorem setPool_stakes (s : State) (p : Pool) : (setPool s p).stakes = s.stakes := rfl
@[simp] theorem setPool_origStakings (s : State) (p : Pool) : (setPool s p).origStakings = s.origStakings := rfl
@[simp] theorem setPool_totalCollateral (s : State) (p : Pool) : (setPool s p).totalCollateral = s.totalCollateral := rfl
@[simp] theorem setPool_totalWithdrawing (s : State) (p : Pool) : (setPool s p).totalWithdrawing = s.totalWithdrawing := rfl
@[simp] theorem setPool_totalShield (s : State) (p : Pool) : (setPool s p).totalShield = s.totalShield := rfl
@[simp] theorem setPool_totalClaimed (s : State) (p : Pool) : (setPool s p).totalClaimed = s.totalClaimed := rfl
@[simp] theorem setPool_serviceFees (s : State) (p : Pool) : (setPool s p).serviceFees = s.serviceFees := rfl
@[simp] theorem setPool_remaining (s : State) (p : Pool) : (setPool s p).remaining = s.remaining := rfl
@[simp] theorem setPool_blockFees (s : State) (p : Pool) : (setPool s p).blockFees = s.blockFees := rfl
@[simp] theorem setPool_stakingPool (s : State) (p : Pool) : (setPool s p).stakingPool = s.stakingPool := rfl
@[simp] theorem setPool_lastUpdate (s : State) (p : Pool) : (setPool s p).lastUpdate = s.lastUpdate := rfl
@[simp] theorem setPool_nextPool (s : State) (p : Pool) : (setPool s p).nextPool = s.nextPool := rfl
@[simp] theorem setPool_nextPurchase (s : State) (p : Pool) : (setPool s p).nextPurchase = s.nextPurchase := rfl
@[simp] theorem setPool_params (s : State) (p : Pool) : (setPool s p).params = s.params := rfl
@[simp] theorem setProvider_admin (s : State) (p : Provider) : (setProvider s p).admin = s.admin := rfl
@[simp] theorem setProvider_pools (s : State) (p : Provider) : (setProvider s p).pools = s.pools := rfl
@[simp] theorem setProvider_lists (s : State) (p : Provider) : (setProvider s p).lists = s.lists := rfl
@[simp] theorem setProvider_withdraws (s : State) (p : Provider) : (setProvider s p).withdraws = s.withdraws := rfl
@[simp] theorem setProvider_stakes (s : State) (p : Provider) : (setProvider s p).stakes = s.stakes := rfl
@[simp] theorem setProvider_origStakings (s : State) (p : Provider) : (setProvider s p).origStakings = s.origStakings := rfl
@[simp] theorem setProvider_reimbs (s : State) (p : Provider) : (setProvider s p).reimbs = s.reimbs := rfl
@[simp] theorem setProvider_totalCollateral (s : State) (p : Provider) : (setProvider s p).totalCollateral = s.totalCollateral := rfl
@[simp] theorem setProvider_totalWithdrawing (s : State) (p : Provider) : (setProvider s p).totalWithdrawing = s.totalWithdrawing := rfl
@[simp] theorem setProvider_totalShield (s : State) (p : Provider) : (setProvider s p).totalShield = s.totalShield := rfl
@[simp] theorem setProvider_totalClaimed (s : State) (p : Provider) : (setProvider s p).totalClaimed = s.totalClaimed := rfl
@[simp] theorem setProvider_serviceFees (s : State) (p : Provider) : (setProvider s p).serviceFees = s.serviceFees := rfl
@[simp] theorem setProvider_remaining (s : State) (p : Provider) : (setProvider s p).remaining = s.remaining := rfl
@[simp] theorem setProvider_blockFees (s : State) (p : Provider) : (setProvider s p).blockFees = s.blockFees := rfl
@[simp] theorem setProvider_stakingPool (s : State) (p : Provider) : (setProvider s p).stakingPool = s.stakingPool := rfl
@[simp] theorem setProvider_lastUpdate (s : State) (p : Provider) : (setProvider s p).lastUpdate = s.lastUpdate := rfl
@[simp] theorem setProvider_nextPool (s : State) (p : Provider) : (setProvider s p).nextPool = s.nextPool := rfl
@[simp] theorem setProvider_nextPurchase (s : State) (p : Provider) : (setProvider s p).nextPurchase = s.nextPurchase := rfl
@[simp] theorem setProvider_params (s : State) (p : Provider) : (setProvider s p).params = s.params := rfl
@[simp] theorem setList_admin (s : State) (l : PList) : (setList s l).admin = s.admin := by rw [PoolLm.setList_eq]
@[simp] theorem setList_pools (s : State) (l : PList) : (setList s l).pools = s.pools := by rw [PoolLm.setList_eq]
@[simp] theorem setList_providers (s : State) (l : PList) : (setList s l).providers = s.providers := by rw [PoolLm.setList_eq]
@[simp] theorem setList_withdraws (s : State) (l : PList) : (setList s l).withdraws = s.withdraws := by rw [PoolLm.setList_eq]
@[simp] theorem setList_stakes (s : State) (l : PList) : (setList s l).stakes = s.stakes := by rw [PoolLm.setList_eq]
@[simp] theorem setList_origStakings (s : State) (l : PList) : (setList s l).origStakings = s.origStakings := by rw [PoolLm.setList_eq]
@[simp] theorem setList_reimbs (s : State) (l : PList) : (setList s l).reimbs = s.reimbs := by rw [PoolLm.setList_eq]
@[simp] theorem setList_totalCollateral (s : State) (l : PList) : (setList s l).totalCollateral = s.totalCollateral := by rw [PoolLm.setList_eq]
@[simp] theorem setList_totalWithdrawing (s : State) (l : PList) : (setList s l).totalWithdrawing = s.totalWithdrawing := by rw [PoolLm.setList_eq]
@[simp] theorem setList_totalShield (s : State) (l : PList) : (setList s l).totalShield = s.totalShield := by rw [PoolLm.setList_eq]
@[simp] theorem setList_totalClaimed (s : State) (l : PList) : (setList s l).totalClaimed = s.totalClaimed := by rw [PoolLm.setList_eq]
@[simp] theorem setList_serviceFees (s : State) (l : PList) : (setList s l).serviceFees = s.serviceFees := by rw [PoolLm.setList_eq]
@[simp] theorem setList_remaining (s : State) (l : PList) : (setList s l).remaining = s.remaining := by rw [PoolLm.setList_eq]
@[simp] theorem setList_blockFees (s : State) (l : PList) : (setList s l).blockFees = s.blockFees := by rw [PoolLm.setList_eq]
@[simp] theorem setList_stakingPool (s : State) (l : PList) : (setList s l).stakingPool = s.stakingPool := by rw [PoolLm.setList_eq]
@[simp] theorem setList_lastUpdate (s : State) (l : PList) : (setList s l).lastUpdate = s.lastUpdate := by rw [PoolLm.setList_eq]
@[simp] theorem setList_nextPool (s : State) (l : PList) : (setList s l).nextPool = s.nextPool := by rw [PoolLm.setList_eq]
@[simp] theorem setList_nextPurchase (s : State) (l : PList) : (setList s l).nextPurchase = s.nextPurchase := by rw [PoolLm.setList_eq]
@[simp] theorem setList_params (s : State) (l : PList) : (setList s l).params = s.params := by rw [PoolLm.setList_eq]
@[simp] theorem deleteList_admin (s : State) (pool : Nat) (a : Addr) : (deleteList s pool a).admin = s.admin := rfl
@[simp] theorem deleteList_pools (s : State) (pool : Nat) (a : Addr) : (deleteList s pool a).pools = s.pools := rfl
@[simp] theorem deleteList_providers (s : State) (pool : Nat) (a : Addr) : (deleteList s pool a).providers = s.providers := rfl
@[simp] theorem deleteList_withdraws (s : State) (pool : Nat) (a : Addr) : (deleteList s pool a).withdraws = s.withdraws := rfl
@[simp] theorem deleteList_stakes (s : State) (pool : Nat) (a : Addr) : (deleteList s pool a).stakes = s.stakes := rfl
@[simp] theorem deleteList_origStakings (s : State) (pool : Nat) (a : Addr) : (deleteList s pool a).origStakings = s.origStakings := rfl
@[simp] theorem deleteList_reimbs (s : State) (pool : Nat) (a : Addr) : (deleteList s pool a).reimbs = s.reimbs := rfl
@[simp] theorem deleteList_totalCollateral (s : State) (pool : Nat) (a : Addr) : (deleteList s pool a).totalCollateral = s.totalCollateral := rfl
@[simp] theorem deleteList_totalWithdrawing (s : State) (pool : Nat) (a : Addr) : (deleteList s pool a).totalWithdrawing = s.totalWithdrawing := rfl
@[simp] theorem deleteList_totalShield (s : State) (pool : Nat) (a : Addr) : (deleteList s pool a).totalShield = s.totalShield := rfl
@[simp] theorem deleteList_totalClaimed (s : State) (pool : Nat) (a : Addr) : (deleteList s pool a).totalClaimed = s.totalClaimed := rfl
@[simp] theorem deleteList_serviceFees (s : State) (pool : Nat) (a : Addr) : (deleteList s pool a).serviceFees = s.serviceFees := rfl
@[simp] theorem deleteList_remaining (s : State) (pool : Nat) (a : Addr) : (deleteList s pool a).remaining = s.remaining := rfl
@[simp] theorem deleteList_blockFees (s : State) (pool : Nat) (a : Addr) : (deleteList s pool a).blockFees = s.blockFees := rfl
@[simp] theorem deleteList_stakingPool (s : State) (pool : Nat) (a : Addr) : (deleteList s pool a).stakingPool = s.stakingPool := rfl
@[simp] theorem deleteList_lastUpdate (s : State) (pool : Nat) (a : Addr) : (deleteList s pool a).lastUpdate = s.lastUpdate := rfl
@[simp] theorem deleteList_nextPool (s : State) (pool : Nat) (a : Addr) : (deleteList s pool a).nextPool = s.nextPool := rfl
@[simp] theorem deleteList_nextPurchase (s : State) (pool : Nat) (a : Addr) : (deleteList s pool a).nextPurchase = s.nextPurchase := rfl
@[simp] theorem deleteList_params (s : State) (pool : Nat) (a : Addr) : (deleteList s pool a).params = s.params := rfl
@[simp] theorem setStake_admin (s : State) (k : Stake) : (setStake s k).admin = s.admin := by rw [PoolLm.setStake_eq]
@[simp] theorem setStake_pools (s : State) (k : Stake) : (setStake s k).pools = s.pools := by rw [PoolLm.setStake_eq]
@[simp] theorem setStake_lists (s : State) (k : Stake) : (setStake s k).lists = s.lists := by rw [PoolLm.setStake_eq]
@[simp] theorem setStake_providers (s : State) (k : Stake) : (setStake s k).providers = s.providers := by rw [PoolLm.setStake_eq]
@[simp] theorem setStake_withdraws (s : State) (k : Stake) : (setStake s k).withdraws = s.withdraws := by rw [PoolLm.setStake_eq]
@[simp] theorem setStake_origStakings (s : State) (k : Stake) : (setStake s k).origStakings = s.origStakings := by rw [PoolLm.setStake_eq]
@[simp] theorem setStake_totalCollateral (s : State) (k : Stake) : (setStake s k).totalCollateral = s.totalCollateral := by rw [PoolLm.setStake_eq]
@[simp] theorem setStake_totalWithdrawing (s : State) (k : Stake) : (setStake s k).totalWithdrawing = s.totalWithdrawing := by rw [PoolLm.setStake_eq]
@[simp] theorem setStake_totalShield (s : State) (k : Stake) : (setStake s k).totalShield = s.totalShield := by rw [PoolLm.setStake_eq]
@[simp] theorem setStake_totalClaimed (s : State) (k : Stake) : (setStake s k).totalClaimed = s.totalClaimed := by rw [PoolLm.setStake_eq]
@[simp] theorem setStake_serviceFees (s : State) (k : Stake) : (setStake s k).serviceFees = s.serviceFees := by rw [PoolLm.setStake_eq]
@[simp] theorem setStake_remaining (s : State) (k : Stake) : (setStake s k).remaining = s.remaining := by rw [PoolLm.setStake_eq]
@[simp] theorem setStake_blockFees (s : State) (k : Stake) : (setStake s k).blockFees = s.blockFees := by rw [PoolLm.setStake_eq]
@[simp] theorem setStake_stakingPool (s : State) (k : Stake) : (setStake s k).stakingPool = s.stakingPool := by rw [PoolLm.setStake_eq]
@[simp] theorem setStake_lastUpdate (s : State) (k : Stake) : (setStake s k).lastUpdate = s.lastUpdate := by rw [PoolLm.setStake_eq]
@[simp] theorem setStake_nextPool (s : State) (k : Stake) : (setStake s k).nextPool = s.nextPool := by rw [PoolLm.setStake_eq]
@[simp] theorem setStake_nextPurchase (s : State) (k : Stake) : (setStake s k).nextPurchase = s.nextPurchase := by rw [PoolLm.setStake_eq]
@[simp] theorem setStake_params (s : State) (k : Stake) : (setStake s k).params = s.params := by rw [PoolLm.setStake_eq]
@[simp] theorem closePools_admin (s : State) : (closePools s).admin = s.admin := rfl
@[simp] theorem closePools_lists (s : State) : (closePools s).lists = s.lists := rfl
@[simp] theorem closePools_providers (s : State) : (closePools s).providers = s.providers := rfl
@[simp] theorem closePools_withdraws (s : State) : (closePools s).withdraws = s.withdraws := rfl
@[simp] theorem closePools_stakes (s : State) : (closePools s).stakes = s.stakes := rfl
@[simp] theorem closePools_origStakings (s : State) : (closePools s).origStakings = s.origStakings := rfl
@[simp] theorem closePools_reimbs (s : State) : (closePools s).reimbs = s.reimbs := rfl
@[simp] theorem closePools_totalCollateral (s : State) : (closePools s).totalCollateral = s.totalCollateral := rfl
@[simp] theorem closePools_totalWithdrawing (s : State) : (closePools s).totalWithdrawing = s.totalWithdrawing := rfl
@[simp] theorem closePools_totalShield (s : State) : (closePools s).totalShield = s.totalShield := rfl
@[simp] theorem closePools_totalClaimed (s : State) : (closePools s).totalClaimed = s.totalClaimed := rfl
@[simp] theorem closePools_serviceFees (s : State) : (closePools s).serviceFees = s.serviceFees := rfl
@[simp] theorem closePools_remaining (s : State) : (closePools s).remaining = s.remaining := rfl
@[simp] theorem closePools_blockFees (s : State) : (closePools s).blockFees = s.blockFees := rfl
@[simp] theorem closePools_stakingPool (s : State) : (closePools s).stakingPool = s.stakingPool := rfl
@[simp] theorem closePools_lastUpdate (s : State) : (closePools s).lastUpdate = s.lastUpdate := rfl
@[simp] theorem closePools_nextPool (s : State) : (closePools s).nextPool = s.nextPool := rfl
@[simp] theorem closePools_nextPurchase (s : State) : (closePools s).nextPurchase = s.nextPurchase := rfl
@[simp] theorem closePools_params (s : State) : (closePools s).params = s.params := rfl
@[simp] theorem claimEnd_admin (s : State) (loss : Int) : (claimEnd s loss).admin = s.admin := rfl
@[simp] theorem claimEnd_pools (s : State) (loss : Int) : (claimEnd s loss).pools = s.pools := rfl
@[simp] theorem claimEnd_lists (s : State) (loss : Int) : (claimEnd s loss).lists = s.lists := rfl
@[simp] theorem claimEnd_providers (s : State) (loss : Int) : (claimEnd s loss).providers = s.providers := rfl
@[simp] theorem claimEnd_withdraws (s : State) (loss : Int) : (claimEnd s loss).withdraws = s.withdraws := rfl
@[simp] theorem claimEnd_stakes (s : State) (loss : Int) : (claimEnd s loss).stakes = s.stakes := rfl
@[simp] theorem claimEnd_origStakings (s : State) (loss : Int) : (claimEnd s loss).origStakings = s.origStakings := rfl
@[simp] theorem claimEnd_reimbs (s : State) (loss : Int) : (claimEnd s loss).reimbs = s.reimbs := rfl
@[simp] theorem claimEnd_totalCollateral (s : State) (loss : Int) : (claimEnd s loss).totalCollateral = s.totalCollateral := rfl
@[simp] theorem claimEnd_totalWithdrawing (s : State) (loss : Int) : (claimEnd s loss).totalWithdrawing = s.totalWithdrawing := rfl
@[simp] theorem claimEnd_totalShield (s : State) (loss : Int) : (claimEnd s loss).totalShield = s.totalShield := rfl
@[simp] theorem claimEnd_serviceFees (s : State) (loss : Int) : (claimEnd s loss).serviceFees = s.serviceFees := rfl
@[simp] theorem claimEnd_remaining (s : State) (loss : Int) : (claimEnd s loss).remaining = s.remaining := rfl
@[simp] theorem claimEnd_blockFees (s : State) (loss : Int) : (claimEnd s loss).blockFees = s.blockFees := rfl
@[simp] theorem claimEnd_stakingPool (s : State) (loss : Int) : (claimEnd s loss).stakingPool = s.stakingPool := rfl
@[simp] theorem claimEnd_lastUpdate (s : State) (loss : Int) : (claimEnd s loss).lastUpdate = s.lastUpdate := rfl
@[simp] theorem claimEnd_nextPool (s : State) (loss : Int) : (claimEnd s loss).nextPool = s.nextPool := rfl
@[simp] theorem claimEnd_nextPurchase (s : State) (loss : Int) : (claimEnd s loss).nextPurchase = s.nextPurchase := rfl
@[simp] theorem claimEnd_params (s : State) (loss : Int) : (claimEnd s loss).params = s.params := rfl

end Shentu.Shield.Fund

namespace Shentu.Shield.PoolLm

export Fund (setStake_pools setStake_lists setStake_totalShield setStake_stakingPool setStake_nextPool setStake_nextPurchase)

@[simp] theorem setStake_admin (s : State) (k : Stake) : (setStake s k).admin = s.admin := by rw [setStake_eq]
@[simp] theorem setStake_withdraws (s : State) (k : Stake) : (setStake s k).withdraws = s.withdraws := by rw [setStake_eq]
@[simp] theorem setStake_reimbs (s : State) (k : Stake) : (setStake s k).reimbs = s.reimbs := by rw [setStake_eq]
@[simp] theorem setStake_totalCollateral (s : State) (k : Stake) : (setStake s k).totalCollateral = s.totalCollateral := by rw [setStake_eq]
@[simp] theorem setStake_totalWithdrawing (s : State) (k : Stake) : (setStake s k).totalWithdrawing = s.totalWithdrawing := by rw [setStake_eq]
@[simp] theorem setStake_lastUpdate (s : State) (k : Stake) : (setStake s k).lastUpdate = s.lastUpdate := by rw [setStake_eq]
@[simp] theorem setPool_admin (s : State) (p : Pool) : (setPool s p).admin = s.admin := rfl
@[simp] theorem setPool_lists (s : State) (p : Pool) : (setPool s p).lists = s.lists := rfl
@[simp] theorem setPool_providers (s : State) (p : Pool) : (setPool s p).providers = s.providers := rfl
@[simp] theorem setPool_withdraws (s : State) (p : Pool) : (setPool s p).withdraws = s.withdraws := rfl
@[simp] theorem setPool_stakes (s : State) (p : Pool) : (setPool s p).stakes = s.stakes := rfl
@[simp] theorem setPool_origStakings (s : State) (p : Pool) : (setPool s p).origStakings = s.origStakings := rfl
@[simp] theorem setPool_reimbs (s : State) (p : Pool) : (setPool s p).reimbs = s.reimbs := rfl
@[simp] theorem setPool_totalCollateral (s : State) (p : Pool) : (setPool s p).totalCollateral = s.totalCollateral := rfl
@[simp] theorem setPool_totalWithdrawing (s : State) (p : Pool) : (setPool s p).totalWithdrawing = s.totalWithdrawing := rfl
@[simp] theorem setPool_totalShield (s : State) (p : Pool) : (setPool s p).totalShield = s.totalShield := rfl
@[simp] theorem setPool_totalClaimed (s : State) (p : Pool) : (setPool s p).totalClaimed = s.totalClaimed := rfl
@[simp] theorem setPool_serviceFees (s : State) (p : Pool) : (setPool s p).serviceFees = s.serviceFees := rfl
@[simp] theorem setPool_remaining (s : State) (p : Pool) : (setPool s p).remaining = s.remaining := rfl
@[simp] theorem setPool_blockFees (s : State) (p : Pool) : (setPool s p).blockFees = s.blockFees := rfl
@[simp] theorem setPool_stakingPool (s : State) (p : Pool) : (setPool s p).stakingPool = s.stakingPool := rfl
@[simp] theorem setPool_lastUpdate (s : State) (p : Pool) : (setPool s p).lastUpdate = s.lastUpdate := rfl
@[simp] theorem setPool_nextPool (s : State) (p : Pool) : (setPool s p).nextPool = s.nextPool := rfl
@[simp] theorem setPool_nextPurchase (s : State) (p : Pool) : (setPool s p).nextPurchase = s.nextPurchase := rfl
@[simp] theorem setPool_params (s : State) (p : Pool) : (setPool s p).params = s.params := rfl
@[simp] theorem setProvider_admin (s : State) (p : Provider) : (setProvider s p).admin = s.admin := rfl
@[simp] theorem setProvider_pools (s : State) (p : Provider) : (setProvider s p).pools = s.pools := rfl
@[simp] theorem setProvider_lists (s : State) (p : Provider) : (setProvider s p).lists = s.lists := rfl
@[simp] theorem setProvider_withdraws (s : State) (p : Provider) : (setProvider s p).withdraws = s.withdraws := rfl
@[simp] theorem setProvider_stakes (s : State) (p : Provider) : (setProvider s p).stakes = s.stakes := rfl
@[simp] theorem setProvider_origStakings (s : State) (p : Provider) : (setProvider s p).origStakings = s.origStakings := rfl
@[simp] theorem setProvider_reimbs (s : State) (p : Provider) : (setProvider s p).reimbs = s.reimbs := rfl
@[simp] theorem setProvider_totalCollateral (s : State) (p : Provider) : (setProvider s p).totalCollateral = s.totalCollateral := rfl
@[simp] theorem setProvider_totalWithdrawing (s : State) (p : Provider) : (setProvider s p).totalWithdrawing = s.totalWithdrawing := rfl
@[simp] theorem setProvider_totalShield (s : State) (p : Provider) : (setProvider s p).totalShield = s.totalShield := rfl
@[simp] theorem setProvider_totalClaimed (s : State) (p : Provider) : (setProvider s p).totalClaimed = s.totalClaimed := rfl
@[simp] theorem setProvider_serviceFees (s : State) (p : Provider) : (setProvider s p).serviceFees = s.serviceFees := rfl
@[simp] theorem setProvider_remaining (s : State) (p : Provider) : (setProvider s p).remaining = s.remaining := rfl
@[simp] theorem setProvider_blockFees (s : State) (p : Provider) : (setProvider s p).blockFees = s.blockFees := rfl
@[simp] theorem setProvider_stakingPool (s : State) (p : Provider) : (setProvider s p).stakingPool = s.stakingPool := rfl
@[simp] theorem setProvider_lastUpdate (s : State) (p : Provider) : (setProvider s p).lastUpdate = s.lastUpdate := rfl
@[simp] theorem setProvider_nextPool (s : State) (p : Provider) : (setProvider s p).nextPool = s.nextPool := rfl
@[simp] theorem setProvider_nextPurchase (s : State) (p : Provider) : (setProvider s p).nextPurchase = s.nextPurchase := rfl
@[simp] theorem setProvider_params (s : State) (p : Provider) : (setProvider s p).params = s.params := rfl
@[simp] theorem deleteList_admin (s : State) (p : Nat) (a : Addr) : (deleteList s p a).admin = s.admin := rfl
@[simp] theorem deleteList_pools (s : State) (p : Nat) (a : Addr) : (deleteList s p a).pools = s.pools := rfl
@[simp] theorem deleteList_providers (s : State) (p : Nat) (a : Addr) : (deleteList s p a).providers = s.providers := rfl
@[simp] theorem deleteList_withdraws (s : State) (p : Nat) (a : Addr) : (deleteList s p a).withdraws = s.withdraws := rfl
@[simp] theorem deleteList_stakes (s : State) (p : Nat) (a : Addr) : (deleteList s p a).stakes = s.stakes := rfl
@[simp] theorem deleteList_origStakings (s : State) (p : Nat) (a : Addr) : (deleteList s p a).origStakings = s.origStakings := rfl
@[simp] theorem deleteList_reimbs (s : State) (p : Nat) (a : Addr) : (deleteList s p a).reimbs = s.reimbs := rfl
@[simp] theorem deleteList_totalCollateral (s : State) (p : Nat) (a : Addr) : (deleteList s p a).totalCollateral = s.totalCollateral := rfl
@[simp] theorem deleteList_totalWithdrawing (s : State) (p : Nat) (a : Addr) : (deleteList s p a).totalWithdrawing = s.totalWithdrawing := rfl
@[simp] theorem deleteList_totalShield (s : State) (p : Nat) (a : Addr) : (deleteList s p a).totalShield = s.totalShield := rfl
@[simp] theorem deleteList_totalClaimed (s : State) (p : Nat) (a : Addr) : (deleteList s p a).totalClaimed = s.totalClaimed := rfl
@[simp] theorem deleteList_serviceFees (s : State) (p : Nat) (a : Addr) : (deleteList s p a).serviceFees = s.serviceFees := rfl
@[simp] theorem deleteList_remaining (s : State) (p : Nat) (a : Addr) : (deleteList s p a).remaining = s.remaining := rfl
@[simp] theorem deleteList_blockFees (s : State) (p : Nat) (a : Addr) : (deleteList s p a).blockFees = s.blockFees := rfl
@[simp] theorem deleteList_stakingPool (s : State) (p : Nat) (a : Addr) : (deleteList s p a).stakingPool = s.stakingPool := rfl
@[simp] theorem deleteList_lastUpdate (s : State) (p : Nat) (a : Addr) : (deleteList s p a).lastUpdate = s.lastUpdate := rfl
@[simp] theorem deleteList_nextPool (s : State) (p : Nat) (a : Addr) : (deleteList s p a).nextPool = s.nextPool := rfl
@[simp] theorem deleteList_nextPurchase (s : State) (p : Nat) (a : Addr) : (deleteList s p a).nextPurchase = s.nextPurchase := rfl
@[simp] theorem deleteList_params (s : State) (p : Nat) (a : Addr) : (deleteList s p a).params = s.params := rfl

theorem setPool_pools (s : State) (p : Pool) : (setPool s p).pools = s.pools.map (fun x => if x.id == p.id then p else x) := rfl
theorem deleteList_lists (s : State) (p : Nat) (a : Addr) :
    (deleteList s p a).lists = s.lists.filter (fun x => !(x.pool == p && x.purchaser == a)) := rfl

theorem setList_lists_some (s : State) (l lst : PList) (h : findList s l.pool l.purchaser = some lst) :
    (setList s l).lists = s.lists.map (fun x => if x.pool == l.pool && x.purchaser == l.purchaser then l else x) := by
  unfold setList; rw [h]; rfl
theorem setList_lists_none (s : State) (l : PList) (h : findList s l.pool l.purchaser = none) :
    (setList s l).lists = s.lists ++ [l] := by
  unfold setList; rw [h]; rfl
theorem setStake_stakes_some (s : State) (k k0 : Stake) (h : findStake s k.pool k.purchaser = some k0) :
    (setStake s k).stakes = s.stakes.map (fun x => if x.pool == k.pool && x.purchaser == k.purchaser then k else x) := by
  unfold setStake; rw [h]; rfl
theorem setStake_stakes_none (s : State) (k : Stake) (h : findStake s k.pool k.purchaser = none) :
    (setStake s k).stakes = s.stakes ++ [k] := by
  unfold setStake; rw [h]; rfl

theorem findPool_id {s : State} {id : Nat} {p : Pool} (h : findPool s id = some p) : p.id = id := by
  have := List.find?_some h; exact beq_iff_eq.mp this
theorem findPool_mem {s : State} {id : Nat} {p : Pool} (h : findPool s id = some p) : p ∈ s.pools :=
  List.mem_of_find?_eq_some h
theorem findList_key {s : State} {pid : Nat} {a : Addr} {l : PList} (h : findList s pid a = some l) : l.pool = pid ∧ l.purchaser = a := by
  have := List.find?_some h
  simp only [Bool.and_eq_true, beq_iff_eq] at this; exact this
theorem findList_mem {s : State} {pid : Nat} {a : Addr} {l : PList} (h : findList s pid a = some l) : l ∈ s.lists :=
  List.mem_of_find?_eq_some h
theorem findStake_key {s : State} {pid : Nat} {a : Addr} {k : Stake} (h : findStake s pid a = some k) : k.pool = pid ∧ k.purchaser = a := by
  have := List.find?_some h
  simp only [Bool.and_eq_true, beq_iff_eq] at this; exact this
theorem findStake_mem {s : State} {pid : Nat} {a : Addr} {k : Stake} (h : findStake s pid a = some k) : k ∈ s.stakes :=
  List.mem_of_find?_eq_some h

theorem findList_congr {s s' : State} (h : s'.lists = s.lists) (pid : Nat) (a : Addr) : findList s' pid a = findList s pid a := by
  unfold findList; rw [h]

theorem findPool_congr {s s' : State} (h : s'.pools = s.pools) (pid : Nat) : findPool s' pid = findPool s pid := by
  unfold findPool; rw [h]

end Shentu.Shield.PoolLm

/-! `==` on pairs unfolds to the `&&` that `findList`, `findStake` and `deleteList` test, so a lemma of `Keyed` about the key
    `(p, a)` applies to them as they stand. -/
namespace Shentu.Shield
open Shentu

def listKey (l : PList) : Nat × Addr := (l.pool, l.purchaser)
def Fund.stakeKey (k : Stake) : Nat × Addr := (k.pool, k.purchaser)
export Fund (stakeKey)

theorem findList_eq (s : State) (p : Nat) (a : Addr) : findList s p a = s.lists.find? (fun x => listKey x == (p, a)) := rfl
theorem findStake_eq (s : State) (p : Nat) (a : Addr) : findStake s p a = s.stakes.find? (fun x => stakeKey x == (p, a)) := rfl

theorem setList_lists (s : State) (l : PList) : (setList s l).lists = Keyed.upsert listKey l s.lists :=
  apply_ite State.lists _ _ _
theorem setStake_stakes (s : State) (k : Stake) : (setStake s k).stakes = Keyed.upsert stakeKey k s.stakes :=
  apply_ite State.stakes _ _ _

/-- "one record per (pool, purchaser)", as `ShieldInv` and `StakeInv` spell it, is `Nodup` of the keys -/
theorem pairKeys_iff {α : Type} (κ : α → Nat × Addr) (l : List α) :
    l.Pairwise (fun a b => ¬((κ a).1 = (κ b).1 ∧ (κ a).2 = (κ b).2)) ↔ (l.map κ).Nodup := by
  rw [Keyed.nodup_iff_pairwise]
  exact ⟨List.Pairwise.imp (fun h e => h ⟨congrArg Prod.fst e, congrArg Prod.snd e⟩),
    List.Pairwise.imp (fun h e => h (Prod.ext e.1 e.2))⟩

theorem sumI_def {α} (f : α → Int) (l : List α) : sumI f l = (l.map f).sum := rfl

/-- the staked total after a write: what stood under the record's key goes, the record comes -/
theorem sumStakes_setStake (s : State) (k : Stake) (hn : (s.stakes.map stakeKey).Nodup) :
    sumStakes (setStake s k) = sumStakes s - Keyed.val (·.amount) (findStake s k.pool k.purchaser) + k.amount := by
  rw [sumStakes, sumStakes, setStake_stakes, sumI_def, sumI_def]
  exact Keyed.sum_put stakeKey (·.amount) (k := stakeKey k) (n := some k) (fun _ h => by cases h; rfl) hn

/-! Every write to the purchase lists is a `Keyed.put` under (pool, purchaser): `setList` (`setList_lists`; `put _ _ (some l)` is
    `upsert l` by definition), `deleteList` (`deleteList_lists`, `put _ _ none`), the expiry loop's `putList` (`putList_lists`, in `ShieldExpiry`).  What is
    written and what stood under the key are read as lists of entries, none when there is no list. -/

def optEntries (o : Option PList) : List Purchase := (o.map (·.entries)).getD []

theorem optEntries_some (l : PList) : optEntries (some l) = l.entries := rfl

theorem findList_listKey {s : State} {pid : Nat} {a : Addr} {l : PList} (h : findList s pid a = some l) : listKey l = (pid, a) :=
  (Keyed.of_find listKey (k := (pid, a)) h).2

theorem some_key {l : PList} {k : Nat × Addr} (h : listKey l = k) : ∀ x, some l = some x → listKey x = k :=
  fun _ hx => Option.some.inj hx ▸ h

theorem setEntries_key {s : State} {pid : Nat} {a : Addr} {lst : PList} (h : findList s pid a = some lst) (es : List Purchase) :
    ∀ x, some { lst with entries := es } = some x → listKey x = (pid, a) :=
  some_key (findList_listKey (l := lst) h)

theorem mem_optEntries_find {s : State} {pid : Nat} {a : Addr} {en : Purchase} (h : en ∈ optEntries (findList s pid a)) :
    ∃ l ∈ s.lists, en ∈ l.entries := by
  cases hf : findList s pid a with
  | none => rw [hf] at h; cases h
  | some l => rw [hf] at h; exact ⟨l, List.mem_of_find?_eq_some hf, h⟩

theorem mem_put_entries {s s' : State} {k : Nat × Addr} {n : Option PList}
    (hl : s'.lists = Keyed.put listKey k n s.lists) {l' : PList} (hl' : l' ∈ s'.lists) {en : Purchase} (hen : en ∈ l'.entries) :
    en ∈ optEntries n ∨ ∃ l ∈ s.lists, en ∈ l.entries := by
  rw [hl] at hl'
  rcases Keyed.mem_put listKey hl' with rfl | h
  · exact .inl hen
  · exact .inr ⟨l', h, hen⟩

end Shentu.Shield
