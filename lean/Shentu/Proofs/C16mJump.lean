import Shentu.Proofs.C16mBytes
/-
  The model's jump-destination analysis (`opcodeBits`, the loop of evm.opcodeBitset) against the specification
  `IsInstr` / `ValidJump` of `Shentu/EVM/MemSpec.lean`: for code shorter than 2^64 bytes the bit at position `p` is 1
  exactly when `p` is an instruction position, and the test `jumpTo` evaluates is exactly `ValidJump`.
-/
namespace Shentu.C16mJ
open Shentu.EVM Shentu.EVM.MemSpec Shentu.C16mH

theorem lt_nextPc (c : List UInt8) (p : Nat) : p < nextPc c p := by
  unfold nextPc; omega

theorem instr_order_aux (c : List UInt8) :
    ∀ n b a, b ≤ n → IsInstr c a → IsInstr c b → a ≤ b → a = b ∨ nextPc c a ≤ b := by
  intro n
  induction n with
  | zero =>
    intro b a hb _ _ hab
    left; omega
  | succ n ih =>
    intro b a hb ha hbI hab
    cases hbI with
    | zero => left; omega
    | @next r hr hlt =>
      have hrb := lt_nextPc c r
      by_cases har : a ≤ r
      · rcases ih r a (by omega) ha hr har with h | h
        · right; subst h; exact Nat.le_refl _
        · right; omega
      · by_cases hab' : a = nextPc c r
        · left; exact hab'
        · rcases ih a r (by omega) hr ha (by omega) with h | h
          · omega
          · omega

theorem instr_order (c : List UInt8) {a b : Nat} (ha : IsInstr c a) (hb : IsInstr c b) (hab : a ≤ b) :
    a = b ∨ nextPc c a ≤ b :=
  instr_order_aux c b b a (Nat.le_refl _) ha hb hab

theorem instr_lt_next (c : List UInt8) {i : Nat} (hi : IsInstr c i) (p : Nat) :
    (IsInstr c p ∧ p < nextPc c i) ↔ ((IsInstr c p ∧ p < i) ∨ p = i) := by
  have hin := lt_nextPc c i
  constructor
  · rintro ⟨hp, hlt⟩
    by_cases hpi : p ≤ i
    · rcases instr_order c hp hi hpi with h | h
      · right; exact h
      · left; have := lt_nextPc c p; exact ⟨hp, by omega⟩
    · rcases instr_order c hi hp (by omega) with h | h
      · right; exact h.symm
      · omega
  · rintro (⟨hp, hlt⟩ | h)
    · exact ⟨hp, by omega⟩
    · subst h; exact ⟨hi, hin⟩

/-- one round of the loop of `opcodeBits`, as the model writes it -/
def obStep (code : ByteArray) (s : ByteArray × Nat) : ByteArray × Nat :=
  if s.snd < code.size then
    if (decide (96 ≤ (code.get! s.snd).toNat) && decide ((code.get! s.snd).toNat ≤ 127)) = true then
      (s.fst.set! s.snd 1, s.snd + ((code.get! s.snd).toNat - 96 + 1) + 1)
    else (s.fst.set! s.snd 1, s.snd + 1)
  else (s.fst, s.snd)

theorem opcodeBits_eq (code : ByteArray) :
    opcodeBits code = ((List.range code.size).foldl (fun s _ => obStep code s) (zeros code.size, 0)).fst := by
  unfold opcodeBits
  simp only [Id.run, bind, pure]
  have : (fun (x : Nat) (__s : ByteArray × Nat) =>
        if __s.snd < code.size then
          if (decide (96 ≤ (code.get! __s.snd).toNat) && decide ((code.get! __s.snd).toNat ≤ 127)) = true then
            ForInStep.yield (__s.fst.set! __s.snd 1, __s.snd + ((code.get! __s.snd).toNat - 96 + 1) + 1)
          else ForInStep.yield (__s.fst.set! __s.snd 1, __s.snd + 1)
        else ForInStep.yield (__s.fst, __s.snd))
      = fun x s => ForInStep.yield (obStep code s) := by
    funext x s; unfold obStep
    split
    · split <;> rfl
    · rfl
  rw [this]
  exact congrArg Prod.fst (forIn_range_yield code.size (zeros code.size, 0) (fun _ s => obStep code s))

theorem obStep_eq (code : ByteArray) (s : ByteArray × Nat) :
    obStep code s = if s.snd < code.size then (s.fst.set! s.snd 1, nextPc (bl code) s.snd) else s := by
  unfold obStep nextPc pushLen
  rw [← get!_eq]
  split
  · by_cases h : 96 ≤ (code.get! s.snd).toNat ∧ (code.get! s.snd).toNat ≤ 127
    · rw [if_pos (by simp [h]), if_pos h]
      congr 1; omega
    · rw [if_neg (by simpa using h), if_neg h]
  · rfl

open Classical in
noncomputable def bit (P : Prop) : UInt8 := if P then 1 else 0

theorem bit_pos {P : Prop} (h : P) : bit P = 1 := by
  unfold bit; exact if_pos h

theorem bit_neg {P : Prop} (h : ¬ P) : bit P = 0 := by
  unfold bit; exact if_neg h

theorem ob_iter (code : ByteArray) (hsz : code.size < 2 ^ 64) (k : Nat) :
    let s := (List.range k).foldl (fun s _ => obStep code s) (zeros code.size, 0)
    s.fst.size = code.size ∧ IsInstr (bl code) s.snd ∧ (k ≤ s.snd ∨ code.size ≤ s.snd) ∧
      ∀ p, p < code.size → (bl s.fst)[p]? = some (bit (IsInstr (bl code) p ∧ p < s.snd)) := by
  have hsz' : code.size < 2 ^ 65 := by omega
  induction k with
  | zero =>
    refine ⟨size_zeros _ hsz', IsInstr.zero, Or.inl (Nat.le_refl _), ?_⟩
    intro p hp
    simp only [List.range_zero, List.foldl_nil, bl_zeros _ hsz']
    rw [bit_neg (by omega)]
    simp [hp]
  | succ k ih =>
    obtain ⟨h1, h2, h3, h4⟩ := ih
    simp only [List.range_succ, List.foldl_append, List.foldl_cons, List.foldl_nil]
    generalize (List.range k).foldl (fun s _ => obStep code s) (zeros code.size, 0) = s at *
    rw [obStep_eq]
    have hn := lt_nextPc (bl code) s.snd
    split
    · next hlt =>
      refine ⟨?_, ?_, ?_, ?_⟩
      · rw [← bl_length, bl_set!, List.length_set, bl_length, h1]
      · exact IsInstr.next h2 (by simpa using hlt)
      · left; show k + 1 ≤ nextPc (bl code) s.snd; omega
      · intro p hp
        simp only [bl_set!, List.getElem?_set, bl_length, h1]
        have key := instr_lt_next (bl code) h2 p
        by_cases hpi : s.snd = p
        · rw [if_pos hpi, if_pos hlt, bit_pos (key.2 (Or.inr hpi.symm))]
        · rw [if_neg hpi, h4 p hp]
          rw [propext (key.trans (or_iff_left (Ne.symm hpi)))]
    · next hlt =>
      exact ⟨h1, h2, Or.inr (by omega), h4⟩

theorem size_opcodeBits (code : ByteArray) (hsz : code.size < 2 ^ 64) : (opcodeBits code).size = code.size := by
  rw [opcodeBits_eq]
  exact (ob_iter code hsz code.size).1

theorem opcodeBits_spec (code : ByteArray) (hsz : code.size < 2 ^ 64) (p : Nat) (hp : p < code.size) :
    ((opcodeBits code).get! p = 1) ↔ IsInstr (bl code) p := by
  obtain ⟨_, _, h3, h4⟩ := ob_iter code hsz code.size
  rw [opcodeBits_eq]
  generalize (List.range code.size).foldl (fun s _ => obStep code s) (zeros code.size, 0) = s at *
  rw [get!_eq, List.getD_eq_getElem?_getD, h4 p hp, Option.getD_some]
  have hlt : p < s.snd := by omega
  by_cases h : IsInstr (bl code) p
  · rw [bit_pos ⟨h, hlt⟩]; exact ⟨fun _ => h, fun _ => rfl⟩
  · rw [bit_neg (fun h' => h h'.1)]
    exact ⟨fun h' => absurd h' (by decide), fun h' => absurd h' h⟩

theorem jumpTest_spec (code : ByteArray) (hsz : code.size < 2 ^ 64) (to : Nat) :
    ((if code.size ≤ to then 0 else (code.get! to).toNat) = 0x5b ∧ (to < (opcodeBits code).size ∧ (opcodeBits code).get! to = 1))
      ↔ ValidJump (bl code) to := by
  unfold ValidJump
  rw [size_opcodeBits code hsz, bl_length, ← get!_eq]
  constructor
  · rintro ⟨h1, h2, h3⟩
    rw [if_neg (by omega)] at h1
    refine ⟨h2, ?_, (opcodeBits_spec code hsz to h2).1 h3⟩
    exact UInt8.toNat_inj.1 h1
  · rintro ⟨h1, h2, h3⟩
    refine ⟨?_, h1, (opcodeBits_spec code hsz to h1).2 h3⟩
    rw [if_neg (by omega), h2]; rfl

/-- the code `60 5b 5b`: PUSH1 0x5b; JUMPDEST -/
def exCode : ByteArray := ⟨#[0x60, 0x5b, 0x5b]⟩

theorem exCode_bl : bl exCode = [0x60, 0x5b, 0x5b] := rfl

theorem exCode_next0 : nextPc (bl exCode) 0 = 2 := by decide

/-- position 2 (the JUMPDEST instruction) is a valid jump destination -/
theorem ex_valid_2 : ValidJump (bl exCode) 2 := by
  refine ⟨by decide, by decide, ?_⟩
  have h : IsInstr (bl exCode) (nextPc (bl exCode) 0) := IsInstr.next IsInstr.zero (by decide)
  rw [exCode_next0] at h
  exact h

/-- position 1 holds the byte 0x5b too, but it is the immediate data of the PUSH1: not a valid destination -/
theorem ex_invalid_1 : ¬ ValidJump (bl exCode) 1 := by
  rintro ⟨_, _, h⟩
  rcases instr_order (bl exCode) IsInstr.zero h (by decide) with h' | h'
  · exact absurd h' (by decide)
  · rw [exCode_next0] at h'
    exact absurd h' (by decide)

/-- the same through the model's test: the model accepts the jump to 2 and refuses the jump to 1 -/
theorem ex_model :
    ((if exCode.size ≤ 2 then 0 else (exCode.get! 2).toNat) = 0x5b ∧
        (2 < (opcodeBits exCode).size ∧ (opcodeBits exCode).get! 2 = 1)) ∧
      ¬ ((if exCode.size ≤ 1 then 0 else (exCode.get! 1).toNat) = 0x5b ∧
        (1 < (opcodeBits exCode).size ∧ (opcodeBits exCode).get! 1 = 1)) :=
  ⟨(jumpTest_spec exCode (by decide) 2).2 ex_valid_2,
    fun h => ex_invalid_1 ((jumpTest_spec exCode (by decide) 1).1 h)⟩

end Shentu.C16mJ

#print axioms Shentu.C16mJ.opcodeBits_spec
#print axioms Shentu.C16mJ.size_opcodeBits
#print axioms Shentu.C16mJ.jumpTest_spec
#print axioms Shentu.C16mJ.ex_valid_2
#print axioms Shentu.C16mJ.ex_invalid_1
#print axioms Shentu.C16mJ.ex_model
