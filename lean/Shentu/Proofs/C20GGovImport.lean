import Shentu.Model.GenesisGov
import Shentu.Proofs.C11HLemmas
import Shentu.Proofs.C12THist
/-
  Export and re-import of x/gov.  Importing an exported state gives `normalise` of it: the deposit and vote records grouped
  by proposal (`group`; the import's overwrite-upsert of pairwise different records only appends).  A well-formed state and
  its grouped form are `Equiv` (the same records per proposal), and grouping leaves the escrow invariant alone.  The queues
  that `InitGenesis` rebuilds by sorted insertion are the ones the model's end blocker walks, because a sorted list is
  determined by its entries.
-/
namespace Shentu.C20GGovH
open Shentu Shentu.Gov Shentu.Genesis.Gov
open Shentu.C12TH (sortByKey_perm)

theorem upsert_fresh {α : Type} (same : α → α → Bool) (x : α) :
    ∀ (l : List α), (∀ a ∈ l, same a x = false) → upsert same x l = l ++ [x] := by
  intro l
  induction l with
  | nil => intro _; rfl
  | cons y ys ih =>
    intro h
    have hy : same y x = false := h y (List.mem_cons_self ..)
    simp only [upsert, hy, Bool.false_eq_true, if_false, List.cons_append]
    rw [ih (fun a ha => h a (List.mem_cons_of_mem _ ha))]

theorem foldl_upsert_nil {α : Type} (same : α → α → Bool) (l : List α) (h : l.Pairwise (fun a b => same a b = false)) :
    l.foldl (fun acc x => upsert same x acc) [] = l :=
  Keyed.foldl_append_of_fresh (fun acc x => upsert_fresh same x acc) l [] h

theorem initGenesis_eq (gen : Genesis) (hd : gen.deposits.Pairwise (fun a b => sameDeposit a b = false))
    (hv : gen.votes.Pairwise (fun a b => sameVote a b = false))
    (hp : gen.proposals.Pairwise (fun a b => sameProposal a b = false)) :
    initGenesis gen = { nextId := gen.startingProposalId, params := gen.params, deposits := gen.deposits,
                        votes := gen.votes, proposals := gen.proposals } := by
  rw [initGenesis, foldl_upsert_nil _ _ hd, foldl_upsert_nil _ _ hv, foldl_upsert_nil _ _ hp]

/-- records grouped by proposal, generically in the record type -/
def group {α : Type} (key : α → Nat) (ps : List Proposal) (xs : List α) : List α :=
  ps.flatMap (fun p => xs.filter (fun x => key x == p.id))

theorem groupDeposits_eq (ps : List Proposal) (ds : List Deposit) : groupDeposits ps ds = group (·.pid) ps ds := rfl
theorem groupVotes_eq (ps : List Proposal) (vs : List Vote) : groupVotes ps vs = group (·.pid) ps vs := rfl

theorem group_cons {α : Type} (key : α → Nat) (p : Proposal) (ps : List Proposal) (xs : List α) :
    group key (p :: ps) xs = xs.filter (fun x => key x == p.id) ++ group key ps xs := by
  simp [group]

theorem group_subset {α : Type} (key : α → Nat) (ps : List Proposal) (xs : List α) : ∀ x ∈ group key ps xs, x ∈ xs :=
  fun _ hx => let ⟨_, _, h⟩ := List.mem_flatMap.mp hx; (List.mem_filter.mp h).1

theorem any_id_false {p : Proposal} {ps : List Proposal} (h : ∀ a ∈ ps, sameProposal p a = false) {q : Nat}
    (hq : p.id = q) : ps.any (fun p' => p'.id == q) = false :=
  List.any_eq_false.mpr fun p' hp' e => beq_eq_false_iff_ne.mp (h p' hp') (hq.trans (beq_iff_eq.mp e).symm)

theorem filter_group {α : Type} (key : α → Nat) (xs : List α) (q : Nat) :
    ∀ (ps : List Proposal), ps.Pairwise (fun a b => sameProposal a b = false) →
      (group key ps xs).filter (fun x => key x == q)
        = if ps.any (fun p => p.id == q) then xs.filter (fun x => key x == q) else [] := by
  intro ps
  induction ps with
  | nil => intro _; simp [group]
  | cons p ps ih =>
    intro hp
    rw [List.pairwise_cons] at hp
    rw [group_cons, List.filter_append, ih hp.2, List.filter_filter]
    by_cases hq : p.id = q
    · have hno := any_id_false hp.1 hq
      subst hq
      simp only [hno, List.any_cons, beq_self_eq_true, Bool.true_or, if_true, Bool.false_eq_true, if_false,
        List.append_nil]
      congr 1
      funext x
      by_cases hx : key x = p.id <;> simp [hx]
    · have h1 : (p.id == q) = false := by simpa using hq
      have h2 : xs.filter (fun a => (key a == q) && (key a == p.id)) = [] := by
        rw [List.filter_eq_nil_iff]
        intro a _
        simp only [Bool.and_eq_true, beq_iff_eq, not_and]
        intro h3 h4; exact hq (h4.symm.trans h3)
      simp only [h2, List.any_cons, h1, Bool.false_or, List.nil_append]

theorem group_group {α : Type} (key : α → Nat) (ps : List Proposal) (xs : List α)
    (hp : ps.Pairwise (fun a b => sameProposal a b = false)) :
    group key ps (group key ps xs) = group key ps xs := by
  show List.flatMap _ ps = List.flatMap _ ps
  rw [List.flatMap_def, List.flatMap_def]
  congr 1
  apply List.map_congr_left
  intro p hpm
  rw [filter_group key xs p.id ps hp]
  have : ps.any (fun p' => p'.id == p.id) = true := by
    rw [List.any_eq_true]; exact ⟨p, hpm, by simp⟩
  simp [this]

theorem group_pairwise {α : Type} (key : α → Nat) (same : α → α → Bool)
    (hsame : ∀ a b, key a ≠ key b → same a b = false)
    (ps : List Proposal) (xs : List α)
    (hp : ps.Pairwise (fun a b => sameProposal a b = false))
    (hx : xs.Pairwise (fun a b => same a b = false)) :
    (group key ps xs).Pairwise (fun a b => same a b = false) := by
  unfold group
  rw [List.pairwise_flatMap]
  refine ⟨fun p _ => hx.filter _, ?_⟩
  refine hp.imp ?_
  intro p1 p2 h12 x hx1 y hy1
  simp only [List.mem_filter, beq_iff_eq] at hx1 hy1
  apply hsame
  rw [hx1.2, hy1.2]
  simpa [sameProposal] using h12

theorem sameDeposit_of_pid (a b : Deposit) (h : a.pid ≠ b.pid) : sameDeposit a b = false := by
  simp [sameDeposit, h]
theorem sameVote_of_pid (a b : Vote) (h : a.pid ≠ b.pid) : sameVote a b = false := by
  simp [sameVote, h]

theorem normalise_normalise (g : State) (h : g.proposals.Pairwise (fun a b => sameProposal a b = false)) :
    normalise (normalise g) = normalise g := by
  obtain ⟨ps, ds, vs, n, pr⟩ := g
  simp only [normalise, State.mk.injEq, and_true, true_and, groupDeposits_eq, groupVotes_eq]
  exact ⟨group_group _ ps ds h, group_group _ ps vs h⟩

/-- the export reads deposits and votes through `normalise` -/
theorem export_normalise (g : State) (h : g.proposals.Pairwise (fun a b => sameProposal a b = false)) :
    exportGenesis (normalise g) = exportGenesis g := by
  have export_eq : ∀ g : State, exportGenesis g = ⟨(normalise g).nextId, (normalise g).deposits, (normalise g).votes,
      (normalise g).proposals, (normalise g).params⟩ := fun _ => rfl
  rw [export_eq, normalise_normalise g h]; rfl

theorem WFG_normalise (g : State) (h : WFG g) : WFG (normalise g) :=
  ⟨group_pairwise Deposit.pid sameDeposit sameDeposit_of_pid _ _ h.ids h.depKeys,
   group_pairwise Vote.pid sameVote sameVote_of_pid _ _ h.ids h.voteKeys, h.ids,
   fun d hd => h.depOwned d (group_subset _ _ _ d hd), fun v hv => h.voteOwned v (group_subset _ _ _ v hv)⟩

theorem WFH_normalise (g : State) (h : WFH g) : WFH (normalise g) :=
  { toWFG := WFG_normalise g h.toWFG, fresh := h.fresh,
    voteStarted := fun v hv => h.voteStarted v (group_subset _ _ _ v hv) }

theorem initGenesis_export (g : State) (h : WFG g) : initGenesis (exportGenesis g) = normalise g :=
  have w := WFG_normalise g h
  initGenesis_eq (exportGenesis g) w.depKeys w.voteKeys w.ids

theorem filter_group_owned {α : Type} (key : α → Nat) (ps : List Proposal) (xs : List α)
    (hp : ps.Pairwise (fun a b => sameProposal a b = false))
    (ho : ∀ x ∈ xs, ∃ p ∈ ps, p.id = key x) (q : Nat) :
    xs.filter (fun x => key x == q) = (group key ps xs).filter (fun x => key x == q) := by
  rw [filter_group key xs q ps hp]
  split
  · rfl
  · rename_i hno
    rw [List.filter_eq_nil_iff]
    intro a ha hk
    obtain ⟨p, hp1, hp2⟩ := ho a ha
    apply hno
    rw [List.any_eq_true]
    exact ⟨p, hp1, by simp only [beq_iff_eq] at hk ⊢; exact hp2.trans hk⟩

theorem equiv_normalise (g : State) (h : WFG g) : Equiv g (normalise g) :=
  ⟨rfl, rfl, rfl, fun q => filter_group_owned Deposit.pid _ _ h.ids h.depOwned q,
    fun q => filter_group_owned Vote.pid _ _ h.ids h.voteOwned q⟩

section EscrowPart

open Shentu.Halt.Gv (depSum)
open Shentu.C11H (EscrowInv live_congr)

theorem group_perm {α : Type} (key : α → Nat) : ∀ (ps : List Proposal) (xs : List α),
    ps.Pairwise (fun a b => sameProposal a b = false) → (∀ x ∈ xs, ∃ p ∈ ps, p.id = key x) → (group key ps xs).Perm xs
  | [], xs, _, ho => by
    rw [List.eq_nil_iff_forall_not_mem.mpr fun x hx => let ⟨_, hp, _⟩ := ho x hx; nomatch hp]; exact .refl _
  | p :: ps, xs, hp, ho => by
    rw [List.pairwise_cons] at hp
    -- the records of `p` first; the other proposals read only the rest
    have hrest : group key ps xs = group key ps (xs.filter (fun x => !(key x == p.id))) := by
      unfold group
      rw [List.flatMap_def, List.flatMap_def]
      congr 1
      refine List.map_congr_left fun p' hp' => ?_
      rw [List.filter_filter]
      refine List.filter_congr fun x _ => ?_
      by_cases hx : key x = p'.id
      · have : ¬ p.id = p'.id := by simpa [sameProposal] using hp.1 p' hp'
        simp [hx, Ne.symm this]
      · simp [hx]
    rw [group_cons, hrest]
    refine ((group_perm key ps _ hp.2 fun x hx => ?_).append_left _).trans (List.filter_append_perm _ xs)
    obtain ⟨hx, hk⟩ := List.mem_filter.mp hx
    obtain ⟨q, hq, e⟩ := ho x hx
    rcases List.mem_cons.mp hq with rfl | hq
    · simp [e] at hk
    · exact ⟨q, hq, e⟩

theorem depSum_group_owned (ps : List Proposal) (ds : List Deposit) (d : Denom)
    (hp : ps.Pairwise (fun a b => sameProposal a b = false))
    (ho : ∀ x ∈ ds, ∃ p ∈ ps, p.id = x.pid) : depSum (groupDeposits ps ds) d = depSum ds d :=
  sum_map_perm _ (group_perm Deposit.pid ps ds hp ho)

theorem escrow_normalise (m : Addr) (w : World) (hw : WFG w.g) (h : EscrowInv m w) :
    EscrowInv m { w with g := normalise w.g } := by
  have hmem : ∀ x ∈ (normalise w.g).deposits, x ∈ w.g.deposits := group_subset Deposit.pid _ _
  refine ⟨?_, ?_, ?_, ?_⟩
  · intro d
    show w.l.balOf m d = depSum (groupDeposits w.g.proposals w.g.deposits) d
    rw [depSum_group_owned _ _ d hw.ids hw.depOwned]
    exact h.held d
  · intro x hx
    exact live_congr (g := w.g) (g' := normalise w.g) rfl (h.live x (hmem x hx))
  · intro x hx; exact h.valid x (hmem x hx)
  · intro x hx; exact h.foreign x (hmem x hx)

end EscrowPart

theorem keyLE_iff (a b : Int × Nat) : keyLE a b = true ↔ (a.1 < b.1 ∨ (a.1 = b.1 ∧ a.2 ≤ b.2)) := by
  simp [keyLE]

theorem keyLE_total (a b : Int × Nat) : keyLE a b = true ∨ keyLE b a = true := by
  rw [keyLE_iff, keyLE_iff]; omega

theorem keyLE_trans {a b c : Int × Nat} (h1 : keyLE a b = true) (h2 : keyLE b c = true) : keyLE a c = true := by
  rw [keyLE_iff] at *; omega

theorem keyLE_antisymm {a b : Int × Nat} (h1 : keyLE a b = true) (h2 : keyLE b a = true) : a = b := by
  rw [keyLE_iff] at *
  have h3 : a.1 = b.1 := by omega
  have h4 : a.2 = b.2 := by omega
  exact Prod.ext h3 h4

abbrev Sorted (l : List (Int × Nat)) : Prop := l.Pairwise (fun a b => keyLE a b = true)

theorem sorted_perm_eq {l₁ l₂ : List (Int × Nat)} (h1 : Sorted l₁) (h2 : Sorted l₂) (h : l₁.Perm l₂) : l₁ = l₂ :=
  List.Perm.eq_of_pairwise (fun _ _ _ _ hab hba => keyLE_antisymm hab hba) h1 h2 h

theorem insertQueue_perm (k : Int × Nat) (l : List (Int × Nat)) : (insertQueue k l).Perm (k :: l) :=
  insert_perm insertQueue (c := fun x k => ¬ keyLE k x = true) (fun _ => rfl) (fun _ _ _ => (ite_not ..).symm) k l

theorem insertQueue_sorted (k : Int × Nat) (l : List (Int × Nat)) (h : Sorted l) : Sorted (insertQueue k l) :=
  insert_pairwise insertQueue (c := fun x k => ¬ keyLE k x = true) (R := fun a b => keyLE a b = true) (fun _ => rfl)
    (fun _ _ _ => (ite_not ..).symm) keyLE_trans k l
    (fun y _ => by split; exact (keyLE_total k y).resolve_left ‹_›; exact Classical.not_not.mp ‹_›) h

def insAll (acc : List (Int × Nat)) (ks : List (Int × Nat)) : List (Int × Nat) :=
  ks.foldl (fun acc k => insertQueue k acc) acc

theorem insAll_perm (ks : List (Int × Nat)) : ∀ acc, (insAll acc ks).Perm (acc ++ ks) := by
  induction ks with
  | nil => intro acc; simp [insAll]
  | cons k ks ih =>
    intro acc
    have h1 : insAll acc (k :: ks) = insAll (insertQueue k acc) ks := rfl
    rw [h1]
    refine (ih _).trans ?_
    refine ((insertQueue_perm k acc).append_right ks).trans ?_
    exact (List.perm_middle (l₁ := acc) (a := k) (l₂ := ks)).symm

theorem insAll_sorted (ks : List (Int × Nat)) (acc : List (Int × Nat)) (h : Sorted acc) : Sorted (insAll acc ks) :=
  List.foldlRecOn (motive := Sorted) ks _ h fun acc h k _ => insertQueue_sorted k acc h

theorem foldr_sorted (ks : List (Int × Nat)) : Sorted (ks.foldr insertQueue []) := by
  induction ks with
  | nil => simp [Sorted]
  | cons k ks ih =>
    rw [List.foldr_cons]
    exact insertQueue_sorted k _ ih

theorem foldl_enqueue (ps : List Proposal) : ∀ q : Queues, ps.foldl enqueue q =
    ⟨insAll q.inactive ((ps.filter (fun p => p.status == 1)).map inactiveKey),
     insAll q.active ((ps.filter (fun p => p.status == 2 || p.status == 3)).map activeKey)⟩ := by
  induction ps with
  | nil => intro q; rfl
  | cons p ps ih =>
    intro q
    rw [List.foldl_cons, ih]
    unfold enqueue
    have f1 := List.filter_cons (p := fun p : Proposal => p.status == 1) (x := p) (xs := ps)
    have f2 := List.filter_cons (p := fun p : Proposal => p.status == 2 || p.status == 3) (x := p) (xs := ps)
    by_cases h1 : (p.status == 1) = true
    · have h2 : ¬ (p.status == 2 || p.status == 3) = true := by rw [beq_iff_eq.mp h1]; decide
      rw [f1, f2, if_pos h1, if_pos h1, if_neg h2]; rfl
    · by_cases h2 : (p.status == 2 || p.status == 3) = true
      · rw [f1, f2, if_neg h1, if_neg h1, if_pos h2, if_pos h2]; rfl
      · rw [f1, f2, if_neg h1, if_neg h1, if_neg h2, if_neg h2]

theorem rebuild_eq (ps : List Proposal) : rebuildQueues ps =
    ⟨insAll [] ((ps.filter (fun p => p.status == 1)).map inactiveKey),
     insAll [] ((ps.filter (fun p => p.status == 2 || p.status == 3)).map activeKey)⟩ :=
  foldl_enqueue ps ⟨[], []⟩

theorem rebuild_inactive_sorted (ps : List Proposal) : Sorted (rebuildQueues ps).inactive := by
  rw [rebuild_eq]; exact insAll_sorted _ [] List.Pairwise.nil

theorem rebuild_active_sorted (ps : List Proposal) : Sorted (rebuildQueues ps).active := by
  rw [rebuild_eq]; exact insAll_sorted _ [] List.Pairwise.nil

theorem rebuild_inactive_perm (ps : List Proposal) :
    (rebuildQueues ps).inactive.Perm ((ps.filter (fun p => p.status == 1)).map inactiveKey) := by
  rw [rebuild_eq]; simpa using insAll_perm ((ps.filter (fun p => p.status == 1)).map inactiveKey) []

theorem rebuild_active_perm (ps : List Proposal) :
    (rebuildQueues ps).active.Perm ((ps.filter (fun p => p.status == 2 || p.status == 3)).map activeKey) := by
  rw [rebuild_eq]
  simpa using insAll_perm ((ps.filter (fun p => p.status == 2 || p.status == 3)).map activeKey) []

theorem queues_ext {a b : Queues} (h1 : a.inactive = b.inactive) (h2 : a.active = b.active) : a = b := by
  cases a; cases b; simp at h1 h2; simp [h1, h2]

theorem rebuild_perm {ps ps' : List Proposal} (h : ps.Perm ps') : rebuildQueues ps = rebuildQueues ps' := by
  apply queues_ext
  · apply sorted_perm_eq (rebuild_inactive_sorted ps) (rebuild_inactive_sorted ps')
    exact (rebuild_inactive_perm ps).trans
      ((((h.filter _).map inactiveKey)).trans (rebuild_inactive_perm ps').symm)
  · apply sorted_perm_eq (rebuild_active_sorted ps) (rebuild_active_sorted ps')
    exact (rebuild_active_perm ps).trans
      ((((h.filter _).map activeKey)).trans (rebuild_active_perm ps').symm)

theorem insByKey_map (k : Proposal → Int) (p : Proposal) (l : List Proposal) :
    (insByKey k p l).map (fun q => (k q, q.id))
      = insertQueue (k p, p.id) (l.map (fun q => (k q, q.id))) := by
  induction l with
  | nil => rfl
  | cons x xs ih =>
    rw [List.map_cons]
    unfold insByKey insertQueue
    have hc : keyLE (k p, p.id) (k x, x.id) = (k p < k x || (k p == k x && p.id ≤ x.id)) := rfl
    rw [hc]
    split
    · rfl
    · rw [List.map_cons, ih]

theorem sortByKey_map (k : Proposal → Int) (l : List Proposal) :
    (sortByKey k l).map (fun q => (k q, q.id)) = (l.map (fun q => (k q, q.id))).foldr insertQueue [] := by
  induction l with
  | nil => rfl
  | cons x xs ih =>
    have : sortByKey k (x :: xs) = insByKey k x (sortByKey k xs) := rfl
    rw [this, insByKey_map, ih]; rfl

theorem sortByKey_map_sorted (k : Proposal → Int) (l : List Proposal) :
    Sorted ((sortByKey k l).map (fun q => (k q, q.id))) := by
  rw [sortByKey_map]; exact foldr_sorted _

theorem sortByKey_map_unique (k : Proposal → Int) (l : List Proposal) (q : List (Int × Nat))
    (hs : Sorted q) (hp : q.Perm (l.map (fun x => (k x, x.id)))) :
    (sortByKey k l).map (fun x => (k x, x.id)) = q :=
  sorted_perm_eq (sortByKey_map_sorted k l) hs (((sortByKey_perm k l).map _).trans hp.symm)

theorem map_ids (k : Proposal → Int) (l : List Proposal) :
    l.map (·.id) = (l.map (fun x => (k x, x.id))).map (·.2) := by
  simp

theorem rebuild_eq_queuesOf (g : State) : rebuildQueues g.proposals = queuesOf g := by
  apply queues_ext
  · exact (sortByKey_map_unique (·.depositEnd) _ _ (rebuild_inactive_sorted _) (rebuild_inactive_perm _)).symm
  · exact (sortByKey_map_unique (·.votingEnd) _ _ (rebuild_active_sorted _) (rebuild_active_perm _)).symm

theorem due_ids (k : Proposal → Int) (st : Proposal → Bool) (ps : List Proposal) (t : Int) {q : List (Int × Nat)}
    (hs : Sorted q) (hp : q.Perm ((ps.filter st).map (fun x => (k x, x.id)))) :
    (sortByKey k (ps.filter (fun p => st p && k p ≤ t))).map (·.id) = dueIds q t := by
  rw [map_ids k]
  unfold dueIds
  congr 1
  apply sortByKey_map_unique
  · exact List.Pairwise.filter _ hs
  · refine (hp.filter _).trans ?_
    rw [List.filter_map, List.filter_filter]
    apply List.Perm.of_eq
    congr 1
    apply List.filter_congr
    intro p _
    exact Bool.and_comm _ _

theorem endBlock_inactive_ids (g : State) (t : Int) :
    (sortByKey (·.depositEnd) (g.proposals.filter (fun p => p.status == 1 && p.depositEnd ≤ t))).map (·.id)
      = dueIds (rebuildQueues g.proposals).inactive t :=
  due_ids (·.depositEnd) _ _ t (rebuild_inactive_sorted _) (rebuild_inactive_perm _)

theorem endBlock_active_ids (g : State) (t : Int) :
    (sortByKey (·.votingEnd) (g.proposals.filter (fun p => (p.status == 2 || p.status == 3) && p.votingEnd ≤ t))).map (·.id)
      = dueIds (rebuildQueues g.proposals).active t :=
  due_ids (·.votingEnd) _ _ t (rebuild_active_sorted _) (rebuild_active_perm _)

theorem endBlock_all_ids (g : State) :
    (sortByKey (·.votingEnd) (g.proposals.filter (fun p => p.status == 2 || p.status == 3))).map (·.id)
      = (rebuildQueues g.proposals).active.map (·.2) := by
  rw [map_ids (·.votingEnd)]
  congr 1
  exact sortByKey_map_unique (·.votingEnd) _ _ (rebuild_active_sorted _) (rebuild_active_perm _)

end Shentu.C20GGovH
