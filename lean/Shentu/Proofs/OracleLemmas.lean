import Shentu.Model.Oracle
import Shentu.Proofs.Tactics
import Shentu.Proofs.Guards
import Shentu.Proofs.Keys
import Shentu.Proofs.Runs
import Shentu.Proofs.BankLemmas
/-
  The stores of the oracle model (operators by address, tasks by key) are lists of records with distinct keys: what
  `setOp`, `delOp`, `setTask`, `delTask` do to a lookup is an instance of `Keyed`.  Each operation has one lemma saying
  what an accepted call is (`*_ok`); `SameColl` is the updates that leave everybody's collateral and the withdrawal
  queue alone; `endFold_rel` is the induction along the end-blocker's fold over the closing tasks.
-/

namespace Shentu.Gen.Oracle

theorem ctBadWait_iff {w : Int} : ctBadWait w = true ↔ w < 0 := decide_eq_true_iff
theorem ctNotClosed_iff {c h : Int} : ctNotClosed c h = true ↔ h ≤ c := decide_eq_true_iff
theorem aggPending_iff {st : Int} : aggPending st = true ↔ st ≠ 1 := bne_iff_ne
theorem aggHasCollateral_iff {t : Int} : aggHasCollateral t = true ↔ 0 < t := decide_eq_true_iff
theorem dbNoValid_iff {tv : Int} : dbNoValid tv = true ↔ tv = 0 := beq_iff_eq

end Shentu.Gen.Oracle

namespace Shentu.Oracle
open Shentu

theorem upsertWd_eq (a : Addr) (due : Int) (amt : Coins) (l : List Withdraw) :
    upsertWd a due amt l = upd (fun w => w.due == due && w.addr == a) (fun w => { w with amt := Coins.add w.amt amt })
      { addr := a, amt := amt, due := due } l := by
  induction l with
  | nil => rfl
  | cons w ws ih => simp only [upsertWd, upd, ih]

theorem pendList_upsert (a : Addr) (due : Int) (amt : Coins) (l : List Withdraw) (a' : Addr) (d : Denom) :
    pendList (upsertWd a due amt l) a' d = pendList l a' d + (if a == a' then Coins.amountOf amt d else 0) := by
  rw [upsertWd_eq]
  apply sum_filter_upd (fun w : Withdraw => w.addr == a') (fun w : Withdraw => Coins.amountOf w.amt d)
  · intro y hy
    simp only [Bool.and_eq_true, beq_iff_eq] at hy
    simp only [hy.2, and_self]
  · exact fun y _ => Coins.amountOf_add ..
  · rfl

theorem pendList_split (p : Withdraw → Bool) (l : List Withdraw) (a : Addr) (d : Denom) :
    pendList l a d = pendList (l.filter p) a d + pendList (l.filter (fun w => !(p w))) a d := by
  unfold pendList
  rw [sum_filter_split p _ (l.filter _), List.filter_filter, List.filter_filter, List.filter_filter, List.filter_filter]
  simp only [Bool.and_comm]

theorem setOp_eq (s : State) (o : Operator) : setOp s o = { s with ops := Keyed.put Operator.addr o.addr (some o) s.ops } := by
  show _ = { s with ops := Keyed.upsert Operator.addr o s.ops }
  unfold setOp isOp findOp Keyed.upsert; split <;> rfl

theorem setTask_eq (s : State) (t : Task) : setTask s t = { s with tasks := Keyed.put Task.key t.key (some t) s.tasks } := by
  show _ = { s with tasks := Keyed.upsert Task.key t s.tasks }
  unfold setTask findTask Keyed.upsert; split <;> rfl

theorem setOp_ops (s : State) (o : Operator) : (setOp s o).ops = Keyed.upsert Operator.addr o s.ops :=
  congrArg State.ops (setOp_eq s o)

theorem setTask_tasks (s : State) (t : Task) : (setTask s t).tasks = Keyed.upsert Task.key t s.tasks :=
  congrArg State.tasks (setTask_eq s t)

theorem findOp_setOp (s : State) (o : Operator) (a' : Addr) :
    findOp (setOp s o) a' = if o.addr == a' then some o else findOp s a' := by
  rw [findOp, setOp_ops, Keyed.find_upsert]; simp only [beq_iff_eq]; rfl

theorem findOp_delOp (s : State) (a a' : Addr) :
    findOp (delOp s a) a' = if a == a' then none else findOp s a' := by
  show (s.ops.filter fun x => !(x.addr == a)).find? (fun x => x.addr == a') = _
  rw [Keyed.find_remove Operator.addr]; simp only [beq_iff_eq]; rfl

theorem findTask_congr {s s' : State} (h : s'.tasks = s.tasks) (k : String) : findTask s' k = findTask s k := by
  simp [findTask, h]

theorem findTask_mem {s : State} {k : String} {t : Task} (h : findTask s k = some t) : t ∈ s.tasks ∧ t.key = k :=
  Keyed.of_find Task.key h

theorem findTask_setTask (s : State) (t : Task) (k : String) :
    findTask (setTask s t) k = if t.key = k then some t else findTask s k := by
  rw [findTask, setTask_tasks, Keyed.find_upsert]; rfl

theorem findTask_delTask (s : State) (k' k : String) :
    findTask (delTask s k') k = if k' = k then none else findTask s k :=
  Keyed.find_remove Task.key k' k s.tasks

@[simp] theorem setOp_wds (s : State) (o : Operator) : (setOp s o).wds = s.wds := by unfold setOp; split <;> rfl
@[simp] theorem setOp_total (s : State) (o : Operator) : (setOp s o).total = s.total := by unfold setOp; split <;> rfl
@[simp] theorem setOp_tasks (s : State) (o : Operator) : (setOp s o).tasks = s.tasks := by unfold setOp; split <;> rfl
@[simp] theorem setOp_closing (s : State) (o : Operator) : (setOp s o).closing = s.closing := by unfold setOp; split <;> rfl
@[simp] theorem setOp_params (s : State) (o : Operator) : (setOp s o).params = s.params := by unfold setOp; split <;> rfl
@[simp] theorem delOp_wds (s : State) (a : Addr) : (delOp s a).wds = s.wds := rfl
@[simp] theorem delOp_total (s : State) (a : Addr) : (delOp s a).total = s.total := rfl
@[simp] theorem delOp_tasks (s : State) (a : Addr) : (delOp s a).tasks = s.tasks := rfl
@[simp] theorem delOp_params (s : State) (a : Addr) : (delOp s a).params = s.params := rfl
@[simp] theorem setTask_ops (s : State) (t : Task) : (setTask s t).ops = s.ops := by unfold setTask; split <;> rfl
@[simp] theorem setTask_wds (s : State) (t : Task) : (setTask s t).wds = s.wds := by unfold setTask; split <;> rfl
@[simp] theorem setTask_total (s : State) (t : Task) : (setTask s t).total = s.total := by unfold setTask; split <;> rfl
@[simp] theorem setTask_params (s : State) (t : Task) : (setTask s t).params = s.params := by unfold setTask; split <;> rfl
@[simp] theorem setTask_closing (s : State) (t : Task) : (setTask s t).closing = s.closing := by unfold setTask; split <;> rfl
@[simp] theorem delTask_ops (s : State) (k : String) : (delTask s k).ops = s.ops := rfl
@[simp] theorem delTask_wds (s : State) (k : String) : (delTask s k).wds = s.wds := rfl
@[simp] theorem delTask_total (s : State) (k : String) : (delTask s k).total = s.total := rfl
@[simp] theorem delTask_closing (s : State) (k : String) : (delTask s k).closing = s.closing := rfl
@[simp] theorem addClosing_ops (s : State) (h : Int) (id : String × String) : (addClosing s h id).ops = s.ops := by unfold addClosing; split <;> rfl
@[simp] theorem addClosing_wds (s : State) (h : Int) (id : String × String) : (addClosing s h id).wds = s.wds := by unfold addClosing; split <;> rfl
@[simp] theorem addClosing_total (s : State) (h : Int) (id : String × String) : (addClosing s h id).total = s.total := by unfold addClosing; split <;> rfl
@[simp] theorem addClosing_tasks (s : State) (h : Int) (id : String × String) : (addClosing s h id).tasks = s.tasks := by unfold addClosing; split <;> rfl
@[simp] theorem addClosing_params (s : State) (h : Int) (id : String × String) : (addClosing s h id).params = s.params := by unfold addClosing; split <;> rfl
@[simp] theorem delClosing_ops (s : State) (h : Int) : (delClosing s h).ops = s.ops := rfl
@[simp] theorem delClosing_wds (s : State) (h : Int) : (delClosing s h).wds = s.wds := rfl
@[simp] theorem delClosing_total (s : State) (h : Int) : (delClosing s h).total = s.total := rfl
@[simp] theorem delClosing_tasks (s : State) (h : Int) : (delClosing s h).tasks = s.tasks := rfl

theorem findOp_congr (s s' : State) (h : s'.ops = s.ops) (a : Addr) : findOp s' a = findOp s a := by
  simp [findOp, h]

theorem find_addr {l : List Operator} {a : Addr} {o : Operator} (h : l.find? (·.addr == a) = some o) : o.addr = a :=
  (Keyed.of_find Operator.addr h).2

section
variable {e : Env} {l l' : Ledger} {s s' : State}

theorem createOperator_ok {a p : Addr} {c : Coins} (h : createOperator e l s a c p = .ok (l', s')) :
    Coins.isAllPositive c = true ∧ isOp s a = false ∧ l.send a e.modAddr c = .ok l' ∧
    s' = { setOp s { addr := a, proposer := p, coll := c, rew := [] } with total := Coins.add s.total c } := by
  unfold createOperator at h
  obtain ⟨hpos, h⟩ := of_guard h
  obtain ⟨hno, h⟩ := of_guard h
  obtain ⟨_, h⟩ := of_guard h
  dsimp only at h
  cases hs : l.send a e.modAddr c with
  | error x => rw [hs] at h; cases h
  | ok l1 =>
    rw [hs] at h; cases h
    exact ⟨by simpa using hpos, by simpa using hno, rfl, by rw [setOp_total]⟩

theorem removeOperator_ok {a : Addr} (h : removeOperator e l s a = .ok (l', s')) :
    ∃ o, findOp s a = some o ∧ l.send e.modAddr a o.rew = .ok l' ∧
      s' = delOp (createWithdraw e { s with total := Coins.sub s.total o.coll } a o.coll) a := by
  unfold removeOperator at h
  cases ho : findOp s a with
  | none => rw [ho] at h; cases h
  | some o =>
    rw [ho] at h; dsimp only at h
    obtain ⟨_, h⟩ := of_guard h
    cases hs : l.send e.modAddr a o.rew with
    | error x => rw [hs] at h; cases h
    | ok l1 => rw [hs] at h; cases h; exact ⟨o, rfl, hs, rfl⟩

theorem addCollateral_ok {a : Addr} {inc : Coins} (h : addCollateral e l s a inc = .ok (l', s')) :
    Coins.isAllPositive inc = true ∧ ∃ o, findOp s a = some o ∧ l.send a e.modAddr inc = .ok l' ∧
      s' = { setOp s { o with coll := Coins.add o.coll inc } with total := Coins.add s.total inc } := by
  unfold addCollateral at h
  obtain ⟨hpos, h⟩ := of_guard h
  cases ho : findOp s a with
  | none => rw [ho] at h; cases h
  | some o =>
    rw [ho] at h; dsimp only at h
    cases hs : l.send a e.modAddr inc with
    | error x => rw [hs] at h; cases h
    | ok l1 => rw [hs] at h; cases h; exact ⟨by simpa using hpos, o, rfl, rfl, by rw [setOp_total]⟩

theorem reduceCollateral_ok {a : Addr} {dec : Coins} (h : reduceCollateral e l s a dec = .ok (l', s')) :
    l' = l ∧ ∃ o, findOp s a = some o ∧ Coins.isAnyNegative (Coins.sub o.coll dec) = false ∧
      s' = createWithdraw e { setOp s { o with coll := Coins.sub o.coll dec } with total := Coins.sub s.total dec } a dec := by
  unfold reduceCollateral at h
  obtain ⟨_, h⟩ := of_guard h
  cases ho : findOp s a with
  | none => rw [ho] at h; cases h
  | some o =>
    rw [ho] at h; dsimp only at h
    obtain ⟨hneg, h⟩ := of_guard h
    obtain ⟨_, h⟩ := of_guard h
    obtain ⟨_, h⟩ := of_guard h
    cases h
    exact ⟨rfl, o, rfl, by simpa [subPanics] using hneg, by rw [setOp_total]⟩

theorem withdrawReward_ok {a : Addr} (h : withdrawReward e l s a = .ok (l', s')) :
    ∃ o, findOp s a = some o ∧ l.send e.modAddr a o.rew = .ok l' ∧ s' = setOp s { o with rew := [] } := by
  unfold withdrawReward at h
  cases ho : findOp s a with
  | none => rw [ho] at h; cases h
  | some o =>
    rw [ho] at h; dsimp only at h
    cases hs : l.send e.modAddr a o.rew with
    | error x => rw [hs] at h; cases h
    | ok l1 => rw [hs] at h; cases h; exact ⟨o, rfl, hs, rfl⟩

theorem createTask_ok {ct fn : String} {b : Coins} {cr : Addr} {w v : Int}
    (h : createTask e l s ct fn b cr w v = .ok (l', s')) :
    ∃ s0 window expi, window = (if Gen.Oracle.waitIsDefault w then s.params.window else w) ∧
      (findTask s (ct ++ fn) = none ∧ s0 = s ∨
        ∃ old, findTask s (ct ++ fn) = some old ∧ old.closing < e.h ∧ s0 = delTask s (ct ++ fn)) ∧
      0 ≤ window ∧ l.send cr e.modAddr b = .ok l' ∧
      s' = addClosing (setTask s0
        { contract := ct, function := fn, begin := e.h, bounty := b, expiration := expi, creator := cr, responses := [],
          result := 0, closing := Gen.Oracle.ctClosingBlock e.h window, waiting := window, status := 1 })
        (Gen.Oracle.ctClosingBlock e.h window) (ct, fn) := by
  unfold createTask at h
  dsimp only at h
  generalize (if Gen.Oracle.waitIsDefault w = true then s.params.window else w) = window at h
  generalize (if Gen.Oracle.validIsDefault v = true then e.t + s.params.expDur else e.t + v) = expi at h
  split at h; · cases h
  rename_i s0 hpre
  obtain ⟨hb, hpre⟩ := of_guard hpre
  rw [Gen.Oracle.ctBadWait_iff] at hb
  cases hs : l.send cr e.modAddr b with
  | error x => rw [hs] at h; cases h
  | ok l1 =>
    rw [hs] at h; cases h
    refine ⟨s0, window, expi, rfl, ?_, by omega, rfl, rfl⟩
    cases hf : findTask s (ct ++ fn) with
    | none => rw [hf] at hpre; cases hpre; exact Or.inl ⟨rfl, rfl⟩
    | some old =>
      rw [hf] at hpre; dsimp only at hpre
      obtain ⟨hnc, hpre⟩ := of_guard hpre
      rw [Gen.Oracle.ctNotClosed_iff] at hnc
      cases hpre
      exact Or.inr ⟨old, rfl, by omega, rfl⟩

theorem respond_ok_iff {ct fn : String} {sc : Int} {o : Addr} :
    respond e s ct fn sc o = .ok s' ↔
      isOp s o = true ∧ ∃ t, findTask s (ct ++ fn) = some t ∧ e.h ≤ t.closing ∧ t.responses.any (·.op == o) = false ∧
        0 ≤ sc ∧ sc ≤ 100 ∧
        s' = setTask s { t with responses := t.responses ++ [{ op := o, score := sc, weight := 0, reward := [] }] } := by
  unfold respond
  rw [err_guard_iff]
  cases ht : findTask s (ct ++ fn) with
  | none => simp [err]
  | some t =>
    simp only [err_guard_iff, Except.ok.injEq, Option.some.injEq, exists_eq_left']
    unfold Gen.Oracle.respClosed Gen.Oracle.badScore Gen.Oracle.minScore Gen.Oracle.maxScore
    bool_norm
    simp only [gt_iff_lt, Int.not_lt, and_assoc, @eq_comm State s']

theorem deleteTask_ok_iff {ct fn : String} {fo : Bool} {d : Addr} :
    deleteTask e s ct fn fo d = .ok s' ↔
      ∃ t, findTask s (ct ++ fn) = some t ∧ (fo = true ∨ t.expiration < e.t) ∧ t.closing < e.h ∧ t.creator = d ∧
        s' = delTask s (ct ++ fn) := by
  unfold deleteTask
  cases ht : findTask s (ct ++ fn) with
  | none => simp [err]
  | some t =>
    simp only [err_guard_iff, Except.ok.injEq, Option.some.injEq, exists_eq_left']
    unfold Gen.Oracle.rmNotExpired Gen.Oracle.rmNotFinished Gen.Oracle.rmNotCreator
    bool_norm
    cases fo <;> simp only [Bool.false_eq_true, Bool.true_eq_false, false_or, true_or, forall_const, false_implies, true_and,
      Int.not_le, @eq_comm State s']

theorem payWithdraws_cons {e : Env} {w : Withdraw} {ws : List Withdraw} {l l1 : Ledger}
    (hs : l.send e.modAddr w.addr w.amt = .ok l1) : payWithdraws e (w :: ws) l = payWithdraws e ws l1 := by
  rw [payWithdraws, hs]

theorem payWithdraws_ok (e : Env) (ws : List Withdraw) (l l' : Ledger) (h : payWithdraws e ws l = .ok l') :
    l' = l.paid e.modAddr (fun w : Withdraw => w.addr) (fun w : Withdraw => w.amt) ws ∧
      ∀ w ∈ ws, ∀ d, 0 ≤ Coins.amountOf w.amt d :=
  Ledger.paid_of_ok e.modAddr (fun w : Withdraw => w.addr) (fun w : Withdraw => w.amt) (payWithdraws e) (fun _ _ h => (Except.ok.inj h).symm)
    (fun w ws l l' h => by
      cases hs : l.send e.modAddr w.addr w.amt with
      | error _ => rw [payWithdraws, hs] at h; cases h
      | ok l1 => exact ⟨l1, rfl, payWithdraws_cons hs ▸ h⟩) ws l l' h

theorem beginBlock_ok (h : beginBlock e l s = .ok (l', s')) :
    payWithdraws e (s.wds.filter (mature e.h)) l = .ok l' ∧ s' = { s with wds := s.wds.filter (fun w => !(mature e.h w)) } := by
  unfold beginBlock at h
  split at h; · cases h
  rename_i hp
  cases h
  exact ⟨hp, rfl⟩

theorem endBlock_ok (h : endBlock e s = .ok s') :
    ∃ s1, endFold e.bond (closingAt s e.h) s = .ok s1 ∧ s' = delClosing s1 e.h := by
  unfold endBlock at h
  split at h; · cases h
  rename_i s1 hf
  cases h
  exact ⟨s1, hf, rfl⟩

theorem endFold_cons (bond : Denom) (id : String × String) (ids : List (String × String)) (s : State) :
    endFold bond (id :: ids) s = (endOne bond s id).bind (endFold bond ids) := by
  rw [endFold]; cases endOne bond s id <;> rfl

theorem endFold_eq (bond : Denom) : ∀ (ids : List (String × String)) (s : State),
    endFold bond ids s = ids.foldlM (endOne bond) s
  | [], _ => rfl
  | id :: ids, s => by
    rw [List.foldlM_cons, endFold_cons]
    cases endOne bond s id with
    | error x => rfl
    | ok s' => exact endFold_eq bond ids s'

theorem endFold_rel {bond : Denom} {I : State → Prop} {R : State → State → Prop} (refl : ∀ a, R a a)
    (trans : ∀ {a b c}, R a b → R b c → R a c) (ids : List (String × String))
    (step : ∀ id ∈ ids, ∀ {a b}, I a → endOne bond a id = .ok b → R a b ∧ I b)
    {a b : State} (hi : I a) (h : endFold bond ids a = .ok b) : R a b :=
  (foldlM_rel refl trans (fun id hid _ _ hi h1 => step id hid hi h1) hi (endFold_eq bond ids a ▸ h)).1

/-- the two copies of the responder selection in the source agree -/
theorem eligibleDB_eq (s : State) (b : Nat) (r : Response) : eligibleDB s b r = eligible s b r := by cases b <;> rfl

/-- `aggFold` without `Except`: `collateralAmount` has no error branch, so the fold cannot fail -/
def aggPure (bond : Denom) (s : State) : List Response → Agg → Agg
  | [], a => a
  | r :: rest, a =>
    match findOp s r.op with
    | none => aggPure bond s rest { a with rs := a.rs ++ [r] }
    | some o =>
      let amt := Gen.Oracle.collWeight (Coins.amountOf o.coll bond)
      aggPure bond s rest
        { result := Gen.Oracle.aggAccum a.result r.score amt, total := a.total + amt,
          minC := if Gen.Oracle.aggIsMinScore r.score then a.minC + amt else a.minC,
          rs := a.rs ++ [{ r with weight := amt }] }

theorem aggFold_eq (bond : Denom) (s : State) : ∀ (rs : List Response) (a : Agg), aggFold bond s rs a = .ok (aggPure bond s rs a)
  | [], _ => rfl
  | r :: rest, a => by
    unfold aggFold aggPure collateralAmount
    cases findOp s r.op <;> exact aggFold_eq bond s rest _

/-- the finished copy of a pending task, given what the fold over its responses returned: succeeded with the weighted
    mean, succeeded in the minimum-score regime (the weights of the other scores cleared), or failed for want of collateral -/
def finishTask (s : State) (t : Task) (a : Agg) : Task :=
  if Gen.Oracle.aggHasCollateral a.total then
    if Gen.Oracle.aggMinRegime a.minC a.total then
      { t with responses := a.rs.map (fun r => if r.score == Gen.Oracle.minScore then r else { r with weight := 0 }),
               result := Gen.Oracle.aggMinResult a.minC, status := 2 }
    else { t with responses := a.rs, result := Gen.Oracle.aggMean a.result a.total, status := 2 }
  else { t with responses := a.rs, result := Gen.Oracle.aggFailResult s.params.aggRes, status := 3 }

def aggStart (s : State) : Agg := { result := Gen.Oracle.aggInit s.params.aggRes, total := 0, minC := 0, rs := [] }

theorem aggregate_eq_pure (bond : Denom) (s : State) (key : String) :
    aggregate bond s key = match findTask s key with
      | none => err "oracle:no-task"
      | some t => if Gen.Oracle.aggPending t.status then err "oracle:task-closed"
          else .ok (setTask s (finishTask s t (aggPure bond s t.responses (aggStart s)))) := by
  unfold aggregate
  cases findTask s key with
  | none => rfl
  | some t =>
    dsimp only
    rw [aggFold_eq]
    unfold finishTask aggStart
    split
    · rfl
    · dsimp only; split
      · split <;> rfl
      · rfl

end

theorem map_eq_cases {α β : Type} {f : α → β} {x y : Option α} (h : x.map f = y.map f) :
    (x = none ∧ y = none) ∨ ∃ a b, x = some a ∧ y = some b ∧ f a = f b := by
  cases x <;> cases y
  · exact .inl ⟨rfl, rfl⟩
  · cases h
  · cases h
  · exact .inr ⟨_, _, rfl, rfl, Option.some.inj h⟩

/-- the part of the state that collateral conservation is about is untouched -/
def SameColl (s s' : State) : Prop :=
  s'.wds = s.wds ∧ ∀ a', (s'.ops.find? (fun x => x.addr == a')).map (·.coll) = (s.ops.find? (fun x => x.addr == a')).map (·.coll)

theorem SameColl.refl (s : State) : SameColl s s := ⟨rfl, fun _ => rfl⟩
theorem SameColl.trans {a b c : State} (h1 : SameColl a b) (h2 : SameColl b c) : SameColl a c :=
  ⟨h2.1.trans h1.1, fun x => (h2.2 x).trans (h1.2 x)⟩

theorem SameColl.held_eq {s s' : State} (h : SameColl s s') (a : Addr) (d : Denom) : held s' a d = held s a d := by
  simp only [held, collAmt, pendAmt, findOp, h.1]
  rw [h.2 a]

theorem sameColl_setTask (s : State) (t : Task) : SameColl s (setTask s t) := ⟨by simp, fun _ => by simp⟩
theorem sameColl_delClosing (s : State) (h : Int) : SameColl s (delClosing s h) := ⟨rfl, fun _ => rfl⟩

theorem step_ind {P : Ledger × State → Prop} {e : Env} {ls : Ledger × State} {op : Op} (h0 : P ls)
    (h1 : ∀ l' s', stepE e ls.1 ls.2 op = .ok (l', s') → P (l', s')) : P (step e ls op) := by
  unfold step
  cases h : stepE e ls.1 ls.2 op with
  | error _ => exact h0
  | ok r => exact h1 r.1 r.2 h

end Shentu.Oracle
