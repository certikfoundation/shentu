import Shentu.Proofs.OracleEffect
/-
  The effects of the end-blocker under different keys commute up to the order of the appended reward coins: `StateR` relates
  states that differ in that order only, every effect respects it (`endOne_congr`), two effects under different keys commute
  up to it (`endOne_comm'`), hence the end-blocker's fold gives related results on permuted lists of closing tasks.
-/
namespace Shentu.Oracle
open Shentu

-- `OpR`: the same operator up to the order in which reward coins were appended (the same amount in every denomination);
-- `OpsR`: lists of such, position by position; `StateR`: such operator lists and everything else equal.  `Props/C20order.lean`,
-- which imports this file, states the three again as `OpEq`, `OpsEq`, `StateEq` for its theorems.

def OpR (a b : Operator) : Prop :=
  a.addr = b.addr ∧ a.proposer = b.proposer ∧ a.coll = b.coll ∧ ∀ d, Coins.amountOf a.rew d = Coins.amountOf b.rew d

def OpsR : List Operator → List Operator → Prop
  | [], [] => True
  | a :: as, b :: bs => OpR a b ∧ OpsR as bs
  | _, _ => False

def StateR (a b : State) : Prop :=
  OpsR a.ops b.ops ∧ a.wds = b.wds ∧ a.total = b.total ∧ a.tasks = b.tasks ∧ a.closing = b.closing ∧ a.params = b.params

@[simp] theorem OpsR_nil_nil : OpsR [] [] = True := by simp [OpsR]
@[simp] theorem OpsR_cons_cons (a b : Operator) (as bs : List Operator) : OpsR (a :: as) (b :: bs) = (OpR a b ∧ OpsR as bs) := by
  simp [OpsR]
@[simp] theorem OpsR_nil_cons (b : Operator) (bs : List Operator) : OpsR [] (b :: bs) = False := by simp [OpsR]
@[simp] theorem OpsR_cons_nil (a : Operator) (as : List Operator) : OpsR (a :: as) [] = False := by simp [OpsR]

theorem OpR.refl (a : Operator) : OpR a a := ⟨rfl, rfl, rfl, fun _ => rfl⟩
theorem OpR.symm {a b : Operator} (h : OpR a b) : OpR b a := ⟨h.1.symm, h.2.1.symm, h.2.2.1.symm, fun d => (h.2.2.2 d).symm⟩
theorem OpR.trans {a b c : Operator} (h1 : OpR a b) (h2 : OpR b c) : OpR a c :=
  ⟨h1.1.trans h2.1, h1.2.1.trans h2.2.1, h1.2.2.1.trans h2.2.2.1, fun d => (h1.2.2.2 d).trans (h2.2.2.2 d)⟩

theorem OpsR.refl : ∀ l : List Operator, OpsR l l
  | [] => by simp
  | a :: as => by simp [OpR.refl a, OpsR.refl as]

theorem OpsR.symm : ∀ {l l' : List Operator}, OpsR l l' → OpsR l' l
  | [], [], _ => by simp
  | [], _ :: _, h => by simp at h
  | _ :: _, [], h => by simp at h
  | a :: as, b :: bs, h => by
    simp only [OpsR_cons_cons] at h ⊢
    exact ⟨h.1.symm, OpsR.symm h.2⟩

theorem OpsR.trans : ∀ {l1 l2 l3 : List Operator}, OpsR l1 l2 → OpsR l2 l3 → OpsR l1 l3
  | [], [], [], _, _ => by simp
  | [], [], _ :: _, _, h => by simp at h
  | [], _ :: _, _, h, _ => by simp at h
  | _ :: _, [], _, h, _ => by simp at h
  | _ :: _, _ :: _, [], _, h => by simp at h
  | a :: as, b :: bs, c :: cs, h1, h2 => by
    simp only [OpsR_cons_cons] at h1 h2 ⊢
    exact ⟨h1.1.trans h2.1, OpsR.trans h1.2 h2.2⟩

theorem StateR.refl (s : State) : StateR s s := ⟨OpsR.refl _, rfl, rfl, rfl, rfl, rfl⟩
theorem StateR.symm {a b : State} (h : StateR a b) : StateR b a :=
  ⟨h.1.symm, h.2.1.symm, h.2.2.1.symm, h.2.2.2.1.symm, h.2.2.2.2.1.symm, h.2.2.2.2.2.symm⟩
theorem StateR.trans {a b c : State} (h1 : StateR a b) (h2 : StateR b c) : StateR a c :=
  ⟨h1.1.trans h2.1, h1.2.1.trans h2.2.1, h1.2.2.1.trans h2.2.2.1, h1.2.2.2.1.trans h2.2.2.2.1,
   h1.2.2.2.2.1.trans h2.2.2.2.2.1, h1.2.2.2.2.2.trans h2.2.2.2.2.2⟩

theorem OpsR.find (a : Addr) : ∀ {l l' : List Operator}, OpsR l l' →
    (l.find? (·.addr == a) = none ∧ l'.find? (·.addr == a) = none) ∨
    ∃ o o', l.find? (·.addr == a) = some o ∧ l'.find? (·.addr == a) = some o' ∧ OpR o o'
  | [], [], _ => by simp
  | [], _ :: _, h => by simp at h
  | _ :: _, [], h => by simp at h
  | x :: xs, y :: ys, h => by
    simp only [OpsR_cons_cons] at h
    have hxy : x.addr = y.addr := h.1.1
    by_cases hx : x.addr == a
    · have hy : y.addr == a := by rw [← hxy]; exact hx
      exact Or.inr ⟨x, y, by simp [hx], by simp [hy], h.1⟩
    · have hy : ¬ (y.addr == a) := by rw [← hxy]; exact hx
      simp only [List.find?_cons, hx, hy]
      exact OpsR.find a h.2

theorem OpsR.map (g g' : Operator → Operator) (hg : ∀ x x', OpR x x' → OpR (g x) (g' x')) :
    ∀ {l l' : List Operator}, OpsR l l' → OpsR (l.map g) (l'.map g')
  | [], [], _ => by simp
  | [], _ :: _, h => by simp at h
  | _ :: _, [], h => by simp at h
  | x :: xs, y :: ys, h => by
    simp only [OpsR_cons_cons, List.map_cons] at h ⊢
    exact ⟨hg _ _ h.1, OpsR.map g g' hg h.2⟩
theorem credit_congr (a : Addr) (c : Coins) {l l' : List Operator} (h : OpsR l l') : OpsR (credit a c l) (credit a c l') := by
  rcases h.find a with ⟨h1, h2⟩ | ⟨o, o', h1, h2, ho⟩
  · rw [credit_none h1, credit_none h2]; exact h
  · rw [credit_some h1, credit_some h2]
    refine OpsR.map _ _ ?_ h
    intro x x' hx
    rw [hx.1]
    by_cases hxa : x'.addr == a
    · simp only [hxa, if_true]
      exact ⟨ho.1, ho.2.1, ho.2.2.1, fun d => by simp [ho.2.2.2 d]⟩
    · simp only [hxa]
      exact hx

theorem credits_congr (incs : List (Addr × Coins)) : ∀ {l l' : List Operator}, OpsR l l' → OpsR (credits incs l) (credits incs l') := by
  induction incs with
  | nil => intro l l' h; exact h
  | cons i incs ih => intro l l' h; exact ih (credit_congr i.1 i.2 h)

theorem OpsR.map_self (g g' : Operator → Operator) (hg : ∀ x, OpR (g x) (g' x)) : ∀ l : List Operator, OpsR (l.map g) (l.map g')
  | [] => by simp
  | x :: xs => by simp only [List.map_cons, OpsR_cons_cons]; exact ⟨hg x, OpsR.map_self g g' hg xs⟩

theorem credit_credit_none {a : Addr} {l : List Operator} (ha : l.find? (·.addr == a) = none) (b : Addr) (c d : Coins) :
    credit a c (credit b d l) = credit b d (credit a c l) := by
  rw [credit_none ha]
  apply credit_none
  cases hb : l.find? (·.addr == b) with
  | none => rw [credit_none hb]; exact ha
  | some ob =>
    rw [find_credit_some d hb]
    split
    · rename_i hba; rw [beq_iff_eq.mp hba, ha] at hb; cases hb
    · exact ha

theorem credit_credit_ne {a b : Addr} (hab : a ≠ b) (c d : Coins) (l : List Operator) :
    credit a c (credit b d l) = credit b d (credit a c l) := by
  cases ha : l.find? (·.addr == a) with
  | none => exact credit_credit_none ha b c d
  | some oa =>
    cases hb : l.find? (·.addr == b) with
    | none => exact (credit_credit_none hb a d c).symm
    | some ob =>
      have h1 := find_credit_some d hb a
      have h2 := find_credit_some c ha b
      rw [if_neg (by simpa using Ne.symm hab), ha] at h1
      rw [if_neg (by simpa using hab), hb] at h2
      rw [credit_some h1, credit_some h2, credit_some ha, credit_some hb]
      exact Keyed.update_comm Operator.addr (Ne.symm hab) (by intro _ _; exact (find_addr hb : ob.addr = b))
        (by intro _ _; exact (find_addr ha : oa.addr = a)) l

/-- two credits commute up to the order of the appended coins: to different operators exactly, to one operator the two
    amounts are added in the other order -/
theorem credit_comm (a b : Addr) (c d : Coins) (l : List Operator) :
    OpsR (credit a c (credit b d l)) (credit b d (credit a c l)) := by
  by_cases hab : a = b
  · subst hab
    cases ha : l.find? (·.addr == a) with
    | none => simp only [credit_none ha]; exact OpsR.refl _
    | some oa =>
      have h1 := find_credit_some d ha a
      have h2 := find_credit_some c ha a
      simp only [beq_self_eq_true, if_true] at h1 h2
      rw [credit_some h1, credit_some h2, credit_some ha, credit_some ha, List.map_map, List.map_map]
      refine OpsR.map_self _ _ (fun x => ?_) l
      by_cases hx : x.addr == a
      · simp only [Function.comp, hx, if_true, find_addr ha, beq_self_eq_true]
        exact ⟨rfl, rfl, rfl, fun dn => by simp only [Coins.amountOf_add]; omega⟩
      · have hx' : (x.addr == a) = false := by simpa using hx
        simp only [Function.comp, hx', Bool.false_eq_true, if_false]
        exact OpR.refl _
  · rw [credit_credit_ne hab]; exact OpsR.refl _

theorem credit_credits_comm (a : Addr) (c : Coins) (incs : List (Addr × Coins)) : ∀ l : List Operator,
    OpsR (credit a c (credits incs l)) (credits incs (credit a c l)) := by
  induction incs with
  | nil => intro l; exact OpsR.refl _
  | cons i incs ih =>
    intro l
    simp only [credits_cons]
    exact (ih _).trans (credits_congr incs (credit_comm a i.1 c i.2 l))

theorem credits_comm (l1 l2 : List (Addr × Coins)) : ∀ l : List Operator,
    OpsR (credits l1 (credits l2 l)) (credits l2 (credits l1 l)) := by
  induction l1 with
  | nil => intro l; exact OpsR.refl _
  | cons i l1 ih =>
    intro l
    simp only [credits_cons]
    exact (credits_congr l1 (credit_credits_comm i.1 i.2 l2 l)).trans (ih _)
theorem app_comm {k1 k2 : String} (hne : k1 ≠ k2) {f1 f2 : Task → Task}
    (hf1 : ∀ x : Task, x.key = k1 → (f1 x).key = k1) (hf2 : ∀ x : Task, x.key = k2 → (f2 x).key = k2)
    (i1 i2 : List (Addr × Coins)) (u : State) :
    StateR (app k2 f2 i2 (app k1 f1 i1 u)) (app k1 f1 i1 (app k2 f2 i2 u)) := by
  refine ⟨credits_comm i2 i1 u.ops, rfl, rfl, ?_, rfl, rfl⟩
  exact Keyed.update_comm Task.key hne hf1 hf2 u.tasks

theorem app_congr (k : String) (f : Task → Task) (incs : List (Addr × Coins)) {u u' : State} (h : StateR u u') :
    StateR (app k f incs u) (app k f incs u') := by
  obtain ⟨h1, h2, h3, h4, h5, h6⟩ := h
  refine ⟨credits_congr incs h1, h2, h3, ?_, h5, h6⟩
  simp only [app, h4]

theorem StateR.view {s t : State} (h : StateR s t) : View s t := by
  refine ⟨h.2.2.2.2.2, fun a => ?_⟩
  simp only [collOf, findOp]
  rcases h.1.find a with ⟨h1, h2⟩ | ⟨o, o', h1, h2, ho⟩
  · rw [h1, h2]
  · rw [h1, h2]; simp [ho.2.2.1]

theorem StateR.agree {s t : State} (h : StateR s t) (k : String) : Agree k s t :=
  ⟨h.view, by simp only [findTask, h.2.2.2.1]⟩

/-- both halt, or both go on in related states -/
def ResR (x y : Except Err State) : Prop :=
  match x, y with
  | .ok a, .ok b => StateR a b
  | .error _, .error _ => True
  | _, _ => False

theorem ResR.refl : ∀ x : Except Err State, ResR x x
  | .ok a => StateR.refl a
  | .error _ => trivial

theorem ResR.symm : ∀ {x y : Except Err State}, ResR x y → ResR y x
  | .ok _, .ok _, h => StateR.symm h
  | .error _, .error _, _ => trivial
  | .ok _, .error _, h => h.elim
  | .error _, .ok _, h => h.elim

theorem ResR.trans : ∀ {x y z : Except Err State}, ResR x y → ResR y z → ResR x z
  | .ok _, .ok _, .ok _, h1, h2 => StateR.trans h1 h2
  | .error _, .error _, .error _, _, _ => trivial
  | .ok _, .error _, _, h, _ => h.elim
  | .error _, .ok _, _, h, _ => h.elim
  | _, .ok _, .error _, _, h => h.elim
  | _, .error _, .ok _, _, h => h.elim

theorem ResR.bind {x y : Except Err State} (h : ResR x y) (F G : State → Except Err State)
    (hF : ∀ a b, StateR a b → ResR (F a) (G b)) : ResR (x.bind F) (y.bind G) := by
  cases x with
  | error e => cases y with
    | error e' => trivial
    | ok b => exact h.elim
  | ok a => cases y with
    | error e' => exact h.elim
    | ok b => exact hF a b h

theorem endOne_congr (bond : Denom) (id : String × String) {s t : State} (h : StateR s t) :
    ResR (endOne bond s id) (endOne bond t id) := by
  rw [endOne_eq bond id (Agree.refl _ s), endOne_eq bond id (h.agree _)]
  cases endOneE bond s (id.1 ++ id.2) with
  | error x => trivial
  | ok p => exact app_congr _ _ _ h

theorem endOne_comm' (bond : Denom) (s : State) (id1 id2 : String × String) (hne : id1.1 ++ id1.2 ≠ id2.1 ++ id2.2) :
    ResR ((endOne bond s id1).bind (fun s1 => endOne bond s1 id2)) ((endOne bond s id2).bind (fun s2 => endOne bond s2 id1)) := by
  rw [endOne_eq bond id1 (Agree.refl _ s), endOne_eq bond id2 (Agree.refl _ s)]
  cases h1 : endOneE bond s (id1.1 ++ id1.2) with
  | error e1 =>
    cases h2 : endOneE bond s (id2.1 ++ id2.2) with
    | error e2 => trivial
    | ok p2 =>
      obtain ⟨f2, i2⟩ := p2
      simp only [Except.bind]
      rw [endOne_eq bond id1 (agree_app (fun h => hne h.symm) (endOneE_key h2) i2 s), h1]
      trivial
  | ok p1 =>
    obtain ⟨f1, i1⟩ := p1
    cases h2 : endOneE bond s (id2.1 ++ id2.2) with
    | error e2 =>
      simp only [Except.bind]
      rw [endOne_eq bond id2 (agree_app hne (endOneE_key h1) i1 s), h2]
      trivial
    | ok p2 =>
      obtain ⟨f2, i2⟩ := p2
      simp only [Except.bind]
      rw [endOne_eq bond id2 (agree_app hne (endOneE_key h1) i1 s), h2,
        endOne_eq bond id1 (agree_app (fun h => hne h.symm) (endOneE_key h2) i2 s), h1]
      exact app_comm hne (endOneE_key h1) (endOneE_key h2) i1 i2 s

theorem endFold_congr (bond : Denom) : ∀ (ids : List (String × String)) {s t : State}, StateR s t →
    ResR (endFold bond ids s) (endFold bond ids t)
  | [], _, _, h => h
  | id :: ids, _, _, h => by
    rw [endFold_cons, endFold_cons]
    exact (endOne_congr bond id h).bind _ _ fun _ _ => endFold_congr bond ids

theorem endFold_cons2 (bond : Denom) (a b : String × String) (ids : List (String × String)) (s : State) :
    endFold bond (a :: b :: ids) s = ((endOne bond s a).bind (fun s1 => endOne bond s1 b)).bind (endFold bond ids) := by
  rw [endFold_cons]
  cases endOne bond s a with
  | error e => rfl
  | ok s1 => simp only [Except.bind]; rw [endFold_cons]; rfl

theorem endFold_perm' (bond : Denom) {ids ids' : List (String × String)} (hp : ids.Perm ids') :
    (ids.map (fun i => i.1 ++ i.2)).Nodup → ∀ s : State, ResR (endFold bond ids s) (endFold bond ids' s) := by
  induction hp with
  | nil => intro _ s; exact ResR.refl _
  | cons x _ ih =>
    intro hnd s
    rw [endFold_cons, endFold_cons]
    have hnd' := hnd
    rw [List.map_cons, List.nodup_cons] at hnd'
    replace hnd' := hnd'.2
    exact ResR.bind (ResR.refl _) _ _ (fun a b hab => (endFold_congr bond _ hab).trans (ih hnd' b))
  | swap x y l =>
    intro hnd s
    rw [endFold_cons2, endFold_cons2]
    have hne : y.1 ++ y.2 ≠ x.1 ++ x.2 := by
      simp only [List.map_cons, List.nodup_cons, List.mem_cons, not_or] at hnd
      exact hnd.1.1
    have hc := endOne_comm' bond s y x hne
    exact ResR.bind hc (endFold bond l) (endFold bond l) (fun a b hab => endFold_congr bond l hab)
  | trans h12 _ ih1 ih2 =>
    intro hnd s
    have hnd2 := (h12.map (fun i => i.1 ++ i.2)).nodup_iff.mp hnd
    exact (ih1 hnd s).trans (ih2 hnd2 s)

end Shentu.Oracle
