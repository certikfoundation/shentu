import Shentu.Proofs.C09qStep
/-
  A specification function for `delayUnbonding` (Model/UbdQueue.lean) without the risky branches of the Go code (the wholesale
  removal of a one-pair slice without looking at it, the silent no-op when the pair is not found, the two panics), and one
  round of the loop: under the queue invariant `Inv` a round of the implementation model is a round of the specification
  (`delayStep_eq`), which is the step of `C09qStep` that re-times one entry (`moveOne_step`).
  The loop itself is in C09qDelay.
-/
namespace Shentu.UbdQueue.Spec
open Shentu.UbdQueue Shentu.UbdQueue.Store

/-- the slice of `t` loses the LAST occurrence of the pair; a slice that becomes empty disappears -/
def dropPair (q : List Slice) (p : Pair) (t : Int) : List Slice :=
  let sl := eraseLastP (· == p) (getSlice q t)
  if sl.isEmpty then removeSlice q t else setSlice q t sl

/-- the first entry completing at `t` gets the time `delayed` and moves behind the directly following entries that complete before it -/
def moveFirst : List Entry → Int → Int → List Entry
  | [], _, _ => []
  | e :: es, t, delayed => if e.t == t then bubble { e with t := delayed } es else e :: moveFirst es t delayed

/-- the balance of the first entry completing at `t` (0 if none) -/
def firstBal : List Entry → Int → Int
  | [], _ => 0
  | e :: es, t => if e.t == t then e.bal else firstBal es t

/-- one candidate (validator, time) of the provider is postponed -/
def moveOne (s : State) (p : String) (delayed : Int) (c : String × Int) : State :=
  { ubds := setUbd s.ubds p c.1 (moveFirst (getEntries s.ubds p c.1) c.2 delayed),
    queue := insertUBDQueue (dropPair s.queue (p, c.1) c.2) (p, c.1) delayed }

/-- candidates are postponed one after the other, latest slice first, while something remains to be covered;
    none = the candidates do not cover the amount -/
def specLoop (p : String) (delayed : Int) : List (String × Int) → Int → State → Option State
  | [], remaining, s => if remaining > 0 then none else some s
  | c :: cs, remaining, s =>
    if remaining ≤ 0 then some s
    else specLoop p delayed cs (remaining - firstBal (getEntries s.ubds p c.1) c.2) (moveOne s p delayed c)

def delaySpec (s : State) (p : String) (amount delayed : Int) : Option State :=
  specLoop p delayed (maturingByTime s.queue p delayed).reverse amount s

-- for the concrete examples, which compare results of `delayUnbonding` by `decide`
instance : DecidableEq (Except String State) := fun a b =>
  match a, b with
  | .ok x, .ok y => if h : x = y then isTrue (by rw [h]) else isFalse (by intro e; cases e; exact h rfl)
  | .error x, .error y => if h : x = y then isTrue (by rw [h]) else isFalse (by intro e; cases e; exact h rfl)
  | .ok _, .error _ => isFalse (by intro e; cases e)
  | .error _, .ok _ => isFalse (by intro e; cases e)

/-- a small state satisfying the invariant: the provider "p" has two entries with validator "v" (times 10 and 30), one with
    "w" (time 10); another delegator "d" has one with "v" at time 10 -/
def exS : State :=
  undelegate (undelegate (undelegate (undelegate {} "p" "v" 10 5) "d" "v" 10 2) "p" "w" 10 7) "p" "v" 30 4

theorem exS_inv : Inv exS :=
  undelegate_inv _ _ _ _ _ (undelegate_inv _ _ _ _ _ (undelegate_inv _ _ _ _ _ (undelegate_inv _ _ _ _ _ inv_empty)))

/-- when the pair is queued, `unqueueLast` is `dropPair`: a slice of one pair holds that pair -/
theorem unqueueLast_eq (q : List Slice) (p : Pair) (t : Int) (hm : p ∈ getSlice q t) : unqueueLast q p t = dropPair q p t := by
  obtain ⟨l1, l2, hl, he⟩ := eraseLastP_beq_spec _ hm
  have hany : (getSlice q t).any (· == p) = true := List.any_eq_true.mpr ⟨p, hm, by simp⟩
  have hlen : (getSlice q t).length > 1 ↔ (l1 ++ l2).isEmpty = false := by
    rw [hl]; cases l1 <;> cases l2 <;> simp <;> omega
  unfold unqueueLast dropPair
  simp only [he, hany, if_true]
  by_cases h : (getSlice q t).length > 1
  · rw [if_pos h, hlen.mp h]; rfl
  · have he' : (l1 ++ l2).isEmpty = true := by simpa using mt hlen.mpr h
    rw [if_neg h, he']; rfl

example : ("p", "v") ∈ getSlice exS.queue 10 := by decide

theorem dropPair_cut {q : List Slice} {pr : Pair} {T : Int} (hm : pr ∈ getSlice q T) : CutAt q (dropPair q pr T) pr T :=
  unqueueLast_eq q pr T hm ▸ unqueueLast_cut hm

theorem times_dropPair {q : List Slice} (h : q.Pairwise (fun x y => x.1 < y.1)) (pr : Pair) (T : Int) :
    (dropPair q pr T).Pairwise (fun x y => x.1 < y.1) := by
  unfold dropPair; dsimp only; split
  · exact times_removeSlice h _
  · exact times_setSlice h _ _

theorem bubble_perm (x : Entry) (es : List Entry) : (bubble x es).Perm (x :: es) :=
  insert_perm bubble (c := fun e x : Entry => e.t < x.t) (fun _ => rfl) (fun _ _ _ => rfl) x es

theorem moveFirst_spec {es : List Entry} {T : Int} (D : Int) (hex : 0 < es.countP (fun e => e.t == T)) :
    ∃ l1 e l2, es = l1 ++ e :: l2 ∧ e.t = T ∧ firstBal es T = e.bal ∧ (moveFirst es T D).Perm (l1 ++ ⟨D, e.bal⟩ :: l2) := by
  induction es with
  | nil => simp at hex
  | cons e es ih =>
    unfold moveFirst firstBal
    by_cases he : e.t = T
    · exact ⟨[], e, es, rfl, he, by simp [he], by simpa [he] using bubble_perm _ _⟩
    · obtain ⟨l1, e0, l2, hes, ht, hb, hp⟩ := ih (by simpa [List.countP_cons, he] using hex)
      exact ⟨e :: l1, e0, l2, by simp [hes], ht, by simpa [he] using hb, by simpa [he] using hp⟩

theorem retime_eq {es : List Entry} {T : Int} (D : Int) (hex : 0 < es.countP (fun e => e.t == T)) :
    retime es T D = some (moveFirst es T D, firstBal es T) := by
  induction es with
  | nil => simp at hex
  | cons e es ih =>
    unfold retime moveFirst firstBal
    by_cases he : e.t = T
    · simp [he]
    · simp [he, ih (by simpa [List.countP_cons, he] using hex)]

theorem retime_eq_none {es : List Entry} {T : Int} (D : Int) (h : es.countP (fun e => e.t == T) = 0) :
    retime es T D = none := by
  induction es with
  | nil => rfl
  | cons e es ih =>
    have he : ¬ e.t = T := fun e' => by simp [e'] at h
    unfold retime
    simp [he, ih (by simpa [List.countP_cons, he] using h)]

theorem balSum_filter_moveFirst (Q : Int → Bool) {es : List Entry} {T : Int} (D : Int)
    (hex : 0 < es.countP (fun e => e.t == T)) :
    balSum ((moveFirst es T D).filter (fun e => Q e.t)) + (if Q T then firstBal es T else 0)
      = balSum (es.filter (fun e => Q e.t)) + (if Q D then firstBal es T else 0) := by
  obtain ⟨l1, e, l2, hes, ht, hb, hp⟩ := moveFirst_spec D hex
  rw [balSum_perm (hp.filter _), hb, hes]
  simp only [List.filter_append, List.filter_cons, balSum_append]
  subst ht
  cases Q e.t <;> cases Q D <;> simp [balSum_cons] <;> omega

theorem delayStep_eq (s : State) (p : String) (D : Int) (c : String × Int) (h : Inv s) (hq : 0 < entriesAt s p c.1 c.2) :
    delayStep s p D c = .ok (moveOne s p D c, firstBal (getEntries s.ubds p c.1) c.2) := by
  have hne : (getEntries s.ubds p c.1).isEmpty = false := by
    unfold entriesAt at hq
    cases hh : getEntries s.ubds p c.1 with
    | nil => rw [hh] at hq; simp at hq
    | cons a b => rfl
  unfold delayStep
  dsimp only
  rw [unqueueLast_eq _ _ _ (h.queued_of_entry hq), retime_eq D hq]
  simp only [hne, Bool.false_eq_true, if_false]
  rfl

example : Inv exS ∧ ("p", ("v", (10 : Int)).1) ∈ getSlice exS.queue ("v", (10 : Int)).2 := ⟨exS_inv, by decide⟩

theorem moveOne_edit {s : State} {p : String} {c : String × Int} (D : Int) (hq : 0 < entriesAt s p c.1 c.2) :
    ∃ e ∈ getEntries s.ubds p c.1, e.t = c.2 ∧ firstBal (getEntries s.ubds p c.1) c.2 = e.bal ∧
      Edit s.ubds (moveOne s p D c).ubds p c.1 [e] [⟨D, e.bal⟩] := by
  obtain ⟨l1, e, l2, hes, ht, hb, hp⟩ := moveFirst_spec D hq
  have hne : (moveFirst (getEntries s.ubds p c.1) c.2 D).isEmpty = false := by
    cases h0 : moveFirst (getEntries s.ubds p c.1) c.2 D with
    | nil => rw [h0] at hp; simpa using hp.length_eq
    | cons _ _ => rfl
  have hm : (getEntries s.ubds p c.1).Perm (e :: (l1 ++ l2)) := hes ▸ List.perm_middle
  exact ⟨e, by rw [hes]; simp, ht, hb, _, setUbd_eq_setEntries _ _ _ hne,
    (((hp.trans List.perm_middle).cons e).trans (List.Perm.swap ..)).trans (hm.symm.cons _)⟩

theorem moveOne_entriesAt {s : State} {p : String} {c : String × Int} (D : Int) (hq : 0 < entriesAt s p c.1 c.2)
    (d v : String) (t : Int) :
    entriesAt (moveOne s p D c) d v t + (if t = c.2 ∧ (d, v) = (p, c.1) then 1 else 0)
      = entriesAt s d v t + (if t = D ∧ (d, v) = (p, c.1) then 1 else 0) := by
  obtain ⟨e, _, ht, _, ed⟩ := moveOne_edit D hq
  have := ed.countP (fun e => e.t == t) d v
  unfold entriesAt
  by_cases hk : (d, v) = (p, c.1) <;>
    simp only [atKey, hk, if_true, if_false, List.countP_cons, List.countP_nil, beq_iff_eq, ht, eq_comm (a := t), and_true,
      and_false] at this ⊢ <;> omega

theorem moveOne_step {s : State} {p : String} {c : String × Int} (D : Int) (h : Inv s) (hq : 0 < entriesAt s p c.1 c.2) :
    ∃ e ∈ getEntries s.ubds p c.1, e.t = c.2 ∧ firstBal (getEntries s.ubds p c.1) c.2 = e.bal ∧
      Step s (moveOne s p D c) p c.1 [e] [⟨D, e.bal⟩] := by
  obtain ⟨e, hm, ht, hb, ed⟩ := moveOne_edit D hq
  have hcut := dropPair_cut (h.queued_of_entry hq)
  refine ⟨e, hm, ht, hb, ed, times_insertUBDQueue (times_dropPair h.times _ _) _ _, fun d' v' t => ?_, fun f hf t => ?_⟩
  · show (getSlice (insertUBDQueue _ (p, c.1) D) t).count (d', v') + _ = _
    rw [count_insertUBDQueue, ← hcut.count (d', v') t]
    by_cases hx : (d', v') = (p, c.1) <;> by_cases h1 : c.2 = t <;> by_cases h2 : D = t <;>
      simp [atKey, hx, h1, h2, ht, eq_comm (a := t)] <;> omega
  · exact (filter_insertUBDQueue _ _ _ _ f hf).trans (hcut.filter f hf t)

theorem moveOne_inv (s : State) (p : String) (D : Int) (c : String × Int) (h : Inv s) (hq : 0 < entriesAt s p c.1 c.2) :
    Inv (moveOne s p D c) := by
  obtain ⟨_, _, _, _, st⟩ := moveOne_step D h hq
  exact st.inv h

/-- the hypotheses hold of the example state with the candidate ("w", 10), and the step moves the entry to 20 -/
example : Inv exS ∧ ("p", ("w", (10 : Int)).1) ∈ getSlice exS.queue ("w", (10 : Int)).2
    ∧ getEntries (moveOne exS "p" 20 ("w", 10)).ubds "p" "w" = [⟨20, 7⟩] := ⟨exS_inv, by decide, by decide⟩

/-- the hypothesis holds of the example state, and there both sides do something: the entry of ("p","w") at 10 is postponed -/
example : Inv exS ∧ delayUnbonding exS "p" 6 20 ≠ .ok exS ∧ (delayUnbonding exS "p" 6 20).isOk = true :=
  ⟨exS_inv, by decide, by decide⟩

/-- a stale pair of the provider (queued, no unbonding delegation at all) -/
def staleA : State := { ubds := [], queue := [(10, [("p", "v")])] }

/-- a stale pair of the provider (queued at 10, the only entry of the pair completes at 30) -/
def staleB : State := { ubds := [⟨"p", "v", [⟨30, 5⟩]⟩], queue := [(10, [("p", "v")]), (30, [("p", "v")])] }

/-- a stale pair of the provider in the latest slice, and a healthy pair in an earlier slice that covers the amount -/
def staleC : State := { ubds := [⟨"p", "w", [⟨5, 5⟩]⟩], queue := [(5, [("p", "w")]), (10, [("p", "v")])] }

/-- without the invariant they differ: the implementation panics with another message than "failed to delay enough unbondings",
    the only one `Delay.loop_eq_spec` leaves (the specification finds nothing to postpone for the stale pair and reports that
    the amount is not covered) -/
example : delayUnbonding staleA "p" 5 20 = .error "unbonding list was not found for the given provider-validator pair"
    ∧ delaySpec staleA "p" 5 20 = none := by decide +kernel

/-- without the invariant they differ: the other panic -/
example : delayUnbonding staleB "p" 5 20 = .error "particular unbonding entry not found for the given timestamp"
    ∧ delaySpec staleB "p" 5 20 = none := by decide +kernel

/-- without the invariant they differ: the implementation panics where the specification succeeds (it goes on to the
    healthy pair of the earlier slice) -/
example : delayUnbonding staleC "p" 5 20 = .error "unbonding list was not found for the given provider-validator pair"
    ∧ (delaySpec staleC "p" 5 20).isSome = true := by decide +kernel

theorem mem_bubble {x y : Entry} {es : List Entry} : y ∈ bubble x es ↔ y = x ∨ y ∈ es :=
  (bubble_perm x es).mem_iff.trans List.mem_cons

theorem bubble_sorted (x : Entry) (es : List Entry) (hs : es.Pairwise (fun a b => a.t ≤ b.t)) :
    (bubble x es).Pairwise (fun a b => a.t ≤ b.t) :=
  insert_pairwise bubble (c := fun e x : Entry => e.t < x.t) (R := fun a b : Entry => a.t ≤ b.t) (fun _ => rfl)
    (fun _ _ _ => rfl) Int.le_trans x es (fun y _ => by split <;> omega) hs

theorem mem_moveFirst {y : Entry} {es : List Entry} {t D : Int} (hy : y ∈ moveFirst es t D) :
    y ∈ es ∨ (y.t = D ∧ ∃ e ∈ es, e.t = t) := by
  induction es with
  | nil => simp [moveFirst] at hy
  | cons e es ih =>
    unfold moveFirst at hy
    by_cases he : e.t = t
    · have he' : (e.t == t) = true := by simpa using he
      simp only [he', if_true] at hy
      rcases mem_bubble.mp hy with h | h
      · right; subst h; exact ⟨rfl, e, by simp, he⟩
      · left; simp [h]
    · have he' : (e.t == t) = false := by simpa using he
      simp only [he', Bool.false_eq_true, if_false] at hy
      rcases List.mem_cons.mp hy with h | h
      · left; simp [h]
      · rcases ih h with h' | ⟨h1, e', h2, h3⟩
        · left; simp [h']
        · right; exact ⟨h1, e', by simp [h2], h3⟩

example : ([⟨10, 1⟩, ⟨10, 2⟩, ⟨15, 3⟩, ⟨30, 4⟩] : List Entry).Pairwise (fun a b => a.t ≤ b.t) ∧ (10 : Int) ≤ 20
    ∧ moveFirst [⟨10, 1⟩, ⟨10, 2⟩, ⟨15, 3⟩, ⟨30, 4⟩] 10 20 = [⟨10, 2⟩, ⟨15, 3⟩, ⟨20, 1⟩, ⟨30, 4⟩] := by decide

/-- `undelegate` with an earlier completion time than an existing entry breaks sortedness (the SDK appends) -/
example : getEntries (undelegate (undelegate {} "p" "v" 100 1) "p" "v" 50 1).ubds "p" "v" = [⟨100, 1⟩, ⟨50, 1⟩]
    ∧ ¬ (getEntries (undelegate (undelegate {} "p" "v" 100 1) "p" "v" 50 1).ubds "p" "v").Pairwise (fun a b => a.t ≤ b.t) := by
  decide

end Shentu.UbdQueue.Spec
