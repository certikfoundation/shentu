import Shentu.Model.CvmTx
import Shentu.Proofs.VmConserve
/-
  Sums over caches and address lists, the addresses the write-back of `CvmTx.tx` visits, and the cache as the VM loads it
  from the chain state (`loadWorld`).
-/
namespace Shentu.CvmTxH
open Shentu Shentu.EVM Shentu.CvmTx

theorem cacheBal_eq (w : World) (x : Nat) : cacheBal w x = balOf w x := rfl

theorem cast_sum {α : Type} (f : α → Nat) : ∀ (K : List α), (((K.map f).sum : Nat) : Int) = (K.map (fun x => (f x : Int))).sum := by
  intro K
  induction K with
  | nil => simp
  | cons x xs ih => simp only [List.map_cons, List.sum_cons, Int.natCast_add, ih]

theorem total_map_bal {α : Type} (f : α → Account) : ∀ (K : List α), total (K.map f) = (K.map (fun x => (f x).balance)).sum := by
  intro K
  induction K with
  | nil => simp [total_nil]
  | cons x xs ih => simp only [List.map_cons, total_cons, List.sum_cons, ih]

theorem mem_addrs_iff {w : World} {x : Nat} : x ∈ w.map (·.addr) ↔ World.get w x ≠ none := by
  rw [Ne, get_none_iff]; simp

theorem sum_balOf_cover : ∀ (K : List Nat) (w : World), Keyed w → K.Nodup → (∀ a ∈ w, a.addr ∈ K) →
    (K.map (balOf w)).sum = total w := by
  intro K
  induction K with
  | nil =>
    intro w _ _ hc
    cases w with
    | nil => simp [total_nil]
    | cons a w => exact absurd (hc a (by simp)) (by simp)
  | cons x K ih =>
    intro w hk hnd hc
    rw [List.nodup_cons] at hnd
    have hk' := keyed_del x hk
    have hc' : ∀ a ∈ w.del x, a.addr ∈ K := by
      intro a ha
      unfold World.del at ha
      obtain ⟨ha1, ha2⟩ := List.mem_filter.mp ha
      have hne : a.addr ≠ x := by simpa using ha2
      have := hc a ha1
      rcases List.mem_cons.mp this with h | h
      · exact absurd h hne
      · exact h
    have hrest : K.map (balOf w) = K.map (balOf (w.del x)) := by
      apply List.map_congr_left
      intro y hy
      have hne : y ≠ x := by intro e; subst e; exact hnd.1 hy
      exact (balOf_del_ne w x hne).symm
    simp only [List.map_cons, List.sum_cons]
    rw [hrest, ih (w.del x) hk' hnd.2 hc']
    have := total_del x hk
    omega

/-- the addresses the write-back visits after those of the store: the accounts of the cache that the store does not have -/
theorem mem_touched_new {st : Store} {w : World} {x : Nat} :
    x ∈ (w.filter (fun a => (World.get st a.addr).isNone)).map (·.addr) ↔ World.get st x = none ∧ World.get w x ≠ none := by
  rw [← mem_addrs_iff]
  simp only [List.mem_map, List.mem_filter, Option.isNone_iff_eq_none]
  constructor
  · rintro ⟨a, ⟨ha, hn⟩, rfl⟩; exact ⟨hn, a, ha, rfl⟩
  · rintro ⟨hn, a, ha, rfl⟩; exact ⟨a, ⟨ha, hn⟩, rfl⟩

theorem mem_touched {st : Store} {w : World} {x : Nat} : x ∈ touched st w ↔ (World.get st x ≠ none ∨ World.get w x ≠ none) := by
  unfold touched
  rw [List.mem_append, mem_addrs_iff, mem_touched_new]
  by_cases hs : World.get st x = none <;> simp [hs]

theorem not_mem_touched {st : Store} {w : World} {x : Nat} (h : x ∉ touched st w) :
    World.get st x = none ∧ World.get w x = none := by
  simpa [mem_touched, not_or] using h

theorem touched_cover (st : Store) (w : World) : ∀ a ∈ w, a.addr ∈ touched st w :=
  fun _ ha => mem_touched.mpr (.inr (mem_addrs_iff.mp (List.mem_map_of_mem ha)))

theorem touched_nodup {st : Store} {w : World} (hs : Keyed st) (hw : Keyed w) : (touched st w).Nodup := by
  unfold touched
  rw [List.nodup_append]
  refine ⟨hs, Shentu.Keyed.keys_remove_nodup (fun a : Account => a.addr) _ hw, ?_⟩
  intro x hx y hy e
  subst e
  exact mem_addrs_iff.mp hx (mem_touched_new.mp hy).1

theorem keyed_loadWorld (c : Cfg) (l : Ledger) {st : Store} (h : Keyed st) : Keyed (loadWorld c l st) := by
  unfold Keyed loadWorld
  rw [List.map_map]
  exact h

theorem total_loadWorld (c : Cfg) (l : Ledger) (st : Store) :
    total (loadWorld c l st) = (st.map (fun a => (l.balOf (c.nm a.addr) c.bond).toNat)).sum := by
  unfold loadWorld
  rw [total_map_bal]

theorem get_loadWorld (c : Cfg) (l : Ledger) (st : Store) (x : Nat) :
    World.get (loadWorld c l st) x = (World.get st x).map (fun a => { a with balance := (l.balOf (c.nm a.addr) c.bond).toNat }) :=
  List.find?_map ..

theorem get_preStore (st : Store) (m : Msg) (x : Nat) :
    World.get (preStore st m) x = if m.deploy = true ∧ m.callee = x then some { addr := m.callee } else World.get st x := by
  unfold preStore
  by_cases hd : m.deploy = true
  · rw [if_pos hd, get_cons]
    by_cases hx : m.callee = x <;> simp [hd, hx]
  · rw [if_neg hd]; simp [hd]

theorem installCode_balOf {m : Msg} {r : CallRes} {w : World} (h : installCode m r = some w) (x : Nat) :
    balOf w x = balOf r.world x := by
  unfold installCode at h
  split at h
  · split at h
    · rename_i acc hacc
      injection h with h
      subst h
      exact balOf_put_same (acc' := { acc with code := r.ret }) hacc rfl rfl x
    · cases h
  · injection h with h; subst h; rfl

end Shentu.CvmTxH
