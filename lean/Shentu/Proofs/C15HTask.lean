import Shentu.Proofs.OracleStep
import Shentu.Proofs.OracleEffect
/-
  For `Shentu/Props/C15H.lean`: what every oracle operation does to the task stored under a key.

  Tasks are looked up by `findTask s key` with `key = contract ++ function`.  `KeyStep`: in one successful operation the
  value of that lookup stays, is written by a task message for that key, or is finished by the end-blocker;
  `endOne_cases` says what the end-blocker does with one closing task (nothing, or a pending task is replaced by a
  finished copy, `Fin`, and reward increments are credited); `KStep` is that statement at one key, closed under composition.
-/
namespace Shentu.C15HH
open Shentu Shentu.Oracle

theorem endOne_cases {bond : Denom} {s s' : State} {id : String × String} (h : endOne bond s id = .ok s') :
    s' = s ∨ ∃ t t' incs, findTask s (id.1 ++ id.2) = some t ∧ t.status = 1 ∧ Fin t t' ∧
      s' = app (id.1 ++ id.2) (fun _ => t') incs s ∧
      (incs = [] ∨ ∃ t1, Fin t t1 ∧ distributeBountyE bond s t1 = .ok (incs, t')) := by
  obtain ⟨f, incs, he, rfl⟩ := endOne_app h
  rcases endOneE_cases he with ⟨rfl, rfl⟩ | ⟨t, t', hfs, hst, hfin, rfl, hc⟩
  · exact Or.inl (app_id _ s)
  · exact Or.inr ⟨t, t', incs, hfs, hst, hfin, rfl, hc⟩

/-- what the end-blocker does to the task under `k`: it is untouched (and `A`), or a pending task `t` became its finished
    copy (and `B t`).  `A` and `B` are what the caller carries along in the two cases — which key it was (`app_kstep`,
    `endFold_kstep`), or that a ghost record stayed against the bound by which it grew (`PStep` of `C15HRun`) — so that one
    transitivity, `KStep.trans`, serves every fold over the closing tasks -/
def KStep (A : Prop) (B : Task → Prop) (s s' : State) (k : String) : Prop :=
  (findTask s' k = findTask s k ∧ A) ∨
  ∃ t t', findTask s k = some t ∧ t.status = 1 ∧ findTask s' k = some t' ∧ Fin t t' ∧ B t

theorem KStep.mono {A A' : Prop} {B B' : Task → Prop} {s s' : State} {k : String} (ha : A → A') (hb : ∀ t, B t → B' t)
    (h : KStep A B s s' k) : KStep A' B' s s' k := by
  rcases h with ⟨h, a⟩ | ⟨t, t', h1, h2, h3, h4, b⟩
  · exact Or.inl ⟨h, ha a⟩
  · exact Or.inr ⟨t, t', h1, h2, h3, h4, hb t b⟩

/-- a finished task is not finished again: of two steps in a row at most one is a finish -/
theorem KStep.trans {A1 A2 A : Prop} {B1 B2 B : Task → Prop} {s s1 s2 : State} {k : String} (haa : A1 → A2 → A)
    (hab : ∀ t, A1 → B2 t → B t) (hba : ∀ t, B1 t → A2 → B t) (h1 : KStep A1 B1 s s1 k) (h2 : KStep A2 B2 s1 s2 k) :
    KStep A B s s2 k := by
  rcases h1 with ⟨h1, a1⟩ | ⟨t, t', ht, hst, ht', hfin, b1⟩
  · rcases h2 with ⟨h2, a2⟩ | ⟨t, t', ht, hst, ht', hfin, b2⟩
    · exact Or.inl ⟨h2.trans h1, haa a1 a2⟩
    · exact Or.inr ⟨t, t', by rw [← h1]; exact ht, hst, ht', hfin, hab t a1 b2⟩
  · rcases h2 with ⟨h2, a2⟩ | ⟨u, u', hu, hust, _, _, _⟩
    · exact Or.inr ⟨t, t', ht, hst, by rw [h2]; exact ht', hfin, hba t b1 a2⟩
    · rw [ht'] at hu; cases hu
      exact absurd hust hfin.not_pending

theorem app_kstep {s : State} {k0 : String} {t t' : Task} (hft : findTask s k0 = some t) (hst : t.status = 1) (hfin : Fin t t')
    (incs : List (Addr × Coins)) (k : String) :
    KStep (k ≠ k0) (fun u => k = k0 ∧ u = t) s (app k0 (fun _ => t') incs s) k := by
  rw [KStep, findTask_app (fun _ _ => hfin.key.trans (findTask_mem hft).2), hft]
  by_cases hk : k0 = k
  · rw [if_pos hk]; exact Or.inr ⟨t, t', hk ▸ hft, hst, rfl, hfin, hk.symm, rfl⟩
  · rw [if_neg hk]; exact Or.inl ⟨rfl, fun h => hk h.symm⟩

theorem endOne_kstep {bond : Denom} {s s' : State} {id : String × String} (h : endOne bond s id = .ok s') (k : String) :
    KStep True (fun _ => k = id.1 ++ id.2) s s' k := by
  rcases endOne_cases h with rfl | ⟨t, t', incs, hft, hst, hfin, rfl, _⟩
  · exact Or.inl ⟨rfl, trivial⟩
  · exact (app_kstep hft hst hfin incs k).mono (fun _ => trivial) fun _ h => h.1

theorem endFold_kstep {bond : Denom} (ids : List (String × String)) {s s' : State} (h : endFold bond ids s = .ok s') (k : String) :
    KStep True (fun _ => k ∈ ids.map (fun i => i.1 ++ i.2)) s s' k :=
  endFold_rel (I := fun _ => True) (R := fun a b => KStep True (fun _ => k ∈ ids.map (fun i => i.1 ++ i.2)) a b k)
    (fun _ => Or.inl ⟨rfl, trivial⟩) (KStep.trans (fun _ _ => trivial) (fun _ _ b => b) fun _ b _ => b) ids
    (fun _ hm _ _ _ h1 =>
      ⟨(endOne_kstep h1 k).mono id fun _ hk => hk ▸ List.mem_map_of_mem (f := fun i => i.1 ++ i.2) hm, trivial⟩)
    trivial h

/-- the task stored under `k` after one accepted operation: untouched, by an operation that is no task message for `k`;
    written by a task message for `k`; or finished by the end-blocker -/
inductive KeyStep (e : Env) (l l' : Ledger) (s s' : State) (k : String) (op : Op) : Prop
  | same (hf : findTask s' k = findTask s k) (hk : op.taskKey ≠ some k)
  | msg {new : Option Task} (hev : TaskEv e l l' s s' k op new) (hf : findTask s' k = new)
  | fin {t t' : Task} (hop : op = .endBlock) (hm : k ∈ (closingAt s e.h).map (fun i => i.1 ++ i.2))
      (ht : findTask s k = some t) (hst : t.status = 1) (ht' : findTask s' k = some t') (hfin : Fin t t')

theorem taskKey_of_sender {op : Op} {a : Addr} (h : op.sender = some a) : op.taskKey = none := by
  cases op <;> first | rfl | cases h

theorem _root_.Shentu.Oracle.TaskEv.taskKey {e : Env} {l l' : Ledger} {s s' : State} {k : String} {op : Op}
    {new : Option Task} (h : TaskEv e l l' s s' k op new) : op.taskKey = some k := by
  cases h with
  | respond hk => rw [hk]; rfl
  | delete hk => rw [hk]; rfl
  | create hk => rw [hk]; rfl

theorem stepE_keyStep {e : Env} {l l' : Ledger} {s s' : State} {op : Op} (h : stepE e l s op = .ok (l', s')) (k : String) :
    KeyStep e l l' s s' k op := by
  cases stepE_accepted h with
  | operator ha hm => exact .same (findTask_congr hm.frame.1 k) (by rw [taskKey_of_sender ha]; exact fun h' => nomatch h')
  | beginBlock _ hs => rw [hs]; exact .same rfl (fun h' => nomatch h')
  | endBlock _ hf hs =>
    rw [hs]
    rcases endFold_kstep _ hf k with ⟨h1, _⟩ | ⟨t, t', ht, hst, ht', hfin, hm⟩
    · exact .same h1 (fun h' => nomatch h')
    · exact .fin rfl hm ht hst ht' hfin
  | @task _ k0 _ hev =>
    have hf := hev.msg.findTask k
    by_cases hkk : k0 = k
    · subst hkk; rw [if_pos rfl] at hf; exact .msg hev hf
    · rw [if_neg hkk] at hf; exact .same hf (by rw [hev.taskKey]; exact fun h' => hkk (Option.some.inj h'))

end Shentu.C15HH

