import Shentu.Proofs.CoinsCanon
import Shentu.Proofs.ShieldCollBasic
import Shentu.Proofs.ShieldStores
import Shentu.Proofs.Guards

/-
  The operations of x/shield stated once, below every invariant.  For the operations on the collateral book (provider
  records, the withdrawal queue, their two totals): the state each of them leaves, by name, and each operation as an
  equation (`X_eq`) or as what an accepted call is (`X_ok`); the lookups in the provider store after a record was added.
  For the claim lock and its release: the state both leave (`shifted`: one entry of a purchase list rewritten, its shield
  moving together with pool and total), the release as one equation and as two cases (`restoreShield_eq`,
  `restoreShield_cases`).  What an operation may have written, the collateral book as a relation and the lock as a
  record over `shifted` are in `ShieldWrites`.
-/
namespace Shentu.Shield

/-- the state after `a` (record `p`) has asked to withdraw `amount` -/
def requested (e : Env) (s : State) (a : Addr) (amount : Int) (p : Provider) : State :=
  { setProvider { s with withdraws := insertWithdraw { addr := a, amount := amount, time := e.t + s.params.withdrawPeriod } s.withdraws }
      { p with withdrawing := p.withdrawing + amount } with totalWithdrawing := s.totalWithdrawing + amount }

/-- the state after the staking hooks have recorded the stake `staked` for the provider `p` -/
def rebonded (s : State) (p : Provider) (staked : Int) : State := setProvider s { p with bonded := staked }

/-- the state after `amount` has been added to the collateral of `p` -/
def deposited (s : State) (p : Provider) (amount : Int) : State :=
  { setProvider s { p with collateral := p.collateral + amount } with totalCollateral := s.totalCollateral + amount }

/-- the record a first deposit creates -/
def freshProvider (e : Env) (a : Addr) : Provider :=
  { addr := a, collateral := 0, withdrawing := 0, bonded := (e.bondedAfter a).getD 0, rewards := Dec.zero }

/-- the state after the record of a first deposit has been stored -/
def withFresh (e : Env) (s : State) (a : Addr) : State := { s with providers := insertProvider (freshProvider e a) s.providers }

/-- the provider's record as a deposit sees it: the stored one, or for a first deposit an empty one -/
def depositRecord (e : Env) (s : State) (a : Addr) : Provider := (findProvider s a).getD (freshProvider e a)

/-- the state after a deposit of `amt` by `a`; a first deposit first stores the empty record -/
def depositState (e : Env) (s : State) (a : Addr) (amt : Int) : State :=
  deposited { s with providers := if (findProvider s a).isSome then s.providers else (withFresh e s a).providers }
    (depositRecord e s a) amt

/-- how a payout is split: (the part of the purchased shield that already reaches into the withdrawals,
    the part of the payout taken from the collateral that is not being withdrawn) -/
def payoutSplit (free purchased payout : Int) : Int × Int :=
  if free ≥ purchased + payout then (0, payout)
  else if free ≥ purchased then (0, free - purchased)
  else (purchased - free, 0)

/-- the state after `payout` has been taken from `p`, `fw` of it from the queued withdrawals (now `q`) -/
def paidOut (s : State) (p : Provider) (payout fw : Int) (q : List Withdraw) : State :=
  setProvider { s with withdraws := q, totalWithdrawing := s.totalWithdrawing - fw }
    { p with collateral := p.collateral - payout, withdrawing := p.withdrawing - fw }

theorem withdrawCollateral_eq (e : Env) (s : State) (a : Addr) (amount : Int) :
    withdrawCollateral e s a amount =
      if amount == 0 then .ok s
      else match findProvider s a with
        | none => err "shield:provider-not-found"
        | some p => if amount > p.collateral - p.withdrawing then err "shield:over-withdraw" else .ok (requested e s a amount p) :=
  rfl

theorem withdrawCollateral_ok {e : Env} {s s' : State} {a : Addr} {amount : Int}
    (h : withdrawCollateral e s a amount = .ok s') :
    (amount = 0 ∧ s' = s) ∨
    (amount ≠ 0 ∧ ∃ p, findProvider s a = some p ∧ amount ≤ p.collateral - p.withdrawing ∧ s' = requested e s a amount p) := by
  rw [withdrawCollateral_eq] at h
  by_cases h0 : (amount == 0) = true
  · rw [if_pos h0] at h; cases h; exact .inl ⟨by simpa using h0, rfl⟩
  · rw [if_neg h0] at h
    cases hf : findProvider s a with
    | none => rw [hf] at h; cases h
    | some p =>
      rw [hf] at h
      obtain ⟨hle, h⟩ := of_guard h
      cases h
      exact .inr ⟨by simpa using h0, p, rfl, Int.not_lt.mp hle, rfl⟩

theorem withdrawCollateral_succeeds_iff (e : Env) (s : State) (a : Addr) (amount : Int) (h0 : amount ≠ 0) :
    (∃ s', withdrawCollateral e s a amount = .ok s') ↔
      ∃ p, findProvider s a = some p ∧ amount ≤ p.collateral - p.withdrawing := by
  constructor
  · intro ⟨s', h⟩
    rcases withdrawCollateral_ok h with ⟨h1, _⟩ | ⟨_, p, hf, hle, _⟩
    · exact absurd h1 h0
    · exact ⟨p, hf, hle⟩
  · intro ⟨p, hf, hle⟩
    rw [withdrawCollateral_eq, if_neg (by simpa using h0), hf]
    exact ⟨_, if_neg (Int.not_lt.mpr hle)⟩

theorem withdraw_eq (e : Env) (s : State) (a : Addr) (coins : Coins) :
    withdraw e s a coins =
      if !Coins.isAllPositive coins then err "basic:shield:invalid-coins"
      else if (Coins.denoms coins).any (· != e.bond) then err "shield:bad-denom"
      else withdrawCollateral e s a (Coins.amountOf coins e.bond) := rfl

theorem withdraw_ok {e : Env} {s s' : State} {a : Addr} {coins : Coins} (h : withdraw e s a coins = .ok s') :
    0 < Coins.amountOf coins e.bond ∧ withdrawCollateral e s a (Coins.amountOf coins e.bond) = .ok s' := by
  rw [withdraw_eq] at h
  obtain ⟨h1, h⟩ := of_guard h
  obtain ⟨h2, h⟩ := of_guard h
  exact ⟨Coins.amountOf_pos_of_allPositive coins e.bond (by simpa using h1) (by simpa using h2), h⟩

theorem stakingHook_eq (e : Env) (s : State) (a : Addr) (staked : Int) :
    stakingHook e s a staked =
      match findProvider s a with
      | none => .ok s
      | some p =>
        if p.collateral - p.withdrawing - staked > 0 then
          match withdrawCollateral e (rebonded s p staked) a (p.collateral - p.withdrawing - staked) with
          | .ok s2 => .ok s2
          | .error _ => panicE "shield:forced-withdraw"
        else .ok (rebonded s p staked) := rfl

theorem findProvider_rebonded {s : State} {a : Addr} {p : Provider} (hf : findProvider s a = some p) (staked : Int) :
    findProvider (rebonded s p staked) a = some { p with bonded := staked } :=
  (Keyed.find_replace_some Provider.addr hf { p with bonded := staked } rfl a).trans (if_pos rfl)

/-! The staking hook in both directions, by what the provider store holds under `a`.  The three names below are called
    `Limit.…` by `ShieldLimitLemmas` and `Props/C06` (purchase limits and hooks), so they keep that namespace; they stand
    here because every other reading of the hook (`stakingHook_spec`, `stakingHook_ok`, the totality of the payout loop)
    is a corollary of them. -/

namespace Limit

/-- the state after the staking hook had to force a withdrawal of the shortfall -/
def forcedState (e : Env) (s : State) (a : Addr) (p : Provider) (staked : Int) : State :=
  requested e (rebonded s p staked) a (p.collateral - p.withdrawing - staked) { p with bonded := staked }

/-- the forced request asks for the whole shortfall, which is more than can be withdrawn exactly when `staked < 0` -/
theorem forced_eq {e : Env} {s : State} {a : Addr} {staked : Int} {p : Provider} (hp : findProvider s a = some p)
    (hw : p.collateral - p.withdrawing - staked > 0) :
    withdrawCollateral e (rebonded s p staked) a (p.collateral - p.withdrawing - staked) =
      if staked < 0 then err "shield:over-withdraw" else .ok (forcedState e s a p staked) := by
  have hw0 : (p.collateral - p.withdrawing - staked == 0) = false := by
    rw [beq_eq_false_iff_ne]; omega
  rw [withdrawCollateral_eq]
  simp only [hw0, Bool.false_eq_true, if_false, findProvider_rebonded hp staked]
  by_cases hs : staked < 0
  · have : p.collateral - p.withdrawing - staked > p.collateral - p.withdrawing := by omega
    simp only [this, if_true, hs]
  · have : ¬ p.collateral - p.withdrawing - staked > p.collateral - p.withdrawing := by omega
    simp only [this, if_false, hs]
    rfl

theorem stakingHook_none (e : Env) (s : State) (a : Addr) (staked : Int) (hp : findProvider s a = none) :
    stakingHook e s a staked = .ok s := by
  rw [stakingHook_eq, hp]

theorem stakingHook_some (e : Env) (s : State) (a : Addr) (staked : Int) (p : Provider) (hp : findProvider s a = some p) :
    stakingHook e s a staked =
      if p.collateral - p.withdrawing - staked > 0 then
        (if staked < 0 then panicE "shield:forced-withdraw" else .ok (forcedState e s a p staked))
      else .ok (setProvider s { p with bonded := staked }) := by
  rw [stakingHook_eq, hp]
  dsimp only
  split
  · rename_i hw
    rw [forced_eq hp hw]
    by_cases hs : staked < 0
    · rw [if_pos hs, if_pos hs]; rfl
    · rw [if_neg hs, if_neg hs]
  · rfl

end Limit

theorem stakingHook_spec (e : Env) (s s' : State) (a : Addr) (staked : Int) (h : stakingHook e s a staked = .ok s') :
    (findProvider s a = none ∧ s' = s) ∨
    (∃ p, findProvider s a = some p ∧
      ((p.collateral - p.withdrawing - staked ≤ 0 ∧ s' = rebonded s p staked) ∨
       (0 < p.collateral - p.withdrawing - staked ∧ 0 ≤ staked ∧
         s' = requested e (rebonded s p staked) a (p.collateral - p.withdrawing - staked) { p with bonded := staked }))) := by
  cases hf : findProvider s a with
  | none => rw [Limit.stakingHook_none e s a staked hf] at h; cases h; exact .inl ⟨rfl, rfl⟩
  | some p =>
    rw [Limit.stakingHook_some e s a staked p hf] at h
    refine .inr ⟨p, rfl, ?_⟩
    split at h
    · rename_i hw
      split at h
      · cases h
      · cases h; exact .inr ⟨hw, by omega, rfl⟩
    · cases h; exact .inl ⟨by omega, rfl⟩

theorem stakingHook_ok {e : Env} {s s' : State} {a : Addr} {staked : Int} (h : stakingHook e s a staked = .ok s') :
    (findProvider s a = none ∧ s' = s) ∨ ∃ p, findProvider s a = some p ∧
      ((p.collateral - p.withdrawing - staked ≤ 0 ∧ s' = rebonded s p staked) ∨
       (0 < p.collateral - p.withdrawing - staked ∧
         withdrawCollateral e (rebonded s p staked) a (p.collateral - p.withdrawing - staked) = .ok s')) := by
  obtain h1 | ⟨p, hf, h1 | ⟨hw, hst, rfl⟩⟩ := stakingHook_spec e s s' a staked h
  · exact .inl h1
  · exact .inr ⟨p, hf, .inl h1⟩
  · exact .inr ⟨p, hf, .inr ⟨hw, (Limit.forced_eq hf hw).trans (if_neg (by omega))⟩⟩

theorem stakingChanged_none {e : Env} {a : Addr} (s : State) (hb : e.bondedAfter a = none) : stakingChanged e s a = .ok s := by
  unfold stakingChanged; rw [hb]

theorem stakingChanged_some {e : Env} {a : Addr} {b : Int} (s : State) (hb : e.bondedAfter a = some b) :
    stakingChanged e s a = stakingHook e s a b := by
  unfold stakingChanged; rw [hb]

theorem stakingChanged_ok {e : Env} {s s' : State} {a : Addr} (h : stakingChanged e s a = .ok s') :
    s' = s ∨ ∃ b, stakingHook e s a b = .ok s' := by
  cases hb : e.bondedAfter a with
  | none => rw [stakingChanged_none s hb] at h; cases h; exact .inl rfl
  | some b => rw [stakingChanged_some s hb] at h; exact .inr ⟨b, h⟩

theorem deposit_eq (e : Env) (s : State) (a : Addr) (coins : Coins) :
    deposit e s a coins =
      if !Coins.isAllPositive coins then err "basic:shield:invalid-coins"
      else if (Coins.denoms coins).any (· != e.bond) then err "shield:bad-denom"
      else if (depositRecord e s a).bonded <
          (depositRecord e s a).collateral + Coins.amountOf coins e.bond - (depositRecord e s a).withdrawing then
        err "shield:insufficient-staking"
      else .ok (depositState e s a (Coins.amountOf coins e.bond)) := by
  cases hf : findProvider s a with
  | some p => simp only [deposit, depositState, depositRecord, hf, Option.getD_some, Option.isSome_some, if_true]; rfl
  | none =>
    simp only [deposit, depositState, depositRecord, hf, Option.getD_none, Option.isSome_none, Bool.false_eq_true, if_false]
    rfl

theorem deposit_ok {e : Env} {s s' : State} {a : Addr} {coins : Coins} (h : deposit e s a coins = .ok s') :
    0 < Coins.amountOf coins e.bond ∧
    ((∃ p, findProvider s a = some p ∧ p.collateral + Coins.amountOf coins e.bond - p.withdrawing ≤ p.bonded ∧
        s' = deposited s p (Coins.amountOf coins e.bond)) ∨
     (findProvider s a = none ∧ Coins.amountOf coins e.bond ≤ (e.bondedAfter a).getD 0 ∧
        s' = deposited (withFresh e s a) (freshProvider e a) (Coins.amountOf coins e.bond))) := by
  rw [deposit_eq] at h
  obtain ⟨h1, h⟩ := of_guard h
  obtain ⟨h2, h⟩ := of_guard h
  obtain ⟨hb, h⟩ := of_guard h
  cases h
  refine ⟨Coins.amountOf_pos_of_allPositive coins e.bond (by simpa using h1) (by simpa using h2), ?_⟩
  unfold depositState depositRecord at *
  cases hf : findProvider s a with
  | some p => rw [hf] at hb; exact .inl ⟨p, rfl, Int.not_lt.mp hb, rfl⟩
  | none =>
    rw [hf] at hb
    exact .inr ⟨rfl, by have := Int.not_lt.mp hb; simp only [Option.getD_none, freshProvider] at this; omega, rfl⟩

theorem find_insertProvider_self (p : Provider) (l : List Provider) (h : l.find? (·.addr == p.addr) = none) :
    (insertProvider p l).find? (·.addr == p.addr) = some p := by
  induction l with
  | nil => simp [insertProvider]
  | cons x xs ih =>
    have hx : (x.addr == p.addr) = false := by
      cases hxa : x.addr == p.addr with
      | false => rfl
      | true => rw [List.find?_cons_of_pos (by simpa using hxa)] at h; cases h
    unfold insertProvider
    split
    · simp
    · rw [List.find?_cons_of_neg (by simp [hx])]
      exact ih (by rw [List.find?_cons_of_neg (by simp [hx])] at h; exact h)

theorem withFresh_nodup {e : Env} {s : State} {a : Addr} (hn : (s.providers.map (·.addr)).Nodup)
    (hf : findProvider s a = none) : ((withFresh e s a).providers.map (·.addr)).Nodup := by
  show ((insertProvider _ _).map _).Nodup
  rw [((Coll.insertProvider_perm _ _).map _).nodup_iff, List.map_cons, List.nodup_cons]
  refine ⟨?_, hn⟩
  intro hm
  obtain ⟨x, hx, he⟩ := List.mem_map.mp hm
  exact Coll.findProvider_none hf x hx he

theorem find_insertProvider_ne (p : Provider) (l : List Provider) (b : Addr) (hb : b ≠ p.addr) :
    (insertProvider p l).find? (·.addr == b) = l.find? (·.addr == b) := by
  have hpb : (p.addr == b) = false := by simpa using fun h => hb h.symm
  induction l with
  | nil => simp [insertProvider, hpb]
  | cons x xs ih =>
    unfold insertProvider
    split
    · rw [List.find?_cons_of_neg (by simp [hpb])]
    · simp only [List.find?_cons, ih]

theorem updateProviderForPayout_ok (s s' : State) (a : Addr) (purchased payout : Int)
    (h : updateProviderForPayout s a purchased payout = .ok s') :
    ∃ p q, findProvider s a = some p ∧
      payoutWithdrawLoop (s.withdraws.filter (·.addr == a)).reverse
        (payoutSplit (p.collateral - p.withdrawing) purchased payout).1
        (payout - (payoutSplit (p.collateral - p.withdrawing) purchased payout).2) s.withdraws = .ok q ∧
      s' = paidOut s p payout (payout - (payoutSplit (p.collateral - p.withdrawing) purchased payout).2) q := by
  unfold updateProviderForPayout at h
  cases hf : findProvider s a with
  | none => rw [hf] at h; cases h
  | some p =>
    rw [hf] at h
    dsimp only at h
    split at h
    · cases h
    · rename_i q hq; cases h; exact ⟨p, q, rfl, hq, rfl⟩

theorem delayWithdraws_ok {s s' : State} {a : Addr} {amt u : Int} (h : delayWithdraws s a amt u = .ok s') :
    ∃ q, delayLoop a u (s.withdraws.filter (fun w => w.time ≤ u && w.addr == a)).reverse amt s.withdraws = .ok q ∧
      s' = { s with withdraws := q } := by
  unfold delayWithdraws at h
  dsimp only at h
  split at h
  · cases h
  · rename_i q hq; cases h; exact ⟨q, hq, rfl⟩

theorem secureFromProvider_ok {e : Env} {s s' : State} {p : Provider} {amount duration : Int}
    (h : secureFromProvider e s p amount duration = .ok s') :
    s' = s ∨ ∃ amt, delayWithdraws s p.addr amt (e.t + duration) = .ok s' := by
  unfold secureFromProvider at h
  split at h
  · cases h; exact .inl rfl
  · dsimp only at h
    split at h
    · exact .inr ⟨_, h⟩
    · cases h; exact .inl rfl

theorem createReimbursement_ok (e : Env) (l l' : Ledger) (s s' : State) (pid : Nat) (amount : Int) (b : Addr)
    (h : createReimbursement e l s pid amount b = .ok (l', s')) :
    ∃ left s1, s.totalCollateral ≠ 0 ∧
      reimburseLoop e (Dec.quo (Dec.ofInt s.totalShield) (Dec.ofInt s.totalCollateral))
        (Dec.quo (Dec.ofInt amount) (Dec.ofInt s.totalCollateral)) s.providers s.totalShield amount l s = .ok (left, l', s1) ∧
      left ≤ 0 ∧
      s' = { s1 with reimbs := (s1.reimbs.filter (·.pid != pid)) ++
                        [{ pid := pid, amount := amount, beneficiary := b, payoutTime := e.t + s.params.payoutPeriod }],
                     totalCollateral := s.totalCollateral - amount, totalClaimed := s1.totalClaimed - amount } := by
  unfold createReimbursement at h
  obtain ⟨hc, h⟩ := of_guard h
  dsimp only at h
  generalize reimburseLoop _ _ _ _ _ _ _ _ = r at h
  obtain _ | ⟨left, l1, s1⟩ := r
  · cases h
  obtain ⟨hleft, h⟩ := of_guard h
  injection h with h; injection h with h1 h2; subst h1 h2
  exact ⟨left, s1, by simpa using hc, rfl, by omega, rfl⟩

/-- pool, purchase list and total after the first entry with id `id` of `lst` has been rewritten by `f`, its shield moving
    by `d`: the state a claim lock (`d = -loss`) and its release (`d = loss`) leave, the lock up to the delayed queue -/
def shifted (s : State) (pool : Pool) (lst : PList) (id : Nat) (f : Purchase → Purchase) (d : Int) : State :=
  { s with
    totalShield := s.totalShield + d,
    pools := s.pools.map (fun x => if x.id == pool.id then { pool with shield := pool.shield + d } else x),
    lists := (setList s { lst with entries := replaceFirst (·.id == id) f lst.entries }).lists }

theorem restoreShield_eq (s : State) (poolID : Nat) (purchaser : Addr) (id : Nat) (loss : Int) :
    restoreShield s poolID purchaser id loss =
      match findPool s poolID, findList s poolID purchaser with
      | some pool, some lst =>
        if lst.entries.any (·.id == id) then shifted s pool lst id (fun x => { x with shield := x.shield + loss }) loss else s
      | _, _ => s := by
  unfold restoreShield
  cases findPool s poolID with
  | none => rfl
  | some pool =>
    cases findList s poolID purchaser with
    | none => rfl
    | some lst =>
      dsimp only
      cases lst.entries.any (·.id == id) with
      | false => rfl
      | true => exact PoolLm.setList_of_lists (s0 := s) _ rfl

namespace PoolLm

theorem restoreShield_some {s : State} {poolID : Nat} {purchaser : Addr} {id : Nat} {loss : Int} {pool : Pool} {lst : PList} {en : Purchase}
    (hfp : findPool s poolID = some pool) (hfl : findList s poolID purchaser = some lst)
    (hen : lst.entries.find? (·.id == id) = some en) :
    restoreShield s poolID purchaser id loss =
      shifted s pool lst id (fun x => { x with shield := x.shield + loss }) loss := by
  rw [restoreShield_eq, hfp, hfl]
  exact if_pos (List.any_eq_true.mpr ⟨en, List.mem_of_find?_eq_some hen, List.find?_some hen⟩)

theorem restoreShield_none {s : State} {poolID : Nat} {purchaser : Addr} {id : Nat} {loss : Int}
    (h : findPool s poolID = none ∨ findList s poolID purchaser = none ∨
      ∃ lst, findList s poolID purchaser = some lst ∧ lst.entries.find? (·.id == id) = none) :
    restoreShield s poolID purchaser id loss = s := by
  rw [restoreShield_eq]
  rcases h with h | h | ⟨lst, hfl, hnone⟩
  · rw [h]
  · rw [h]; cases findPool s poolID <;> rfl
  · rw [hfl]
    cases findPool s poolID with
    | none => rfl
    | some pool =>
      dsimp only
      cases hany : lst.entries.any (·.id == id) with
      | false => rfl
      | true =>
        obtain ⟨x, hx, hpx⟩ := List.any_eq_true.mp hany
        exact absurd hpx (List.find?_eq_none.mp hnone x hx)

theorem restoreShield_cases (s : State) (poolID : Nat) (purchaser : Addr) (id : Nat) (loss : Int) :
    restoreShield s poolID purchaser id loss = s ∨
    ∃ pool lst en, findPool s poolID = some pool ∧ findList s poolID purchaser = some lst ∧
      lst.entries.find? (·.id == id) = some en ∧
      restoreShield s poolID purchaser id loss = shifted s pool lst id (fun x => { x with shield := x.shield + loss }) loss := by
  cases hfp : findPool s poolID with
  | none => exact .inl (restoreShield_none (.inl hfp))
  | some pool =>
    cases hfl : findList s poolID purchaser with
    | none => exact .inl (restoreShield_none (.inr (.inl hfl)))
    | some lst =>
      cases hen : lst.entries.find? (·.id == id) with
      | none => exact .inl (restoreShield_none (.inr (.inr ⟨lst, hfl, hen⟩)))
      | some en => exact .inr ⟨pool, lst, en, rfl, rfl, hen, restoreShield_some hfp hfl hen⟩

end PoolLm

end Shentu.Shield
