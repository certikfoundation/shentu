import Shentu.Proofs.ShieldMachine
import Shentu.Props.C05
/-
  Helper definitions and lemmas for Shentu/Props/C05H.lean (shield claims over histories): the message-level history
  model — `Msg` (the messages, hooks and block functions of the shield module, passed through to `C03a.step`), `HOp`
  (`accept`, `ends`, `msg`), the ghost log `Ghost` of open and ended claims, `hstep`, `hrun` — and the two facts the
  property theorems stand on: `hstep_delta` (every step leaves log and lock alone, or opens one fresh claim and locks its
  loss, or closes one open claim and releases its loss) and the invariant `Inv` (lock = sum of the open losses, no
  proposal id twice).
-/
namespace Shentu.C05H
open Shentu Shentu.Shield

/-- ghost record of an accepted claim proposal: what governance stores in the proposal (pool, proposer, purchase, loss)
    plus the block time and the initial deposit of the submission -/
structure Claim where
  pid : Nat
  pool : Nat
  holder : Addr
  purchase : Nat
  loss : Int
  time : Int
  deposit : Int
  deriving DecidableEq, Repr

/-- the ghost log: the claims accepted and not yet ended (newest first), and the proposal ids of the ended ones -/
structure Ghost where
  pending : List Claim
  ended : List Nat
  deriving DecidableEq, Repr

/-- has this proposal id been used before (by an open or by an ended claim)? -/
def Ghost.usedPid (g : Ghost) (pid : Nat) : Bool := g.pending.any (·.pid == pid) || g.ended.contains pid

/-- bank ledger, shield store, ghost log -/
structure HState where
  l : Ledger
  s : State
  g : Ghost

/-- the messages, hooks and block functions of the shield module other than the claim flow -/
inductive Msg where
  | deposit (e : Env) (a : Addr) (coins : Coins)
  | withdraw (e : Env) (a : Addr) (coins : Coins)
  | stakingChanged (e : Env) (a : Addr)
  | purchase (e : Env) (poolID : Nat) (shield : Coins) (purchaser : Addr) (staking : Bool)
  | createPool (e : Env) (creator : Addr) (shield fees : Coins) (sponsor : String) (sponsorAddr : Addr) (limit : Int)
  | updatePool (e : Env) (updater : Addr) (poolID : Nat) (shield fees : Coins) (limit : Int)
  | pausePool (updater : Addr) (poolID : Nat) (active : Bool)
  | updateSponsor (updater : Addr) (poolID : Nat) (sponsor : String) (sponsorAddr : Addr)
  | unstake (e : Env) (poolID : Nat) (purchaser : Addr) (coins : Coins)
  | withdrawRewards (e : Env) (a : Addr)
  | withdrawReimbursement (e : Env) (pid : Nat) (a : Addr)
  | endBlock (e : Env)
  | fundBlockRewards (e : Env) (sender : Addr) (amount : Int)

/-- the operation of `C03a` a message stands for -/
def Msg.toOp : Msg → Props.C03a.Op
  | .deposit e a c => .deposit e a c
  | .withdraw e a c => .withdraw e a c
  | .stakingChanged e a => .stakingChanged e a
  | .purchase e p sh a st => .purchase e p sh a st
  | .createPool e c sh f sp spa lim => .createPool e c sh f sp spa lim
  | .updatePool e u p sh f lim => .updatePool e u p sh f lim
  | .pausePool u p act => .pausePool u p act
  | .updateSponsor u p sp spa => .updateSponsor u p sp spa
  | .unstake e p a c => .unstake e p a c
  | .withdrawRewards e a => .withdrawRewards e a
  | .withdrawReimbursement e pid a => .withdrawReimbursement e pid a
  | .endBlock e => .endBlock e
  | .fundBlockRewards e a amt => .fundBlockRewards e a amt

/-- one entry of a message-level history -/
inductive HOp where
  /-- a claim proposal is submitted: admission check, then the lock -/
  | accept (e : Env) (pid pool : Nat) (holder : Addr) (purchase : Nat) (loss duration deposit : Int)
  /-- governance's end-blocker ends proposal `pid` with outcome `o` -/
  | ends (e : Env) (pid : Nat) (o : ClaimOutcome)
  | msg (m : Msg)

/-- `accept`: a proposal id that was used before, a refused admission or a refused lock leave everything unchanged;
    otherwise the lock is taken and the claim is entered in the log -/
def acceptStep (e : Env) (pid pool : Nat) (holder : Addr) (purchase : Nat) (loss dur deposit : Int) (x : HState) : HState :=
  if x.g.usedPid pid then x
  else match claimAdmissible x.s e.t holder pool purchase loss deposit with
    | some _ => x
    | none =>
      match secureCollaterals e x.s pool holder purchase loss dur with
      | .error _ => x
      | .ok s' =>
        { x with s := s',
                 g := { x.g with pending := { pid := pid, pool := pool, holder := holder, purchase := purchase, loss := loss,
                                              time := e.t, deposit := deposit } :: x.g.pending } }

/-- `ends`: nothing happens for a proposal id that is not open; otherwise `claimEnds` runs with the pool, proposer,
    purchase and loss RECORDED at acceptance (the proposer is both the holder the shield is restored to and the
    beneficiary of a payout).  When `claimEnds` refuses, or the outcome is `failed`, the claim stays in the log. -/
def endsStep (e : Env) (pid : Nat) (o : ClaimOutcome) (x : HState) : HState :=
  match x.g.pending.find? (·.pid == pid) with
  | none => x
  | some c =>
    match claimEnds e x.l x.s pid c.pool c.holder c.holder c.purchase c.loss o with
    | .error _ => x
    | .ok (l', s') =>
      if o = .failed then { x with l := l', s := s' }
      else { l := l', s := s', g := { pending := x.g.pending.filter (·.pid != pid), ended := pid :: x.g.ended } }

def hstep (op : HOp) (x : HState) : HState :=
  match op with
  | .accept e pid pool holder purchase loss dur deposit => acceptStep e pid pool holder purchase loss dur deposit x
  | .ends e pid o => endsStep e pid o x
  | .msg m => let w := Props.C03a.step m.toOp (x.l, x.s); { x with l := w.1, s := w.2 }

def hrun (ops : List HOp) (x : HState) : HState := ops.foldl (fun x op => hstep op x) x

theorem hrun_nil (x : HState) : hrun [] x = x := rfl
theorem hrun_cons (op : HOp) (ops : List HOp) (x : HState) : hrun (op :: ops) x = hrun ops (hstep op x) := rfl
theorem hrun_append (a b : List HOp) (x : HState) : hrun (a ++ b) x = hrun b (hrun a x) := by
  unfold hrun; rw [List.foldl_append]

def sumLoss (l : List Claim) : Int := sumI (·.loss) l

@[simp] theorem sumLoss_nil : sumLoss [] = 0 := rfl
@[simp] theorem sumLoss_cons (c : Claim) (l : List Claim) : sumLoss (c :: l) = c.loss + sumLoss l := by
  simp [sumLoss, sumI]

theorem msg_totalClaimed (m : Msg) (l : Ledger) (s : State) :
    (Props.C03a.step m.toOp (l, s)).2.totalClaimed = s.totalClaimed :=
  (Props.C03a.step_untouched m.toOp (l, s)).claimed (by cases m <;> rfl)

/-- what a step of a history does to the ghost log and to `totalClaimed`: nothing; or one claim with a FRESH proposal
    id is opened and its loss locked; or one OPEN claim is closed and its loss released -/
inductive Delta (x y : HState) : Prop where
  | same (hg : y.g = x.g) (htc : y.s.totalClaimed = x.s.totalClaimed)
  | locked (c : Claim) (hfresh : x.g.usedPid c.pid = false) (hp : y.g.pending = c :: x.g.pending)
      (he : y.g.ended = x.g.ended) (htc : y.s.totalClaimed = x.s.totalClaimed + c.loss)
  | released (c : Claim) (hfind : x.g.pending.find? (·.pid == c.pid) = some c)
      (hp : y.g.pending = x.g.pending.filter (·.pid != c.pid)) (he : y.g.ended = c.pid :: x.g.ended)
      (htc : y.s.totalClaimed = x.s.totalClaimed - c.loss)

theorem acceptStep_cases (e : Env) (pid pool : Nat) (holder : Addr) (purchase : Nat) (loss dur deposit : Int) (x : HState) :
    acceptStep e pid pool holder purchase loss dur deposit x = x ∨
    (x.g.usedPid pid = false ∧ claimAdmissible x.s e.t holder pool purchase loss deposit = none ∧
      ∃ s', secureCollaterals e x.s pool holder purchase loss dur = .ok s' ∧
        acceptStep e pid pool holder purchase loss dur deposit x =
          { x with s := s',
                   g := { x.g with pending := { pid := pid, pool := pool, holder := holder, purchase := purchase, loss := loss,
                                                time := e.t, deposit := deposit } :: x.g.pending } }) := by
  unfold acceptStep
  split
  · exact Or.inl rfl
  · rename_i hu
    split
    · exact Or.inl rfl
    · rename_i hadm
      split
      · exact Or.inl rfl
      · rename_i s' hs
        exact Or.inr ⟨by simpa using hu, hadm, s', hs, rfl⟩

theorem endsStep_cases (e : Env) (pid : Nat) (o : ClaimOutcome) (x : HState) :
    endsStep e pid o x = x ∨
    (o ≠ .failed ∧ ∃ c l' s', x.g.pending.find? (·.pid == pid) = some c ∧
      claimEnds e x.l x.s pid c.pool c.holder c.holder c.purchase c.loss o = .ok (l', s') ∧
      endsStep e pid o x = { l := l', s := s', g := { pending := x.g.pending.filter (·.pid != pid), ended := pid :: x.g.ended } }) := by
  unfold endsStep
  split
  · exact Or.inl rfl
  · rename_i c hc
    split
    · exact Or.inl rfl
    · rename_i l' s' hce
      split
      · rename_i ho
        subst ho
        have := Props.C05.failed_keeps_lock hce
        left
        rw [this.1, this.2]
      · rename_i ho
        exact Or.inr ⟨ho, c, l', s', hc, hce, rfl⟩

/-- What a step of a history is: nothing at all; a message (`hstep` then is `C03a.step` on ledger and store by definition);
    a claim accepted — fresh id, admitted, lock taken — and entered in the log; or an open claim ended with an outcome
    other than `failed`.  The facts about one step below are read off this, case by case. -/
theorem hstep_cases (op : HOp) (x : HState) :
    hstep op x = x ∨ (∃ m, op = .msg m) ∨
    (∃ e c dur s', op = .accept e c.pid c.pool c.holder c.purchase c.loss dur c.deposit ∧ c.time = e.t ∧
      x.g.usedPid c.pid = false ∧ claimAdmissible x.s e.t c.holder c.pool c.purchase c.loss c.deposit = none ∧
      secureCollaterals e x.s c.pool c.holder c.purchase c.loss dur = .ok s' ∧
      hstep op x = { x with s := s', g := { x.g with pending := c :: x.g.pending } }) ∨
    (∃ e c o l' s', op = .ends e c.pid o ∧ o ≠ .failed ∧ x.g.pending.find? (·.pid == c.pid) = some c ∧
      claimEnds e x.l x.s c.pid c.pool c.holder c.holder c.purchase c.loss o = .ok (l', s') ∧
      hstep op x = { l := l', s := s', g := { pending := x.g.pending.filter (·.pid != c.pid), ended := c.pid :: x.g.ended } }) := by
  cases op with
  | accept e pid pool holder purchase loss dur deposit =>
    rcases acceptStep_cases e pid pool holder purchase loss dur deposit x with h | ⟨hu, hadm, s', hs, h⟩
    · exact .inl h
    · exact .inr (.inr (.inl ⟨e, ⟨pid, pool, holder, purchase, loss, e.t, deposit⟩, dur, s', rfl, rfl, hu, hadm, hs, h⟩))
  | ends e pid o =>
    rcases endsStep_cases e pid o x with h | ⟨ho, c, l', s', hc, hce, h⟩
    · exact .inl h
    · obtain rfl := (Keyed.of_find Claim.pid hc).2
      exact .inr (.inr (.inr ⟨e, c, o, l', s', rfl, ho, hc, hce, h⟩))
  | msg m => exact .inr (.inl ⟨m, rfl⟩)

theorem hstep_delta (op : HOp) (x : HState) : Delta x (hstep op x) := by
  rcases hstep_cases op x with h | ⟨m, rfl⟩ | ⟨e, c, dur, s', rfl, _, hu, hadm, hs, h⟩ | ⟨e, c, o, l', s', rfl, ho, hc, hce, h⟩
  · rw [h]; exact .same rfl rfl
  · exact .same rfl (msg_totalClaimed m x.l x.s)
  · obtain ⟨_, _, _, _, _, _, hlock⟩ := Props.C05.admitted_lock_exact hadm hs
    rw [h]; exact .locked c hu rfl rfl hlock
  · rw [h]; exact .released c hc rfl rfl (Props.C05.release_on_end hce ho)

/-- the ghost log agrees with the store: the locked amount is the sum of the open losses; no proposal id occurs twice
    among the open claims, none twice among the ended ones, and no open claim has an ended id -/
structure Inv (x : HState) : Prop where
  locked : x.s.totalClaimed = sumLoss x.g.pending
  openNodup : (x.g.pending.map (·.pid)).Nodup
  endedNodup : x.g.ended.Nodup
  disjoint : ∀ c ∈ x.g.pending, c.pid ∉ x.g.ended

theorem usedPid_false {g : Ghost} {pid : Nat} (h : g.usedPid pid = false) :
    pid ∉ g.pending.map (·.pid) ∧ pid ∉ g.ended := by
  unfold Ghost.usedPid at h
  simp only [Bool.or_eq_false_iff, List.any_eq_false, beq_iff_eq, List.contains_eq_mem, decide_eq_false_iff_not] at h
  refine ⟨?_, h.2⟩
  intro hm
  rcases List.mem_map.mp hm with ⟨c, hc, hcp⟩
  exact h.1 c hc hcp

theorem sumLoss_filter {l : List Claim} (hn : (l.map (·.pid)).Nodup) {c : Claim} (hc : c ∈ l) :
    sumLoss (l.filter (·.pid != c.pid)) = sumLoss l - c.loss :=
  Keyed.sum_remove Claim.pid Claim.loss hn (find_of_key hn hc)

theorem Delta.inv {x y : HState} (d : Delta x y) (hi : Inv x) : Inv y := by
  cases d with
  | same hg htc => exact ⟨by rw [htc, hg]; exact hi.locked, by rw [hg]; exact hi.openNodup, by rw [hg]; exact hi.endedNodup,
      by rw [hg]; exact hi.disjoint⟩
  | locked c hfresh hp he htc =>
    have hu := usedPid_false hfresh
    refine ⟨by rw [htc, hp, sumLoss_cons, hi.locked]; omega, ?_, by rw [he]; exact hi.endedNodup, ?_⟩
    · rw [hp, List.map_cons, List.nodup_cons]; exact ⟨hu.1, hi.openNodup⟩
    · rw [hp, he]
      intro c' hc'
      rcases List.mem_cons.mp hc' with rfl | h
      · exact hu.2
      · exact hi.disjoint c' h
  | released c hfind hp he htc =>
    have hc : c ∈ x.g.pending := List.mem_of_find?_eq_some hfind
    refine ⟨by rw [htc, hp, sumLoss_filter hi.openNodup hc, hi.locked], ?_, ?_, ?_⟩
    · rw [hp]
      exact List.Nodup.sublist (List.Sublist.map _ List.filter_sublist) hi.openNodup
    · rw [he, List.nodup_cons]; exact ⟨hi.disjoint c hc, hi.endedNodup⟩
    · rw [hp, he]
      intro c' hc'
      have hm := List.mem_filter.mp hc'
      intro hin
      rcases List.mem_cons.mp hin with h | h
      · have : c'.pid ≠ c.pid := by simpa using hm.2
        exact this h
      · exact hi.disjoint c' hm.1 h

theorem hstep_inv (op : HOp) (x : HState) (hi : Inv x) : Inv (hstep op x) := (hstep_delta op x).inv hi

theorem hrun_inv (ops : List HOp) (x : HState) (hi : Inv x) : Inv (hrun ops x) :=
  List.foldlRecOn (motive := Inv) ops _ hi (fun x h op _ => hstep_inv op x h)

theorem Delta.ended_mono {x y : HState} (d : Delta x y) {pid : Nat} (h : pid ∈ x.g.ended) : pid ∈ y.g.ended := by
  cases d with
  | same hg _ => rw [hg]; exact h
  | locked _ _ _ he _ => rw [he]; exact h
  | released _ _ _ he _ => rw [he]; exact List.mem_cons_of_mem _ h

theorem hrun_ended_mono (ops : List HOp) (x : HState) {pid : Nat} (h : pid ∈ x.g.ended) : pid ∈ (hrun ops x).g.ended :=
  List.foldlRecOn (motive := fun x : HState => pid ∈ x.g.ended) ops _ h (fun x h op _ => (hstep_delta op x).ended_mono h)

theorem hstep_pending_origin (op : HOp) (x : HState) {c : Claim} (hc : c ∈ (hstep op x).g.pending) :
    c ∈ x.g.pending ∨ ∃ e dur, op = .accept e c.pid c.pool c.holder c.purchase c.loss dur c.deposit ∧ c.time = e.t ∧
      x.g.usedPid c.pid = false ∧
      claimAdmissible x.s e.t c.holder c.pool c.purchase c.loss c.deposit = none ∧
      ∃ s', secureCollaterals e x.s c.pool c.holder c.purchase c.loss dur = .ok s' ∧ (hstep op x).s = s' := by
  rcases hstep_cases op x with h | ⟨m, rfl⟩ | ⟨e, c0, dur, s', rfl, ht, hu, hadm, hs, h⟩ | ⟨e, c0, o, l', s', rfl, _, _, _, h⟩
  · rw [h] at hc; exact .inl hc
  · exact .inl hc
  · rw [h] at hc ⊢
    rcases List.mem_cons.mp hc with rfl | hc'
    · exact .inr ⟨e, dur, rfl, ht, hu, hadm, s', hs, rfl⟩
    · exact .inl hc'
  · rw [h] at hc; exact .inl (List.mem_filter.mp hc).1

theorem hstep_pending_keeps (op : HOp) (x : HState) {c : Claim} (hc : c ∈ x.g.pending)
    (hne : ∀ e o, op ≠ .ends e c.pid o) : c ∈ (hstep op x).g.pending := by
  rcases hstep_cases op x with h | ⟨m, rfl⟩ | ⟨e, c0, dur, s', rfl, _, _, _, _, h⟩ | ⟨e, c0, o, l', s', rfl, _, _, _, h⟩
  · rw [h]; exact hc
  · exact hc
  · rw [h]; exact List.mem_cons_of_mem _ hc
  · rw [h]
    exact List.mem_filter.mpr ⟨hc, by simpa using fun heq : c.pid = c0.pid => hne e o (by rw [heq])⟩

theorem hrun_pending_keeps (ops : List HOp) (x : HState) {c : Claim} (hc : c ∈ x.g.pending)
    (hne : ∀ op ∈ ops, ∀ e o, op ≠ .ends e c.pid o) : c ∈ (hrun ops x).g.pending :=
  List.foldlRecOn (motive := fun x : HState => c ∈ x.g.pending) ops _ hc
    (fun x h op ho => hstep_pending_keeps op x h (hne op ho))

theorem acceptStep_ok {e : Env} {pid pool : Nat} {holder : Addr} {purchase : Nat} {loss dur deposit : Int} {x : HState} {s' : State}
    (hu : x.g.usedPid pid = false) (hadm : claimAdmissible x.s e.t holder pool purchase loss deposit = none)
    (hs : secureCollaterals e x.s pool holder purchase loss dur = .ok s') :
    hstep (.accept e pid pool holder purchase loss dur deposit) x =
      { x with s := s',
               g := { x.g with pending := { pid := pid, pool := pool, holder := holder, purchase := purchase, loss := loss,
                                            time := e.t, deposit := deposit } :: x.g.pending } } := by
  show acceptStep e pid pool holder purchase loss dur deposit x = _
  unfold acceptStep
  simp only [hu, Bool.false_eq_true, if_false, hadm, hs]

theorem endsStep_ok {e : Env} {pid : Nat} {o : ClaimOutcome} {x : HState} {c : Claim} {l' : Ledger} {s' : State}
    (hc : x.g.pending.find? (·.pid == pid) = some c)
    (hce : claimEnds e x.l x.s pid c.pool c.holder c.holder c.purchase c.loss o = .ok (l', s')) (ho : o ≠ .failed) :
    hstep (.ends e pid o) x =
      { l := l', s := s', g := { pending := x.g.pending.filter (·.pid != pid), ended := pid :: x.g.ended } } := by
  show endsStep e pid o x = _
  unfold endsStep
  simp only [hc, hce, ho, if_false]

theorem endsStep_stuck (e : Env) (pid : Nat) (o : ClaimOutcome) (x : HState)
    (h : o = .failed ∨ ∀ c, x.g.pending.find? (·.pid == pid) = some c →
      ∃ err, claimEnds e x.l x.s pid c.pool c.holder c.holder c.purchase c.loss o = .error err) :
    hstep (.ends e pid o) x = x := by
  show endsStep e pid o x = x
  rcases endsStep_cases e pid o x with h1 | ⟨ho, c, l', s', hc, hce, _⟩
  · exact h1
  · rcases h with h | h
    · exact absurd h ho
    · rcases h c hc with ⟨err, herr⟩
      rw [herr] at hce; cases hce

theorem acceptStep_used {e : Env} {pid pool : Nat} {holder : Addr} {purchase : Nat} {loss dur deposit : Int} {x : HState}
    (hu : x.g.usedPid pid = true) : hstep (.accept e pid pool holder purchase loss dur deposit) x = x := by
  show acceptStep e pid pool holder purchase loss dur deposit x = x
  unfold acceptStep
  simp only [hu, if_true]

theorem endsStep_notOpen {e : Env} {pid : Nat} {o : ClaimOutcome} {x : HState}
    (h : x.g.pending.find? (·.pid == pid) = none) : hstep (.ends e pid o) x = x := by
  show endsStep e pid o x = x
  unfold endsStep
  simp only [h]

theorem hrun_pending_origin (ops : List HOp) (x : HState) {c : Claim} (hc : c ∈ (hrun ops x).g.pending) :
    c ∈ x.g.pending ∨ ∃ pre post e dur, ops = pre ++ HOp.accept e c.pid c.pool c.holder c.purchase c.loss dur c.deposit :: post ∧
      c.time = e.t ∧ (hrun pre x).g.usedPid c.pid = false ∧
      claimAdmissible (hrun pre x).s e.t c.holder c.pool c.purchase c.loss c.deposit = none ∧
      ∃ s', secureCollaterals e (hrun pre x).s c.pool c.holder c.purchase c.loss dur = .ok s' := by
  refine (foldl_origin (M := fun x : HState => c ∈ x.g.pending) (fun x op h => hstep_pending_origin op x h) ops x hc).imp_right ?_
  rintro ⟨pre, _, post, rfl, e, dur, rfl, ht, hu, hadm, s', hs, _⟩
  exact ⟨pre, post, e, dur, rfl, ht, hu, hadm, s', hs⟩

theorem run_append (a b : List Props.C03a.Op) (w : Props.C03a.World) :
    Props.C03a.run (a ++ b) w = Props.C03a.run b (Props.C03a.run a w) := by
  unfold Props.C03a.run; rw [List.foldl_append]

theorem hstep_refines (op : HOp) (x : HState) :
    ∃ ops' : List Props.C03a.Op, ops'.length ≤ 1 ∧ ((hstep op x).l, (hstep op x).s) = Props.C03a.run ops' (x.l, x.s) := by
  rcases hstep_cases op x with h | ⟨m, rfl⟩ | ⟨e, c, dur, s', rfl, _, _, _, hs, h⟩ | ⟨e, c, o, l', s', rfl, _, _, hce, h⟩
  · exact ⟨[], Nat.zero_le _, by rw [h]; rfl⟩
  · exact ⟨[m.toOp], Nat.le_refl _, rfl⟩
  · refine ⟨[.secureCollaterals e c.pool c.holder c.purchase c.loss dur], Nat.le_refl _, ?_⟩
    rw [h]
    exact (Props.C03a.step_ok (w := (x.l, x.s)) (by simp only [Props.C03a.Op.apply, hs]; rfl)).symm
  · refine ⟨[.claimEnds e c.pid c.pool c.holder c.holder c.purchase c.loss o], Nat.le_refl _, ?_⟩
    rw [h]
    exact (Props.C03a.step_ok (w := (x.l, x.s)) (by simp only [Props.C03a.Op.apply, hce])).symm

theorem hrun_refines (ops : List HOp) (x : HState) :
    ∃ ops' : List Props.C03a.Op, ops'.length ≤ ops.length ∧
      ((hrun ops x).l, (hrun ops x).s) = Props.C03a.run ops' (x.l, x.s) := by
  induction ops generalizing x with
  | nil => exact ⟨[], Nat.le_refl _, rfl⟩
  | cons op ops ih =>
    rcases hstep_refines op x with ⟨a, ha, h1⟩
    rcases ih (hstep op x) with ⟨b, hb, h2⟩
    refine ⟨a ++ b, ?_, ?_⟩
    · simp only [List.length_append, List.length_cons]; omega
    · rw [hrun_cons, h2, h1, run_append]

end Shentu.C05H
