import Shentu.Proofs.C20GGovEquiv
import Shentu.Proofs.C12THist
/-
  The well-formedness `WFH` of a governance state is kept by every step.  It is carried through the operations as `W2`,
  which reads the proposal store through `findP` only and holds the counter as a parameter.
-/
namespace Shentu.C20GGovH
open Shentu Shentu.Gov Shentu.Genesis.Gov
open Shentu.C11H (Op stepW runW)

theorem ids_iff (ps : List Proposal) : ps.Pairwise (fun a b => sameProposal a b = false) ↔ (ps.map (·.id)).Nodup := by
  rw [List.Nodup, List.pairwise_map]; simp [sameProposal]

theorem mem_findP {g : State} (h : g.proposals.Pairwise (fun a b => sameProposal a b = false)) {p : Proposal}
    (hp : p ∈ g.proposals) : findP g p.id = some p := find_of_key ((ids_iff _).mp h) hp

theorem findP_mem {g : State} {id : Nat} {p : Proposal} (h : findP g id = some p) : p ∈ g.proposals ∧ p.id = id :=
  ⟨List.mem_of_find?_eq_some h, findP_id h⟩

/-- `WFH` with the proposal store read through `findP`, and the counter as a parameter -/
structure W2 (g : State) (n : Nat) : Prop where
  depKeys : g.deposits.Pairwise (fun a b => sameDeposit a b = false)
  voteKeys : g.votes.Pairwise (fun a b => sameVote a b = false)
  ids : g.proposals.Pairwise (fun a b => sameProposal a b = false)
  depO : ∀ d ∈ g.deposits, ∃ p, findP g d.pid = some p
  voteO : ∀ v ∈ g.votes, ∃ p, findP g v.pid = some p ∧ p.status ≠ 1
  fresh : ∀ id p, findP g id = some p → id < n

theorem W2.ofWFH {g : State} (h : WFH g) : W2 g g.nextId := by
  refine ⟨h.depKeys, h.voteKeys, h.ids, ?_, ?_, ?_⟩
  · intro d hd
    obtain ⟨p, hp, hid⟩ := h.depOwned d hd
    exact ⟨p, by rw [← hid]; exact mem_findP h.ids hp⟩
  · intro v hv
    obtain ⟨p, hp, hid⟩ := h.voteOwned v hv
    exact ⟨p, by rw [← hid]; exact mem_findP h.ids hp, h.voteStarted v hv p hp hid⟩
  · intro id p hp
    obtain ⟨hm, hid⟩ := findP_mem hp
    rw [← hid]; exact h.fresh p hm

theorem W2.toWFH {g : State} (h : W2 g g.nextId) : WFH g := by
  refine { depKeys := h.depKeys, voteKeys := h.voteKeys, ids := h.ids, depOwned := ?_, voteOwned := ?_, fresh := ?_, voteStarted := ?_ }
  · intro d hd
    obtain ⟨p, hp⟩ := h.depO d hd
    exact ⟨p, (findP_mem hp).1, (findP_mem hp).2⟩
  · intro v hv
    obtain ⟨p, hp, _⟩ := h.voteO v hv
    exact ⟨p, (findP_mem hp).1, (findP_mem hp).2⟩
  · intro p hp
    exact h.fresh p.id p (mem_findP h.ids hp)
  · intro v hv p hp hid
    obtain ⟨p', hp', hs⟩ := h.voteO v hv
    have := mem_findP h.ids hp
    rw [hid, hp'] at this
    injection this with this
    rw [← this]; exact hs

theorem W2.congr {g g' : State} {n : Nat} (h : W2 g n) (hp : g'.proposals = g.proposals) (hd : g'.deposits = g.deposits)
    (hv : g'.votes = g.votes) : W2 g' n := by
  refine ⟨by rw [hd]; exact h.depKeys, by rw [hv]; exact h.voteKeys, by rw [hp]; exact h.ids, ?_, ?_, ?_⟩
  · intro d hd'; rw [hd] at hd'; rw [findP_congr hp]; exact h.depO d hd'
  · intro v hv'; rw [hv] at hv'; rw [findP_congr hp]; exact h.voteO v hv'
  · intro id p hp'; rw [findP_congr hp] at hp'; exact h.fresh id p hp'

theorem W2.mono {g : State} {n m : Nat} (h : W2 g n) (hnm : n ≤ m) : W2 g m :=
  ⟨h.depKeys, h.voteKeys, h.ids, h.depO, h.voteO, fun id p hp => Nat.lt_of_lt_of_le (h.fresh id p hp) hnm⟩

theorem W2.unvoted {g : State} {n id : Nat} (h : W2 g n) (hs : ∀ p, findP g id = some p → p.status = 1) :
    ∀ v ∈ g.votes, v.pid ≠ id := by
  intro v hv hc
  obtain ⟨p, hp, hst⟩ := h.voteO v hv
  exact hst (hs p (hc ▸ hp))

theorem ids_setP {g : State} (q : Proposal) (h : g.proposals.Pairwise (fun a b => sameProposal a b = false)) :
    (setP g q).proposals.Pairwise (fun a b => sameProposal a b = false) := by
  rw [ids_iff] at h ⊢
  rw [setP_proposals]
  exact Keyed.keys_upsert_nodup (·.id) q h

theorem W2.set {g : State} {n : Nat} {q : Proposal} (h : W2 g n) (hf : q.id < n)
    (hv : ∀ v ∈ g.votes, v.pid = q.id → q.status ≠ 1) : W2 (setP g q) n := by
  refine ⟨by rw [setP_deposits]; exact h.depKeys, by rw [setP_votes]; exact h.voteKeys, ids_setP q h.ids, ?_, ?_, ?_⟩
  · intro d hd
    rw [setP_deposits] at hd
    obtain ⟨p, hp⟩ := h.depO d hd
    rw [findP_setP]
    split
    · exact ⟨q, rfl⟩
    · exact ⟨p, hp⟩
  · intro v hv'
    rw [setP_votes] at hv'
    obtain ⟨p, hp, hs⟩ := h.voteO v hv'
    rw [findP_setP]
    by_cases hc : q.id == v.pid
    · simp only [hc, if_true]
      exact ⟨q, rfl, hv v hv' (beq_iff_eq.mp hc).symm⟩
    · simp only [hc, Bool.false_eq_true, if_false]
      exact ⟨p, hp, hs⟩
  · intro id p hp
    rw [findP_setP] at hp
    split at hp
    · rename_i hc
      rw [← beq_iff_eq.mp hc]; exact hf
    · exact h.fresh id p hp

theorem W2.store {g : State} {n : Nat} {q : Proposal} (h : W2 g n) (hf : q.id < n)
    (hs : ∀ p, findP g q.id = some p → p.status = 1) : W2 (setP g q) n :=
  h.set hf fun v hv hc => absurd hc (h.unvoted hs v hv)

theorem W2.deposits {g : State} {n : Nat} (h : W2 g n) (ds : List Deposit)
    (hk : ds.Pairwise (fun a b => sameDeposit a b = false)) (ho : ∀ d ∈ ds, ∃ p, findP g d.pid = some p) :
    W2 { g with deposits := ds } n :=
  ⟨hk, h.voteKeys, h.ids, ho, h.voteO, h.fresh⟩

theorem W2.votes {g : State} {n : Nat} (h : W2 g n) (vs : List Vote)
    (hk : vs.Pairwise (fun a b => sameVote a b = false)) (ho : ∀ v ∈ vs, ∃ p, findP g v.pid = some p ∧ p.status ≠ 1) :
    W2 { g with votes := vs } n :=
  ⟨h.depKeys, hk, h.ids, h.depO, ho, h.fresh⟩

theorem W2.filterDeposits {g : State} {n : Nat} (h : W2 g n) (f : Deposit → Bool) :
    W2 { g with deposits := g.deposits.filter f } n :=
  h.deposits _ (h.depKeys.filter f) (fun d hd => h.depO d (List.mem_filter.mp hd).1)

theorem W2.filterVotes {g : State} {n : Nat} (h : W2 g n) (f : Vote → Bool) :
    W2 { g with votes := g.votes.filter f } n :=
  h.votes _ (h.voteKeys.filter f) (fun v hv => h.voteO v (List.mem_filter.mp hv).1)

theorem W2.drop {g : State} {n : Nat} {id : Nat} (h : W2 g n) (hs : ∀ p, findP g id = some p → p.status = 1) :
    W2 { delP g id with deposits := g.deposits.filter (fun d => !(d.pid == id)) } n := by
  refine ⟨h.depKeys.filter _, h.voteKeys, h.ids.filter _, ?_, ?_, ?_⟩
  · intro d hd
    obtain ⟨hd1, hd2⟩ := List.mem_filter.mp hd
    show ∃ p, findP (delP g id) d.pid = some p
    rw [findP_delP, if_neg (by rw [beq_iff_eq]; exact fun hh => by simp [hh] at hd2)]
    exact h.depO d hd1
  · intro v hv
    show ∃ p, findP (delP g id) v.pid = some p ∧ _
    rw [findP_delP, if_neg (by simpa using Ne.symm (h.unvoted hs v hv))]
    exact h.voteO v hv
  · intro id' p hp
    have hp' : findP (delP g id) id' = some p := hp
    rw [findP_delP] at hp'
    split at hp'
    · cases hp'
    · exact h.fresh id' p hp'

theorem W2.activate {e : Env} {g : State} {n : Nat} {p : Proposal} (h : W2 g n) (hlt : p.id < n) :
    W2 (activateVotingPeriod e g p) n :=
  h.set (by rw [Gov.activated_id]; exact hlt) (fun _ _ _ => by rcases activated_status e g p with h | h <;> omega)

theorem W2.upsertDeposit {g : State} {n pid : Nat} (h : W2 g n) (a : Addr) (amt : Coins) (hq : ∃ q, findP g pid = some q) :
    W2 { g with deposits := upsertDeposit pid a amt g.deposits } n := by
  rw [upsertDeposit_eq]
  refine h.deposits _ (pairwise_upd ?_ ?_ _ h.depKeys) (forall_upd h.depO (fun y hy _ => h.depO y hy) hq)
  · exact fun _ _ => ⟨Iff.rfl, Iff.rfl⟩
  · exact fun _ hy => hy

theorem W2.setVote {g : State} {n pid : Nat} (h : W2 g n) (a : Addr) (o : Nat)
    (hq : ∃ q, findP g pid = some q ∧ q.status ≠ 1) : W2 { g with votes := setVote pid a o g.votes } n := by
  rw [setVote_eq]
  refine h.votes _ (pairwise_upd ?_ ?_ _ h.voteKeys) (forall_upd h.voteO (fun y hy _ => h.voteO y hy) hq)
  · exact fun _ _ => ⟨Iff.rfl, Iff.rfl⟩
  · exact fun _ hy => hy

theorem atom_W2 {e : Env} {a : Addr} {w w' : World} (h : Atom e a w w') (hi : W2 w.g w.g.nextId) :
    W2 w'.g w'.g.nextId := by
  cases h with
  | «open» p hid _ =>
    -- the counter's value has no proposal yet: every proposal is below the counter
    exact ((hi.mono (Nat.le_succ _)).store (q := p) (by omega)
      fun q hq => absurd (hi.fresh _ q hq) (by omega)).congr rfl rfl rfl
  | @edit p q hp hs _ =>
    show W2 (setP _ _) (setP _ _).nextId
    rw [setP_nextId]
    exact hi.store (hi.fresh _ p hp) fun p' hp' => by rw [hp] at hp'; cases hp'; exact hs
  | escrowIn pid amt hq _ _ => exact hi.upsertDeposit a amt ⟨_, hq⟩
  | vote pid o hp hs => exact hi.setVote a o ⟨_, hp, fun hs1 => by omega⟩

def Inv (w : World) (n : Nat) : Prop := W2 w.g n ∧ w.g.nextId = n

theorem refund_g {e : Env} {w w' : World} {pid : Nat} (h : refundDeposits e w pid = .ok w') :
    w'.g = { w.g with deposits := w.g.deposits.filter (fun d => !(d.pid == pid)) } := by
  obtain ⟨_, _, rfl⟩ := refundDeposits_ok h; rfl

theorem finish_inv {w : World} {n : Nat} {p : Proposal} (pass : Bool) (t : Tally) (h : Inv w n) (hlt : p.id < n) :
    Inv (finish w p pass t) n := by
  obtain ⟨c', s, hf, hs⟩ := finish_shape w p pass t
  rw [hf]
  have hs1 : s ≠ 1 := by rcases hs with ⟨rfl, _⟩ | ⟨rfl | rfl, _⟩ <;> decide
  exact ⟨h.1.set (q := { p with status := s, tally := t }) hlt fun _ _ _ => hs1, (setP_nextId ..).trans h.2⟩

theorem endStep_inv {e : Env} {w w' : World} {p : Proposal} {n : Nat} (h : EndStep e w p w') (hi : Inv w n)
    (hlt : p.id < n) : Inv w' n := by
  cases h with
  | nextRound _ _ => exact ⟨(hi.1.filterVotes _).activate hlt, (activateVotingPeriod_nextId ..).trans hi.2⟩
  | @settle b pass l' t _ _ =>
    refine finish_inv pass t ⟨?_, hi.2⟩ hlt
    have hv : W2 { w.g with votes := votesAfter w p } n := by
      unfold votesAfter; split
      · exact hi.1
      · exact hi.1.filterVotes _
    exact hv.filterDeposits _

theorem Inv.govWF {w : World} {n : Nat} (h : Inv w n) : Shentu.C12TH.GovWF w.g :=
  ⟨(ids_iff _).mp h.1.ids, fun p hp => by rw [h.2]; exact h.1.fresh p.id p (mem_findP h.1.ids hp)⟩

theorem endBlock_inv {e : Env} {w w' : World} {n : Nat} (h : Inv w n) (hr : endBlock e w = .ok w') : Inv w' n :=
  (Shentu.C12TH.endBlock_sel (R := fun w w' => Inv w n → Inv w' n) (fun _ => id) (fun f g => g ∘ f)
    (fun w p w1 _ hf hs hh hi => by
      unfold Inv; rw [refund_g hh]
      exact ⟨hi.1.drop (fun q hq => by rw [hf] at hq; cases hq; exact hs), hi.2⟩)
    (fun w p w1 _ hf _ st hi => endStep_inv st hi (hi.1.fresh p.id p hf)) h.govWF hr).1 h

theorem Inv.ofWFH {w : World} (h : WFH w.g) : Inv w w.g.nextId := ⟨W2.ofWFH h, rfl⟩

theorem Inv.toWFH {w : World} {n : Nat} (h : Inv w n) : WFH w.g := by
  have h1 := h.1
  rw [← h.2] at h1
  exact h1.toWFH

theorem WFH.init {g : State} (hp : g.proposals = []) (hd : g.deposits = []) (hv : g.votes = []) : WFH g := by
  refine { depKeys := ?_, voteKeys := ?_, ids := ?_, depOwned := ?_, voteOwned := ?_, fresh := ?_, voteStarted := ?_ }
  · rw [hd]; exact List.Pairwise.nil
  · rw [hv]; exact List.Pairwise.nil
  · rw [hp]; exact List.Pairwise.nil
  · rw [hd]; intro d h; cases h
  · rw [hv]; intro d h; cases h
  · rw [hp]; intro d h; cases h
  · rw [hv]; intro d h; cases h

theorem WFH.step (m : Addr) (w : World) (op : Op) (h : WFH w.g) : WFH (stepW m w op).g := by
  have msg : ∀ {e a w'}, Star (Atom e a) w w' → WFH w'.g := fun s =>
    (s.keep (P := fun w => W2 w.g w.g.nextId) (fun t => atom_W2 t) (W2.ofWFH h)).toWFH
  exact Shentu.C11H.step_ind (motive := fun _ w' _ _ => WFH w'.g) m w (fun _ => h)
    (fun _ _ _ _ _ _ hs => msg (submit_atoms hs))
    (fun _ _ _ _ _ _ hs => msg (addDeposit_atoms hs))
    (fun _ _ _ _ hs => msg (vote_atoms (e := Shentu.C11H.env m ⟨0, "", default⟩) hs))
    (fun _ _ hs => (endBlock_inv (Inv.ofWFH h) hs).toWFH)
    (fun _ _ _ _ _ _ _ => h) op

theorem WFH.run (m : Addr) (w : World) (ops : List Op) (h : WFH w.g) : WFH (runW m w ops).g :=
  List.foldlRecOn (motive := fun w => WFH w.g) ops (stepW m) h (fun w hw op _ => WFH.step m w op hw)

end Shentu.C20GGovH
