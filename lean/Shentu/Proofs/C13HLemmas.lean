import Shentu.Model.Cert
import Shentu.Proofs.Guards
import Shentu.Proofs.Keys
import Shentu.Proofs.Runs
/-
  History-level machinery for C13: an operation type over `Cert.State`, the run of a history, what an
  accepted call of each handler is (`issue_ok` … `remove_ok`), the well-formedness invariant `WF`, the
  specification of the council as a function of the certifier list alone, and a ghost log of every step
  with the state it was applied to.
-/
namespace Shentu.C13H
open Shentu Shentu.Cert

/-- what can happen to the cert module: three signed messages, and a passed certifier-update proposal -/
inductive Op where
  | issue (signer : Addr) (kind content : String)
  | revoke (signer : Addr) (id : Nat)
  | certifyPlatform (signer : Addr) (pubkey desc : String)
  | govUpdate (certifier : Addr) (alias : String) (proposer : Addr) (add : Bool)
  deriving DecidableEq, Inhabited

def exec (s : State) : Op → Except Err State
  | .issue a k c => Cert.issue s a k c
  | .revoke a id => Cert.revoke s a id
  | .certifyPlatform a pk d => Cert.certifyPlatform s a pk d
  | .govUpdate a al p add => Cert.handleUpdate s a al p add

/-- a failed operation leaves the state unchanged -/
def step (s : State) (o : Op) : State :=
  match exec s o with
  | .ok s' => s'
  | .error _ => s

def succeeds (s : State) (o : Op) : Bool :=
  match exec s o with
  | .ok _ => true
  | .error _ => false

def run (s : State) (ops : List Op) : State := ops.foldl step s

def Op.isGov : Op → Bool
  | .govUpdate .. => true
  | _ => false

@[simp] theorem run_nil (s : State) : run s [] = s := rfl
@[simp] theorem run_cons (s : State) (o : Op) (os : List Op) : run s (o :: os) = run (step s o) os := rfl
theorem run_append (s : State) (xs ys : List Op) : run s (xs ++ ys) = run (run s xs) ys := by
  simp [run, List.foldl_append]

theorem step_of_ok {s s' : State} {o : Op} (h : exec s o = .ok s') : step s o = s' := by simp [step, h]
theorem step_of_error {s : State} {o : Op} {x : Err} (h : exec s o = .error x) : step s o = s := by simp [step, h]
theorem succeeds_of_ok {s s' : State} {o : Op} (h : exec s o = .ok s') : succeeds s o = true := by simp [succeeds, h]
theorem succeeds_of_error {s : State} {o : Op} {x : Err} (h : exec s o = .error x) : succeeds s o = false := by
  simp [succeeds, h]

theorem step_of_fails {s : State} {o : Op} (h : succeeds s o = false) : step s o = s := by
  unfold succeeds at h; unfold step
  split at h
  · cases h
  · simp

theorem step_cases (s : State) (o : Op) :
    (∃ s', exec s o = .ok s' ∧ step s o = s' ∧ succeeds s o = true) ∨ (step s o = s ∧ succeeds s o = false) := by
  cases h : exec s o with
  | ok s' => exact Or.inl ⟨s', rfl, step_of_ok h, succeeds_of_ok h⟩
  | error x => exact Or.inr ⟨step_of_error h, succeeds_of_error h⟩

theorem issue_ok {s s' : State} {a : Addr} {k c : String} (h : Cert.issue s a k c = .ok s') :
    isCertifier s a = true ∧
    s' = { s with certs := s.certs ++ [{ id := s.nextId, kind := k, content := c, certifier := a }], nextId := s.nextId + 1 } := by
  unfold Cert.issue at h
  obtain ⟨hc, h⟩ := of_guard h
  injection h with h
  exact ⟨by simpa using hc, h.symm⟩

theorem revoke_ok {s s' : State} {a : Addr} {id : Nat} (h : Cert.revoke s a id = .ok s') :
    s.certs.any (·.id == id) = true ∧ isCertifier s a = true ∧
    s' = { s with certs := s.certs.filter (fun c => !(c.id == id)) } := by
  unfold Cert.revoke at h
  obtain ⟨h1, h⟩ := of_guard h
  obtain ⟨h2, h⟩ := of_guard h
  injection h with h
  exact ⟨by simpa using h1, by simpa using h2, h.symm⟩

theorem platform_ok {s s' : State} {a : Addr} {pk d : String} (h : Cert.certifyPlatform s a pk d = .ok s') :
    isCertifier s a = true ∧
    s' = { s with platforms := (s.platforms.filter (fun p => !(p.1 == pk))) ++ [(pk, d)] } := by
  unfold Cert.certifyPlatform at h
  obtain ⟨hc, h⟩ := of_guard h
  injection h with h
  exact ⟨by simpa using hc, h.symm⟩

theorem add_ok {s s' : State} {a : Addr} {al : String} {p : Addr} (h : Cert.handleUpdate s a al p true = .ok s') :
    isCertifier s a = false ∧ (al = "" ∨ s.aliasIdx.any (·.1 == al) = false) ∧
    s' = { s with certifiers := s.certifiers ++ [{ addr := a, alias := al, proposer := p }],
                  aliasIdx := if al != "" then s.aliasIdx ++ [(al, a)] else s.aliasIdx } := by
  unfold Cert.handleUpdate at h
  rw [if_pos rfl] at h
  obtain ⟨h1, h⟩ := of_guard h
  obtain ⟨h2, h⟩ := of_guard h
  injection h with h
  refine ⟨by simpa using h1, ?_, h.symm⟩
  by_cases h0 : al = ""
  · exact Or.inl h0
  · right
    cases hany : s.aliasIdx.any (·.1 == al) with
    | false => rfl
    | true => exact absurd (by simp [hasAlias, h0, hany]) h2

theorem remove_ok {s s' : State} {a : Addr} {al : String} {p : Addr} (h : Cert.handleUpdate s a al p false = .ok s') :
    s.certifiers.length ≠ 1 ∧ ∃ c, s.certifiers.find? (·.addr == a) = some c ∧
    s' = { s with certifiers := s.certifiers.filter (fun x => !(x.addr == a)),
                  aliasIdx := s.aliasIdx.filter (fun e => !(e.1 == c.alias)) } := by
  unfold Cert.handleUpdate at h
  rw [if_neg (by simp)] at h
  obtain ⟨h1, h⟩ := of_guard h
  cases hc : s.certifiers.find? (·.addr == a) with
  | none => rw [hc] at h; cases h
  | some c =>
    rw [hc] at h
    injection h with h
    exact ⟨by simpa using h1, c, rfl, h.symm⟩

/-- the alias index that a certifier list determines: the non-empty aliases, in council order, with their owners -/
def aliasIndexOf (cs : List Certifier) : List (String × Addr) :=
  (cs.filter (fun c => c.alias != "")).map (fun c => (c.alias, c.addr))

def aliasesOf (cs : List Certifier) : List String := (cs.filter (fun c => c.alias != "")).map (·.alias)

theorem aliasIndexOf_fst (cs : List Certifier) : (aliasIndexOf cs).map (·.1) = aliasesOf cs := by
  simp [aliasIndexOf, aliasesOf, List.map_map, Function.comp_def]

structure WF (s : State) : Prop where
  nonempty : s.certifiers ≠ []
  addrs : (s.certifiers.map (·.addr)).Nodup
  aliases : (aliasesOf s.certifiers).Nodup
  /-- the alias index is exactly the non-empty aliases of the current certifiers with their addresses -/
  index : s.aliasIdx = aliasIndexOf s.certifiers
  ids : (s.certs.map (·.id)).Nodup
  below : ∀ c ∈ s.certs, c.id < s.nextId

theorem any_alias_iff (cs : List Certifier) (al : String) :
    (aliasIndexOf cs).any (·.1 == al) = true ↔ al ∈ aliasesOf cs := by
  rw [← aliasIndexOf_fst]
  simp only [List.any_eq_true, beq_iff_eq, List.mem_map]

theorem mem_aliasesOf (cs : List Certifier) (al : String) :
    al ∈ aliasesOf cs ↔ al ≠ "" ∧ ∃ c ∈ cs, c.alias = al := by
  simp only [aliasesOf, List.mem_map, List.mem_filter, bne_iff_ne, ne_eq]
  constructor
  · rintro ⟨c, ⟨hc, hne⟩, rfl⟩; exact ⟨hne, c, hc, rfl⟩
  · rintro ⟨hne, c, hc, rfl⟩; exact ⟨c, ⟨hc, hne⟩, rfl⟩

theorem aliasIndexOf_snoc (cs : List Certifier) (c : Certifier) :
    aliasIndexOf (cs ++ [c]) = aliasIndexOf cs ++ if c.alias != "" then [(c.alias, c.addr)] else [] := by
  simp only [aliasIndexOf, List.filter_append, List.filter_cons, List.filter_nil, List.map_append]
  split <;> rfl

theorem aliasesOf_snoc (cs : List Certifier) (c : Certifier) :
    aliasesOf (cs ++ [c]) = aliasesOf cs ++ if c.alias != "" then [c.alias] else [] := by
  simp only [aliasesOf, List.filter_append, List.filter_cons, List.filter_nil, List.map_append]
  split <;> rfl

theorem eq_of_alias_eq {cs : List Certifier} (hn : (aliasesOf cs).Nodup) {x y : Certifier}
    (hx : x ∈ cs) (hy : y ∈ cs) (hne : x.alias ≠ "") (h : x.alias = y.alias) : x = y :=
  eq_of_key_eq (f := Certifier.alias) (l := cs.filter (fun c => c.alias != "")) hn
    (List.mem_filter.mpr ⟨hx, by simpa using hne⟩) (List.mem_filter.mpr ⟨hy, by simpa using h ▸ hne⟩) h

theorem filter_map_congr_mem {α β} (l : List α) (p q : α → Bool) (f : α → β) (h : ∀ x ∈ l, p x = q x) :
    (l.filter p).map f = (l.filter q).map f := by
  rw [List.filter_congr h]

theorem aliasIndexOf_remove {cs : List Certifier} (ha : (cs.map (·.addr)).Nodup) (hal : (aliasesOf cs).Nodup)
    {c : Certifier} (hc : c ∈ cs) :
    (aliasIndexOf cs).filter (fun e => !(e.1 == c.alias)) = aliasIndexOf (cs.filter (fun x => !(x.addr == c.addr))) := by
  unfold aliasIndexOf
  rw [List.filter_map, List.filter_filter, List.filter_filter]
  congr 1
  apply List.filter_congr
  intro x hx
  simp only [Function.comp_def]
  by_cases hxe : x.alias = ""
  · simp [hxe]
  · have : (x.alias == c.alias) = (x.addr == c.addr) :=
      Bool.eq_iff_iff.mpr ⟨fun h => by rw [eq_of_alias_eq hal hx hc hxe (by simpa using h)]; simp,
        fun h => by rw [eq_of_key_eq ha hx hc (by simpa using h)]; simp⟩
    rw [this, Bool.and_comm]

theorem issue_ids {s s' : State} {a : Addr} {k c : String} (hb : ∀ c ∈ s.certs, c.id < s.nextId)
    (hn : (s.certs.map (·.id)).Nodup) (h : Cert.issue s a k c = .ok s') :
    (∀ c ∈ s'.certs, c.id < s'.nextId) ∧ (s'.certs.map (·.id)).Nodup := by
  obtain ⟨_, rfl⟩ := issue_ok h
  constructor
  · intro x hx
    rcases List.mem_append.mp hx with hx | hx
    · exact Nat.lt_succ_of_lt (hb x hx)
    · rw [List.mem_singleton.mp hx]; exact Nat.lt_succ_self _
  · rw [List.map_append]
    refine nodup_snoc hn fun hx => ?_
    obtain ⟨c0, hc0, h0⟩ := List.mem_map.mp hx
    exact Nat.lt_irrefl _ (h0 ▸ hb c0 hc0)

theorem issue_wf {s s' : State} {a : Addr} {k c : String} (hw : WF s) (h : Cert.issue s a k c = .ok s') : WF s' := by
  obtain ⟨hb, hn⟩ := issue_ids hw.below hw.ids h
  obtain ⟨_, rfl⟩ := issue_ok h
  exact ⟨hw.nonempty, hw.addrs, hw.aliases, hw.index, hn, hb⟩

theorem revoke_wf {s s' : State} {a : Addr} {id : Nat} (hw : WF s) (h : Cert.revoke s a id = .ok s') : WF s' := by
  obtain ⟨_, _, rfl⟩ := revoke_ok h
  refine ⟨hw.nonempty, hw.addrs, hw.aliases, hw.index, ?_, ?_⟩
  · exact Keyed.keys_remove_nodup Certificate.id _ hw.ids
  · intro x hx; exact hw.below x (List.mem_filter.mp hx).1

theorem platform_wf {s s' : State} {a : Addr} {pk d : String} (hw : WF s) (h : Cert.certifyPlatform s a pk d = .ok s') : WF s' := by
  obtain ⟨_, rfl⟩ := platform_ok h
  exact ⟨hw.nonempty, hw.addrs, hw.aliases, hw.index, hw.ids, hw.below⟩

theorem mem_addrs_isCertifier {s : State} {a : Addr} (h : a ∈ s.certifiers.map (·.addr)) : isCertifier s a = true := by
  obtain ⟨c0, hc0, rfl⟩ := List.mem_map.mp h
  exact List.any_eq_true.mpr ⟨c0, hc0, beq_self_eq_true _⟩

theorem add_addrs {s s' : State} {a : Addr} {al : String} {p : Addr} (hn : (s.certifiers.map (·.addr)).Nodup)
    (h : Cert.handleUpdate s a al p true = .ok s') : (s'.certifiers.map (·.addr)).Nodup := by
  obtain ⟨hnc, _, rfl⟩ := add_ok h
  rw [List.map_append]
  refine nodup_snoc hn fun hx => ?_
  rw [mem_addrs_isCertifier hx] at hnc
  cases hnc

theorem remove_addrs {s s' : State} {a : Addr} {al : String} {p : Addr} (hn : (s.certifiers.map (·.addr)).Nodup)
    (h : Cert.handleUpdate s a al p false = .ok s') : (s'.certifiers.map (·.addr)).Nodup := by
  obtain ⟨_, _, _, rfl⟩ := remove_ok h
  exact Keyed.keys_remove_nodup Certifier.addr _ hn

theorem add_wf {s s' : State} {a : Addr} {al : String} {p : Addr} (hw : WF s) (h : Cert.handleUpdate s a al p true = .ok s') : WF s' := by
  have hadd := add_addrs hw.addrs h
  obtain ⟨hnc, hfree, rfl⟩ := add_ok h
  refine ⟨by simp, hadd, ?_, ?_, hw.ids, hw.below⟩
  · rw [aliasesOf_snoc]
    by_cases h0 : al = ""
    · rw [if_neg (by simpa using h0), List.append_nil]; exact hw.aliases
    · rw [if_pos (by simpa using h0)]
      refine nodup_snoc hw.aliases fun hx => hfree.elim h0 fun hany => ?_
      rw [hw.index, (any_alias_iff _ al).mpr hx] at hany
      cases hany
  · rw [aliasIndexOf_snoc, hw.index]
    split <;> simp

theorem filter_ne_nil_of_two {cs : List Certifier} (hn : (cs.map (·.addr)).Nodup) (hne : cs ≠ []) (hlen : cs.length ≠ 1)
    (a : Addr) : cs.filter (fun x => !(x.addr == a)) ≠ [] := by
  intro hempty
  have hall : ∀ x ∈ cs, x.addr = a := fun x hx => by simpa using List.filter_eq_nil_iff.mp hempty x hx
  match cs, hn, hne, hlen, hall with
  | [_], _, _, hlen, _ => exact hlen rfl
  | x :: y :: rest, hn, _, _, hall =>
    rw [List.map_cons, List.map_cons, List.nodup_cons, hall x (by simp), hall y (by simp)] at hn
    exact hn.1 List.mem_cons_self

theorem remove_wf {s s' : State} {a : Addr} {al : String} {p : Addr} (hw : WF s) (h : Cert.handleUpdate s a al p false = .ok s') : WF s' := by
  have hrem := remove_addrs hw.addrs h
  obtain ⟨hlen, c, hfind, rfl⟩ := remove_ok h
  obtain ⟨hc, hca⟩ := Keyed.of_find Certifier.addr hfind
  refine ⟨?_, hrem, ?_, ?_, hw.ids, hw.below⟩
  · exact filter_ne_nil_of_two hw.addrs hw.nonempty hlen a
  · exact List.Nodup.sublist (List.Sublist.map _ (List.Sublist.filter _ List.filter_sublist)) hw.aliases
  · simp only
    rw [hw.index, ← hca]
    exact aliasIndexOf_remove hw.addrs hw.aliases hc

theorem exec_wf {s s' : State} {o : Op} (hw : WF s) (h : exec s o = .ok s') : WF s' := by
  cases o with
  | issue a k c => exact issue_wf hw h
  | revoke a id => exact revoke_wf hw h
  | certifyPlatform a pk d => exact platform_wf hw h
  | govUpdate a al p add =>
    cases add with
    | true => exact add_wf hw h
    | false => exact remove_wf hw h

theorem step_wf {s : State} (o : Op) (hw : WF s) : WF (step s o) := by
  rcases step_cases s o with ⟨s', h, hs, _⟩ | ⟨hs, _⟩
  · rw [hs]; exact exec_wf hw h
  · rw [hs]; exact hw

theorem run_wf {s : State} (ops : List Op) (hw : WF s) : WF (run s ops) :=
  List.foldlRecOn (motive := WF) ops step hw (fun _ h o _ => step_wf o h)

/-- a genesis state: the certifier store and the alias store are written from the same list -/
def genesis (cs : List Certifier) (certs : List Certificate) (nextId : Nat) : State :=
  { certifiers := cs, aliasIdx := aliasIndexOf cs, certs := certs, nextId := nextId, platforms := [] }

theorem genesis_wf (cs : List Certifier) (certs : List Certificate) (nextId : Nat)
    (h1 : cs ≠ []) (h2 : (cs.map (·.addr)).Nodup) (h3 : (aliasesOf cs).Nodup)
    (h4 : (certs.map (·.id)).Nodup) (h5 : ∀ c ∈ certs, c.id < nextId) : WF (genesis cs certs nextId) :=
  ⟨h1, h2, h3, rfl, h4, h5⟩

/-- what a successful operation does to the certifier list: only a governance update does anything -/
def applyOp (cs : List Certifier) : Op → List Certifier
  | .govUpdate a al p true => cs ++ [{ addr := a, alias := al, proposer := p }]
  | .govUpdate a _ _ false => cs.filter (fun x => !(x.addr == a))
  | _ => cs

/-- the governance updates of a history that succeeded, in order -/
def passedUpdates : State → List Op → List Op
  | _, [] => []
  | s, o :: os => (if o.isGov && succeeds s o then [o] else []) ++ passedUpdates (step s o) os

/-- the council step decided on the certifier list alone: additions are refused for a known address or a
    used non-empty alias, removals for the last certifier; a removal of an unknown address changes nothing -/
def councilStep (cs : List Certifier) : Op → List Certifier
  | .govUpdate a al p true =>
    if cs.any (·.addr == a) then cs
    else if al != "" && cs.any (·.alias == al) then cs
    else cs ++ [{ addr := a, alias := al, proposer := p }]
  | .govUpdate a _ _ false => if cs.length == 1 then cs else cs.filter (fun x => !(x.addr == a))
  | _ => cs

/-- what an accepted operation does, field by field; a message was signed by a certifier -/
theorem exec_fields {s s' : State} {o : Op} (h : exec s o = .ok s') :
    (match o with
      | .issue a .. | .revoke a _ | .certifyPlatform a .. => isCertifier s a = true
      | .govUpdate .. => True) ∧
    s'.certifiers = applyOp s.certifiers o ∧ (o.isGov = false → s'.aliasIdx = s.aliasIdx) ∧
    s'.certs = (match o with
      | .issue a k ct => s.certs ++ [{ id := s.nextId, kind := k, content := ct, certifier := a }]
      | .revoke _ id => s.certs.filter (fun c => !(c.id == id))
      | _ => s.certs) ∧
    s'.nextId = (match o with | .issue .. => s.nextId + 1 | _ => s.nextId) ∧
    s'.platforms = (match o with
      | .certifyPlatform _ pk d => (s.platforms.filter (fun p => !(p.1 == pk))) ++ [(pk, d)]
      | _ => s.platforms) := by
  cases o with
  | issue a k c => obtain ⟨hc, rfl⟩ := issue_ok h; exact ⟨hc, rfl, fun _ => rfl, rfl, rfl, rfl⟩
  | revoke a id => obtain ⟨_, hc, rfl⟩ := revoke_ok h; exact ⟨hc, rfl, fun _ => rfl, rfl, rfl, rfl⟩
  | certifyPlatform a pk d => obtain ⟨hc, rfl⟩ := platform_ok h; exact ⟨hc, rfl, fun _ => rfl, rfl, rfl, rfl⟩
  | govUpdate a al p add =>
    cases add with
    | true => obtain ⟨_, _, rfl⟩ := add_ok h; exact ⟨trivial, rfl, nofun, rfl, rfl, rfl⟩
    | false => obtain ⟨_, _, _, rfl⟩ := remove_ok h; exact ⟨trivial, rfl, nofun, rfl, rfl, rfl⟩

theorem applyOp_not_gov (cs : List Certifier) {o : Op} (h : o.isGov = false) : applyOp cs o = cs := by
  cases o <;> first | rfl | cases h

theorem step_certifiers (s : State) (o : Op) :
    (step s o).certifiers = if o.isGov && succeeds s o then applyOp s.certifiers o else s.certifiers := by
  rcases step_cases s o with ⟨s', h, hs, hok⟩ | ⟨hs, hok⟩
  · rw [hs, hok, (exec_fields h).2.1]
    cases hg : o.isGov
    · simp [applyOp_not_gov _ hg]
    · simp
  · rw [hs, hok]; simp

theorem mem_passedUpdates {s : State} {ops : List Op} {o : Op} (h : o ∈ passedUpdates s ops) : o ∈ ops ∧ o.isGov = true := by
  induction ops generalizing s with
  | nil => cases h
  | cons x xs ih =>
    rw [passedUpdates, List.mem_append] at h
    rcases h with h | h
    · by_cases hc : (x.isGov && succeeds s x) = true
      · rw [if_pos hc, List.mem_singleton] at h; subst h
        exact ⟨List.mem_cons_self, (Bool.and_eq_true _ _ ▸ hc).1⟩
      · rw [if_neg hc] at h; cases h
    · exact ⟨List.mem_cons_of_mem _ (ih h).1, (ih h).2⟩

theorem passedUpdates_append (s : State) (xs ys : List Op) :
    passedUpdates s (xs ++ ys) = passedUpdates s xs ++ passedUpdates (run s xs) ys := by
  induction xs generalizing s with
  | nil => rfl
  | cons o os ih => simp [passedUpdates, ih]

theorem run_unchanged {α : Type} (field : State → α) (kind : Op → Prop)
    (hexec : ∀ {s s' o}, kind o → exec s o = .ok s' → field s' = field s) :
    ∀ (ops : List Op) (s : State), (∀ o ∈ ops, kind o) → field (run s ops) = field s :=
  fun ops s hk => List.foldlRecOn (motive := fun s' => field s' = field s) ops step rfl (fun s1 h o ho => by
    rcases step_cases s1 o with ⟨s', he, hs, _⟩ | ⟨hs, _⟩
    · rw [hs, hexec (hk o ho) he, h]
    · rw [hs, h])

theorem isCertifier_eq (s : State) (a : Addr) : isCertifier s a = s.certifiers.any (·.addr == a) := rfl

theorem any_alias_certifiers (cs : List Certifier) (al : String) (h0 : al ≠ "") :
    (aliasIndexOf cs).any (·.1 == al) = cs.any (·.alias == al) := by
  rw [Bool.eq_iff_iff, any_alias_iff, mem_aliasesOf]
  simp only [List.any_eq_true, beq_iff_eq]
  constructor
  · rintro ⟨_, c, hc, rfl⟩; exact ⟨c, hc, rfl⟩
  · rintro ⟨c, hc, rfl⟩; exact ⟨h0, c, hc, rfl⟩

theorem alias_taken {s : State} (hw : WF s) (al : String) :
    (al != "" && hasAlias s al) = (al != "" && s.certifiers.any (·.alias == al)) := by
  by_cases h0 : al = ""
  · subst h0; rfl
  · rw [hasAlias, hw.index, any_alias_certifiers _ _ h0, beq_eq_false_iff_ne.mpr h0, Bool.false_or]

theorem step_councilStep {s : State} (hw : WF s) (o : Op) : (step s o).certifiers = councilStep s.certifiers o := by
  cases o with
  | govUpdate a al p add =>
    cases add with
    | true =>
      simp only [step, exec, councilStep, Cert.handleUpdate, if_true, alias_taken hw, isCertifier_eq]
      cases s.certifiers.any (·.addr == a) <;> cases (al != "" && s.certifiers.any (·.alias == al)) <;> rfl
    | false =>
      simp only [step, exec, councilStep, Cert.handleUpdate, Bool.false_eq_true, if_false]
      cases s.certifiers.length == 1 with
      | true => rfl
      | false =>
        cases hf : s.certifiers.find? (·.addr == a) with
        -- an unknown address: the handler refuses, and the filter of `councilStep` removes nothing
        | none => exact (Keyed.remove_fix Certifier.addr a _ (Keyed.not_mem_keys _ hf)).symm
        | some c => rfl
  | _ => rw [step_certifiers]; rfl

/-- one line of the ghost log: the operation and the state it was applied to -/
structure Entry where
  pre : State
  op : Op

def Entry.ok (e : Entry) : Bool := succeeds e.pre e.op
def Entry.post (e : Entry) : State := step e.pre e.op

/-- the state together with the ghost log; the log is written by `gstep` and read by nothing -/
structure G where
  s : State
  log : List Entry

def gstep (g : G) (o : Op) : G := { s := step g.s o, log := g.log ++ [{ pre := g.s, op := o }] }
def grun (g : G) (ops : List Op) : G := ops.foldl gstep g

/-- the log of a history in closed form -/
def glog : State → List Op → List Entry
  | _, [] => []
  | s, o :: os => { pre := s, op := o } :: glog (step s o) os

theorem grun_eq (g : G) (ops : List Op) : grun g ops = { s := run g.s ops, log := g.log ++ glog g.s ops } := by
  induction ops generalizing g with
  | nil => simp [grun, glog]
  | cons o os ih =>
    have : grun g (o :: os) = grun (gstep g o) os := rfl
    rw [this, ih]; simp [gstep, glog]

theorem glog_append (s : State) (xs ys : List Op) : glog s (xs ++ ys) = glog s xs ++ glog (run s xs) ys := by
  induction xs generalizing s with
  | nil => rfl
  | cons o os ih => simp [glog, ih]

theorem run_origin {M : State → Prop} {P : Entry → Prop} (hstep : ∀ s o, M (step s o) → M s ∨ P { pre := s, op := o })
    (ops : List Op) (s : State) (h : M (run s ops)) : M s ∨ ∃ e ∈ glog s ops, P e :=
  (foldl_origin (f := step) (N := fun o s => P ⟨s, o⟩) hstep ops s h).imp_right fun ⟨pre, o, _, e, hp⟩ =>
    ⟨⟨run s pre, o⟩, by rw [e, glog_append]; exact List.mem_append_right _ List.mem_cons_self, hp⟩

theorem step_certs_mem {s : State} {o : Op} {c : Certificate} (hc : c ∈ (step s o).certs) :
    c ∈ s.certs ∨ ∃ a k ct, o = .issue a k ct ∧ isCertifier s a = true ∧ c = { id := s.nextId, kind := k, content := ct, certifier := a } := by
  rcases step_cases s o with ⟨s', h, hs, _⟩ | ⟨hs, _⟩
  · obtain ⟨hsig, _, _, hcs, _⟩ := exec_fields h
    rw [hs, hcs] at hc
    cases o with
    | issue a k ct =>
      rcases List.mem_append.mp hc with hc | hc
      · exact Or.inl hc
      · exact Or.inr ⟨a, k, ct, rfl, hsig, List.mem_singleton.mp hc⟩
    | revoke a id => exact Or.inl (List.mem_filter.mp hc).1
    | _ => exact Or.inl hc
  · rw [hs] at hc; exact Or.inl hc

theorem step_certs_gone {s : State} {o : Op} {c : Certificate} (hc : c ∈ s.certs) (hg : c ∉ (step s o).certs) :
    ∃ r, o = .revoke r c.id ∧ isCertifier s r = true ∧ succeeds s o = true := by
  rcases step_cases s o with ⟨s', h, hs, hok⟩ | ⟨hs, _⟩
  · obtain ⟨hsig, _, _, hcs, _⟩ := exec_fields h
    rw [hs, hcs] at hg
    cases o with
    | issue a k ct => exact absurd (List.mem_append_left _ hc) hg
    | revoke a id =>
      have : c.id = id := Classical.byContradiction fun hne => hg (List.mem_filter.mpr ⟨hc, by simpa using hne⟩)
      subst this
      exact ⟨a, rfl, hsig, hok⟩
    | _ => exact absurd hc hg
  · rw [hs] at hg; exact absurd hc hg

theorem step_certs_stay {s : State} {o : Op} {c : Certificate} (hc : c ∈ s.certs)
    (hno : ∀ r, o = .revoke r c.id → succeeds s o = false) : c ∈ (step s o).certs := by
  apply Classical.byContradiction; intro hg
  obtain ⟨r, ho, _, hok⟩ := step_certs_gone hc hg
  rw [hno r ho] at hok; cases hok

theorem step_platforms_mem {s : State} {o : Op} {x : String × String} (hx : x ∈ (step s o).platforms) :
    x ∈ s.platforms ∨ ∃ a pk d, o = .certifyPlatform a pk d ∧ isCertifier s a = true ∧ x = (pk, d) := by
  rcases step_cases s o with ⟨s', h, hs, _⟩ | ⟨hs, _⟩
  · obtain ⟨hsig, _, _, _, _, hps⟩ := exec_fields h
    rw [hs, hps] at hx
    cases o with
    | certifyPlatform a pk d =>
      rcases List.mem_append.mp hx with hx | hx
      · exact Or.inl (List.mem_filter.mp hx).1
      · exact Or.inr ⟨a, pk, d, rfl, hsig, List.mem_singleton.mp hx⟩
    | _ => exact Or.inl hx
  · rw [hs] at hx; exact Or.inl hx

/-- the identifier a log line handed out, if it is an accepted issue -/
def Entry.issuedId (e : Entry) : Option Nat :=
  match e.op with
  | .issue .. => if e.ok then some e.pre.nextId else none
  | _ => none

/-- all identifiers handed out over a history, in order -/
def issuedIds (s : State) (ops : List Op) : List Nat := (glog s ops).filterMap Entry.issuedId

theorem step_issued (s : State) (o : Op) :
    (({ pre := s, op := o } : Entry).issuedId = some s.nextId ∧ (step s o).nextId = s.nextId + 1) ∨
    (({ pre := s, op := o } : Entry).issuedId = none ∧ (step s o).nextId = s.nextId) := by
  rcases step_cases s o with ⟨s', h, hs, hok⟩ | ⟨hs, hok⟩
  · obtain ⟨_, _, _, _, hid, _⟩ := exec_fields h
    rw [hs, hid]
    cases o <;> simp [Entry.issuedId, Entry.ok, hok]
  · rw [hs]
    cases o <;> simp [Entry.issuedId, Entry.ok, hok]

theorem run_nextId_le (s : State) (ops : List Op) : s.nextId ≤ (run s ops).nextId :=
  List.foldlRecOn (motive := fun s' => s.nextId ≤ s'.nextId) ops step (Nat.le_refl _) (fun s1 h o _ => by
    rcases step_issued s1 o with ⟨_, h1⟩ | ⟨_, h1⟩ <;> omega)

theorem issuedIds_eq_range (s : State) (ops : List Op) :
    issuedIds s ops = List.range' s.nextId ((run s ops).nextId - s.nextId) := by
  induction ops generalizing s with
  | nil => simp [issuedIds, glog]
  | cons o os ih =>
    have hle := run_nextId_le (step s o) os
    show (glog s (o :: os)).filterMap _ = _
    rw [glog, List.filterMap_cons, run_cons]
    rcases step_issued s o with ⟨h1, h2⟩ | ⟨h1, h2⟩ <;> rw [h1]
    · show s.nextId :: issuedIds (step s o) os = _
      rw [ih, h2, show (run (step s o) os).nextId - s.nextId = (run (step s o) os).nextId - (s.nextId + 1) + 1 by omega,
        List.range'_succ]
    · show issuedIds (step s o) os = _
      rw [ih, h2]

theorem exec_issue_of_certifier {s : State} {a : Addr} (k ct : String) (h : isCertifier s a = true) :
    exec s (.issue a k ct) =
      .ok { s with certs := s.certs ++ [{ id := s.nextId, kind := k, content := ct, certifier := a }], nextId := s.nextId + 1 } := by
  simp [exec, Cert.issue, h]

theorem succeeds_issue (s : State) (a : Addr) (k ct : String) : succeeds s (.issue a k ct) = isCertifier s a := by
  cases h : isCertifier s a <;> simp [succeeds, exec, Cert.issue, h, err]

theorem platform_of_certifier {s : State} {a : Addr} (pk d : String) (h : isCertifier s a = true) :
    Cert.certifyPlatform s a pk d = .ok { s with platforms := (s.platforms.filter (fun p => !(p.1 == pk))) ++ [(pk, d)] } := by
  simp [Cert.certifyPlatform, h]

end Shentu.C13H
