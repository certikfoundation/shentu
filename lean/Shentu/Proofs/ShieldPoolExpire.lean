import Shentu.Proofs.ShieldPoolInv
import Shentu.Proofs.ShieldExpiry
/-
  The expiry loop of the end-blocker keeps the pool books (`expireLoop_inv`), read on the store with the running total
  written back (`accState`): one pass over a purchase list (`ExpireFacts`) issues no id (`ListsStep.sub`), and the shield
  of the entries it removes leaves the pool and the running total together.
-/
namespace Shentu.Shield.PoolLm

/-- what one pass over a purchase list does to shield amounts, ids and fees -/
structure ExpireFacts (now : Int) (es : List Purchase) (r : Int) (res : List Purchase × (Dec × Dec × Int)) : Prop where
  sum : res.2.2.2 + sumI (·.shield) res.1 = r + sumI (·.shield) es
  ids : (res.1.map (·.id)).Sublist (es.map (·.id))
  each : ∀ e' ∈ res.1, ∃ e ∈ es, e'.id = e.id ∧ e'.shield = e.shield ∧ (e'.fees = e.fees ∨ e'.fees = Dec.zero)
  keep : es.any (·.delTime < now) = false → res.2.2.2 = r

theorem entryStep_spec (lu : Int) (en : Purchase) : (entryStep lu en).id = en.id ∧ (entryStep lu en).shield = en.shield ∧
    ((entryStep lu en).fees = en.fees ∨ (entryStep lu en).fees = Dec.zero) := by
  unfold entryStep; split
  · exact ⟨rfl, rfl, .inr rfl⟩
  · exact ⟨rfl, rfl, .inl rfl⟩

theorem expireEntries_facts (now lu per : Int) (es : List Purchase) (f tf : Dec) (r : Int) :
    ExpireFacts now es r (expireEntries now lu per es (f, tf, r)) := by
  refine expireEntries_ind now lu per (P := fun es _ _ r res => ExpireFacts now es r res)
    (fun _ _ _ => ⟨rfl, List.Sublist.refl _, nofun, fun _ => rfl⟩) (fun en es _ _ r res hdel ih => ?_)
    (fun en es _ _ r res hdel ih => ?_) es f tf r
  · refine ⟨by rw [ih.sum, sumI_cons]; omega, ih.ids.trans (List.sublist_cons_self _ _),
      fun e' he' => (ih.each e' he').imp fun e h => ⟨List.mem_cons_of_mem _ h.1, h.2⟩, fun hany => ?_⟩
    simp only [List.any_cons, Bool.or_eq_false_iff, decide_eq_false_iff_not] at hany
    exact absurd hdel hany.1
  · have hstep := entryStep_spec lu en
    refine ⟨?_, ?_, ?_, fun hany => ?_⟩
    · show res.2.2.2 + sumI (fun x : Purchase => x.shield) (_ :: _) = _
      have h1 := ih.sum
      rw [sumI_cons, sumI_cons, hstep.2.1]; omega
    · show (List.map (fun x : Purchase => x.id) (_ :: _)).Sublist _
      rw [List.map_cons, List.map_cons, hstep.1]
      exact List.Sublist.cons_cons _ ih.ids
    · exact List.forall_mem_cons.mpr ⟨⟨en, List.mem_cons_self, hstep⟩,
        fun e' he' => (ih.each e' he').imp fun e h => ⟨List.mem_cons_of_mem _ h.1, h.2⟩⟩
    · simp only [List.any_cons, Bool.or_eq_false_iff, decide_eq_false_iff_not] at hany
      exact ih.keep hany.2

/-- the state the loop is really describing: the store with the running total written back -/
def accState (acc : ExpAcc) : State := { acc.s with totalShield := acc.totalShield }

/-- the fields of the store the expiry loop never touches -/
structure ExpFrame (s s' : State) : Prop where
  stakes : s'.stakes = s.stakes
  stakingPool : s'.stakingPool = s.stakingPool
  nextPool : s'.nextPool = s.nextPool
  nextPurchase : s'.nextPurchase = s.nextPurchase
  totalClaimed : s'.totalClaimed = s.totalClaimed
  params : s'.params = s.params
  lastUpdate : s'.lastUpdate = s.lastUpdate
  totalCollateral : s'.totalCollateral = s.totalCollateral
  providers : s'.providers = s.providers

theorem ExpFrame.of_writes {s s' : State} (h : s' = { s with pools := s'.pools, lists := s'.lists }) : ExpFrame s s' := by
  constructor <;> rw [h]

theorem ExpireFacts.nonneg {now : Int} {es : List Purchase} {r : Int} {res : List Purchase × (Dec × Dec × Int)}
    (hF : ExpireFacts now es r res) (h : ∀ e ∈ es, 0 ≤ e.shield ∧ 0 ≤ e.fees.raw) : ∀ e ∈ res.1, 0 ≤ e.shield ∧ 0 ≤ e.fees.raw := by
  intro e' he'
  obtain ⟨e, he, _, hsh, hfe⟩ := hF.each e' he'
  refine ⟨hsh ▸ (h e he).1, ?_⟩
  rcases hfe with h1 | h1 <;> rw [h1]
  · exact (h e he).2
  · exact Int.le_refl 0

theorem expireBody_inv {now : Int} {pool : Nat} {a : Addr} {acc acc1 : ExpAcc} {lst : PList}
    (hfl : findList acc.s pool a = some lst) (h : expireBody now pool a acc lst = .ok acc1)
    (hinv : ShieldInv (accState acc)) : ShieldInv (accState acc1) := by
  have hN := congrArg State.nextPool (expireBody_writes h)
  rcases hex : expireEntries now acc.s.lastUpdate acc.s.params.protection lst.entries (acc.fees, acc.totalFees, 0) with ⟨entries', fees', totalFees', removed⟩
  obtain ⟨s1, rfl, h1⟩ := expireBody_cases h _ hex
  have hF := hex ▸ expireEntries_facts now acc.s.lastUpdate acc.s.params.protection lst.entries acc.fees acc.totalFees 0
  -- the list part of the step, for any store `s1` that has the lists of `acc.s`: the ids left are a sublist of those read
  have hL : ∀ (s1 : State) (T : Int), s1.lists = acc.s.lists → s1.nextPurchase = acc.s.nextPurchase →
      ListsStep (accState acc) { (putList s1 pool a lst entries') with totalShield := T } pool (-removed) := fun s1 T hl1 hq1 =>
    ListsStep.sub (s := accState acc) hinv hfl (kept_key hfl entries') (putList_lists hl1 pool a lst entries')
      (by rw [optEntries_kept]; have := hF.sum; simp only at this; omega)
      (by rw [optEntries_kept]; exact hF.nonneg (hinv.entryNonneg lst (findList_mem hfl)))
      (by rw [optEntries_kept]; exact hF.ids) (by rw [putList_eq]; exact hq1)
  have hpools : ∀ s1 : State, (putList s1 pool a lst entries').pools = s1.pools := fun s1 => by rw [putList_eq]
  rcases h1 with ⟨hany, rfl⟩ | ⟨hany, p, hp, rfl⟩
  · obtain rfl : removed = 0 := hF.keep hany
    exact hinv.step (PoolsStep.same pool (hpools _)) (Int.neg_zero ▸ hL acc.s _ rfl rfl) ((Int.sub_zero _).trans (Int.add_zero _).symm) hN
  · exact hinv.step (PoolsStep.replace (pool' := { p with shield := p.shield - removed }) hinv hp (findPool_id hp : p.id = pool)
      (Int.sub_eq_add_neg ..) (hpools _)) (hL _ _ rfl rfl) (Int.sub_eq_add_neg ..) hN

theorem expireLoop_inv (now : Int) :
    ∀ (ps : List (Nat × Addr)) (acc acc' : ExpAcc), expireLoop now ps acc = .ok acc' →
      ShieldInv (accState acc) → ShieldInv (accState acc') ∧ ExpFrame acc.s acc'.s := by
  intro ps acc acc' h hinv
  refine ⟨?_, .of_writes (expireLoop_writes _ _ _ _ h)⟩
  exact (expireLoop_rel (R := fun _ _ => True) (I := fun x => ShieldInv (accState x)) (fun _ => trivial)
    (fun _ _ => trivial) (fun hfl hb hi => ⟨trivial, expireBody_inv hfl hb hi⟩) hinv h).2

end Shentu.Shield.PoolLm
