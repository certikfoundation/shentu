import Shentu.Model.GenesisCert
import Shentu.Proofs.C13HLemmas
/-
  Export and re-import of x/cert: on a genesis file with distinct keys every `store.Set` of `InitGenesis` appends, so the
  import loops write the file as it stands; `PlatNodup` (distinct platform keys), which `C13H.WF` does not contain, is
  kept by every step; the outcomes of a run.
-/
namespace Shentu.C20GCertH
open Shentu Shentu.Cert Shentu.C13H Shentu.Genesis.Cert

theorem upsertBy_eq {α κ : Type} [BEq κ] (key : α → κ) (l : List α) (x : α) :
    upsertBy key l x = Keyed.upsert key x l := by
  unfold upsertBy Keyed.upsert
  rw [show l.any (fun y => key y == key x) = (l.find? (fun y => key y == key x)).isSome by
    rw [Bool.eq_iff_iff, List.any_eq_true, List.find?_isSome]]

theorem upsertBy_fresh {α κ : Type} [BEq κ] [LawfulBEq κ] (key : α → κ) (l : List α) (x : α)
    (h : ∀ a ∈ l, key a ≠ key x) : upsertBy key l x = l ++ [x] := by
  rw [upsertBy_eq]
  exact Keyed.upsert_new key (List.find?_eq_none.mpr fun a ha => by simpa using h a ha)

theorem foldl_upsertBy_nil {α κ : Type} [BEq κ] [LawfulBEq κ] (key : α → κ) (xs : List α) (h : (xs.map key).Nodup) :
    xs.foldl (upsertBy key) [] = xs :=
  Keyed.foldl_append_of_fresh (upsertBy_fresh key) xs [] (List.pairwise_map.mp h)

/-- the alias-store half of `SetCertifier` -/
def aliasStep (idx : List (String × Addr)) (c : Certifier) : List (String × Addr) :=
  if c.alias != "" then upsertBy (·.1) idx (c.alias, c.addr) else idx

theorem foldl_setCertifier (cs : List Certifier) (s : State) :
    cs.foldl setCertifier s =
      { s with certifiers := cs.foldl (upsertBy (·.addr)) s.certifiers, aliasIdx := cs.foldl aliasStep s.aliasIdx } := by
  induction cs generalizing s with
  | nil => rfl
  | cons c cs ih => rw [List.foldl_cons, ih]; rfl

theorem foldl_aliasStep_nil (cs : List Certifier) (h : (aliasesOf cs).Nodup) : cs.foldl aliasStep [] = aliasIndexOf cs := by
  rw [← aliasIndexOf_fst] at h
  refine Eq.trans ?_ (foldl_upsertBy_nil (·.1) _ h)
  rw [aliasIndexOf, List.foldl_map, List.foldl_filter]; rfl

theorem foldl_importPlatform_eq (a : Addr) (ps : List (String × String)) (s : State) (hc : isCertifier s a = true) :
    ps.foldl (importPlatform a) s =
      { s with platforms := ps.foldl (fun l p => l.filter (fun q => !(q.1 == p.1)) ++ [p]) s.platforms } :=
  List.foldl_hom (fun l => ({ s with platforms := l } : State)) (g₂ := importPlatform a) fun l p => by
    have hc' : isCertifier { s with platforms := l } a = true := hc
    simp [importPlatform, Cert.certifyPlatform, hc']

theorem foldl_importPlatform (a : Addr) (ps : List (String × String)) (s : State) (hc : isCertifier s a = true)
    (h : ((s.platforms ++ ps).map (·.1)).Nodup) :
    ps.foldl (importPlatform a) s = { s with platforms := s.platforms ++ ps } := by
  rw [foldl_importPlatform_eq a ps s hc,
    Keyed.foldl_append_of_fresh (R := fun a b => a.1 ≠ b.1) _ ps _ (List.pairwise_map.mp h)]
  exact fun acc x hx => by rw [Keyed.remove_fix (·.1) x.1 acc hx]

theorem foldl_setCertificate (cs : List Certificate) (s : State) :
    cs.foldl setCertificate s = { s with certs := cs.foldl (upsertBy (·.id)) s.certs } :=
  List.foldl_hom (fun l => ({ s with certs := l } : State)) (g₁ := upsertBy (·.id)) (g₂ := setCertificate) (fun _ _ => rfl)

theorem initGenesis_eq (g : Genesis) (haddr : (g.certifiers.map (·.addr)).Nodup) (hal : (aliasesOf g.certifiers).Nodup)
    (hids : (g.certificates.map (·.id)).Nodup) (hpl : (g.platforms.map (·.1)).Nodup)
    (hne : g.certifiers ≠ [] ∨ g.platforms = []) :
    initGenesis g = { certifiers := g.certifiers, aliasIdx := aliasIndexOf g.certifiers, certs := g.certificates,
                      nextId := g.nextCertificateId, platforms := g.platforms } := by
  unfold initGenesis
  have h1 : g.certifiers.foldl setCertifier empty =
      { certifiers := g.certifiers, aliasIdx := aliasIndexOf g.certifiers, certs := [], nextId := 0, platforms := [] } := by
    rw [foldl_setCertifier]
    show ({ empty with certifiers := g.certifiers.foldl (upsertBy (·.addr)) [], aliasIdx := g.certifiers.foldl aliasStep [] } : State) = _
    rw [foldl_upsertBy_nil _ _ haddr, foldl_aliasStep_nil _ hal]; rfl
  have h2 : importPlatforms g.certifiers g.platforms (g.certifiers.foldl setCertifier empty) =
      { certifiers := g.certifiers, aliasIdx := aliasIndexOf g.certifiers, certs := [], nextId := 0, platforms := g.platforms } := by
    rw [h1]
    cases hcs : g.certifiers with
    | nil =>
      rcases hne with h | h
      · exact absurd hcs h
      · simp [importPlatforms, h]
    | cons c0 rest =>
      simp only [importPlatforms]
      rw [foldl_importPlatform]
      · simp
      · simp [isCertifier]
      · simpa using hpl
  simp only [h2]
  rw [foldl_setCertificate]
  dsimp only
  rw [foldl_upsertBy_nil _ _ hids]

/-- the platform store has one entry per validator public key -/
def PlatNodup (s : State) : Prop := (s.platforms.map (·.1)).Nodup

instance (s : State) : Decidable (PlatNodup s) := by unfold PlatNodup; infer_instance

/-- the invariant of C13 over histories together with `PlatNodup` -/
def WFG (s : State) : Prop := WF s ∧ PlatNodup s

theorem platNodup_genesis (cs : List Certifier) (certs : List Certificate) (nextId : Nat) :
    PlatNodup (genesis cs certs nextId) := by simp [PlatNodup, genesis]

theorem platNodup_set (ps : List (String × String)) (pk d : String) (h : (ps.map (·.1)).Nodup) :
    (((ps.filter (fun p => !(p.1 == pk))) ++ [(pk, d)]).map (·.1)).Nodup := by
  exact Keyed.nodup_append_new (fun p : String × String => p.1) (Keyed.keys_remove_nodup _ _ h)
    fun y hy => by simpa using (List.mem_filter.mp hy).2

theorem exec_platNodup {s s' : State} {o : Op} (hp : PlatNodup s) (h : exec s o = .ok s') : PlatNodup s' := by
  unfold PlatNodup
  rw [(exec_fields h).2.2.2.2.2]
  cases o with
  | certifyPlatform a pk d => exact platNodup_set _ pk d hp
  | _ => exact hp

theorem step_platNodup {s : State} (o : Op) (hp : PlatNodup s) : PlatNodup (step s o) := by
  rcases step_cases s o with ⟨s', h, hs, _⟩ | ⟨hs, _⟩
  · rw [hs]; exact exec_platNodup hp h
  · rw [hs]; exact hp

theorem step_wfg {s : State} (o : Op) (h : WFG s) : WFG (step s o) := ⟨step_wf o h.1, step_platNodup o h.2⟩

theorem run_wfg {s : State} (ops : List Op) (h : WFG s) : WFG (run s ops) :=
  List.foldlRecOn (motive := WFG) ops step h (fun _ h o _ => step_wfg o h)

/-- for each operation of a history, whether it was accepted -/
def outcomes : State → List Op → List Bool
  | _, [] => []
  | s, o :: os => succeeds s o :: outcomes (step s o) os

theorem outcomes_eq_glog (s : State) (ops : List Op) : outcomes s ops = (glog s ops).map (·.ok) := by
  induction ops generalizing s with
  | nil => rfl
  | cons o os ih => simp [outcomes, glog, ih, Entry.ok]

theorem outcomes_length (s : State) (ops : List Op) : (outcomes s ops).length = ops.length := by
  induction ops generalizing s with
  | nil => rfl
  | cons o os ih => simp [outcomes, ih]

end Shentu.C20GCertH
