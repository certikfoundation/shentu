import Shentu.Proofs.C15HTask
import Shentu.Proofs.HaltOracle
import Shentu.Proofs.DecRound
/-
  For `Shentu/Props/C15H.lean` and `Shentu/Props/C14F.lean`: the reward increments of one bounty distribution.
  Every share is `amount · weight / total weight` rounded down, so in every denomination the increments never add up to
  more than the bounty and fall short of it by less than the number of responses; they go to operators only, and crediting
  them raises the operators' accumulated rewards by exactly their sum.  `endOne_effect` says so of one closing task.
-/
namespace Shentu.C15HH
open Shentu Shentu.Oracle Shentu.Halt.Orc

def incSum (incs : List (Addr × Coins)) (d : Denom) : Int := (incs.map (fun i => Coins.amountOf i.2 d)).sum

@[simp] theorem incSum_nil (d : Denom) : incSum [] d = 0 := rfl
@[simp] theorem incSum_cons (i : Addr × Coins) (incs : List (Addr × Coins)) (d : Denom) :
    incSum (i :: incs) d = Coins.amountOf i.2 d + incSum incs d := by simp [incSum]
@[simp] theorem incSum_append (a b : List (Addr × Coins)) (d : Denom) : incSum (a ++ b) d = incSum a d + incSum b d := by
  simp [incSum]

theorem incSum_nonneg {incs : List (Addr × Coins)} (h : ∀ i ∈ incs, ∀ d, 0 ≤ Coins.amountOf i.2 d) (d : Denom) :
    0 ≤ incSum incs d := sum_map_nonneg _ fun i hi => h i hi d

theorem amountOf_rewardOf (dn : Denom) (amt : Int) (d : Denom) :
    Coins.amountOf (rewardOf dn amt) d = if dn = d then amt else 0 := by
  unfold rewardOf; by_cases hz : amt = 0 <;> simp [hz]

theorem incSum_shares (bond : Denom) (s : State) (b : Nat) (dn : Denom) (amount tv : Int) (d : Denom) :
    ∀ rs : List Response, incSum (shares bond s b dn amount tv rs) d =
      if dn = d then ((weights bond s b rs).map (fun w => Int.tdiv (amount * w) tv)).sum else 0 := by
  intro rs
  induction rs with
  | nil => simp [shares, weights]
  | cons r rest ih =>
    unfold shares weights at *
    rw [List.filterMap_cons, List.filterMap_cons]
    cases wt bond s b r with
    | none => exact ih
    | some w =>
      dsimp only [Option.map_some]
      rw [incSum_cons, ih]; dsimp only
      rw [amountOf_rewardOf]
      split <;> simp

/-- `n ≥ 1` shares have each lost at most `tv - 1` of `tv` parts and `k` whole units are missing: `k < n` -/
theorem dust_aux (k n tv : Int) (htv : 0 < tv) (hn : 1 ≤ n) (h : k * tv ≤ n * (tv - 1)) : k ≤ n - 1 := by
  by_cases hk : n ≤ k
  · have h1 : n * tv ≤ k * tv := Int.mul_le_mul_of_nonneg_right hk (Int.le_of_lt htv)
    have h2 : n * (tv - 1) = n * tv - n := by rw [Int.mul_sub, Int.mul_one]
    omega
  · omega

/-- one bounty coin, shared out over weights that add up to `tv`: each share is `amount · w / tv` rounded down, hence loses
    less than one unit (`DecRound.tdiv_shares`), and all together fewer units than there are responses -/
theorem shares_bound {bond : Denom} {s : State} {b : Nat} {amount tv : Int} (hw : EndInv bond s)
    (ha : 0 ≤ amount) (htv : 0 < tv) {rs : List Response} (hrs : ∀ r ∈ rs, 0 ≤ r.score ∧ r.score ≤ 100)
    (hsum : (weights bond s b rs).sum = tv) (hlen : 1 ≤ (rs.length : Int)) (dn : Denom) :
    (∀ i ∈ shares bond s b dn amount tv rs, isOp s i.1 = true ∧ ∀ d, 0 ≤ Coins.amountOf i.2 d) ∧
    (∀ d, d ≠ dn → incSum (shares bond s b dn amount tv rs) d = 0) ∧
    incSum (shares bond s b dn amount tv rs) dn ≤ amount ∧
    amount - incSum (shares bond s b dn amount tv rs) dn ≤ (rs.length : Int) - 1 := by
  have hnn := weights_nonneg bond s b hw.eps1 hw.eps2 hw.coll hrs
  obtain ⟨u, l⟩ := DecRound.tdiv_shares amount tv ha htv _ hnn
  rw [hsum] at u l
  have hlen' : ((weights bond s b rs).length : Int) * (tv - 1) ≤ (rs.length : Int) * (tv - 1) :=
    Int.mul_le_mul_of_nonneg_right (Int.ofNat_le.mpr (List.length_filterMap_le _ _)) (by omega)
  refine ⟨?_, fun d hd => by rw [incSum_shares, if_neg (fun h' => hd h'.symm)], ?_, ?_⟩
  · intro i hi
    obtain ⟨r, hr, hri⟩ := List.mem_filterMap.mp hi
    cases hwr : wt bond s b r with
    | none => rw [hwr] at hri; cases hri
    | some w =>
      rw [hwr] at hri; cases hri
      refine ⟨isOp_of_respWeight (wt_some hwr), fun d => ?_⟩
      · dsimp only; rw [amountOf_rewardOf]
        have := Int.tdiv_nonneg (Int.mul_nonneg ha (hnn w (List.mem_filterMap.mpr ⟨r, hr, hwr⟩))) (Int.le_of_lt htv)
        split <;> omega
  · rw [incSum_shares, if_pos rfl]; exact Int.le_of_mul_le_mul_right u htv
  · rw [incSum_shares, if_pos rfl]
    exact dust_aux _ _ tv htv hlen (by rw [Int.sub_mul]; omega)

theorem length_of_rsig {rs rs' : List Response} (h : rs'.map rsig = rs.map rsig) : rs'.length = rs.length := by
  simpa using congrArg List.length h

theorem payAllE_bound {bond : Denom} {s : State} {b : Nat} {tv : Int} (hw : EndInv bond s) (htv : 0 < tv) :
    ∀ (cs : List (Denom × Int)) (rs : List Response) (incs : List (Addr × Coins)) (out : List Response),
      (cs.map (·.1)).Nodup → (∀ c ∈ cs, 0 ≤ c.2) → (∀ r ∈ rs, 0 ≤ r.score ∧ r.score ≤ 100) →
      totalValid bond s b rs 0 = .ok tv → payAllE bond b tv s cs rs = .ok (incs, out) →
      (∀ i ∈ incs, isOp s i.1 = true ∧ ∀ d, 0 ≤ Coins.amountOf i.2 d) ∧
      ∀ d, 0 ≤ incSum incs d ∧ incSum incs d ≤ Coins.amountOf cs d ∧
        Coins.amountOf cs d - incSum incs d ≤ (rs.length : Int) - 1 := by
  intro cs rs incs out hnd hcs hrs hW h
  rw [payAllE_shares _ _ _ _ h]
  have hlen : 1 ≤ (rs.length : Int) := by
    cases rs with
    | nil => unfold totalValid at hW; cases hW; omega
    | cons r rest => simp only [List.length_cons, Int.natCast_add]; omega
  have hsum := totalValid_eq bond s b hw.eps1 hw.eps2 hw.coll rs 0 hrs
  rw [hW, Int.zero_add] at hsum
  replace hsum := (Except.ok.inj hsum).symm
  clear h hW
  induction cs with
  | nil => exact ⟨(fun i hi => by cases hi), fun d => by simp; omega⟩
  | cons c cs ih =>
    have hndc := List.nodup_cons.mp (by simpa using hnd : (c.1 :: cs.map (·.1)).Nodup)
    obtain ⟨b1, b2⟩ := ih hndc.2 (fun x hx => hcs x (List.mem_cons_of_mem _ hx))
    obtain ⟨a1, a2, a3, a4⟩ := shares_bound (b := b) hw (hcs c List.mem_cons_self) htv hrs hsum hlen c.1
    rw [List.flatMap_cons]
    refine ⟨fun i hi => (List.mem_append.mp hi).elim (a1 i) (b1 i), fun d => ?_⟩
    obtain ⟨n2, u2, l2⟩ := b2 d
    rw [incSum_append, Coins.amountOf_cons]
    by_cases hd : c.1 = d
    · subst hd
      have hz := Coins.amountOf_eq_zero_of_notMem cs c.1 hndc.1
      have h5 := incSum_nonneg (fun i hi => (a1 i hi).2) c.1
      simp only [beq_self_eq_true, if_true]
      omega
    · have h0 := a2 d (fun h' => hd h'.symm)
      simp only [beq_false_of_ne hd, Bool.false_eq_true, if_false]
      omega

theorem distributeBountyE_bound {bond : Denom} {s : State} {t t2 : Task} {incs : List (Addr × Coins)} (hw : EndInv bond s)
    (hb : Coins.isAnyNegative t.bounty = false) (hrs : ∀ r ∈ t.responses, 0 ≤ r.score ∧ r.score ≤ 100)
    (h : distributeBountyE bond s t = .ok (incs, t2)) :
    (∀ i ∈ incs, isOp s i.1 = true ∧ ∀ d, 0 ≤ Coins.amountOf i.2 d) ∧
    ∀ d, 0 ≤ incSum incs d ∧ incSum incs d ≤ Coins.amountOf t.bounty d ∧
      Coins.amountOf t.bounty d - incSum incs d ≤ (t.responses.length : Int) - 1 := by
  unfold distributeBountyE at h
  split at h; · cases h
  rename_i tv htv
  obtain ⟨hnz, h⟩ := of_guard h
  split at h; · cases h
  rename_i incs' rs hp
  cases h
  obtain ⟨_, htv', h0⟩ := totalValid_total bond s _ hw.eps1 hw.eps2 hw.coll _ 0 hrs
  rw [htv] at htv'; cases htv'
  rw [Gen.Oracle.dbNoValid_iff] at hnz
  have hpos : 0 < tv := by omega
  have := payAllE_bound hw hpos (Coins.canon t.bounty) t.responses incs rs (Coins.canon_denoms_nodup _) (Coins.canon_nonneg _ hb) hrs htv hp
  exact ⟨this.1, fun d => by rw [← Coins.amountOf_canon]; exact this.2 d⟩

def rewSum (ops : List Operator) (d : Denom) : Int := (ops.map (fun o => Coins.amountOf o.rew d)).sum
def collSum (ops : List Operator) (d : Denom) : Int := (ops.map (fun o => Coins.amountOf o.coll d)).sum

theorem credit_addrs (a : Addr) (c : Coins) (l : List Operator) : (credit a c l).map (·.addr) = l.map (·.addr) := by
  cases h : l.find? (·.addr == a) with
  | none => rw [credit_none h]
  | some o =>
    rw [credit_some h]
    exact Keyed.keys_update Operator.addr (F := fun _ => { o with rew := Coins.add o.rew c }) (fun _ _ => (find_addr h : o.addr = a)) l

theorem credits_addrs : ∀ (incs : List (Addr × Coins)) (l : List Operator), (credits incs l).map (·.addr) = l.map (·.addr)
  | [], _ => rfl
  | i :: incs, l => by rw [credits_cons, credits_addrs incs, credit_addrs]

theorem credit_found {a : Addr} {c : Coins} {l : List Operator} {o : Operator} (hn : (l.map (·.addr)).Nodup)
    (h : l.find? (·.addr == a) = some o) :
    (credit a c l).map (·.coll) = l.map (·.coll) ∧ ∀ d, rewSum (credit a c l) d = rewSum l d + Coins.amountOf c d := by
  rw [credit_some h]
  obtain ⟨pre, post, rfl, hu, _⟩ := Keyed.update_split Operator.addr (fun _ => { o with rew := Coins.add o.rew c }) hn h
  rw [hu]
  refine ⟨by simp, fun d => ?_⟩
  simp only [rewSum, List.map_append, List.map_cons, List.sum_append, List.sum_cons, Coins.amountOf_add]
  omega

theorem find_of_mem_addrs {a : Addr} {l : List Operator} (h : a ∈ l.map (·.addr)) : ∃ o, l.find? (·.addr == a) = some o := by
  obtain ⟨x, hx, hxa⟩ := List.mem_map.1 h
  cases hf : l.find? (·.addr == a) with
  | some o => exact ⟨o, rfl⟩
  | none => exact absurd hxa (Keyed.not_mem_keys Operator.addr hf x hx)

theorem mem_addrs_of_isOp {s : State} {a : Addr} (h : isOp s a = true) : a ∈ s.ops.map (·.addr) := by
  obtain ⟨o, hf⟩ := Option.isSome_iff_exists.mp h
  rw [← (find_addr hf : o.addr = a)]; exact List.mem_map_of_mem (List.mem_of_find?_eq_some hf)

theorem credits_exact : ∀ (incs : List (Addr × Coins)) {l : List Operator}, (l.map (·.addr)).Nodup →
    (∀ i ∈ incs, i.1 ∈ l.map (·.addr)) →
    (credits incs l).map (·.coll) = l.map (·.coll) ∧ ∀ d, rewSum (credits incs l) d = rewSum l d + incSum incs d
  | [], l, _, _ => ⟨rfl, fun d => by simp⟩
  | i :: incs, l, hn, hm => by
    rw [credits_cons]
    obtain ⟨o, ho⟩ := find_of_mem_addrs (hm i List.mem_cons_self)
    obtain ⟨a1, a2⟩ := credit_found (c := i.2) hn ho
    obtain ⟨b1, b2⟩ := credits_exact incs (l := credit i.1 i.2 l) (by rw [credit_addrs]; exact hn)
      (fun j hj => by rw [credit_addrs]; exact hm j (List.mem_cons_of_mem _ hj))
    refine ⟨b1.trans a1, fun d => ?_⟩
    rw [b2, a2, incSum_cons]
    omega

theorem endOne_ops {bond : Denom} {s s' : State} {id : String × String} (h : endOne bond s id = .ok s') :
    s'.ops.map (·.addr) = s.ops.map (·.addr) := by
  obtain ⟨_, incs, _, rfl⟩ := endOne_app h
  exact credits_addrs incs s.ops

theorem endFold_ops {bond : Denom} (ids : List (String × String)) {s s' : State} (h : endFold bond ids s = .ok s') :
    s'.ops.map (·.addr) = s.ops.map (·.addr) :=
  endFold_rel (I := fun _ => True) (R := fun a b => b.ops.map (·.addr) = a.ops.map (·.addr)) (fun _ => rfl)
    (fun h1 h2 => h2.trans h1) ids (fun _ _ _ _ _ h1 => ⟨endOne_ops h1, trivial⟩) trivial h

theorem stepE_opsNodup {e : Env} {l l' : Ledger} {s s' : State} {op : Op} (h : stepE e l s op = .ok (l', s'))
    (hn : (s.ops.map (·.addr)).Nodup) : (s'.ops.map (·.addr)).Nodup := by
  cases stepE_accepted h with
  | operator _ hm => exact hm.opsNodup hn
  | task hev => rw [hev.msg.frame.1]; exact hn
  | beginBlock _ hs => rw [hs]; exact hn
  | endBlock _ hf hs =>
    rw [hs, delClosing_ops, endFold_ops _ hf]; exact hn

theorem findTask_tasksOk {s : State} {k : String} {t : Task} (hi : TasksOk s) (h : findTask s k = some t) :
    Coins.isAnyNegative t.bounty = false ∧ ∀ r ∈ t.responses, 0 ≤ r.score ∧ r.score ≤ 100 :=
  hi t (findTask_mem h).1

theorem endOne_effect {bond : Denom} {s s' : State} {id : String × String} (hi : EndInv bond s)
    (h : endOne bond s id = .ok s') :
    s' = s ∨ ∃ t t' incs, findTask s (id.1 ++ id.2) = some t ∧ t.status = 1 ∧ Fin t t' ∧
      s' = app (id.1 ++ id.2) (fun _ => t') incs s ∧ (∀ i ∈ incs, i.1 ∈ s.ops.map (·.addr)) ∧
      (∀ d, 0 ≤ incSum incs d ∧ incSum incs d ≤ Coins.amountOf t.bounty d) ∧
      (incs = [] ∨ ∀ d, Coins.amountOf t.bounty d - incSum incs d ≤ (t.responses.length : Int) - 1) := by
  rcases endOne_cases h with rfl | ⟨t, t', incs, hft, hst, hfin, rfl, hc⟩
  · exact Or.inl rfl
  · have htk := findTask_tasksOk hi.tasks hft
    refine Or.inr ⟨t, t', incs, hft, hst, hfin, rfl, ?_⟩
    rcases hc with rfl | ⟨t1, hfin1, hd⟩
    · exact ⟨fun i hm => (by cases hm), fun d => ⟨Int.le_refl _, Coins.amountOf_nonneg_of_not_anyNegative _ htk.1 d⟩, Or.inl rfl⟩
    · have hbd := distributeBountyE_bound hi (by rw [hfin1.bounty]; exact htk.1)
        (scores_of_rsig hfin1.resp htk.2) hd
      rw [hfin1.bounty, length_of_rsig hfin1.resp] at hbd
      exact ⟨fun i hm => mem_addrs_of_isOp (hbd.1 i hm).1, fun d => ⟨(hbd.2 d).1, (hbd.2 d).2.1⟩,
        Or.inr fun d => (hbd.2 d).2.2⟩

end Shentu.C15HH
