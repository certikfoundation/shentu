import Shentu.Proofs.C09qStep
/-
  C09q, the payout out of unbonding entries: `payFromUnbondings` (one snapshot element), the walk `payWalk` over the snapshot
  `sortedUnbondings`, `payFromAllUnbondings`.

  The walk reads a snapshot while the single calls rewrite the store.  What is left of the snapshot stays a sub-multiset of
  what is stored (`Stored`), so every element that is charged still finds its entry, and a successful walk is a chain of single
  calls on stored entries (`Reach`, `pay_reach`).  A single call on a stored entry is a step of `C09qStep` that removes or
  shrinks the entry (`payOne_edit`, `payOne_step`); each statement of Props/C09q about the payout is an induction over the
  chain from what the step gives for one call (`payOne_*`), except `pay_frame_entries`: it has no hypothesis, so it walks
  `payWalk` itself (`walk_frame_entries`).
-/
namespace Shentu.UbdQueue.Pay
open Shentu.UbdQueue Shentu.UbdQueue.Store

theorem entry_eq {e e0 : Entry} (h1 : e.bal = e0.bal) (h2 : e.t = e0.t) : e = e0 := by
  cases e; cases e0; simp_all

theorem payEntry_spec (es : List Entry) (e0 : Entry) (x : Int) (es' : List Entry) (r : Bool)
    (h : payEntry es e0 x = some (es', r)) :
    ∃ l1 l2, es = l1 ++ e0 :: l2 ∧
      ((r = true ∧ e0.bal = x ∧ es' = l1 ++ l2) ∨
       (r = false ∧ e0.bal ≠ x ∧ es' = l1 ++ ⟨e0.t, e0.bal - x⟩ :: l2)) := by
  induction es generalizing es' r with
  | nil => simp [payEntry] at h
  | cons e es ih =>
    unfold payEntry at h
    split at h
    · rename_i hm
      simp only [Bool.and_eq_true, beq_iff_eq] at hm
      have : e = e0 := entry_eq hm.1 hm.2
      subst this
      split at h
      · rename_i hb
        simp only [beq_iff_eq] at hb
        simp only [Option.some.injEq, Prod.mk.injEq] at h
        exact ⟨[], es, rfl, Or.inl ⟨h.2.symm, hb, by simp [h.1]⟩⟩
      · rename_i hb
        simp only [beq_iff_eq] at hb
        simp only [Option.some.injEq, Prod.mk.injEq] at h
        exact ⟨[], es, rfl, Or.inr ⟨h.2.symm, hb, by simp [← h.1]⟩⟩
    · cases hp : payEntry es e0 x with
      | none => simp [hp] at h
      | some pr =>
        obtain ⟨es1, r1⟩ := pr
        simp only [hp, Option.some.injEq, Prod.mk.injEq] at h
        obtain ⟨l1, l2, h1, h2⟩ := ih es1 r1 hp
        refine ⟨e :: l1, l2, by simp [h1], ?_⟩
        obtain ⟨ha, hb⟩ := h
        subst ha; subst hb
        rcases h2 with ⟨a, b, c⟩ | ⟨a, b, c⟩
        · exact Or.inl ⟨a, b, by simp [c]⟩
        · exact Or.inr ⟨a, b, by simp [c]⟩

theorem payEntry_none (es : List Entry) (e0 : Entry) (x : Int) (h : payEntry es e0 x = none) : e0 ∉ es := by
  induction es with
  | nil => simp
  | cons e es ih =>
    unfold payEntry at h
    split at h
    · split at h <;> simp at h
    · rename_i hm
      cases hp : payEntry es e0 x with
      | none =>
        intro hmem
        rcases List.mem_cons.mp hmem with e1 | e1
        · subst e1; simp at hm
        · exact ih hp e1
      | some pr => simp [hp] at h

theorem payOne_cases {s s' : State} {d v : String} {e0 : Entry} {x : Int}
    (ok : payFromUnbondings s d v e0 x = .ok s') :
    (payEntry (getEntries s.ubds d v) e0 x = none ∧ s' = s) ∨
    ∃ es' r, payEntry (getEntries s.ubds d v) e0 x = some (es', r) ∧
      s' = { ubds := setEntries s.ubds d v es', queue := if r then unqueueFirst s.queue (d, v) e0.t else s.queue } := by
  unfold payFromUnbondings at ok
  simp only at ok
  split at ok
  · simp at ok
  · cases hp : payEntry (getEntries s.ubds d v) e0 x with
    | none => simp only [hp, Except.ok.injEq] at ok; exact Or.inl ⟨rfl, ok.symm⟩
    | some pr =>
      obtain ⟨es', r⟩ := pr
      simp only [hp, Except.ok.injEq] at ok
      exact Or.inr ⟨es', r, rfl, ok.symm⟩

theorem payOne_frame {s s' : State} {d v : String} {e0 : Entry} {x : Int} (ok : payFromUnbondings s d v e0 x = .ok s')
    (d' v' : String) (hd : ¬ (d' = d ∧ v' = v)) : getEntries s'.ubds d' v' = getEntries s.ubds d' v' := by
  rcases payOne_cases ok with ⟨_, rfl⟩ | ⟨es', r, _, rfl⟩
  · rfl
  · exact (getEntries_setEntries ..).trans (if_neg hd)

/-- what is left of the snapshot entry after `x` was taken from it -/
def shrunk (e0 : Entry) (x : Int) : List Entry := if e0.bal = x then [] else [⟨e0.t, e0.bal - x⟩]

theorem mem_shrunk {e0 e : Entry} {x : Int} (h : e ∈ shrunk e0 x) : e0.bal ≠ x ∧ e.t = e0.t ∧ e.bal = e0.bal - x := by
  unfold shrunk at h
  split at h
  · cases h
  · rename_i hx; rw [List.mem_singleton.mp h]; exact ⟨hx, rfl, rfl⟩

theorem payOne_edit {s s' : State} {d v : String} {e0 : Entry} {x : Int} (hm : e0 ∈ getEntries s.ubds d v)
    (ok : payFromUnbondings s d v e0 x = .ok s') :
    Edit s.ubds s'.ubds d v [e0] (shrunk e0 x) ∧
      s'.queue = if e0.bal = x then unqueueFirst s.queue (d, v) e0.t else s.queue := by
  obtain ⟨hp, _⟩ | ⟨es', r, hp, rfl⟩ := payOne_cases ok
  · exact absurd hm (payEntry_none _ _ _ hp)
  obtain ⟨l1, l2, h1, h2⟩ := payEntry_spec _ _ _ _ _ hp
  unfold shrunk
  rcases h2 with ⟨rfl, hx, rfl⟩ | ⟨rfl, hx, rfl⟩
  · exact ⟨⟨_, rfl, by
      rw [if_pos hx, h1]; exact (List.perm_middle (a := e0) (l₁ := l1) (l₂ := l2)).symm⟩, by rw [if_pos hx]; rfl⟩
  · refine ⟨⟨_, rfl, ?_⟩, by rw [if_neg hx]; rfl⟩
    rw [if_neg hx, h1]
    exact ((List.perm_middle.cons e0).trans (List.Perm.swap ..)).trans (List.perm_middle.symm.cons _)

theorem payOne_wf (s s' : State) (d v : String) (e0 : Entry) (x : Int) (h : WF s) (hm : e0 ∈ getEntries s.ubds d v)
    (ok : payFromUnbondings s d v e0 x = .ok s') : WF s' := by
  obtain ⟨ed, hq⟩ := payOne_edit hm ok
  refine ⟨?_, ed.keys h.keys⟩
  rw [hq]; split
  · exact times_unqueueFirst h.times _ _
  · exact h.times

theorem payOne_step {s s' : State} {d v : String} {e0 : Entry} {x : Int} (h : Inv s) (hm : e0 ∈ getEntries s.ubds d v)
    (ok : payFromUnbondings s d v e0 x = .ok s') : Step s s' d v [e0] (shrunk e0 x) := by
  obtain ⟨he, hq⟩ := payOne_edit hm ok
  have hcut := unqueueFirst_cut (h.queued_of_entry (entriesAt_pos hm))
  refine ⟨he, (payOne_wf _ _ _ _ _ _ h.toWF hm ok).times, fun d' v' t => ?_, fun f hf t => ?_⟩ <;> rw [hq] <;>
    by_cases hx : e0.bal = x
  · rw [if_pos hx, ← hcut.count (d', v') t, shrunk, if_pos hx]
    by_cases hy : (d', v') = (d, v) <;> by_cases h1 : e0.t = t <;> simp [atKey, hy, h1, eq_comm (a := t)]
  · rw [if_neg hx, shrunk, if_neg hx]; by_cases hy : (d', v') = (d, v) <;> simp [atKey, hy]
  · rw [if_pos hx]; exact hcut.filter f hf t
  · rw [if_neg hx]

theorem payOne_exact (s s' : State) (d v : String) (e0 : Entry) (x : Int) (h : WF s) (hm : e0 ∈ getEntries s.ubds d v)
    (ok : payFromUnbondings s d v e0 x = .ok s') : outstanding s'.ubds d = outstanding s.ubds d - x := by
  have := (payOne_edit hm ok).1.sum h.keys (fun d' _ e => if d' = d then e.bal else 0)
  rw [← outstanding_eq_sumE, ← outstanding_eq_sumE] at this
  by_cases hx : e0.bal = x <;> simp [shrunk, wsum, hx] at this <;> omega

example : WF (run {} [.undelegate "a" "v" 10 5, .undelegate "a" "v" 20 7]) ∧
    (⟨20, 7⟩ : Entry) ∈ getEntries (run {} [.undelegate "a" "v" 10 5, .undelegate "a" "v" 20 7]).ubds "a" "v" :=
  ⟨⟨by decide, by decide⟩, by decide⟩

theorem countP_t_append (l1 l2 : List Entry) (t : Int) :
    (l1 ++ l2).countP (fun e => e.t == t) = l1.countP (fun e => e.t == t) + l2.countP (fun e => e.t == t) :=
  List.countP_append

theorem payOne_inv (s s' : State) (d v : String) (e0 : Entry) (x : Int) (h : Inv s) (hm : e0 ∈ getEntries s.ubds d v)
    (ok : payFromUnbondings s d v e0 x = .ok s') : Inv s' := (payOne_step h hm ok).inv h

example : Inv (run {} [.undelegate "a" "v" 10 5, .undelegate "a" "v" 20 7]) ∧
    (⟨20, 7⟩ : Entry) ∈ getEntries (run {} [.undelegate "a" "v" 10 5, .undelegate "a" "v" 20 7]).ubds "a" "v" :=
  ⟨undelegate_inv _ _ _ _ _ (undelegate_inv _ _ _ _ _ inv_empty), by decide⟩

theorem insertDesc_perm (x : String × String × Entry) (l : List (String × String × Entry)) :
    (insertDesc x l).Perm (x :: l) :=
  insert_perm insertDesc (c := fun y x : String × String × Entry => y.2.2.t > x.2.2.t) (fun _ => rfl) (fun _ _ _ => rfl) x l

theorem sort_perm (l : List (String × String × Entry)) : (l.foldr insertDesc []).Perm l :=
  foldr_insert_perm insertDesc insertDesc_perm l

/-- the snapshot before sorting -/
def flat (us : List Ubd) (d : String) : List (String × String × Entry) :=
  (us.filter (·.del == d)).flatMap (fun u => u.entries.map (fun e => (u.del, u.val, e)))

theorem sorted_perm (us : List Ubd) (d : String) : (sortedUnbondings us d).Perm (flat us d) := sort_perm _

theorem flat_cons (x : Ubd) (xs : List Ubd) (d : String) :
    flat (x :: xs) d = (if x.del = d then x.entries.map (fun e => (x.del, x.val, e)) else []) ++ flat xs d := by
  unfold flat
  by_cases h : x.del = d
  · simp [h]
  · simp [h]

theorem flat_mem {us : List Ubd} {d : String} {p : String × String × Entry} (h : p ∈ flat us d) :
    p.1 = d ∧ ∃ y ∈ us, y.del = p.1 ∧ y.val = p.2.1 := by
  unfold flat at h
  simp only [List.mem_flatMap, List.mem_filter, List.mem_map, beq_iff_eq] at h
  obtain ⟨y, ⟨hy, hd⟩, e, _, he⟩ := h
  subst he
  exact ⟨hd, y, hy, rfl, rfl⟩

theorem flat_count_zero (us : List Ubd) (d d' v : String) (e : Entry) (h : ∀ y ∈ us, ¬ (y.del = d' ∧ y.val = v)) :
    (flat us d).count (d', v, e) = 0 := by
  apply List.count_eq_zero.mpr
  intro hm
  obtain ⟨_, y, hy, h1, h2⟩ := flat_mem hm
  exact h y hy ⟨h1, h2⟩

theorem flat_count_le (us : List Ubd) (d d' v : String) (e : Entry)
    (h : us.Pairwise (fun x y => ¬ (x.del = y.del ∧ x.val = y.val))) :
    (flat us d).count (d', v, e) ≤ (getEntries us d' v).count e := by
  induction us with
  | nil => simp [flat]
  | cons x xs ih =>
    rw [List.pairwise_cons] at h
    rw [flat_cons, List.count_append, getEntries_cons]
    by_cases hx : x.del = d' ∧ x.val = v
    · have hno : ∀ y ∈ xs, ¬ (y.del = d' ∧ y.val = v) := by
        intro y hy e
        exact h.1 y hy ⟨hx.1.trans e.1.symm, hx.2.trans e.2.symm⟩
      rw [if_pos hx, flat_count_zero xs d d' v e hno]
      split
      · rw [count_map_pair, if_pos hx]; omega
      · simp
    · rw [if_neg hx]
      have := ih h.2
      split
      · rw [count_map_pair, if_neg hx]; omega
      · simpa using this

/-- the snapshot elements not yet visited are still stored, as a sub-multiset -/
def Stored (xs : List (String × String × Entry)) (us : List Ubd) : Prop :=
  ∀ d v e, xs.count (d, v, e) ≤ (getEntries us d v).count e

theorem stored_sorted (us : List Ubd) (d : String) (h : us.Pairwise (fun x y => ¬ (x.del = y.del ∧ x.val = y.val))) :
    Stored (sortedUnbondings us d) us := by
  intro d' v e
  rw [(sorted_perm us d).count_eq]
  exact flat_count_le us d d' v e h

theorem alld_sorted (us : List Ubd) (d : String) : ∀ p ∈ sortedUnbondings us d, p.1 = d := by
  intro p hp
  exact (flat_mem ((sorted_perm us d).mem_iff.mp hp)).1

theorem stored_head {d v : String} {e : Entry} {xs : List (String × String × Entry)} {us : List Ubd}
    (h : Stored ((d, v, e) :: xs) us) : e ∈ getEntries us d v := by
  have := h d v e
  rw [List.count_cons_self] at this
  apply List.count_pos_iff.mp; omega

theorem stored_tail {p : String × String × Entry} {xs : List (String × String × Entry)} {us : List Ubd}
    (h : Stored (p :: xs) us) : Stored xs us := by
  intro d v e
  have := h d v e
  rw [List.count_cons] at this
  omega

theorem stored_payOne {s s1 : State} {d v : String} {e : Entry} {x : Int} {xs : List (String × String × Entry)}
    (h : Stored ((d, v, e) :: xs) s.ubds) (ok : payFromUnbondings s d v e x = .ok s1) : Stored xs s1.ubds := by
  intro d' v' e'
  have hc := h d' v' e'
  have := ((payOne_edit (stored_head h) ok).1.perm d' v').count_eq e'
  rw [List.count_cons] at hc
  by_cases hk : (d', v') = (d, v)
  · obtain ⟨rfl, rfl⟩ := Prod.mk.inj hk
    have hb : ((d', v', e) == (d', v', e')) = (e == e') := by rw [Bool.eq_iff_iff]; simp
    simp only [atKey, if_true, List.count_append, List.count_cons, List.count_nil] at this
    rw [hb] at hc; omega
  · have hb : ((d, v, e) == (d', v', e')) = false := by
      simpa using fun a b => (hk (by rw [a, b])).elim
    simp only [atKey, hk, if_false, List.nil_append] at this
    rw [hb] at hc; simp at hc; omega

/-- `Reach d nn s rem s'`: `s'` comes from `s` by single calls for stored entries of `d`, each with a positive amount (at most the
    entry's balance when `nn` holds), the amounts adding up to `rem`.  The walk keeps the amounts within the balances only when
    `0 ≤ uncovered`, so `pay_reach` gives `nn := 0 ≤ u`: the exact amount and the invariant (`reach_exact`, `reach_inv`) hold
    for every `nn`, positive balances (`reach_pos`) for `nn := True`, and one induction over the walk serves all of them. -/
inductive Reach (d : String) (nn : Prop) : State → Int → State → Prop
  | refl (s : State) : Reach d nn s 0 s
  | step (s s1 s' : State) (v : String) (e : Entry) (t r rem : Int) (hr : rem = t + r)
      (hm : e ∈ getEntries s.ubds d v) (ht : 0 < t) (hle : nn → t ≤ e.bal)
      (ok : payFromUnbondings s d v e t = .ok s1) (rest : Reach d nn s1 r s') : Reach d nn s rem s'

theorem walk_nil {u rem : Int} {s s' : State} (ok : payWalk [] u rem s = .ok s') : rem = 0 ∧ s' = s := by
  unfold payWalk at ok
  split at ok
  · cases ok
  · rename_i h0
    cases ok
    exact ⟨by simpa using h0, rfl⟩

/-- one element of a successful walk: nothing is left to raise and the walk ends; or the element lies in the part that is
    not charged to unbondings and is skipped; or it pays what it can of the rest -/
theorem walk_cons {d v : String} {e : Entry} {xs : List (String × String × Entry)} {u rem : Int} {s s' : State}
    (ok : payWalk ((d, v, e) :: xs) u rem s = .ok s') :
    (rem = 0 ∧ s' = s) ∨ (0 < rem ∧
      ((max (e.bal - u) 0 = 0 ∧ payWalk xs (max (u - e.bal) 0) rem s = .ok s') ∨
       ∃ s1, 0 < max (e.bal - u) 0 ∧ payFromUnbondings s d v e (min rem (max (e.bal - u) 0)) = .ok s1 ∧
         payWalk xs (max (u - e.bal) 0) (rem - min rem (max (e.bal - u) 0)) s1 = .ok s')) := by
  unfold payWalk at ok
  split at ok
  · exact Or.inl (walk_nil (u := u) (by unfold payWalk; exact ok))
  · refine Or.inr ⟨by omega, ?_⟩
    dsimp only at ok
    split at ok
    · rename_i hz
      exact Or.inl ⟨by simpa using hz, ok⟩
    · rename_i hz
      simp only [beq_iff_eq] at hz
      cases hp : payFromUnbondings s d v e (min rem (max (e.bal - u) 0)) with
      | error err => rw [hp] at ok; cases ok
      | ok s1 => rw [hp] at ok; exact Or.inr ⟨s1, by omega, rfl, ok⟩

theorem walk_reach (d : String) (nn : Prop) (xs : List (String × String × Entry)) :
    ∀ (u rem : Int) (s s' : State), (nn → 0 ≤ u) → Stored xs s.ubds → (∀ p ∈ xs, p.1 = d) →
      payWalk xs u rem s = .ok s' → Reach d nn s rem s' := by
  induction xs with
  | nil =>
    intro u rem s s' _ _ _ ok
    obtain ⟨rfl, rfl⟩ := walk_nil ok
    exact Reach.refl _
  | cons p xs ih =>
    obtain ⟨d0, v, e⟩ := p
    intro u rem s s' hnn hcov hall ok
    obtain rfl : d0 = d := hall (d0, v, e) (by simp)
    have hall' : ∀ p ∈ xs, p.1 = d0 := fun p hp => hall p (by simp [hp])
    rcases walk_cons ok with ⟨rfl, rfl⟩ | ⟨hrem, ⟨_, ok1⟩ | ⟨s1, hpos, hp, ok1⟩⟩
    · exact Reach.refl _
    · exact ih _ _ _ _ (fun _ => by omega) (stored_tail hcov) hall' ok1
    · exact Reach.step s s1 s' v e _ _ rem (by omega) (stored_head hcov) (by omega) (fun h => by have := hnn h; omega) hp
        (ih _ _ _ _ (fun _ => by omega) (stored_payOne hcov hp) hall' ok1)

theorem pay_cases {s s' : State} {d : String} {u x : Int} (ok : payFromAllUnbondings s d u x = .ok s') :
    (x = 0 ∧ s' = s) ∨ payWalk (sortedUnbondings s.ubds d) u x s = .ok s' := by
  unfold payFromAllUnbondings at ok
  split at ok
  · rename_i h0
    exact Or.inl ⟨beq_iff_eq.mp h0, (Except.ok.inj ok).symm⟩
  · exact Or.inr ok

theorem pay_reach (s s' : State) (d : String) (u x : Int) (h : WF s) (ok : payFromAllUnbondings s d u x = .ok s') :
    Reach d (0 ≤ u) s x s' := by
  rcases pay_cases ok with ⟨rfl, rfl⟩ | ok
  · exact Reach.refl _
  · exact walk_reach d (0 ≤ u) _ u x s s' id (stored_sorted _ _ h.keys) (alld_sorted _ _) ok

theorem reach_wf {d : String} {nn : Prop} {s s' : State} {r : Int} (hr : Reach d nn s r s') (h : WF s) : WF s' := by
  induction hr with
  | refl s => exact h
  | step s s1 s' v e t r rem hr hm ht hle ok rest ih => exact ih (payOne_wf _ _ _ _ _ _ h hm ok)

theorem reach_exact {d : String} {nn : Prop} {s s' : State} {r : Int} (hr : Reach d nn s r s') (h : WF s) :
    outstanding s'.ubds d = outstanding s.ubds d - r := by
  induction hr with
  | refl s => simp
  | step s s1 s' v e t r rem hr hm ht hle ok rest ih =>
    rw [ih (payOne_wf _ _ _ _ _ _ h hm ok), payOne_exact _ _ _ _ _ _ h hm ok]; omega

theorem reach_inv {d : String} {nn : Prop} {s s' : State} {r : Int} (hr : Reach d nn s r s') (h : Inv s) : Inv s' := by
  induction hr with
  | refl s => exact h
  | step s s1 s' v e t r rem hr hm ht hle ok rest ih => exact ih (payOne_inv _ _ _ _ _ _ h hm ok)

/-- a state for the examples: two entries of one pair at the same time, a second validator, a bystander in the same slice -/
def exState : State :=
  run {} [.undelegate "a" "v" 10 5, .undelegate "a" "v" 20 7, .undelegate "a" "w" 20 3, .undelegate "b" "v" 20 4,
    .undelegate "a" "v" 20 7]

theorem exState_inv : Inv exState :=
  undelegate_inv _ _ _ _ _ (undelegate_inv _ _ _ _ _ (undelegate_inv _ _ _ _ _ (undelegate_inv _ _ _ _ _
    (undelegate_inv _ _ _ _ _ inv_empty))))

theorem exState_pays : (payFromAllUnbondings exState "a" 8 9).toOption.isSome = true := by decide +kernel

/-- the hypotheses of `pay_exact` / `pay_inv` hold of a non-trivial state: the call succeeds (9 out of 22, the first 8 of the
    purchase not charged to unbondings), the state is `Inv` -/
example : Inv exState ∧ (payFromAllUnbondings exState "a" 8 9).toOption.isSome = true := ⟨exState_inv, exState_pays⟩

theorem walk_frame_entries (d : String) (xs : List (String × String × Entry)) :
    ∀ (u rem : Int) (s s' : State), (∀ p ∈ xs, p.1 = d) → payWalk xs u rem s = .ok s' →
      ∀ (d' v' : String), d' ≠ d → getEntries s'.ubds d' v' = getEntries s.ubds d' v' := by
  induction xs with
  | nil =>
    intro u rem s s' _ ok d' v' _
    rw [(walk_nil ok).2]
  | cons p xs ih =>
    obtain ⟨d0, v, e⟩ := p
    intro u rem s s' hall ok d' v' hd
    obtain rfl : d0 = d := hall (d0, v, e) (by simp)
    have hall' : ∀ p ∈ xs, p.1 = d0 := fun p hp => hall p (by simp [hp])
    rcases walk_cons ok with ⟨_, rfl⟩ | ⟨_, ⟨_, ok1⟩ | ⟨s1, _, hp, ok1⟩⟩
    · rfl
    · exact ih _ _ _ _ hall' ok1 d' v' hd
    · rw [ih _ _ _ _ hall' ok1 d' v' hd]
      exact payOne_frame hp d' v' fun e1 => hd e1.1

example : (payFromAllUnbondings exState "a" 8 9).toOption.isSome = true := exState_pays

/-- without a matching entry nothing is booked although the coins leave the pool: the pair ("a","v") has an entry (10, 5), the
    snapshot element says (10, 6); the call succeeds and the state is unchanged -/
example : payFromUnbondings (run {} [.undelegate "a" "v" 10 5]) "a" "v" ⟨10, 6⟩ 2 = .ok (run {} [.undelegate "a" "v" 10 5]) ∧
    getEntries (run {} [.undelegate "a" "v" 10 5]).ubds "a" "v" = [⟨10, 5⟩] := ⟨by rfl, by decide⟩

/-- the wholesale removal of a one-pair slice goes wrong without Q1: the entry of "p" at time 100 is not queued, the slice of 100
    holds one pair of the bystander "b"; paying 5 from "p" removes the bystander's pair -/
example :
    let s : State := { ubds := [⟨"b", "w", [⟨100, 9⟩]⟩, ⟨"p", "v", [⟨100, 5⟩]⟩], queue := [(100, [("b", "w")])] }
    getSlice s.queue 100 = [("b", "w")] ∧
      (match payFromAllUnbondings s "p" 0 5 with
        | .ok s' => decide (getSlice s'.queue 100 = []) && decide (getEntries s'.ubds "b" "w" = [⟨100, 9⟩])
        | .error _ => false) = true := by decide

theorem reach_frame_queue {d : String} {nn : Prop} {s s' : State} {r : Int} (hr : Reach d nn s r s') (h : Inv s)
    (d' : String) (hd : d' ≠ d) (t : Int) :
    (getSlice s'.queue t).filter (fun pr => pr.1 == d') = (getSlice s.queue t).filter (fun pr => pr.1 == d') := by
  induction hr with
  | refl s => rfl
  | step s s1 s' v e t1 r rem hr hm ht hle ok rest ih =>
    rw [ih (payOne_inv _ _ _ _ _ _ h hm ok), (payOne_step h hm ok).frame_queue d' hd t]

example : Inv exState ∧ (payFromAllUnbondings exState "a" 8 9).toOption.isSome = true ∧ "b" ≠ "a" :=
  ⟨exState_inv, exState_pays, by decide⟩

theorem payOne_times (s s' : State) (d v : String) (e0 : Entry) (x : Int) (hx : 0 ≤ x) (hm : e0 ∈ getEntries s.ubds d v)
    (ok : payFromUnbondings s d v e0 x = .ok s') (v' : String) (e' : Entry) (he : e' ∈ getEntries s'.ubds d v') :
    ∃ e ∈ getEntries s.ubds d v', e.t = e'.t ∧ e'.bal ≤ e.bal := by
  rcases (payOne_edit hm ok).1.mem he with m | ⟨hk, m⟩
  · exact ⟨e', m, rfl, Int.le_refl _⟩
  · obtain ⟨_, h1, h2⟩ := mem_shrunk m
    exact ⟨e0, (Prod.mk.inj hk).2 ▸ hm, h1.symm, by omega⟩

theorem reach_times {d : String} {nn : Prop} {s s' : State} {r : Int} (hr : Reach d nn s r s') (v : String) (e' : Entry)
    (he : e' ∈ getEntries s'.ubds d v) : ∃ e ∈ getEntries s.ubds d v, e.t = e'.t ∧ e'.bal ≤ e.bal := by
  induction hr with
  | refl s => exact ⟨e', he, rfl, Int.le_refl _⟩
  | step s s1 s' v1 e t r rem hr hm ht hle ok rest ih =>
    obtain ⟨e1, hm1, ht1, hb1⟩ := ih he
    obtain ⟨e2, hm2, ht2, hb2⟩ := payOne_times _ _ _ _ _ _ (by omega) hm ok v e1 hm1
    exact ⟨e2, hm2, ht2.trans ht1, by omega⟩

theorem payOne_pos (s s' : State) (d v : String) (e0 : Entry) (x : Int) (hm : e0 ∈ getEntries s.ubds d v)
    (hpos : ∀ v, ∀ e ∈ getEntries s.ubds d v, 0 < e.bal) (hx : x ≤ e0.bal)
    (ok : payFromUnbondings s d v e0 x = .ok s') : ∀ v', ∀ e ∈ getEntries s'.ubds d v', 0 < e.bal := by
  intro v' e' he
  rcases (payOne_edit hm ok).1.mem he with m | ⟨_, m⟩
  · exact hpos v' e' m
  · obtain ⟨h0, _, h2⟩ := mem_shrunk m
    omega

theorem reach_pos {d : String} {s s' : State} {r : Int} (hr : Reach d True s r s')
    (hpos : ∀ v, ∀ e ∈ getEntries s.ubds d v, 0 < e.bal) : ∀ v, ∀ e ∈ getEntries s'.ubds d v, 0 < e.bal := by
  induction hr with
  | refl s => exact hpos
  | step s s1 s' v1 e t r rem hr hm ht hle ok rest ih =>
    exact ih (payOne_pos _ _ _ _ _ _ hm hpos (hle trivial) ok)

theorem reach_mono {d : String} {nn nn' : Prop} (hi : nn' → nn) {s s' : State} {r : Int} (hr : Reach d nn s r s') :
    Reach d nn' s r s' := by
  induction hr with
  | refl s => exact Reach.refl s
  | step s s1 s' v1 e t r rem hr hm ht hle ok rest ih =>
    exact Reach.step s s1 s' v1 e t r rem hr hm ht (fun h => hle (hi h)) ok ih

theorem getEntries_mem {us : List Ubd} {d v : String} {e : Entry} (h : e ∈ getEntries us d v) :
    ∃ u ∈ us, e ∈ u.entries := by
  obtain ⟨u, hu, _, he⟩ := mem_of_getEntries h
  exact ⟨u, hu, he⟩

/-- `pay_times`: a well-formed state, a successful call, an entry afterwards (the shrunk one) -/
example : WF exState ∧ (payFromAllUnbondings exState "a" 8 9).toOption.isSome = true ∧
    (match payFromAllUnbondings exState "a" 8 9 with
      | .ok s' => decide ((⟨20, 1⟩ : Entry) ∈ getEntries s'.ubds "a" "v")
      | .error _ => false) = true := ⟨exState_inv.toWF, exState_pays, by decide +kernel⟩

/-- `pay_no_empty_entry`: a well-formed state with positive balances, 0 ≤ 8, a successful call -/
example : WF exState ∧ (0 : Int) ≤ 8 ∧ (∀ v, ∀ e ∈ getEntries exState.ubds "a" v, 0 < e.bal) ∧
    (payFromAllUnbondings exState "a" 8 9).toOption.isSome = true := by
  refine ⟨exState_inv.toWF, by decide, ?_, exState_pays⟩
  intro v e he
  obtain ⟨u, hu, hm⟩ := getEntries_mem he
  have hall : ∀ u ∈ exState.ubds, ∀ e ∈ u.entries, 0 < e.bal := by decide
  exact hall u hu e hm

/-- `0 ≤ u` is needed in `pay_no_empty_entry`: with a negative `uncovered` an entry is overdrawn (balance -3 afterwards) -/
example : (match payFromAllUnbondings exState "a" (-3) 22 with
      | .ok s' => decide ((⟨20, -3⟩ : Entry) ∈ getEntries s'.ubds "a" "v")
      | .error _ => false) = true := by decide

end Shentu.UbdQueue.Pay
