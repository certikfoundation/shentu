/-
  Lists whose members carry distinct keys (addresses, identifiers): the stores of the models are such lists.
-/
namespace Shentu

theorem eq_of_key_eq {α β : Type} {f : α → β} {l : List α} (hn : (l.map f).Nodup) {x y : α}
    (hx : x ∈ l) (hy : y ∈ l) (h : f x = f y) : x = y := by
  induction l with
  | nil => cases hx
  | cons z zs ih =>
    simp only [List.map_cons, List.nodup_cons, List.mem_map, not_exists, not_and] at hn
    rcases List.mem_cons.mp hx with rfl | hx' <;> rcases List.mem_cons.mp hy with rfl | hy'
    · rfl
    · exact absurd h.symm (hn.1 y hy')
    · exact absurd h (hn.1 x hx')
    · exact ih hn.2 hx' hy'

theorem find_of_key {α β : Type} [BEq β] [LawfulBEq β] {f : α → β} {l : List α} (hn : (l.map f).Nodup) {x : α}
    (hx : x ∈ l) : l.find? (fun y => f y == f x) = some x := by
  cases h : l.find? (fun y => f y == f x) with
  | none => exact absurd (beq_self_eq_true _) (List.find?_eq_none.mp h x hx)
  | some y =>
    have hy : (f y == f x) = true := List.find?_some (p := fun y => f y == f x) h
    rw [eq_of_key_eq hn (List.mem_of_find?_eq_some h) hx (beq_iff_eq.mp hy)]

theorem nodup_snoc {α} {l : List α} {a : α} (hn : l.Nodup) (ha : a ∉ l) : (l ++ [a]).Nodup := by
  rw [List.nodup_append]
  exact ⟨hn, by simp, fun x hx y hy heq => ha (List.mem_singleton.mp hy ▸ heq ▸ hx)⟩

end Shentu

/-! The stores are updated under a key: lookup, keys and sums after `map`-replace, `filter`-remove and upsert. -/
namespace Shentu.Keyed
variable {α β : Type} [BEq β] [LawfulBEq β] [DecidableEq β] (κ : α → β)

theorem find_update {k : β} {F : α → α} (hF : ∀ x, κ x = k → κ (F x) = k) (k' : β) : ∀ l : List α,
    (l.map (fun x => if κ x == k then F x else x)).find? (fun x => κ x == k') =
      if k = k' then (l.find? (fun x => κ x == k)).map F else l.find? (fun x => κ x == k')
  | [] => by simp
  | x :: xs => by
    have ih := find_update hF k' xs
    rw [List.map_cons, List.find?_cons, ih]
    by_cases hx : κ x = k
    · rw [if_pos (beq_iff_eq.mpr hx), hF x hx]
      by_cases hk : k = k'
      · rw [if_pos hk, if_pos hk, List.find?_cons, beq_iff_eq.mpr hk, beq_iff_eq.mpr hx]; rfl
      · rw [if_neg hk, if_neg hk, List.find?_cons, hx, beq_false_of_ne hk]
    · rw [if_neg (fun h => hx (beq_iff_eq.mp h))]
      by_cases hk : k = k'
      · subst hk; rw [if_pos rfl, if_pos rfl, List.find?_cons, beq_false_of_ne hx]
      · rw [if_neg hk, if_neg hk, List.find?_cons]

/-- `find_update` for a write that puts the one record `n` under `k`, with the test on the key looked up -/
theorem find_replace {k : β} {n : α} (hk : κ n = k) (k' : β) (l : List α) :
    (l.map (fun x => if κ x == k then n else x)).find? (fun x => κ x == k') =
      if k' = k then (l.find? (fun x => κ x == k')).map (fun _ => n) else l.find? (fun x => κ x == k') := by
  rw [find_update κ (F := fun _ => n) (fun _ _ => hk)]
  by_cases h : k' = k
  · subst h; rw [if_pos rfl]
  · rw [if_neg h, if_neg (Ne.symm h)]

theorem find_remove (k k' : β) : ∀ l : List α,
    (l.filter (fun x => !(κ x == k))).find? (fun x => κ x == k') = if k = k' then none else l.find? (fun x => κ x == k')
  | [] => by simp
  | x :: xs => by
    have ih := find_remove k k' xs
    rw [List.filter_cons]
    by_cases hx : κ x = k
    · rw [beq_iff_eq.mpr hx, if_neg (by decide), ih]
      by_cases hk : k = k'
      · rw [if_pos hk, if_pos hk]
      · rw [if_neg hk, if_neg hk, List.find?_cons, hx, beq_false_of_ne hk]
    · rw [beq_false_of_ne hx, if_pos (by decide), List.find?_cons, ih]
      by_cases hk : k = k'
      · subst hk; rw [if_pos rfl, if_pos rfl, beq_false_of_ne hx]
      · rw [if_neg hk, if_neg hk, List.find?_cons]

omit [DecidableEq β] in
theorem update_fix (k : β) (F : α → α) : ∀ l : List α, (∀ y ∈ l, κ y ≠ k) →
    l.map (fun x => if κ x == k then F x else x) = l
  | [], _ => rfl
  | y :: ys, h => by
    rw [List.map_cons, beq_false_of_ne (h y List.mem_cons_self), if_neg (by decide),
      update_fix k F ys (fun z hz => h z (List.mem_cons_of_mem _ hz))]

omit [DecidableEq β] in
theorem remove_fix (k : β) : ∀ l : List α, (∀ y ∈ l, κ y ≠ k) → l.filter (fun x => !(κ x == k)) = l
  | [], _ => rfl
  | y :: ys, h => by
    rw [List.filter_cons, beq_false_of_ne (h y List.mem_cons_self), if_pos (by decide),
      remove_fix k ys (fun z hz => h z (List.mem_cons_of_mem _ hz))]

theorem keys_update {k : β} {F : α → α} (hF : ∀ x, κ x = k → κ (F x) = k) (l : List α) :
    (l.map (fun x => if κ x == k then F x else x)).map κ = l.map κ := by
  rw [List.map_map]
  apply List.map_congr_left
  intro x _
  by_cases hx : κ x = k
  · simp only [Function.comp, beq_iff_eq.mpr hx, if_true]; rw [hF x hx, hx]
  · simp only [Function.comp, beq_false_of_ne hx, Bool.false_eq_true, if_false]

omit [DecidableEq β] in
theorem not_mem_keys {k : β} {l : List α} (h : l.find? (fun x => κ x == k) = none) : ∀ y ∈ l, κ y ≠ k :=
  fun y hy hk => by simpa [hk] using List.find?_eq_none.1 h y hy

omit [DecidableEq β] in
theorem find_none_iff {k : β} {l : List α} : l.find? (fun x => κ x == k) = none ↔ ∀ y ∈ l, κ y ≠ k :=
  ⟨not_mem_keys κ, fun h => List.find?_eq_none.2 fun y hy => by simpa using h y hy⟩

omit [DecidableEq β] in
theorem of_find {k : β} {l : List α} {o : α} (h : l.find? (fun x => κ x == k) = some o) : o ∈ l ∧ κ o = k :=
  ⟨List.mem_of_find?_eq_some h, beq_iff_eq.mp (List.find?_some (p := fun x => κ x == k) h)⟩

/-- `find_replace` over a record that is there: the lookup changes under its key and under no other -/
theorem find_replace_some {k : β} {l : List α} {o : α} (h : l.find? (fun x => κ x == k) = some o) (n : α) (hk : κ n = κ o)
    (k' : β) :
    (l.map (fun x => if κ x == κ n then n else x)).find? (fun x => κ x == k') =
      if k' = k then some n else l.find? (fun x => κ x == k') := by
  rw [find_replace κ rfl, hk, (of_find κ h).2]
  split
  · rename_i hj; rw [hj, h]; rfl
  · rfl

theorem update_comm {k k' : β} (hne : k ≠ k') {F G : α → α} (hF : ∀ x, κ x = k → κ (F x) = k)
    (hG : ∀ x, κ x = k' → κ (G x) = k') (l : List α) :
    (l.map (fun x => if κ x == k then F x else x)).map (fun x => if κ x == k' then G x else x) =
      (l.map (fun x => if κ x == k' then G x else x)).map (fun x => if κ x == k then F x else x) := by
  rw [List.map_map, List.map_map]
  apply List.map_congr_left
  intro x _
  show (if κ (if κ x == k then F x else x) == k' then _ else _) = if κ (if κ x == k' then G x else x) == k then _ else _
  by_cases h1 : κ x = k
  · have h3 : ¬ κ (F x) = k' := hF x h1 ▸ hne
    simp only [beq_iff_eq, h1, hne, h3, if_true, if_false]
  · by_cases h2 : κ x = k'
    · have h3 : ¬ κ (G x) = k := hG x h2 ▸ Ne.symm hne
      simp only [beq_iff_eq, h2, hne.symm, h3, if_true, if_false]
    · simp only [beq_iff_eq, h1, h2, if_false]

omit [BEq β] [LawfulBEq β] [DecidableEq β] in
theorem nodup_iff_pairwise {l : List α} : (l.map κ).Nodup ↔ l.Pairwise (fun a b => κ a ≠ κ b) := List.pairwise_map

omit [DecidableEq β] in
theorem mem_update {k : β} {n y : α} {l : List α} (h : y ∈ l.map (fun x => if κ x == k then n else x)) :
    y = n ∨ (y ∈ l ∧ κ y ≠ k) := by
  obtain ⟨x, hx, he⟩ := List.mem_map.mp h
  by_cases hk : κ x = k
  · rw [beq_iff_eq.mpr hk, if_pos rfl] at he; exact Or.inl he.symm
  · rw [beq_false_of_ne hk, if_neg (by decide)] at he; exact Or.inr (he ▸ ⟨hx, hk⟩)

theorem split_found {k : β} : ∀ {l : List α} {o : α}, (l.map κ).Nodup → l.find? (fun x => κ x == k) = some o →
    ∃ pre post, l = pre ++ o :: post ∧ κ o = k ∧ (∀ y ∈ pre, κ y ≠ k) ∧ ∀ y ∈ post, κ y ≠ k
  | [], _, _, h => by cases h
  | x :: xs, o, hn, h => by
    have hnx := List.nodup_cons.mp (by simpa using hn : (κ x :: xs.map κ).Nodup)
    rw [List.find?_cons] at h
    by_cases hx : κ x = k
    · rw [beq_iff_eq.mpr hx] at h; cases h
      exact ⟨[], xs, rfl, hx, fun _ hy => (by cases hy), fun y hy hyk => hnx.1 (by rw [hx, ← hyk]; exact List.mem_map_of_mem hy)⟩
    · rw [beq_false_of_ne hx] at h
      obtain ⟨pre, post, rfl, ho, h1, h2⟩ := split_found hnx.2 h
      exact ⟨x :: pre, post, rfl, ho, fun y hy => by
        rcases List.mem_cons.mp hy with rfl | hy
        · exact hx
        · exact h1 y hy, h2⟩

theorem update_split {k : β} (F : α → α) {l : List α} {o : α} (hn : (l.map κ).Nodup)
    (h : l.find? (fun x => κ x == k) = some o) :
    ∃ pre post, l = pre ++ o :: post ∧ l.map (fun x => if κ x == k then F x else x) = pre ++ F o :: post ∧
      l.filter (fun x => !(κ x == k)) = pre ++ post := by
  obtain ⟨pre, post, rfl, ho, h1, h2⟩ := split_found κ hn h
  refine ⟨pre, post, rfl, ?_, ?_⟩
  · rw [List.map_append, List.map_cons, update_fix κ k F pre h1, update_fix κ k F post h2, beq_iff_eq.mpr ho, if_pos rfl]
  · rw [List.filter_append, List.filter_cons, remove_fix κ k pre h1, remove_fix κ k post h2, beq_iff_eq.mpr ho,
      if_neg (by decide)]

omit [DecidableEq β] in
/-- the converse of `split_found`, for loops that walk a store in order -/
theorem update_at (F : α → α) {pre post : List α} {c : α} (hn : ((pre ++ c :: post).map κ).Nodup) :
    (pre ++ c :: post).find? (fun x => κ x == κ c) = some c ∧
      (pre ++ c :: post).map (fun x => if κ x == κ c then F x else x) = pre ++ F c :: post := by
  have hc : c ∈ pre ++ c :: post := List.mem_append_right _ List.mem_cons_self
  refine ⟨find_of_key hn hc, ?_⟩
  rw [List.map_append, List.map_cons] at hn
  obtain ⟨_, h2, h3⟩ := List.nodup_append.mp hn
  rw [List.map_append, List.map_cons,
    update_fix κ (κ c) F pre (fun y hy => h3 _ (List.mem_map_of_mem hy) _ List.mem_cons_self),
    update_fix κ (κ c) F post (fun y hy hk => (List.nodup_cons.mp h2).1 (by rw [← hk]; exact List.mem_map_of_mem hy)),
    beq_self_eq_true, if_pos rfl]

theorem sum_update {k : β} (F : α → α) (g : α → Int) {l : List α} {o : α} (hn : (l.map κ).Nodup)
    (h : l.find? (fun x => κ x == k) = some o) :
    ((l.map (fun x => if κ x == k then F x else x)).map g).sum = (l.map g).sum - g o + g (F o) := by
  obtain ⟨pre, post, rfl, hu, _⟩ := update_split κ F hn h
  rw [hu]
  simp only [List.map_append, List.map_cons, List.sum_append, List.sum_cons]
  omega

theorem sum_remove {k : β} (g : α → Int) {l : List α} {o : α} (hn : (l.map κ).Nodup)
    (h : l.find? (fun x => κ x == k) = some o) :
    ((l.filter (fun x => !(κ x == k))).map g).sum = (l.map g).sum - g o := by
  obtain ⟨pre, post, rfl, _, hr⟩ := update_split κ id hn h
  rw [hr]
  simp only [List.map_append, List.map_cons, List.sum_append, List.sum_cons]
  omega

theorem pairwise_update {R : α → α → Prop} {k : β} {n o : α} {l : List α} (hn : (l.map κ).Nodup)
    (h : l.find? (fun x => κ x == k) = some o) (hp : l.Pairwise R) (hR : ∀ b ∈ l, κ b ≠ k → R n b ∧ R b n) :
    (l.map (fun x => if κ x == k then n else x)).Pairwise R := by
  obtain ⟨pre, post, rfl, ho, h1, h2⟩ := split_found κ hn h
  rw [List.map_append, List.map_cons, update_fix κ k _ pre h1, update_fix κ k _ post h2, beq_iff_eq.mpr ho, if_pos rfl]
  obtain ⟨p1, p2, p3⟩ := List.pairwise_append.mp hp
  obtain ⟨q1, q2⟩ := List.pairwise_cons.mp p2
  refine List.pairwise_append.mpr ⟨p1, List.pairwise_cons.mpr ⟨fun b hb => ?_, q2⟩, fun a ha b hb => ?_⟩
  · exact (hR b (List.mem_append_right _ (List.mem_cons_of_mem _ hb)) (h2 b hb)).1
  · rcases List.mem_cons.mp hb with rfl | hb
    · exact (hR a (List.mem_append_left _ ha) (h1 a ha)).2
    · exact p3 a ha b (List.mem_cons_of_mem _ hb)

/-- overwrite the record under the key of `n`, or append `n` under a new key.  The store updates that the models define
    (`Gov.setP`, `Vesting.set`, …) have this form; an equation such as `Gov.setP_proposals` brings each of them here. -/
def upsert (n : α) (l : List α) : List α :=
  if (l.find? (fun x => κ x == κ n)).isSome then l.map (fun x => if κ x == κ n then n else x) else l ++ [n]

omit [LawfulBEq β] [DecidableEq β] in
theorem upsert_found {n o : α} {l : List α} (h : l.find? (fun x => κ x == κ n) = some o) :
    upsert κ n l = l.map (fun x => if κ x == κ n then n else x) := by
  rw [upsert, h]; rfl

omit [LawfulBEq β] [DecidableEq β] in
theorem upsert_new {n : α} {l : List α} (h : l.find? (fun x => κ x == κ n) = none) : upsert κ n l = l ++ [n] := by
  rw [upsert, h]; rfl

theorem find_upsert (n : α) (l : List α) (k' : β) :
    (upsert κ n l).find? (fun x => κ x == k') = if κ n = k' then some n else l.find? (fun x => κ x == k') := by
  cases h : l.find? (fun x => κ x == κ n) with
  | some o => rw [upsert_found κ h, find_update κ (F := fun _ => n) (fun _ _ => rfl), h]; rfl
  | none =>
    rw [upsert_new κ h, List.find?_append, List.find?_cons]
    by_cases hk : κ n = k'
    · rw [if_pos hk, ← hk, h, beq_iff_eq.mpr rfl]; rfl
    · rw [if_neg hk, beq_false_of_ne hk]; cases l.find? (fun x => κ x == k') <;> rfl

omit [LawfulBEq β] [DecidableEq β] in
theorem mem_upsert {n x : α} {l : List α} (h : x ∈ upsert κ n l) : x = n ∨ x ∈ l := by
  unfold upsert at h
  split at h
  · obtain ⟨y, hy, he⟩ := List.mem_map.mp h
    split at he
    · exact Or.inl he.symm
    · exact Or.inr (he ▸ hy)
  · rcases List.mem_append.mp h with h1 | h1
    · exact Or.inr h1
    · exact Or.inl (List.mem_singleton.mp h1)

omit [BEq β] [LawfulBEq β] [DecidableEq β] in
theorem nodup_append_new {n : α} {l : List α} (hn : (l.map κ).Nodup) (h : ∀ y ∈ l, κ y ≠ κ n) :
    ((l ++ [n]).map κ).Nodup := by
  rw [List.map_append]
  exact nodup_snoc hn fun hx => by obtain ⟨y, hy, e⟩ := List.mem_map.mp hx; exact h y hy e

theorem keys_upsert_nodup (n : α) {l : List α} (hn : (l.map κ).Nodup) : ((upsert κ n l).map κ).Nodup := by
  cases h : l.find? (fun x => κ x == κ n) with
  | some o => rw [upsert_found κ h, keys_update κ (F := fun _ => n) (fun _ _ => rfl)]; exact hn
  | none => rw [upsert_new κ h]; exact nodup_append_new κ hn (not_mem_keys κ h)

theorem sum_upsert_found (g : α → Int) {n o : α} {l : List α} (hn : (l.map κ).Nodup)
    (h : l.find? (fun x => κ x == κ n) = some o) : ((upsert κ n l).map g).sum = (l.map g).sum - g o + g n := by
  rw [upsert_found κ h, sum_update κ (fun _ => n) g hn h]

omit [LawfulBEq β] [DecidableEq β] in
theorem sum_upsert_new (g : α → Int) {n : α} {l : List α} (h : l.find? (fun x => κ x == κ n) = none) :
    ((upsert κ n l).map g).sum = (l.map g).sum + g n := by
  rw [upsert_new κ h, List.map_append, List.sum_append]; simp

omit [BEq β] [LawfulBEq β] [DecidableEq β] in
theorem keys_remove_nodup {l : List α} (p : α → Bool) (hn : (l.map κ).Nodup) : ((l.filter p).map κ).Nodup :=
  hn.sublist (List.filter_sublist.map κ)

omit [DecidableEq β] in
/-- the members after the record under `k` was dropped and `n` filed at the end (how the shield files a reimbursement) -/
theorem mem_refile {k : β} {n x : α} {l : List α} :
    x ∈ l.filter (fun y => !(κ y == k)) ++ [n] ↔ x ∈ l ∧ κ x ≠ k ∨ x = n := by
  simp [List.mem_filter]

theorem foldl_append_of_fresh {γ : Type} {R : γ → γ → Prop} {step : List γ → γ → List γ}
    (hstep : ∀ acc x, (∀ a ∈ acc, R a x) → step acc x = acc ++ [x]) :
    ∀ (xs acc : List γ), (acc ++ xs).Pairwise R → xs.foldl step acc = acc ++ xs
  | [], acc, _ => (List.append_nil acc).symm
  | x :: xs, acc, h => by
    rw [List.append_cons] at h
    have hx := (List.pairwise_append.mp (List.pairwise_append.mp h).1).2.2
    rw [List.foldl_cons, hstep acc x fun a ha => hx a ha x (List.mem_singleton_self x),
      foldl_append_of_fresh hstep xs _ h, ← List.append_cons]

/-- one write under the key `k`: `some n` (with `κ n = k`) overwrites the record under `k` or appends `n`, `none` removes
    the record.  A store operation of a model that has this form can be read through the lemmas below, whichever of
    the three it is. -/
def put (k : β) (n : Option α) (l : List α) : List α :=
  match n with
  | some n => upsert κ n l
  | none => l.filter (fun x => !(κ x == k))

/-- `g` of what is stored, nothing counting as `0` -/
def val (g : α → Int) (o : Option α) : Int := (o.map g).getD 0

@[simp] theorem val_none (g : α → Int) : val g none = 0 := rfl
@[simp] theorem val_some (g : α → Int) (x : α) : val g (some x) = g x := rfl

theorem find_put {k : β} {n : Option α} (hk : ∀ x, n = some x → κ x = k) (l : List α) (k' : β) :
    (put κ k n l).find? (fun x => κ x == k') = if k = k' then n else l.find? (fun x => κ x == k') := by
  cases n with
  | none => exact find_remove κ k k' l
  | some x => rw [← hk x rfl]; exact find_upsert κ x l k'

omit [LawfulBEq β] [DecidableEq β] in
theorem mem_put {k : β} {n : Option α} {x : α} {l : List α} (h : x ∈ put κ k n l) : n = some x ∨ x ∈ l := by
  cases n with
  | none => exact Or.inr (List.mem_filter.mp h).1
  | some y => exact (mem_upsert κ h).imp (fun e => by rw [e]) id

theorem keys_put_nodup {k : β} {n : Option α} {l : List α} (hn : (l.map κ).Nodup) : ((put κ k n l).map κ).Nodup := by
  cases n with
  | none => exact keys_remove_nodup κ _ hn
  | some y => exact keys_upsert_nodup κ y hn

theorem sum_put (g : α → Int) {k : β} {n : Option α} (hk : ∀ x, n = some x → κ x = k) {l : List α} (hn : (l.map κ).Nodup) :
    ((put κ k n l).map g).sum = (l.map g).sum - val g (l.find? (fun x => κ x == k)) + val g n := by
  cases n with
  | none =>
    show ((l.filter _).map g).sum = _
    cases h : l.find? (fun x => κ x == k) with
    | none => rw [remove_fix κ k l (not_mem_keys κ h)]; simp
    | some o => rw [sum_remove κ g hn h]; simp
  | some y =>
    obtain rfl := hk y rfl
    show ((upsert κ y l).map g).sum = _
    cases h : l.find? (fun x => κ x == κ y) with
    | none => rw [sum_upsert_new κ g h]; simp
    | some o => rw [sum_upsert_found κ g hn h]; simp

theorem pairwise_put {R : α → α → Prop} {k : β} {n : Option α} {l : List α} (hk : ∀ x, n = some x → κ x = k)
    (hn : (l.map κ).Nodup) (hp : l.Pairwise R) (hR : ∀ x, n = some x → ∀ b ∈ l, κ b ≠ k → R x b ∧ R b x) :
    (put κ k n l).Pairwise R := by
  cases n with
  | none => exact hp.filter _
  | some y =>
    obtain rfl := hk y rfl
    show (upsert κ y l).Pairwise R
    cases h : l.find? (fun x => κ x == κ y) with
    | some o => rw [upsert_found κ h]; exact pairwise_update κ hn h hp (hR y rfl)
    | none =>
      rw [upsert_new κ h]
      exact List.pairwise_append.mpr ⟨hp, List.pairwise_singleton _ _, fun a ha b hb =>
        List.mem_singleton.mp hb ▸ (hR y rfl a ha (not_mem_keys κ h a ha)).2⟩

end Shentu.Keyed
