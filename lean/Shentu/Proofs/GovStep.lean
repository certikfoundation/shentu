import Shentu.Proofs.GovLemmas
import Shentu.Proofs.Runs
/-
  What the governance model does, as relations: what the end blocker does to one proposal (`EndStep`: next round, or
  settled with the deposits paid out and a `Verdict`), with `endBlock_rel_endStep` to carry a relation across the end
  blocker; and the atoms a successful message is made of (`Atom`, chained by `Star`).
-/
namespace Shentu.Gov

/-- the deposits of `pid` leave the module account: refunded one by one, or burned in one go -/
structure Paid (e : Env) (w : World) (pid : Nat) (burned : Bool) (l' : Ledger) : Prop where
  refund : burned = false → refundDeposits.go e (w.g.deposits.filter (·.pid == pid)) w.l = .ok l'
  burn : burned = true → l' = w.l.burn e.modAddr
    ((w.g.deposits.filter (·.pid == pid)).foldl (fun acc d => Coins.add acc d.amount) ([] : Coins))

/-- `w` after the deposits of `pid` are paid and deleted, with the votes `vs` left -/
def paidOut (w : World) (pid : Nat) (l' : Ledger) (vs : List Vote) : World :=
  { w with l := l', g := { w.g with votes := vs, deposits := w.g.deposits.filter (fun d => !(d.pid == pid)) } }

/-- which tally decided whether the deposits are burned and whether the proposal passed: the certifier round's (it must
    have ended the voting; it never burns), else the stake round's (a veto burns) -/
inductive Verdict (e : Env) (w : World) (p : Proposal) : (burned pass : Bool) → Prop
  | cert : p.status = 2 → (securityTally w.g w.c p).2.1 = true → Verdict e w p false (securityTally w.g w.c p).1
  | stake : p.status ≠ 2 → Verdict e w p (stakeTally e w.g p 0).2.1 (stakeTally e w.g p 0).1

/-- the stake round deletes the votes of the proposal when it tallies; the certifier round leaves them -/
def votesAfter (w : World) (p : Proposal) : List Vote :=
  if p.status = 2 then w.g.votes else w.g.votes.filter (fun v => !(v.pid == p.id))

/-- What the end blocker does with a proposal whose turn has come, other than dropping it: the certifier round hands
    over to the validator round, or the proposal is settled (deposits paid out, record finalised by `finish`). -/
inductive EndStep (e : Env) (w : World) (p : Proposal) : World → Prop
  | nextRound : p.status = 2 → (securityTally w.g w.c p).2.1 = false →
      EndStep e w p { w with g := activateVotingPeriod e { w.g with votes := w.g.votes.filter (fun v => !(v.pid == p.id)) } p }
  | settle {burned pass : Bool} {l' : Ledger} (t : Tally) : Paid e w p.id burned l' → Verdict e w p burned pass →
      EndStep e w p (finish (paidOut w p.id l' (votesAfter w p)) p pass t)

/-- the stake round pays after it has deleted the votes of the proposal, the certifier round with the votes as they are: `vs` -/
theorem paid_refund {e : Env} {w w1 : World} {pid : Nat} {vs : List Vote}
    (h : refundDeposits e { w with g := { w.g with votes := vs } } pid = .ok w1) :
    ∃ l', Paid e w pid false l' ∧ w1 = paidOut w pid l' vs := by
  obtain ⟨l', hgo, rfl⟩ := refundDeposits_ok h
  exact ⟨l', ⟨fun _ => hgo, nofun⟩, rfl⟩

theorem paid_burn {e : Env} {w w1 : World} {pid : Nat} {vs : List Vote}
    (h : burnDeposits e { w with g := { w.g with votes := vs } } pid = .ok w1) :
    ∃ l', Paid e w pid true l' ∧ w1 = paidOut w pid l' vs :=
  ⟨_, ⟨nofun, fun _ => rfl⟩, burnDeposits_ok h⟩

theorem processActive_endStep {e : Env} {w w' : World} {p : Proposal} (h : processActive e w p = .ok w') :
    EndStep e w p w' := by
  rw [processActive_eq] at h
  by_cases h2 : p.status = 2
  · rw [if_pos (by simp [h2])] at h
    rcases Bool.eq_false_or_eq_true (securityTally w.g w.c p).2.1 with hv | hv
    · rw [hv, if_neg (by simp)] at h
      obtain ⟨w1, h1, rfl⟩ := Except.map_eq_ok h
      obtain ⟨l', hp, rfl⟩ := paid_refund (vs := w.g.votes) h1
      have := EndStep.settle (securityTally w.g w.c p).2.2 hp (.cert h2 hv)
      simpa only [votesAfter, if_pos h2] using this
    · rw [hv, if_pos (show (!false) = true from rfl)] at h; cases h; exact .nextRound h2 hv
  · rw [if_neg (by simp [h2]), stakeTally_state] at h
    obtain ⟨w2, hw2, rfl⟩ := Except.map_eq_ok h
    have hver : Verdict e w p (stakeTally e w.g p 0).2.1 (stakeTally e w.g p 0).1 := .stake h2
    rcases Bool.eq_false_or_eq_true (stakeTally e w.g p 0).2.1 with hv | hv
    · rw [hv, if_pos rfl] at hw2
      obtain ⟨l', hp, rfl⟩ := paid_burn hw2
      have := EndStep.settle (stakeTally e w.g p 0).2.2.1 hp (hv ▸ hver)
      simpa only [votesAfter, if_neg h2] using this
    · rw [hv, if_neg (by simp)] at hw2
      obtain ⟨l', hp, rfl⟩ := paid_refund hw2
      have := EndStep.settle (stakeTally e w.g p 0).2.2.1 hp (hv ▸ hver)
      simpa only [votesAfter, if_neg h2] using this

theorem processSecurityVote_endStep {e : Env} {w w' : World} {p : Proposal} (h : processSecurityVote e w p = .ok w') :
    (w' = w ∧ (p.status ≠ 2 ∨ (securityTally w.g w.c p).1 = false)) ∨
      (p.status = 2 ∧ (securityTally w.g w.c p).1 = true ∧ EndStep e w p w') := by
  rw [processSecurityVote_eq] at h
  by_cases hne : (p.status != 2) = true
  · rw [if_pos hne] at h; cases h; exact Or.inl ⟨rfl, Or.inl (by simpa using hne)⟩
  rw [if_neg hne] at h
  have h2 : p.status = 2 := by simpa using hne
  rcases Bool.eq_false_or_eq_true (securityTally w.g w.c p).1 with hp | hp
  · rw [hp, if_neg (by simp)] at h
    refine Or.inr ⟨h2, hp, ?_⟩
    rcases Bool.eq_false_or_eq_true (securityTally w.g w.c p).2.1 with hv | hv
    · rw [hv, if_pos rfl] at h
      obtain ⟨w1, h1, rfl⟩ := Except.map_eq_ok h
      obtain ⟨l', hpd, rfl⟩ := paid_refund (vs := w.g.votes) h1
      have := EndStep.settle (securityTally w.g w.c p).2.2 hpd (.cert h2 hv)
      simpa only [votesAfter, if_pos h2, hp] using this
    · rw [hv, if_neg (by simp)] at h; cases h; exact .nextRound h2 hv
  · rw [hp, if_pos (show (!false) = true from rfl)] at h; cases h; exact Or.inl ⟨rfl, Or.inr hp⟩

theorem EndStep.others {e : Env} {w w' : World} {p : Proposal} (h : EndStep e w p w') :
    (∀ id, id ≠ p.id → findP w'.g id = findP w.g id) ∧ w'.g.nextId = w.g.nextId := by
  cases h with
  | nextRound _ _ =>
    exact ⟨fun id hne => by
      show findP (activateVotingPeriod e _ p) id = _
      rw [findP_activate, if_neg (by simpa using Ne.symm hne)]; rfl, activateVotingPeriod_nextId ..⟩
  | settle t _ _ =>
    obtain ⟨c', s, hf, _⟩ := finish_shape (paidOut w p.id _ (votesAfter w p)) p _ t
    rw [hf]
    exact ⟨fun id hne => findP_setP_ne _ (p := { p with status := s, tally := t }) hne, setP_nextId ..⟩

theorem drop_others {e : Env} {w w' : World} {id0 : Nat} (h : refundDeposits e { w with g := delP w.g id0 } id0 = .ok w') :
    (∀ id, id ≠ id0 → findP w'.g id = findP w.g id) ∧ w'.g.nextId = w.g.nextId := by
  obtain ⟨_, _, rfl⟩ := refundDeposits_ok h
  exact ⟨fun id hne => by show findP (delP w.g id0) id = _; rw [findP_delP, if_neg (by simpa using Ne.symm hne)], rfl⟩

theorem endBlock_rel_endStep {R : World → World → Prop} (refl : ∀ w, R w w) (trans : ∀ {a b c}, R a b → R b c → R a c) {e : Env}
    (hdrop : ∀ w p w', findP w.g p.id = some p → refundDeposits e { w with g := delP w.g p.id } p.id = .ok w' → R w w')
    (hstep : ∀ w p w', findP w.g p.id = some p → EndStep e w p w' → R w w')
    {w w' : World} (h : endBlock e w = .ok w') : R w w' :=
  endBlock_rel refl trans hdrop (fun w p w' hf hh => hstep w p w' hf (processActive_endStep hh))
    (fun w p w' hf hh => by
      rcases processSecurityVote_endStep hh with ⟨rfl, _⟩ | ⟨_, _, st⟩
      · exact refl _
      · exact hstep w p w' hf st) h

/-- What a message signed by `a` is made of.  `submit` is `open` followed by `edit` (council: the voting period begins) or
    by `addDeposit`; `addDeposit` is `edit` (the total goes up), `edit` again if the minimum is reached (the voting period
    begins), and `escrowIn`; `vote` is `vote`. -/
inductive Atom (e : Env) (a : Addr) (w : World) : World → Prop
  | open (p : Proposal) : p.id = w.g.nextId → p.status = 1 →
      Atom e a w { w with g := { setP w.g p with nextId := w.g.nextId + 1 } }
  | edit {p : Proposal} (q : Proposal) : findP w.g q.id = some p → p.status = 1 →
      (q.status = 1 ∨ q.status = 2 ∨ q.status = 3) → Atom e a w { w with g := setP w.g q }
  | escrowIn (pid : Nat) (amt : Coins) {q : Proposal} {l' : Ledger} : findP w.g pid = some q →
      (q.status = 1 ∨ q.status = 2 ∨ q.status = 3) → w.l.send a e.modAddr amt = .ok l' →
      Atom e a w { w with l := l', g := { w.g with deposits := upsertDeposit pid a amt w.g.deposits } }
  | vote (pid o : Nat) {p : Proposal} : findP w.g pid = some p → (p.status = 2 ∨ p.status = 3) →
      Atom e a w { w with g := { w.g with votes := setVote pid a o w.g.votes } }

theorem vote_atoms {e : Env} {w w' : World} {a : Addr} {pid o : Nat} (h : vote w pid a o = .ok w') :
    Star (Atom e a) w w' := by
  obtain ⟨_, p, hp, hs, _, _, rfl⟩ := vote_ok_iff.mp h
  exact .single (.vote pid o hp hs)

theorem addDeposit_atoms {e : Env} {w w' : World} {a : Addr} {pid : Nat} {amt : Coins}
    (h : addDeposit e w pid a amt = .ok w') : Star (Atom e a) w w' := by
  obtain ⟨p, l', g2, hp, hs, _, hsend, hg2, rfl⟩ := addDeposit_ok h
  have hid := findP_id hp; subst hid
  generalize hq : ({ p with totalDeposit := Coins.add p.totalDeposit amt } : Proposal) = q at hg2
  have hqi : q.id = p.id := by rw [← hq]
  have hqs : q.status = 1 := by rw [← hq]; exact hs
  refine .head (.edit q (hqi ▸ hp) hs (Or.inl hqs)) ?_
  rcases hg2 with rfl | rfl
  · exact .single (.escrowIn p.id amt (q := q) (hqi ▸ findP_setP_self _ _) (Or.inl hqs) hsend)
  · have hai : (activated e (setP w.g q) q).id = p.id := (Gov.activated_id ..).trans hqi
    exact .head (.edit (activated e (setP w.g q) q) (by rw [hai, ← hqi]; exact findP_setP_self _ _) hqs
        (Or.inr (activated_status ..)))
      (.single (.escrowIn p.id amt (hai ▸ findP_setP_self _ _) (Or.inr (activated_status ..)) hsend))

theorem submit_atoms {e : Env} {w w' : World} {pr : Addr} {p0 : Proposal} {dep : Coins}
    (h : submit e w pr p0 dep = .ok w') : Star (Atom e pr) w w' := by
  obtain ⟨p, hid, hs, ⟨_, rfl⟩ | ⟨_, hadd⟩⟩ := submit_ok h
  · exact .head (.open p hid hs) (.single (.edit (activated e _ p)
      (by rw [Gov.activated_id]; exact findP_setP_self w.g p) hs (Or.inr (activated_status ..))))
  · exact .head (.open p hid hs) (addDeposit_atoms hadd)

end Shentu.Gov
