import Shentu.Proofs.ShieldWrites
import Shentu.Proofs.ShieldPoolInv
/-
  C08 (the chain never halts), shield part: the invariants that exclude the panic / error sites of the
  end-blocker which are not covered by `CollInv` (C03a) and `PoolInv` (C03b):

  * `NoFeeAndStake` — no purchase has both unstreamed fees and an original-staking record
    (site "unmodelled:stake-expiry"); it needs `OrigIdsLt` (recorded ids are below the next id) to survive purchases;
  * `FeesInv` — the service-fee total covers the unstreamed fees of all purchases
    (site "shield:negative-service-fees");
  * the two fee pots are not negative (site "shield:negative-remaining").
  `RewardsNonneg`, the sign of the providers' rewards, is preserved by the same operations and is proved alongside.

  This file: the definitions, the frames (`FeeFrame`, `FeeFrameP`; an operation on the collateral book is `FeeFrameP`:
  `FeeFrameP.of_chain`), and how the issue of a purchase (`NoFeeAndStake.issued`) and a write to the purchase lists
  (`feeSum_put`, `FeeIdsFrom.put`) act on the invariants.
-/
namespace Shentu.Halt
open Shentu Shentu.Shield Shentu.Shield.PoolLm

/-- the not-yet-streamed fees recorded in one purchase list (raw, 18 digits) -/
def feeOf (l : PList) : Int := sumI (fun en => en.fees.raw) l.entries
def feeSum (s : State) : Int := sumI feeOf s.lists

def FeesInv (s : State) : Prop := feeSum s ≤ s.serviceFees.raw

/-- no purchase has both positive (unstreamed) fees and a non-zero original-staking record -/
def NoFeeAndStake (s : State) : Prop :=
  ∀ l ∈ s.lists, ∀ en ∈ l.entries, en.fees.raw > 0 → ¬ s.origStakings.any (fun o => o.1 == en.id && o.2 != 0)

/-- original-staking records only exist for purchase ids that have been issued -/
def OrigIdsLt (s : State) : Prop := ∀ o ∈ s.origStakings, o.1 < s.nextPurchase

/-- the two fee pots are not negative -/
structure MoneyInv (s : State) : Prop where
  remaining : 0 ≤ s.remaining.raw
  blockFees : 0 ≤ s.blockFees.raw

/-- no provider's rewards are negative (clause `provNonneg`, fourth conjunct, of `BooksInv`) -/
def RewardsNonneg (s : State) : Prop := ∀ p ∈ s.providers, 0 ≤ p.rewards.raw

/-- everything the end-blocker needs besides `CollInv` and `PoolInv` -/
structure FeeBooks (s : State) : Prop where
  noFeeStake : NoFeeAndStake s
  origLt : OrigIdsLt s
  fees : FeesInv s
  money : MoneyInv s

theorem zero_raw : Dec.zero.raw = 0 := rfl

theorem NoFeeAndStake.congr {s s' : State} (h : NoFeeAndStake s) (hl : s'.lists = s.lists)
    (ho : s'.origStakings = s.origStakings) : NoFeeAndStake s' := by
  unfold NoFeeAndStake; rw [hl, ho]; exact h

theorem OrigIdsLt.congr {s s' : State} (h : OrigIdsLt s) (ho : s'.origStakings = s.origStakings)
    (hq : s'.nextPurchase = s.nextPurchase) : OrigIdsLt s' := by
  unfold OrigIdsLt; rw [ho, hq]; exact h

theorem feeSum_congr {s s' : State} (hl : s'.lists = s.lists) : feeSum s' = feeSum s := by
  unfold feeSum; rw [hl]

theorem FeesInv.congr {s s' : State} (h : FeesInv s) (hl : s'.lists = s.lists)
    (hf : s'.serviceFees = s.serviceFees) : FeesInv s' := by
  unfold FeesInv; rw [feeSum_congr hl, hf]; exact h

theorem MoneyInv.congr {s s' : State} (h : MoneyInv s) (hr : s'.remaining = s.remaining)
    (hb : s'.blockFees = s.blockFees) : MoneyInv s' :=
  ⟨by rw [hr]; exact h.remaining, by rw [hb]; exact h.blockFees⟩

/-- the step leaves alone the fields `FeeBooks` reads, and the provider store (for `RewardsNonneg`) -/
structure FeeFrame (s s' : State) : Prop where
  lists : s'.lists = s.lists
  origStakings : s'.origStakings = s.origStakings
  nextPurchase : s'.nextPurchase = s.nextPurchase
  serviceFees : s'.serviceFees = s.serviceFees
  remaining : s'.remaining = s.remaining
  blockFees : s'.blockFees = s.blockFees
  providers : s'.providers = s.providers

theorem FeeFrame.refl (s : State) : FeeFrame s s := ⟨rfl, rfl, rfl, rfl, rfl, rfl, rfl⟩
theorem FeeFrame.trans {a b c : State} (h1 : FeeFrame a b) (h2 : FeeFrame b c) : FeeFrame a c :=
  ⟨h2.lists.trans h1.lists, h2.origStakings.trans h1.origStakings, h2.nextPurchase.trans h1.nextPurchase,
   h2.serviceFees.trans h1.serviceFees, h2.remaining.trans h1.remaining, h2.blockFees.trans h1.blockFees,
   h2.providers.trans h1.providers⟩

theorem RewardsNonneg.congr {s s' : State} (h : RewardsNonneg s) (hp : s'.providers = s.providers) : RewardsNonneg s' := by
  unfold RewardsNonneg; rw [hp]; exact h

/-- the fields `FeeBooks` reads; the provider store may change, but only in records that keep or reset their rewards -/
structure FeeFrameP (s s' : State) : Prop where
  lists : s'.lists = s.lists
  origStakings : s'.origStakings = s.origStakings
  nextPurchase : s'.nextPurchase = s.nextPurchase
  serviceFees : s'.serviceFees = s.serviceFees
  remaining : s'.remaining = s.remaining
  blockFees : s'.blockFees = s.blockFees
  rewards : ∀ p' ∈ s'.providers, p'.rewards = Dec.zero ∨ ∃ p ∈ s.providers, p'.rewards = p.rewards

theorem FeeFrameP.refl (s : State) : FeeFrameP s s := ⟨rfl, rfl, rfl, rfl, rfl, rfl, fun p hp => Or.inr ⟨p, hp, rfl⟩⟩
theorem FeeFrameP.trans {a b c : State} (h1 : FeeFrameP a b) (h2 : FeeFrameP b c) : FeeFrameP a c :=
  ⟨h2.lists.trans h1.lists, h2.origStakings.trans h1.origStakings, h2.nextPurchase.trans h1.nextPurchase,
   h2.serviceFees.trans h1.serviceFees, h2.remaining.trans h1.remaining, h2.blockFees.trans h1.blockFees,
   by
     intro p' hp'
     rcases h2.rewards p' hp' with h | ⟨p, hp, he⟩
     · exact Or.inl h
     · rcases h1.rewards p hp with h | ⟨p0, hp0, he0⟩
       · exact Or.inl (he.trans h)
       · exact Or.inr ⟨p0, hp0, he.trans he0⟩⟩

theorem FeeFrame.toP {s s' : State} (f : FeeFrame s s') : FeeFrameP s s' :=
  ⟨f.lists, f.origStakings, f.nextPurchase, f.serviceFees, f.remaining, f.blockFees,
   fun p hp => Or.inr ⟨p, by rw [← f.providers]; exact hp, rfl⟩⟩

theorem RewardsNonneg.frameP {s s' : State} (h : RewardsNonneg s) (f : FeeFrameP s s') : RewardsNonneg s' := by
  intro p' hp'
  rcases f.rewards p' hp' with h0 | ⟨p, hp, he⟩
  · rw [h0]; exact Int.le_refl 0
  · rw [he]; exact h p hp

theorem FeeBooks.frameP {s s' : State} (h : FeeBooks s) (f : FeeFrameP s s') : FeeBooks s' :=
  ⟨h.noFeeStake.congr f.lists f.origStakings, h.origLt.congr f.origStakings f.nextPurchase,
   h.fees.congr f.lists f.serviceFees, h.money.congr f.remaining f.blockFees⟩

theorem FeeBooks.frame {s s' : State} (h : FeeBooks s) (f : FeeFrame s s') : FeeBooks s' := h.frameP f.toP

theorem FeeFrameP.of_chain {s s' : State} (h : Star CollWrite s s') : FeeFrameP s s' := by
  refine h.lift FeeFrameP.refl FeeFrameP.trans (CollWrite.kinds ?_ ?_ ?_)
  · intro s s' a p p' hf _ hr hp hw
    refine ⟨by rw [hw], by rw [hw], by rw [hw], by rw [hw], by rw [hw], by rw [hw], fun x hx => ?_⟩
    rw [hp] at hx
    rcases Keyed.mem_update Provider.addr hx with rfl | ⟨h, _⟩
    · exact .inr ⟨p, List.mem_of_find?_eq_some hf, hr⟩
    · exact .inr ⟨x, h, rfl⟩
  · intro e s a hf
    refine ⟨rfl, rfl, rfl, rfl, rfl, rfl, fun x hx => ?_⟩
    rcases List.mem_cons.mp ((Coll.insertProvider_perm _ _).mem_iff.mp hx) with h2 | h2
    · exact .inl (by rw [h2]; rfl)
    · exact .inr ⟨x, h2, rfl⟩
  · intro s s' hp hw
    exact FeeFrame.toP ⟨by rw [hw], by rw [hw], by rw [hw], by rw [hw], by rw [hw], by rw [hw], hp⟩

/-- a write to the fields `FeeBooks` does not read -/
theorem FeeFrame.of_writes {s s' : State}
    (h : s' = { s with admin := s'.admin, pools := s'.pools, withdraws := s'.withdraws, stakes := s'.stakes, reimbs := s'.reimbs,
                       totalCollateral := s'.totalCollateral, totalWithdrawing := s'.totalWithdrawing,
                       totalShield := s'.totalShield, totalClaimed := s'.totalClaimed, stakingPool := s'.stakingPool,
                       lastUpdate := s'.lastUpdate, nextPool := s'.nextPool, params := s'.params }) : FeeFrame s s' := by
  rw [h]; exact ⟨rfl, rfl, rfl, rfl, rfl, rfl, rfl⟩

/-- every entry of `s'` with positive fees has the id of an entry of `s` with positive fees -/
def FeeIdsFrom (s s' : State) : Prop :=
  ∀ l' ∈ s'.lists, ∀ en' ∈ l'.entries, en'.fees.raw > 0 →
    ∃ l ∈ s.lists, ∃ en ∈ l.entries, en.id = en'.id ∧ en.fees.raw > 0

theorem NoFeeAndStake.of_from {s s' : State} (h : NoFeeAndStake s) (hf : FeeIdsFrom s s')
    (ho : s'.origStakings = s.origStakings) : NoFeeAndStake s' := by
  intro l' hl' en' hen' hpos
  rcases hf l' hl' en' hen' hpos with ⟨l, hl, en, hen, hid, hp⟩
  rw [ho, ← hid]
  exact h l hl en hen hp

/-- `pcPaid` files the staking record of a staked purchase under the fresh id `q` (the old record under `q` dropped, the new one
    at the end): whoever has a non-zero record under another id `i` afterwards had it before -/
theorem any_orig_written {os : List (Nat × Int)} {q i : Nat} {amt : Int} (hi : i ≠ q)
    (h : (os.filter (·.1 != q) ++ [(q, amt)]).any (fun o => o.1 == i && o.2 != 0) = true) :
    os.any (fun o => o.1 == i && o.2 != 0) = true := by
  obtain ⟨o, ho, hc⟩ := List.any_eq_true.mp h
  rcases (Keyed.mem_refile Prod.fst).mp ho with ⟨ho, _⟩ | rfl
  · exact List.any_eq_true.mpr ⟨o, ho, hc⟩
  · simp only [Bool.and_eq_true, beq_iff_eq] at hc
    exact absurd hc.1.symm hi

/-- a purchase is issued under the next id: its entry joins the lists, and a staking record under its id is written only
    when the entry carries no fees -/
theorem NoFeeAndStake.issued {s s' : State} (h : NoFeeAndStake s) (ho : OrigIdsLt s)
    (hlt : ∀ l ∈ s.lists, ∀ en ∈ l.entries, en.id < s.nextPurchase) {entry : Purchase} (hid : entry.id = s.nextPurchase)
    (hmem : ∀ l' ∈ s'.lists, ∀ en ∈ l'.entries, en = entry ∨ ∃ l ∈ s.lists, en ∈ l.entries)
    (horig : s'.origStakings = s.origStakings ∨
      entry.fees.raw ≤ 0 ∧ ∃ amt, s'.origStakings = s.origStakings.filter (·.1 != s.nextPurchase) ++ [(s.nextPurchase, amt)])
    (hq : s'.nextPurchase = s.nextPurchase + 1) : NoFeeAndStake s' ∧ OrigIdsLt s' := by
  constructor
  · intro l' hl' en hen hpos hany
    rcases hmem l' hl' en hen with rfl | ⟨l, hl, hen⟩
    · -- the new entry: with fees it has no staking record, and no older record carries its fresh id
      rcases horig with ho' | ⟨hz, _⟩
      · rw [ho'] at hany
        obtain ⟨o, hom, hc⟩ := List.any_eq_true.mp hany
        simp only [Bool.and_eq_true, beq_iff_eq] at hc
        have := ho o hom
        omega
      · omega
    · -- an older entry: its id is below the fresh one, so the new staking record is not its own
      have := hlt l hl en hen
      rcases horig with ho' | ⟨_, amt, ho'⟩ <;> rw [ho'] at hany
      · exact h l hl en hen hpos hany
      · exact h l hl en hen hpos (any_orig_written (by omega) hany)
  · intro o hom
    rw [hq]
    rcases horig with ho' | ⟨_, amt, ho'⟩ <;> rw [ho'] at hom
    · exact Nat.lt_succ_of_lt (ho o hom)
    · rcases (Keyed.mem_refile Prod.fst).mp hom with ⟨h1, _⟩ | rfl
      · exact Nat.lt_succ_of_lt (ho o h1)
      · exact Nat.lt_succ_self _

theorem FeeIdsFrom.replace {s s' : State} {lst lst' : PList} (hm : lst ∈ s.lists)
    (hl : s'.lists = s.lists.map (fun x => if x.pool == lst'.pool && x.purchaser == lst'.purchaser then lst' else x))
    (hfrom : ∀ en' ∈ lst'.entries, en'.fees.raw > 0 → ∃ en ∈ lst.entries, en.id = en'.id ∧ en.fees.raw > 0) :
    FeeIdsFrom s s' := by
  intro l' hl' en' hen' hpos
  rw [hl] at hl'
  rcases Keyed.mem_update listKey (k := listKey lst') hl' with rfl | ⟨h, _⟩
  · obtain ⟨en, hen, hid, hp⟩ := hfrom en' hen' hpos
    exact ⟨lst, hm, en, hen, hid, hp⟩
  · exact ⟨l', h, en', hen', rfl, hpos⟩

theorem FeeIdsFrom.filter {s s' : State} (q : PList → Bool) (hl : s'.lists = s.lists.filter q) : FeeIdsFrom s s' := by
  intro l' hl' en' hen' hpos
  rw [hl] at hl'
  exact ⟨l', (List.mem_filter.mp hl').1, en', hen', rfl, hpos⟩

theorem FeeIdsFrom.same {s s' : State} (hl : s'.lists = s.lists) : FeeIdsFrom s s' := by
  intro l' hl' en' hen' hpos
  rw [hl] at hl'
  exact ⟨l', hl', en', hen', rfl, hpos⟩

theorem val_feeOf (o : Option PList) : Keyed.val feeOf o = sumI (fun en => en.fees.raw) (optEntries o) := by
  cases o <;> rfl

theorem feeSum_put {s s' : State} (hinv : ShieldInv s) {pid : Nat} {a : Addr} {n : Option PList}
    (hk : ∀ x, n = some x → listKey x = (pid, a)) (hl : s'.lists = Keyed.put listKey (pid, a) n s.lists) :
    feeSum s' = feeSum s - sumI (fun en => en.fees.raw) (optEntries (findList s pid a)) +
      sumI (fun en => en.fees.raw) (optEntries n) := by
  rw [feeSum, feeSum, hl, sumI_def, sumI_def, Keyed.sum_put listKey feeOf hk hinv.listNodup, val_feeOf, val_feeOf]; rfl

theorem FeeIdsFrom.put {s s' : State} {pid : Nat} {a : Addr} {n : Option PList}
    (hl : s'.lists = Keyed.put listKey (pid, a) n s.lists)
    (hfrom : ∀ en' ∈ optEntries n, en'.fees.raw > 0 → ∃ en ∈ optEntries (findList s pid a), en.id = en'.id ∧ en.fees.raw > 0) :
    FeeIdsFrom s s' := by
  intro l' hl' en' hen' hpos
  rcases mem_put_entries hl hl' hen' with h | ⟨l, hm, h⟩
  · obtain ⟨en, hen, hid, hp⟩ := hfrom en' h hpos
    obtain ⟨l, hm, hen⟩ := mem_optEntries_find hen
    exact ⟨l, hm, en, hen, hid, hp⟩
  · exact ⟨l, hm, en', h, rfl, hpos⟩

theorem feeSum_nonneg {s : State} (hinv : ShieldInv s) : 0 ≤ feeSum s :=
  sumI_nonneg _ _ (fun l hl => sumI_nonneg _ _ (fun en hen => (hinv.entryNonneg l hl en hen).2))

end Shentu.Halt
