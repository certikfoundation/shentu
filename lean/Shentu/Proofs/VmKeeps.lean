import Shentu.Proofs.VmConserve
import Shentu.Proofs.VmLoop
/-
  A small Hoare logic over the interpreter's monad, for properties of the accounts of a frame (`Frame.world`) that hold
  through whole executions.

  Most of the model never writes the accounts: `Quiet m`, a class.  Its instances are the primitives of the monad other than
  `setWorld` and `applySettled` (and `syncChild`, which `Impl.lean` never calls), the rules for `>>=`, `if`, `for`, and the
  functions of `Impl.lean` built from these; that such a function is quiet is found by instance resolution, with the tactic `quiet` for a body that
  has a `match` in it.

  `KeepsD D P m`: started in a frame that is doomed (`D`) or whose accounts satisfy `P`, the computation `m` ends — whatever
  its result, the Go panic included — in such a frame.  A doomed frame has an error in its sink and stays doomed whatever
  runs (`Doom D`): its cache is dropped by whoever started it, so "`P` unless doomed" is what a frame can promise.  With
  nothing doomed this is "`m` keeps `P`".  It is `HoareD D P m P`, the triple with a postcondition of its own that
  SELFDESTRUCT needs, and its rules for `pure`, `>>=`, `getF`, `if` are those of `HoareD`.  The tactic `keeps` walks through a definition, closes every part that is quiet as
  a whole, and leaves the places that write the accounts.  These are four: the CALL family (`callFromSite`), CREATE
  (`createRun`), SSTORE and SELFDESTRUCT; for the three that are not a single edit, `keeps_callFromSite`, `keeps_createRun`
  and `keeps_selfdestruct` say what is to be shown of `P` on accounts alone — and, for the two that start a callee, that its
  environment satisfies the `G` in which callees are trusted (`ChildSpec G P`: started on accounts with `P`, a callee hands
  back accounts with `P` when it reports success).  A property kept there (`Writes`) is kept by every iteration of the
  interpreter loop (`Writes.step`), hence by the loop, and a frame started on accounts with `P` hands back accounts with `P`
  when it reports success (`runFrame_keeps`), hence so does every nesting depth (`runDepth_spec`) and the outermost call
  (`execTop_keeps`).  The step to the frame needs "success, hence not doomed" (`run_done_keeps`): the iteration that ends a
  frame with `.done ret none` reads the `none` off the frame's sink (`DoneClean`, the second half of `run_keeps`), and a
  doomed frame has an error there.
-/
namespace Shentu.EVM

/-- `m` leaves the accounts of the frame alone.  A class: that a computation built from quiet parts by `>>=`, `if`, `for` is
    quiet is found by instance resolution. -/
class Quiet (m : M α) : Prop where
  world : ∀ s : Frame, (m s).val.2.world = s.world

instance Quiet.pure (a : α) : Quiet (pure a : M α) := ⟨fun _ => rfl⟩

instance Quiet.bind {m : M α} {f : α → M β} [hm : Quiet m] [hf : ∀ a, Quiet (f a)] : Quiet (m >>= f) := ⟨fun s =>
  bind_post (R := fun _ s' => s'.world = s.world) s (fun s1 h => by have := hm.world s; rw [h] at this; exact this)
    (fun x s1 h => by have := hm.world s; rw [h] at this; exact ((hf x).world s1).trans this)⟩

instance Quiet.ite {c : Prop} {_ : Decidable c} {m1 m2 : M α} [h1 : Quiet m1] [h2 : Quiet m2] : Quiet (if c then m1 else m2) := by
  split
  · exact h1
  · exact h2

theorem Quiet.forIn_list {β γ : Type} (l : List γ) (init : β) (f : γ → β → M (ForInStep β))
    [h : ∀ x b, Quiet (f x b)] : Quiet (forIn l init f) := by
  induction l generalizing init with
  | nil => rw [List.forIn_nil]; exact Quiet.pure _
  | cons x xs ih =>
    rw [List.forIn_cons]
    refine @Quiet.bind _ _ _ _ (h x init) (fun r => ?_)
    split
    · exact Quiet.pure _
    · exact ih _

instance Quiet.forIn_range {β : Type} (r : Std.Legacy.Range) (init : β) (f : Nat → β → M (ForInStep β))
    [h : ∀ x b, Quiet (f x b)] : Quiet (forIn r init f) := by
  rw [Std.Legacy.Range.forIn_eq_forIn_range']
  exact Quiet.forIn_list _ _ _

instance quiet_goPanic : Quiet (goPanic : M α) := ⟨fun _ => rfl⟩
instance quiet_getF : Quiet getF := ⟨fun _ => rfl⟩
instance quiet_pushErr (e : Err) : Quiet (pushErr e) := ⟨fun s => by
  obtain ⟨s1, h1, hw, _⟩ := pushErr_val e s
  rw [h1]; exact hw⟩
instance quiet_useGas (k : Nat) : Quiet (useGas k) := ⟨by
  intro s
  unfold useGas
  split
  · rfl
  · exact (quiet_pushErr _).world s⟩
instance quiet_setStack (st : List Nat) : Quiet (setStack st) := ⟨fun _ => rfl⟩
instance quiet_setMem (m : ByteArray) : Quiet (setMem m) := ⟨fun _ => rfl⟩
instance quiet_setPc (pc : Nat) : Quiet (setPc pc) := ⟨fun _ => rfl⟩
instance quiet_setRemoved (r : List Nat) : Quiet (setRemoved r) := ⟨fun _ => rfl⟩
instance quiet_setRetBuf (b : ByteArray) : Quiet (setRetBuf b) := ⟨fun _ => rfl⟩
instance quiet_addLogs (ls : List Log) : Quiet (addLogs ls) := ⟨fun _ => rfl⟩
instance quiet_orSeen (a b c : Nat) : Quiet (orSeen a b c) := ⟨fun _ => rfl⟩
instance quiet_takeGas (k : Nat) : Quiet (takeGas k) := ⟨fun _ => rfl⟩
instance quiet_setLastGasCost (k : Nat) : Quiet (setLastGasCost k) := ⟨fun _ => rfl⟩
instance quiet_addRefund (k : Nat) : Quiet (addRefund k) := ⟨fun _ => rfl⟩
instance quiet_addLog (l : Log) : Quiet (addLog l) := ⟨fun _ => rfl⟩
instance quiet_noteAlloc (k : Nat) : Quiet (noteAlloc k) := ⟨fun _ => rfl⟩
instance quiet_noteSeen (k : Nat) : Quiet (noteSeen k) := ⟨fun _ => rfl⟩
instance quiet_noteDev (k : Nat) : Quiet (noteDev k) := ⟨fun _ => rfl⟩
instance quiet_takeMem : Quiet takeMem := ⟨fun _ => rfl⟩
instance quiet_setSeq (k : Nat) : Quiet (setSeq k) := ⟨fun _ => rfl⟩
instance quiet_leaveGas (k : Nat) : Quiet (leaveGas k) := ⟨fun _ => rfl⟩
instance quiet_chargeOrStop (c : Nat) : Quiet (chargeOrStop c) := ⟨by
  intro s
  unfold chargeOrStop
  split
  · rfl
  · rfl⟩

/-- For a function whose body has a `match` in it, where instance resolution stops: the rules for `>>=`, `if` applied by hand
    down to the `match`, which is split. -/
macro "quiet" : tactic => `(tactic| repeat' first
  | infer_instance
  | with_reducible refine @Quiet.bind _ _ _ _ ?_ (fun _ => ?_)
  | with_reducible refine @Quiet.ite _ _ _ _ _ ?_ ?_
  | (with_reducible show Quiet _; dsimp only)
  | (with_reducible show Quiet _; split))

instance quiet_push (w : Nat) : Quiet (push w) := by unfold push; infer_instance
instance quiet_pop : Quiet pop := by unfold pop; quiet
instance quiet_pop64 : Quiet pop64 := by unfold pop64; infer_instance
instance quiet_dup (k : Nat) : Quiet (dup k) := by unfold dup; infer_instance
instance quiet_swap (k : Nat) : Quiet (swap k) := by unfold swap; infer_instance
instance quiet_peek (k : Nat) : Quiet (peek k) := by unfold peek; infer_instance
instance quiet_memRead (q : Quirks) (o l : Nat) : Quiet (memRead q o l) := by unfold memRead; quiet
instance quiet_memWrite (q : Quirks) (o : Nat) (v : ByteArray) : Quiet (memWrite q o v) := by unfold memWrite; quiet
instance quiet_memWriteBig (o l : Nat) : Quiet (memWriteBig o l) := by unfold memWriteBig; quiet
instance quiet_memGrow (t : Nat) : Quiet (memGrow t) := by unfold memGrow; quiet
instance quiet_memGasCost (k : Nat) : Quiet (memGasCost k) := by unfold memGasCost; infer_instance
instance quiet_calcMemSize (r : Shentu.Gen.Gas.MemRule) : Quiet (calcMemSize r) := by unfold calcMemSize; quiet
instance quiet_memoryGas (a b : Nat) : Quiet (memoryGas a b) := by unfold memoryGas; quiet
instance quiet_dynGas (self : Nat) (d : Shentu.Gen.Gas.Dyn) (mem : Nat) : Quiet (dynGas self d mem) := by unfold dynGas; quiet
instance quiet_dynPart (q : Quirks) (self : Nat) (info : Shentu.Gen.Gas.OpInfo) (d : Shentu.Gen.Gas.Dyn) :
    Quiet (dynPart q self info d) := by unfold dynPart; quiet
instance quiet_gasLookUp (q : Quirks) (self : Nat) (info : Shentu.Gen.Gas.OpInfo) : Quiet (gasLookUp q self info) := by
  unfold gasLookUp; infer_instance
instance quiet_expandMemory (k : Nat) : Quiet (expandMemory k) := by unfold expandMemory; infer_instance
instance quiet_popSigned : Quiet popSigned := by unfold popSigned; infer_instance
instance quiet_pushInt (i : Int) : Quiet (pushInt i) := by unfold pushInt; infer_instance
instance quiet_pushBool (b : Bool) : Quiet (pushBool b) := by unfold pushBool; infer_instance
instance quiet_binop (f : Nat → Nat → Nat) : Quiet (binop f) := by unfold binop; infer_instance
instance quiet_jumpTo (env : Env) (to : Nat) : Quiet (jumpTo env to) := by unfold jumpTo; infer_instance
instance quiet_copyToMem (q : Quirks) (src : ByteArray) : Quiet (copyToMem q src) := by unfold copyToMem; quiet
instance quiet_jumpWord (env : Env) (to : Nat) (b : Bool) : Quiet (jumpWord env to b) := by unfold jumpWord; infer_instance
instance quiet_haltBody0 (env : Env) (op : Nat) : Quiet (haltBody0 env op) := by unfold haltBody0; quiet
instance quiet_selfGone (env : Env) : Quiet (selfGone env) := by unfold selfGone; infer_instance
instance quiet_deriveAddr (env : Env) (op : Nat) (input : ByteArray) : Quiet (deriveAddr env op input) := by
  unfold deriveAddr; infer_instance
instance quiet_createNotes (env : Env) (addr : Nat) (input : ByteArray) (r : CallRes) : Quiet (createNotes env addr input r) := by
  unfold createNotes; quiet
instance quiet_execQuery (env : Env) (op : Nat) : Quiet (execQuery env op) := by unfold execQuery; quiet
instance quiet_finish (c : Ctl) : Quiet (finish c) := by unfold finish; quiet

/-- frames that count as doomed: they have an error in their sink, and stay doomed as long as the sink is not cleared — which
    nothing that runs does (the type of `M`) -/
structure Doom (D : Frame → Prop) : Prop where
  stays : ∀ {s s' : Frame}, (s.err.isSome = true → s'.err.isSome = true) → D s → D s'
  failed : ∀ {s : Frame}, D s → s.err.isSome = true

/-- Started in a frame that is doomed or whose accounts satisfy `P`, `m` ends in a frame that is doomed or whose accounts
    satisfy `Q`.  The postcondition is one of its own for an instruction that passes through accounts satisfying neither
    (SELFDESTRUCT, between crediting the beneficiary and deleting the contract). -/
def HoareD (D : Frame → Prop) (P : World → Prop) (m : M α) (Q : World → Prop) : Prop :=
  ∀ s : Frame, D s ∨ P s.world → D (m s).val.2 ∨ Q (m s).val.2.world

/-- `m` keeps "the frame is doomed, or its accounts satisfy `P`" -/
def KeepsD (D : Frame → Prop) (P : World → Prop) (m : M α) : Prop := HoareD D P m P

section hoare
variable {D : Frame → Prop} {P Q R : World → Prop}

theorem Quiet.keeps {m : M α} (hD : Doom D) [h : Quiet m] : KeepsD D P m := by
  intro s hs
  rcases hs with hd | hp
  · exact .inl (hD.stays (m s).property.2 hd)
  · exact .inr (by rw [h.world s]; exact hp)

theorem HoareD.quiet_of {m : M α} (hD : Doom D) [hm : Quiet m] (h : ∀ w, P w → Q w) : HoareD D P m Q := fun s hs =>
  (Quiet.keeps (P := P) hD s hs).imp_right (h _)

theorem HoareD.pure (a : α) (h : ∀ w, P w → Q w) : HoareD D P (pure a : M α) Q := fun _ hs => hs.imp_right (h _)

/-- `h` is for the Go panic, which leaves the frame where `m` left it -/
theorem HoareD.bind {m : M α} {f : α → M β} (hm : HoareD D P m R) (h : ∀ w, R w → Q w) (hf : ∀ a, HoareD D R (f a) Q) :
    HoareD D P (m >>= f) Q := fun s hs =>
  have h1 := hm s hs
  bind_post (R := fun _ s' => D s' ∨ Q s'.world) s (fun s1 e => by rw [e] at h1; exact h1.imp_right (h _))
    (fun x s1 e => by rw [e] at h1; exact hf x s1 h1)

theorem HoareD.quiet_bind {m : M α} {f : α → M β} (hD : Doom D) [hm : Quiet m] (h : ∀ w, P w → Q w)
    (hf : ∀ a, HoareD D P (f a) Q) : HoareD D P (m >>= f) Q :=
  HoareD.bind (Quiet.keeps hD) h hf

/-- what follows `getF` starts on the very accounts of the frame read (a doomed frame needs no look at what follows) -/
theorem HoareD.getF_bind {f : Frame → M β} (hD : Doom D) (h : ∀ s, P s.world → HoareD D (· = s.world) (f s) Q) :
    HoareD D P (getF >>= f) Q := by
  intro s hs
  rcases hs with hd | hp
  · exact .inl (hD.stays ((getF >>= f) s).property.2 hd)
  · have h1 : (getF s).val = (some s, s) := rfl
    rw [bind_val_some h1]
    exact h s hp s (.inr rfl)

theorem HoareD.setWorld_bind {f : Unit → M β} {w : World} (h : HoareD D (· = w) (f ()) Q) : HoareD D P (setWorld w >>= f) Q := by
  intro s _
  have h1 : (setWorld w s).val = (some (), { s with world := w, dirty := true }) := rfl
  rw [bind_val_some h1]
  exact h _ (.inr rfl)

theorem HoareD.ite {c : Prop} {_ : Decidable c} {m1 m2 : M α} (h1 : c → HoareD D P m1 Q) (h2 : ¬ c → HoareD D P m2 Q) :
    HoareD D P (if c then m1 else m2) Q := by
  split
  · exact h1 ‹_›
  · exact h2 ‹_›

/-- where every error dooms: once an error has been pushed, whatever follows keeps the promise -/
theorem HoareD.dead (hfail : ∀ s : Frame, s.err.isSome = true → D s) (e : Err) (f : Unit → M β) : HoareD D P (pushErr e >>= f) Q := by
  intro s _
  obtain ⟨s1, h1, _, he⟩ := pushErr_val e s
  rw [bind_val_some h1]
  exact .inl (hfail _ ((f () s1).property.2 he))

end hoare

section rules
variable {D : Frame → Prop} {P : World → Prop}

theorem KeepsD.pure (a : α) : KeepsD D P (pure a : M α) := HoareD.pure a fun _ h => h

theorem KeepsD.bind {m : M α} {f : α → M β} (hm : KeepsD D P m) (hf : ∀ a, KeepsD D P (f a)) : KeepsD D P (m >>= f) :=
  HoareD.bind hm (fun _ h => h) hf

theorem KeepsD.bind_quiet {m : M α} {f : α → M β} (hD : Doom D) (hm : KeepsD D P m) (hf : ∀ a, Quiet (f a)) : KeepsD D P (m >>= f) :=
  KeepsD.bind hm fun a => @Quiet.keeps _ _ _ _ hD (hf a)

theorem KeepsD.getF_bind {f : Frame → M β} (hD : Doom D) (h : ∀ s, P s.world → KeepsD D P (f s)) : KeepsD D P (getF >>= f) :=
  HoareD.getF_bind hD fun s hp s' hs' => h s hp s' (hs'.imp_right fun (e : s'.world = s.world) => e ▸ hp)

theorem KeepsD.ite {c : Prop} {_ : Decidable c} {m1 m2 : M α} (h1 : c → KeepsD D P m1) (h2 : ¬ c → KeepsD D P m2) :
    KeepsD D P (if c then m1 else m2) := HoareD.ite h1 h2

theorem KeepsD.withRefund {body : M (α × Nat)} (hD : Doom D) (h : KeepsD D P body) : KeepsD D P (withRefund body) := by
  intro s hs
  have h1 := h s hs
  unfold EVM.withRefund
  split
  · rename_i s' hi heq
    rw [heq] at h1
    exact h1
  · rename_i a r s' hi heq
    rw [heq] at h1
    rcases h1 with hd | hp
    · exact .inl (hD.stays (s := s') id hd)
    · exact .inr hp

theorem KeepsD.setWorld {w : World} (h : P w) : KeepsD D P (setWorld w) := fun _ _ => .inr h
theorem KeepsD.applySettled {w : World} (d : Bool) (r : List Nat) (h : P w) : KeepsD D P (applySettled w d r) := fun _ _ => .inr h

end rules

/-- Walk through a computation; what remains are the obligations `P w` of the places that write the accounts, and the calls
    of functions that write them.  One structural step on a goal `KeepsD D P m`: a part that is quiet as a whole is closed at
    once; else the rule for the head of `m`, or `dsimp only` (a `let`, a `match` on a constructor), or `split` (a `match`).
    Most alternatives fail at every step, so they must fail fast: `with_reducible`, or a rule that does not apply unfolds `m`
    in search of its head; the `Decidable` instance of `KeepsD.ite` is an ordinary implicit argument for the same reason;
    `hD : Doom D` is an argument of the tactic, or `assumption` would search for it in every attempt. -/
macro "keeps " hD:term:max : tactic => `(tactic| repeat' first
  | exact Quiet.keeps $hD
  | with_reducible refine KeepsD.getF_bind $hD (fun _ _ => ?_)
  | with_reducible refine KeepsD.bind ?_ (fun _ => ?_)
  | with_reducible refine KeepsD.ite (fun _ => ?_) (fun _ => ?_)
  | with_reducible refine KeepsD.setWorld ?_
  | with_reducible refine KeepsD.applySettled _ _ ?_
  | (with_reducible show KeepsD _ _ _; dsimp only)
  | (with_reducible show KeepsD _ _ _; split))

/-- What a callee frame is trusted with: in an environment with `G`, started on accounts with `P`, it hands back accounts
    with `P` when it reports success. -/
def ChildSpec (G : Env → Prop) (P : World → Prop) (child : ChildFn) : Prop :=
  ∀ (env : Env) (g : Nat) (w : World) (rm : List Nat), G env → P w →
    (child env g w rm).status = 0 → (child env g w rm).err = none → P (child env g w rm).world

section writes
variable {G : Env → Prop} {D : Frame → Prop} {P : World → Prop} {child : ChildFn} {env : Env}

theorem settle_keeps (ro : Bool) {w : World} (d : Bool) (rm : List Nat) {r : CallRes} (hw : P w) (hr : r.err = none → P r.world) :
    P (settle ro w d rm r).world := by
  rcases settle_cases ro w d rm r with h | ⟨h, he⟩
  · rw [h]; exact hw
  · rw [h]; exact hr he

theorem settleCreate_keeps (q : Quirks) (ro : Bool) {creator addr : Nat} {w : World} (d : Bool) (rm : List Nat) {r : CallRes}
    (hcode : ∀ c w', P w' → P (initChildCode creator addr c w')) (hw : P w) (hr : r.err = none → P r.world) :
    P (settleCreate q ro creator addr w d rm r).world := by
  unfold settleCreate
  split
  · exact hw
  · rename_i he
    have hr' := hr he
    split
    · exact hw
    · dsimp only
      split
      · exact hw
      · dsimp only
        split
        · exact hr'
        · exact hcode _ _ hr'

theorem createWorld_keeps (hnew : ∀ {w x}, P w → w.get x = none → P (w.put { addr := x })) {w : World} (a : Nat) (hw : P w) :
    P (createWorld w a) := by
  unfold createWorld
  split
  · exact hw
  · rename_i h
    apply hnew hw
    cases hg : w.get a with
    | none => rfl
    | some x => simp [hg] at h

/-- what the walk knows of the environment a CALL-family instruction `op` of the frame `env`, aimed at `target`, hands to
    its callee, which starts on the accounts `w` -/
def CalleeOf (env : Env) (op target : Nat) (w : World) (cenv : Env) : Prop :=
  cenv.q = env.q ∧ cenv.code = ((w.get target).map (·.code)).getD .empty ∧
  cenv.callee = (if op == 0xf1 || op == 0xfa then target else env.callee) ∧
  cenv.caller = (if op == 0xf4 then env.caller else env.callee) ∧
  cenv.callType = (if op == 0xf1 then 0 else if op == 0xf2 then 1 else if op == 0xf4 then 2 else 3)

/-- the form in which the walk meets "the callee reported success" (the model's guard is `r.status != 0`) -/
theorem status_zero {r : CallRes} (h : ¬ (r.status != 0) = true) : r.status = 0 := by simpa using h

/-- the CALL family: the missing target is created, and the accounts of a callee that reports success are adopted; `hG`: the
    callee's environment is one the callees are trusted in -/
theorem keeps_callFromSite (hD : Doom D) (hnew : ∀ {w x}, P w → w.get x = none → P (w.put { addr := x }))
    {op target : Nat} (hc : ChildSpec G P child) (hG : ∀ cenv w, CalleeOf env op target w cenv → P w → G cenv)
    (gasLimit value : Nat) (input : ByteArray) : KeepsD D P (callFromSite child env op gasLimit target value input) := by
  unfold callFromSite
  refine KeepsD.getF_bind hD fun s hs => KeepsD.ite (fun _ => KeepsD.pure _) fun _ =>
    KeepsD.bind (Quiet.keeps hD) fun _ => KeepsD.ite (fun _ => KeepsD.pure _) fun _ => ?_
  extract_lets w go
  -- the part every path ends in, walked once: the callee runs on accounts `w` with `P`, and `settle` adopts its accounts
  have hgo : ∀ r w, P w → KeepsD D P (go r w) := by
    intro r w hw
    simp only [go]
    keeps hD
    all_goals
      exact settle_keeps _ _ _ (by assumption)
        (fun he => hc _ _ _ _ (hG _ _ ⟨rfl, rfl, rfl, rfl, rfl⟩ hw) hw (status_zero (by assumption)) he)
  clear_value go
  -- the ways to reach it: on the frame's accounts, or on those with the missing target created (`setWorld`)
  keeps hD
  all_goals first
    | exact hgo _ _ hs
    | exact hnew hs (by assumption)
    | exact hgo _ _ (hnew hs (by assumption))

theorem keeps_createAfter (hD : Doom D) {addr : Nat} (hcode : ∀ c w, P w → P (initChildCode env.callee addr c w)) (input : ByteArray)
    {r : CallRes} (hr : r.err = none → P r.world) : KeepsD D P (createAfter env addr input r) := by
  unfold createAfter
  keeps hD
  all_goals exact settleCreate_keeps _ _ _ _ hcode (by assumption) hr

/-- CREATE: the constructor runs on the creator's accounts with the new account added; its accounts, with the code stored, are
    adopted when it reports success -/
theorem keeps_createRun (hD : Doom D) (hnew : ∀ {w x}, P w → w.get x = none → P (w.put { addr := x })) {value addr : Nat}
    {input : ByteArray} (hcode : ∀ c w, P w → P (initChildCode env.callee addr c w))
    (hc : ChildSpec G P child) (hG : ∀ seq, G (createEnv env value addr input seq)) :
    KeepsD D P (createRun child env value addr input) := by
  unfold createRun
  keeps hD
  all_goals
    exact keeps_createAfter hD hcode _
      (fun he => hc _ _ _ _ (hG _) (createWorld_keeps hnew _ (by assumption)) (status_zero (by assumption)) he)

section sd
/-
  SELFDESTRUCT, walked along its pieces (`VmConserve.lean`).  Between the credit and the deletion the accounts need
  satisfy no `P`, so the walk carries the accounts themselves (`· = w`) and asks for `P` of what SELFDESTRUCT makes of them.
  An instance supplies, about its `P` and for a beneficiary `x` that has an account `r`: when the credit does not fit 64 bits
  (an error is pushed, the contract deleted all the same) every frame with an error is doomed (`hover`); otherwise `P`
  holds again once `x` is credited with what the contract holds and the contract is deleted (`hsd`).  Where the contract has
  no account the deletion is skipped, and deleting it changes nothing.  With the repair (`selfDestructSelfKeeps`) `x` is not
  the contract itself.
-/
variable (hD : Doom D) (hnew : ∀ {w x}, P w → w.get x = none → P (w.put { addr := x }))
  (hover : ∀ {w x r}, (env.q.selfDestructSelfKeeps = true → x ≠ env.callee) → P w → w.get x = some r →
    U64 ≤ r.balance + balOf w env.callee → ∀ s : Frame, s.err.isSome = true → D s)
  (hsd : ∀ {w x r}, (env.q.selfDestructSelfKeeps = true → x ≠ env.callee) → P w → w.get x = some r →
    r.balance + balOf w env.callee < U64 → P ((w.put { r with balance := r.balance + balOf w env.callee }).del env.callee))
  {x : Nat} (hx : env.q.selfDestructSelfKeeps = true → x ≠ env.callee)
include hD

theorem hoare_sdDelete {w : World} (h : P (w.del env.callee)) : HoareD D (· = w) (sdDelete env) P := by
  unfold sdDelete sdEnd
  refine HoareD.getF_bind hD (fun s hs => ?_)
  subst hs
  refine HoareD.ite (fun hc => ?_) (fun _ => ?_)
  · rw [show s.world.del env.callee = s.world from filter_ne_of_get_none (by simpa using hc)] at h
    exact HoareD.quiet_of hD (fun _ hw => hw ▸ h)
  · exact HoareD.setWorld_bind (HoareD.quiet_of hD (fun _ hw => hw ▸ h))

include hover hsd hx

theorem hoare_sdCredit (s : Frame) (hw : P s.world) (hr : (s.world.get x).isSome = true) :
    HoareD D (· = s.world) (sdCredit env x s) P := by
  unfold sdCredit
  refine HoareD.ite (fun _ => HoareD.quiet_of hD (hm := by unfold sdEnd; infer_instance) (fun _ h => h ▸ hw)) (fun _ => ?_)
  cases hg : s.world.get x with
  | none => rw [hg] at hr; cases hr
  | some r =>
    exact HoareD.ite (fun hov => HoareD.dead (hover hx hw hg hov) _ _)
      (fun hov => HoareD.setWorld_bind (hoare_sdDelete hD (hsd hx hw hg (by omega))))

theorem hoare_sdMove {w : World} (hw : P w) (hr : (w.get x).isSome = true) : HoareD D (· = w) (sdMove env x) P := by
  unfold sdMove
  refine HoareD.getF_bind hD (fun s hs => ?_)
  subst hs
  have h := hoare_sdCredit hD hover hsd hx s hw hr
  exact HoareD.ite (fun _ => HoareD.quiet_bind hD (fun _ h => h ▸ hw) (fun _ => h)) (fun _ => h)

include hnew

theorem hoare_sdCreate (s : Frame) (hw : P s.world) : HoareD D (· = s.world) (sdCreate env x s) P := by
  unfold sdCreate
  have hend : ∀ e, HoareD D (· = s.world) (pushErr e >>= fun _ => sdEnd) P := fun e =>
    HoareD.quiet_of hD (hm := by unfold sdEnd; infer_instance) (fun _ h => h ▸ hw)
  refine HoareD.ite (fun hnone => ?_) (fun hsome => hoare_sdMove hD hover hsd hx hw (Option.isSome_iff_ne_none.2 (by simpa using hsome)))
  refine HoareD.quiet_bind hD (fun _ h => h ▸ hw) (fun _ => ?_)
  refine HoareD.ite (fun _ => hend _) (fun _ => HoareD.ite (fun _ => hend _) (fun _ => ?_))
  exact HoareD.setWorld_bind (hoare_sdMove hD hover hsd hx (hnew hw (by simpa using hnone)) (by rw [get_put]; simp))

omit hx in
theorem keeps_selfdestruct : KeepsD D P (selfdestruct env) := by
  rw [selfdestruct_eq]
  unfold sdExplicit
  refine HoareD.quiet_bind (Q := P) hD (fun _ h => h) (fun x => ?_)
  refine HoareD.quiet_bind hD (fun _ h => h) (fun _ => ?_)
  refine HoareD.getF_bind hD (fun s hs => ?_)
  refine HoareD.ite (fun _ => HoareD.pure _ (fun _ h => h ▸ hs)) (fun hself => ?_)
  have h := hoare_sdCreate hD hnew hover hsd (x := addrOf x) (fun hq he => hself (by simp [hq, he])) s hs
  exact HoareD.ite (fun _ => HoareD.pure _ (fun _ h => h ▸ hs)) (fun _ => HoareD.ite
    (fun _ => HoareD.quiet_bind hD (fun _ h => h ▸ hs) (fun _ => h)) (fun _ => h))

end sd

theorem KeepsD.callRest (hD : Doom D)
    (hcall : ∀ op gasLimit target value input, KeepsD D P (callFromSite child env op gasLimit target value input)) (op g : Nat) :
    KeepsD D P (callRest child env op g) := by
  unfold EVM.callRest
  refine KeepsD.bind (Quiet.keeps hD) fun _ => KeepsD.bind (Quiet.keeps hD) fun a => ?_
  extract_lets target go
  -- what follows once the value is known, walked once: quiet up to the call, and quiet after it
  have hgo : ∀ v, KeepsD D P (go v) := by
    intro v
    simp only [go]
    iterate 4 refine KeepsD.bind (Quiet.keeps hD) fun _ => ?_
    refine KeepsD.withRefund hD (KeepsD.bind (Quiet.keeps hD) fun _ => KeepsD.bind_quiet hD (hcall _ _ _ _ _) fun r => ?_)
    quiet
  clear_value go
  keeps hD
  all_goals exact hgo _

theorem KeepsD.createRest (hD : Doom D) (hcreate : ∀ value addr input, KeepsD D P (createRun child env value addr input))
    (op v : Nat) : KeepsD D P (createRest child env op v) := by
  unfold EVM.createRest
  keeps hD
  all_goals exact hcreate _ _ _

/-- the four places of the frame `env` with callees `child` that write the accounts keep "doomed, or `P`" -/
structure Writes (D : Frame → Prop) (P : World → Prop) (child : ChildFn) (env : Env) : Prop where
  doom : Doom D
  call : ∀ op gasLimit target value input, KeepsD D P (callFromSite child env op gasLimit target value input)
  create : ∀ value addr input, KeepsD D P (createRun child env value addr input)
  sstore : ∀ {w : World} (k v : Nat), P w → P (w.sstore env.callee k v)
  selfdestruct : KeepsD D P (selfdestruct env)

variable (W : Writes D P child env)
include W

theorem Writes.freeRest (op a : Nat) : KeepsD D P (freeRest child env op a) := by
  unfold EVM.freeRest
  keeps W.doom
  -- left are `P` of the accounts SSTORE writes, and the calls of `callRest` and `createRest`
  all_goals first
    | exact W.sstore _ _ (by assumption)
    | with_reducible exact KeepsD.callRest W.doom W.call _ _
    | with_reducible exact KeepsD.createRest W.doom W.create _ _

theorem Writes.execFree (op : Nat) : KeepsD D P (execFree child env op) := by
  unfold EVM.execFree
  keeps W.doom
  all_goals exact W.freeRest _ _

theorem Writes.execHalt (op : Nat) : KeepsD D P (execHalt env op) := by
  unfold EVM.execHalt haltBody
  keeps W.doom
  all_goals exact W.selfdestruct

theorem Writes.execRegular (op : Nat) : KeepsD D P (execRegular child env op) := by
  unfold EVM.execRegular
  -- the opcodes first: the walk would look the whole `match` up among the quiet functions before it splits it
  split
  all_goals keeps W.doom
  -- left are the calls of `callRest` and `createRest` (reducible: told apart by name, not by unfolding both)
  all_goals first
    | with_reducible exact KeepsD.callRest W.doom W.call _ _
    | with_reducible exact KeepsD.createRest W.doom W.create _ _

theorem Writes.exec (op : Nat) : KeepsD D P (exec child env op) := by
  unfold EVM.exec
  exact KeepsD.ite (fun _ => W.execHalt op) (fun _ => KeepsD.ite (fun _ => W.execFree op) (fun _ => W.execRegular op))

theorem Writes.stepBody (op : Nat) : KeepsD D P (stepBody child env op) := by
  unfold EVM.stepBody
  keeps W.doom
  all_goals exact W.exec op

theorem Writes.step : KeepsD D P (step child env) := by
  intro s hs
  unfold EVM.step
  split
  · exact hs
  · split
    · exact hs
    · split
      · exact Quiet.keeps W.doom s hs
      · exact W.stepBody _ s hs

end writes

/-- an iteration that ends the frame without error leaves no error in the sink -/
def DoneClean (r : Option Step) (s' : Frame) : Prop := ∀ ret, r = some (.done ret none) → s'.err = none

theorem doneClean_none (s1 : Frame) : DoneClean none s1 := fun _ h => by cases h

theorem finish_doneClean (c : Ctl) (s : Frame) : DoneClean (finish c s).val.1 (finish c s).val.2 := by
  cases c with
  | next => intro ret h; cases h
  | jumped => intro ret h; cases h
  | halt r =>
    intro ret h
    have h' : some (Step.done r s.err) = some (Step.done ret none) := h
    injection h' with h'
    injection h' with _ h2
  | unsupported => intro ret h; cases h

theorem stepBody_doneClean (child : ChildFn) (env : Env) (op : Nat) (s : Frame) :
    DoneClean (stepBody child env op s).val.1 (stepBody child env op s).val.2 := by
  unfold stepBody
  refine bind_post s (fun s1 _ => doneClean_none s1) (fun cm s1 _ => ?_)
  refine bind_post s1 (fun s2 _ => doneClean_none s2) (fun ok s2 _ => ?_)
  split
  · refine bind_post s2 (fun s3 _ => doneClean_none s3) (fun _ s3 _ => ?_)
    have hg : (getF s3).val = (some s3, s3) := rfl
    rw [bind_val_some hg]
    cases s3.err with
    | some e => intro ret h; cases h
    | none => exact bind_post s3 (fun s4 _ => doneClean_none s4) (fun c s6 _ => finish_doneClean c s6)
  · intro ret h; cases h

theorem step_doneClean (child : ChildFn) (env : Env) (s : Frame) :
    DoneClean (step child env s).val.1 (step child env s).val.2 := by
  unfold step
  split
  · intro ret h; cases h
  · split
    · intro ret h; cases h
    · split
      · exact bind_post s (fun s1 _ => doneClean_none s1) (fun _ s1 _ => fun ret h => by cases h)
      · exact stepBody_doneClean child env _ s

section frames
variable {D : Frame → Prop} {P : World → Prop} {child : ChildFn} {env : Env}

theorem run_keeps (hstep : KeepsD D P (step child env)) (fuel : Nat) :
    ∀ s : Frame, D s ∨ P s.world →
      (D (run child env fuel s).2 ∨ P (run child env fuel s).2.world) ∧
      (∀ ret, (run child env fuel s).1 = .done ret none → (run child env fuel s).2.err = none) := by
  have key : ∀ s o s', D s ∨ P s.world → (step child env s).val = (o, s') → D s' ∨ P s'.world := fun s o s' h hs => by
    have := hstep s h
    rw [hs] at this
    exact this
  exact run_induct (I := fun _ s => D s ∨ P s.world)
    (Q := fun o s => (D s ∨ P s.world) ∧ ∀ ret, o = .done ret none → s.err = none)
    (fun _ h => ⟨h, fun _ h => by cases h⟩)
    (fun _ s s' h hs => key s _ s' h hs)
    (fun _ s s' h hs => ⟨key s _ s' h hs, fun _ h => by cases h⟩)
    (fun _ s s' r e h hs => ⟨key s _ s' h hs, fun ret h' => by
      have h2 := step_doneClean child env s
      rw [hs] at h2
      injection h' with h3 h4
      subst h4
      exact h2 r rfl⟩)
    (fun _ s s' h hs => ⟨key s _ s' h hs, fun _ h => by cases h⟩) fuel

/-- a loop that ends the frame without error has not run in a doomed frame -/
theorem run_done_keeps (hD : Doom D) (hstep : KeepsD D P (step child env)) (fuel : Nat) (s : Frame) (hs : D s ∨ P s.world)
    {ret : ByteArray} (h : (run child env fuel s).1 = .done ret none) : P (run child env fuel s).2.world := by
  obtain ⟨h1, h2⟩ := run_keeps hstep fuel s hs
  refine h1.resolve_left fun hd => ?_
  have h3 := hD.failed hd
  rw [h2 ret h] at h3
  cases h3

theorem frameRun_keeps (hD : Doom D) (hstep : env.code.size ≠ 0 → KeepsD D P (step child env)) (s : Frame) (hs : P s.world) :
    ∀ ret, (frameRun child env s).1 = .done ret none → P (frameRun child env s).2.world := by
  unfold frameRun
  split
  · intro _ _; exact hs
  · rename_i hsz
    exact fun ret h => run_done_keeps hD (hstep (by simpa using hsz)) _ s (.inr hs) h

theorem packRes_ok (terr : Option Err) (o : Outcome) (s : Frame) (hst : (packRes terr o s).status = 0)
    (he : (packRes terr o s).err = none) : (∃ ret, o = .done ret none) ∧ (packRes terr o s).world = s.world := by
  unfold packRes at hst he ⊢
  split at hst
  · rename_i r e
    refine ⟨⟨r, ?_⟩, rfl⟩
    simp only at he
    split at he
    · rename_i ht
      rw [he] at ht; cases ht
    · rw [he]
  · simp at hst
  · simp at hst
  · simp at hst

theorem runFrame_keeps (hD : Doom D) (hstep : env.code.size ≠ 0 → KeepsD D P (step child env)) {w : World}
    (hw : P (openFrame env w).1) (g : Nat) (rm : List Nat) (hst : (runFrame child env g w rm).status = 0)
    (he : (runFrame child env g w rm).err = none) : P (runFrame child env g w rm).world := by
  unfold runFrame at hst he ⊢
  dsimp only at hst he ⊢
  obtain ⟨⟨ret, ho⟩, hwd⟩ := packRes_ok _ _ _ hst he
  rw [hwd]
  exact frameRun_keeps hD hstep _ hw ret ho

end frames

section nesting
variable {G : Env → Prop} {D : Frame → Prop} {P : World → Prop}

theorem runDepth_spec (hD : Doom D) (hopen : ∀ env w, G env → P w → P (openFrame env w).1)
    (hstep : ∀ child env, ChildSpec G P child → G env → env.code.size ≠ 0 → KeepsD D P (step child env)) :
    ∀ d : Nat, ChildSpec G P (runDepth d) := by
  intro d
  induction d with
  | zero =>
    intro env g w rm _ _ hst _
    unfold runDepth at hst
    simp at hst
  | succ d ih =>
    exact fun env g w rm hG hw hst he => runFrame_keeps hD (hstep _ env ih hG) (hopen env w hG hw) g rm hst he

/-- the outermost frame: its accounts are written back only when it reports success -/
theorem execTop_keeps (hD : Doom D) {env : Env} {depth : Nat} (hstep : env.code.size ≠ 0 → KeepsD D P (step (runDepth depth) env))
    {pre : World} (hpre : P pre) (hopen : P (openFrame env pre).1) (gas : Nat) : P (execTop env gas pre depth).world := by
  rcases execTop_cases env gas pre depth with h | ⟨h, hst, he⟩
  · rw [h]; exact hpre
  · rw [h]; exact runFrame_keeps hD hstep hopen gas [] hst he

end nesting

end Shentu.EVM
