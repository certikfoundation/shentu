import Shentu.EVM.Impl
import Shentu.EVM.MemSpec
/-
  The byte strings of the interpreter model (`ByteArray`) seen as lists of bytes, and what the model's imperative helpers
  (`zeros`, `natBE`, `beNat`, `extractPad`, `copySlice`) compute on them.
-/
namespace Shentu.C16mH
open Shentu.EVM Shentu.EVM.MemSpec

/-- a byte string of the model as the list of its bytes: what the lemmas of these files compute with -/
def bl (b : ByteArray) : List UInt8 := b.data.toList

@[simp] theorem bl_length (b : ByteArray) : (bl b).length = b.size := by
  simp [bl]

theorem bl_empty : bl ByteArray.empty = [] := rfl

theorem bl_append (a b : ByteArray) : bl (a ++ b) = bl a ++ bl b := by
  simp [bl, ByteArray.data_append]

theorem bl_extract (a : ByteArray) (i j : Nat) : bl (a.extract i j) = ((bl a).take j).drop i := by
  simp [bl, ByteArray.data_extract, Array.toList_extract, List.drop_take]

theorem bl_inj {a b : ByteArray} (h : bl a = bl b) : a = b := by
  cases a with | mk da => cases b with | mk db =>
  simp only [bl] at h
  congr
  exact Array.toList_inj.1 h

theorem bl_set! (b : ByteArray) (i : Nat) (v : UInt8) : bl (b.set! i v) = (bl b).set i v := by
  cases b with | mk d =>
  simp [bl, ByteArray.set!, Array.set!_eq_setIfInBounds]

theorem get!_eq (b : ByteArray) (i : Nat) : b.get! i = (bl b).getD i 0 := by
  cases b with | mk d =>
  simp only [ByteArray.get!, bl]
  by_cases h : i < d.size
  · simp [h, List.getD_eq_getElem?_getD]
  · simp [h, List.getD_eq_getElem?_getD]
    rfl

theorem bl_push (b : ByteArray) (v : UInt8) : bl (b.push v) = bl b ++ [v] := by
  cases b with | mk d => simp [bl, ByteArray.push]

theorem bl_copySlice (src : ByteArray) (srcOff : Nat) (dest : ByteArray) (destOff len : Nat) :
    bl (src.copySlice srcOff dest destOff len) =
      (bl dest).take destOff ++ ((bl src).take (srcOff + len)).drop srcOff ++
        (bl dest).drop (destOff + min len (src.size - srcOff)) := by
  simp [bl, ByteArray.copySlice, Array.toList_extract, List.drop_take]
  apply List.take_of_length_le
  simp

theorem forIn_list_yield {α β} (l : List α) (init : β) (g : α → β → β) :
    (forIn (m := Id) l init (fun i s => ForInStep.yield (g i s))) = l.foldl (fun s i => g i s) init := by
  induction l generalizing init with
  | nil => rfl
  | cons a l ih => simp only [List.forIn_cons, List.foldl_cons]; exact ih _

theorem forIn_range_yield {β} (n : Nat) (init : β) (g : Nat → β → β) :
    (forIn (m := Id) [:n] init (fun i s => ForInStep.yield (g i s))) = (List.range n).foldl (fun s i => g i s) init := by
  rw [Std.Legacy.Range.forIn_eq_forIn_range', forIn_list_yield]
  simp [Std.Legacy.Range.size, List.range_eq_range']

/-- one round of the doubling loop of `zeros` -/
def dbl (n : Nat) (z : ByteArray) : ByteArray := if z.size * 2 ≤ n then z ++ z else z

theorem zeros_eq (n : Nat) : zeros n = if n = 0 then .empty else
    let z := (List.range 64).foldl (fun s _ => dbl n s) (ByteArray.empty.push 0)
    z ++ z.extract 0 (n - z.size) := by
  unfold zeros
  simp only [Id.run, bind, pure]
  have : (fun (x : Nat) (s : ByteArray) => if s.size * 2 ≤ n then ForInStep.yield (s ++ s) else ForInStep.yield s)
      = fun x s => ForInStep.yield (dbl n s) := by
    funext x s; unfold dbl; split <;> rfl
  rw [this, forIn_range_yield]
  simp
  rfl

theorem dbl_iter (n : Nat) (hn : 0 < n) (k : Nat) :
    let z := (List.range k).foldl (fun s _ => dbl n s) (ByteArray.empty.push 0)
    bl z = List.replicate z.size 0 ∧ 1 ≤ z.size ∧ z.size ≤ n ∧ (z.size = 2 ^ k ∨ n < 2 * z.size) := by
  induction k with
  | zero =>
    refine ⟨?_, ?_, ?_, ?_⟩ <;> simp [ByteArray.size_push, bl_push, bl_empty] <;> omega
  | succ k ih =>
    simp only [List.range_succ, List.foldl_append, List.foldl_cons, List.foldl_nil]
    obtain ⟨h1, h2, h3, h4⟩ := ih
    generalize (List.range k).foldl (fun s _ => dbl n s) (ByteArray.empty.push 0) = z at *
    unfold dbl
    split
    · refine ⟨?_, ?_, ?_, ?_⟩
      · rw [bl_append, h1, ByteArray.size_append, List.replicate_append_replicate]
      · rw [ByteArray.size_append]; omega
      · rw [ByteArray.size_append]; omega
      · rw [ByteArray.size_append]
        rcases h4 with h4 | h4
        · left; rw [h4, Nat.pow_succ]; omega
        · omega
    · exact ⟨h1, h2, h3, Or.inr (by omega)⟩

/-- `zeros n` is `n` zero bytes (for every length that fits the doubling loop's 64 rounds) -/
theorem bl_zeros (n : Nat) (hn : n < 2 ^ 65) : bl (zeros n) = List.replicate n 0 := by
  rw [zeros_eq]
  split
  · next h => subst h; rfl
  · next h =>
    obtain ⟨h1, h2, h3, h4⟩ := dbl_iter n (by omega) 64
    simp only
    generalize (List.range 64).foldl (fun s _ => dbl n s) (ByteArray.empty.push 0) = z at *
    have hlt : n - z.size ≤ z.size := by omega
    rw [bl_append, bl_extract, h1, List.drop_zero, List.take_replicate, List.replicate_append_replicate]
    congr 1
    omega

theorem size_zeros (n : Nat) (hn : n < 2 ^ 65) : (zeros n).size = n := by
  rw [← bl_length, bl_zeros n hn, List.length_replicate]

/-- the byte of a model memory at address `i` (zero beyond its capacity) -/
def byteAt (b : ByteArray) (i : Nat) : UInt8 := (bl b).getD i 0

/-- Every list of the specification (`wordBytes`, `readPad`, `Mem.read`) is a `map` over a `range`: a byte string is such a
    list as soon as it has the size and, position by position, the bytes. -/
theorem bl_eq_map {b : ByteArray} {n : Nat} {f : Nat → UInt8} (hs : b.size = n) (hf : ∀ i, i < n → byteAt b i = f i) :
    bl b = (List.range n).map f := by
  apply List.ext_getElem?
  intro j
  by_cases hj : j < n
  · have hlt : j < (bl b).length := by rw [bl_length, hs]; exact hj
    have := hf j hj
    rw [byteAt, List.getD_eq_getElem?_getD, List.getElem?_eq_getElem hlt] at this
    rw [List.getElem?_eq_getElem hlt, List.getElem?_map, List.getElem?_range hj]
    exact congrArg some this
  · rw [List.getElem?_eq_none (by rw [bl_length, hs]; omega), List.getElem?_eq_none (by simp; omega)]

theorem byteAt_beyond (b : ByteArray) (i : Nat) (h : b.size ≤ i) : byteAt b i = 0 := by
  rw [byteAt, List.getD_eq_getElem?_getD, List.getElem?_eq_none (by rw [bl_length]; exact h)]; rfl

theorem byteAt_extract (a : ByteArray) (i j k : Nat) : byteAt (a.extract i j) k = if i + k < j then byteAt a (i + k) else 0 := by
  simp only [byteAt, List.getD_eq_getElem?_getD, bl_extract, List.getElem?_drop, List.getElem?_take]
  split <;> rfl

theorem byteAt_append (a b : ByteArray) (k : Nat) :
    byteAt (a ++ b) k = if k < a.size then byteAt a k else byteAt b (k - a.size) := by
  simp only [byteAt, List.getD_eq_getElem?_getD, bl_append, List.getElem?_append, bl_length]
  split <;> rfl

theorem byteAt_zeros (n : Nat) (hn : n < 2 ^ 65) (k : Nat) : byteAt (zeros n) k = 0 := by
  simp only [byteAt, List.getD_eq_getElem?_getD, bl_zeros n hn, List.getElem?_replicate]
  split <;> rfl

/-- big-endian value of a list of bytes -/
def beVal (l : List UInt8) : Nat := l.foldl (fun acc x => acc * 256 + x.toNat) 0

theorem getElem_bl (b : ByteArray) (j : Nat) (h : j < b.size) : b[j] = (bl b)[j]'(by simpa using h) := by
  cases b with | mk d => simp [bl]; rfl

theorem foldl_loop (f : Nat → UInt8 → Nat) (b : ByteArray) (stop : Nat) (h : stop ≤ b.size) (i j : Nat) (acc : Nat)
    (hij : i + j = stop) :
    ByteArray.foldlM.loop (m := Id) f b stop h i j acc = (((bl b).drop j).take i).foldl f acc := by
  induction i generalizing j acc with
  | zero =>
    unfold ByteArray.foldlM.loop
    have : ¬ j < stop := by omega
    simp [this]
    rfl
  | succ i ih =>
    unfold ByteArray.foldlM.loop
    have hj : j < stop := by omega
    have hjb : j < (bl b).length := by simp; omega
    simp only [hj, dite_true]
    rw [List.drop_eq_getElem_cons hjb, List.take_succ_cons, List.foldl_cons, ← getElem_bl b j (by omega)]
    exact ih (j + 1) _ (by omega)

theorem beNat_eq (b : ByteArray) : beNat b = beVal (bl b) := by
  unfold beNat ByteArray.foldl ByteArray.foldlM beVal
  simp only [Id.run, pure, Nat.le_refl, dite_true, Nat.sub_zero]
  rw [foldl_loop _ _ _ _ _ _ _ (by omega), List.drop_zero, List.take_of_length_le (by simp)]

/-- the `len` low-order bytes of `n`, most significant first -/
def beBytes (n len : Nat) : List UInt8 := (List.range len).map (fun j => (n / 256 ^ (len - 1 - j) % 256).toUInt8)

def natBEStep (len : Nat) (i : Nat) (s : ByteArray × Nat) : ByteArray × Nat :=
  (s.fst.set! (len - 1 - i) (s.snd % 256).toUInt8, s.snd / 256)

theorem natBE_eq (n len : Nat) :
    natBE n len = ((List.range len).foldl (fun s i => natBEStep len i s) (zeros len, n)).fst := by
  unfold natBE
  simp only [Id.run, bind, pure]
  exact congrArg Prod.fst (forIn_range_yield len (zeros len, n) (natBEStep len))

theorem natBE_iter (n len : Nat) (hlen : len < 2 ^ 65) (k : Nat) (hk : k ≤ len) :
    let s := (List.range k).foldl (fun s i => natBEStep len i s) (zeros len, n)
    s.fst.size = len ∧ s.snd = n / 256 ^ k ∧
      ∀ j, j < len → (bl s.fst)[j]? = some (if len - k ≤ j then (n / 256 ^ (len - 1 - j) % 256).toUInt8 else 0) := by
  induction k with
  | zero =>
    refine ⟨size_zeros len hlen, by simp, ?_⟩
    intro j hj
    simp only [List.range_zero, List.foldl_nil, bl_zeros len hlen]
    rw [if_neg (by omega)]
    simp [hj]
  | succ k ih =>
    obtain ⟨h1, h2, h3⟩ := ih (by omega)
    simp only [List.range_succ, List.foldl_append, List.foldl_cons, List.foldl_nil]
    generalize (List.range k).foldl (fun s i => natBEStep len i s) (zeros len, n) = s at *
    refine ⟨?_, ?_, ?_⟩
    · simp [natBEStep, h1]
    · simp only [natBEStep, h2, Nat.div_div_eq_div_mul, Nat.pow_succ]
    · intro j hj
      simp only [natBEStep, bl_set!, List.getElem?_set, bl_length, h1]
      by_cases hjk : len - 1 - k = j
      · have : len - 1 - j = k := by omega
        rw [if_pos hjk, if_pos (by omega), if_pos (by omega), h2, this]
      · rw [if_neg hjk, h3 j hj]
        by_cases h : len - k ≤ j
        · rw [if_pos h, if_pos (by omega)]
        · rw [if_neg h, if_neg (by omega)]

theorem bl_natBE (n len : Nat) (hlen : len < 2 ^ 65) : bl (natBE n len) = beBytes n len := by
  obtain ⟨h1, _, h3⟩ := natBE_iter n len hlen len (Nat.le_refl _)
  rw [natBE_eq]
  exact bl_eq_map h1 fun j hj => by rw [byteAt, List.getD_eq_getElem?_getD, h3 j hj, if_pos (by omega)]; rfl

theorem size_natBE (n len : Nat) (hlen : len < 2 ^ 65) : (natBE n len).size = len := by
  rw [← bl_length, bl_natBE n len hlen]; simp [beBytes]

theorem beVal_append_singleton (l : List UInt8) (x : UInt8) : beVal (l ++ [x]) = beVal l * 256 + x.toNat := by
  simp [beVal, List.foldl_append]

theorem beBytes_succ (n len : Nat) : beBytes n (len + 1) = beBytes (n / 256) len ++ [(n % 256).toUInt8] := by
  unfold beBytes
  rw [List.range_succ, List.map_append]
  congr 1
  · apply List.map_congr_left
    intro j hj
    have hj' : j < len := List.mem_range.1 hj
    have : len + 1 - 1 - j = (len - 1 - j) + 1 := by omega
    rw [this, Nat.pow_succ, Nat.mul_comm, Nat.div_div_eq_div_mul]
  · simp

theorem beVal_beBytes (n len : Nat) : beVal (beBytes n len) = n % 256 ^ len := by
  induction len generalizing n with
  | zero => simp [beBytes, beVal, Nat.mod_one]
  | succ len ih =>
    rw [beBytes_succ, beVal_append_singleton, ih]
    have h1 : ((n % 256).toUInt8).toNat = n % 256 := by
      simp [Nat.toUInt8, UInt8.toNat_ofNat']
    rw [h1, Nat.pow_succ, Nat.mul_comm (256 ^ len) 256, Nat.mod_mul]
    omega

theorem wordBytes_eq (v : Nat) : wordBytes v = beBytes v 32 := rfl
theorem bytesWord_eq (l : List UInt8) : bytesWord l = beVal l := rfl

theorem word_natBE (v : Nat) : word (natBE v 32) = v % 2 ^ 256 := by
  unfold word
  rw [beNat_eq, bl_natBE v 32 (by decide), beVal_beBytes]

theorem length_readPad (d : List UInt8) (off len : Nat) : (readPad d off len).length = len := by simp [readPad]

theorem bl_extract_readPad (b : ByteArray) (off len : Nat) (h : off + len ≤ b.size) :
    bl (b.extract off (off + len)) = readPad (bl b) off len :=
  bl_eq_map (by rw [ByteArray.size_extract]; omega) fun i hi => by rw [byteAt_extract, if_pos (by omega)]; rfl

theorem size_extractPad (b : ByteArray) (off len : Nat) (hlen : len < 2 ^ 65) : (extractPad b off len).size = len := by
  unfold extractPad
  split
  · exact size_zeros len hlen
  · show ByteArray.size (if ((b.extract off (off + len)).size == len) = true then _ else _) = _
    split
    · next h => exact beq_iff_eq.1 h
    · rw [ByteArray.size_append, size_zeros _ (by omega), ByteArray.size_extract]; omega

theorem byteAt_extractPad (b : ByteArray) (off len : Nat) (hlen : len < 2 ^ 65) (i : Nat) (hi : i < len) :
    byteAt (extractPad b off len) i = byteAt b (off + i) := by
  unfold extractPad
  split
  · rw [byteAt_zeros len hlen, byteAt_beyond b _ (by omega)]
  · show byteAt (if ((b.extract off (off + len)).size == len) = true then _ else _) i = _
    split
    · rw [byteAt_extract, if_pos (by omega)]
    · rw [byteAt_append, byteAt_extract, ByteArray.size_extract, byteAt_zeros _ (by omega)]
      by_cases h : off + i < b.size
      · rw [if_pos (by omega), if_pos (by omega)]
      · rw [if_neg (by omega), byteAt_beyond b _ (by omega)]

theorem bl_extractPad (b : ByteArray) (off len : Nat) (hlen : len < 2 ^ 65) :
    bl (extractPad b off len) = readPad (bl b) off len :=
  bl_eq_map (size_extractPad b off len hlen) (byteAt_extractPad b off len hlen)

theorem getD_splice {α : Type} (g v : List α) (o i : Nat) (d : α) (h : o + v.length ≤ g.length) :
    (g.take o ++ v ++ g.drop (o + v.length)).getD i d = if o ≤ i ∧ i < o + v.length then v.getD (i - o) d else g.getD i d := by
  have ht : (g.take o).length = o := List.length_take_of_le (by omega)
  simp only [List.getD_eq_getElem?_getD]
  by_cases h1 : i < o
  · rw [if_neg (by omega), List.append_assoc, List.getElem?_append_left (by omega), List.getElem?_take, if_pos h1]
  · by_cases h2 : i < o + v.length
    · rw [if_pos (by omega), List.getElem?_append_left (by rw [List.length_append]; omega),
        List.getElem?_append_right (by omega), ht]
    · rw [if_neg (by omega), List.getElem?_append_right (by rw [List.length_append]; omega), List.getElem?_drop,
        List.length_append, ht]
      congr 2
      omega

theorem length_splice {α : Type} (g v : List α) (o : Nat) (h : o + v.length ≤ g.length) :
    (g.take o ++ v ++ g.drop (o + v.length)).length = g.length := by
  rw [List.length_append, List.length_append, List.length_take_of_le (by omega), List.length_drop]
  omega

end Shentu.C16mH
