import Shentu.Proofs.C15HPay
import Shentu.Proofs.HaltOracleOps
import Shentu.Proofs.C20GOracleInv
/-
  For `Shentu/Props/C15H.lean`: histories.  A `Run` is the ledger and the oracle state together with three ghost records
  that are updated from what each accepted operation visibly does; `Inv` is the invariant that every operation of a timed
  history keeps (`inv_step`).
-/
namespace Shentu.C15HH
open Shentu Shentu.Oracle Shentu.Halt.Orc Shentu.C20GOrcInv

/-- ghost: the end-blocker again, recording for every task handled by how much the operators' accumulated rewards grew -/
def endLog (bond : Denom) : List (String × String) → State → (String → Denom → Int) → (String → Denom → Int)
  | [], _, p => p
  | id :: ids, s, p =>
    match endOne bond s id with
    | .error _ => p
    | .ok s' => endLog bond ids s' (fun k d => p k d + (if k = id.1 ++ id.2 then rewSum s'.ops d - rewSum s.ops d else 0))

/-- under `k`: nothing happened and nothing was credited, or a pending task was finished and at most its bounty credited -/
def PStep (s s' : State) (p p' : String → Denom → Int) (k : String) : Prop :=
  KStep (∀ d, p' k d = p k d) (fun t => ∀ d, p k d ≤ p' k d ∧ p' k d ≤ p k d + Coins.amountOf t.bounty d) s s' k

theorem PStep.trans {s s1 s2 : State} {p p1 p2 : String → Denom → Int} {k : String}
    (h1 : PStep s s1 p p1 k) (h2 : PStep s1 s2 p1 p2 k) : PStep s s2 p p2 k :=
  KStep.trans (fun q1 q2 d => (q2 d).trans (q1 d)) (fun _ q1 q2 d => by rw [← q1 d]; exact q2 d)
    (fun _ q1 q2 d => by rw [q2 d]; exact q1 d) h1 h2

theorem endOne_pstep {bond : Denom} {s s' : State} {id : String × String} (hi : EndInv bond s)
    (hn : (s.ops.map (·.addr)).Nodup) (h : endOne bond s id = .ok s') (p : String → Denom → Int) (k : String) :
    PStep s s' p (fun k d => p k d + (if k = id.1 ++ id.2 then rewSum s'.ops d - rewSum s.ops d else 0)) k := by
  rcases endOne_effect hi h with rfl | ⟨t, t', incs, hft, hst, hfin, rfl, hm, hle, _⟩
  · exact Or.inl ⟨rfl, fun d => by simp⟩
  · refine (app_kstep hft hst hfin incs k).mono (fun hk d => by simp [hk]) fun _ ⟨hk, hu⟩ d => ?_
    subst hk hu
    have hcs := (credits_exact incs hn hm).2 d
    have := hle d
    simp only [app, if_true]
    omega

theorem endFold_pstep {bond : Denom} : ∀ (ids : List (String × String)) {s s' : State} (p : String → Denom → Int),
    EndInv bond s → (s.ops.map (·.addr)).Nodup → endFold bond ids s = .ok s' →
    ∀ k, PStep s s' p (endLog bond ids s p) k
  | [], s, s', p, _, _, h, k => by cases h; exact Or.inl ⟨rfl, fun _ => rfl⟩
  | id :: ids, s, s', p, hi, hn, h, k => by
    rw [endFold_cons] at h
    cases h1 : endOne bond s id with
    | error x => rw [h1] at h; cases h
    | ok s1 =>
      rw [h1] at h; change endFold bond ids s1 = .ok s' at h
      have hi1 : EndInv bond s1 := endOne_endInv hi h1
      have hn1 : (s1.ops.map (·.addr)).Nodup := by rw [endOne_ops h1]; exact hn
      have a := endOne_pstep hi hn h1 p k
      have b := endFold_pstep ids (fun k d => p k d + (if k = id.1 ++ id.2 then rewSum s1.ops d - rewSum s.ops d else 0)) hi1 hn1 h k
      have e : endLog bond (id :: ids) s p =
          endLog bond ids s1 (fun k d => p k d + (if k = id.1 ++ id.2 then rewSum s1.ops d - rewSum s.ops d else 0)) := by
        rw [endLog, h1]
      rw [e]
      exact a.trans b

theorem endBlock_pstep {e : Env} {s s' : State} (hi : EndInv e.bond s) (hn : (s.ops.map (·.addr)).Nodup)
    (h : endBlock e s = .ok s') (p : String → Denom → Int) (k : String) :
    PStep s s' p (endLog e.bond (closingAt s e.h) s p) k := by
  obtain ⟨s1, hf, rfl⟩ := endBlock_ok h
  exact endFold_pstep _ p hi hn hf k

/-- ghost: an accepted response -/
structure RespEv where
  key : String
  op : Addr
  score : Int
  h : Int
  wasOp : Bool

/-- ledger and oracle state with three ghost records: how often the task under a key left `pending` since the key was last
    created, the responses accepted since then, and the rewards credited for it since then -/
structure Run where
  l : Ledger
  s : State
  aggCount : String → Nat
  respLog : List RespEv
  paid : String → Denom → Int

/-- the task under `k` was pending before and is something else after -/
def leftPending (s s' : State) (k : String) : Bool :=
  match findTask s k, findTask s' k with
  | some t, some t' => t.status == 1 && t'.status != 1
  | _, _ => false

def aggCountNext (op : Op) (s s' : State) (ac : String → Nat) : String → Nat := fun k =>
  match op with
  | .createTask c f _ _ _ _ => if k = c ++ f then 0 else ac k
  | _ => ac k + (if leftPending s s' k then 1 else 0)

def respLogNext (e : Env) (op : Op) (s : State) (log : List RespEv) : List RespEv :=
  match op with
  | .respond c f sc o => log ++ [{ key := c ++ f, op := o, score := sc, h := e.h, wasOp := isOp s o }]
  | .createTask c f _ _ _ _ => log.filter (fun ev => !(ev.key == c ++ f))
  | _ => log

def paidNext (e : Env) (op : Op) (s : State) (p : String → Denom → Int) : String → Denom → Int :=
  match op with
  | .endBlock => endLog e.bond (closingAt s e.h) s p
  | .createTask c f _ _ _ _ => fun k d => if k = c ++ f then 0 else p k d
  | _ => p

/-- one operation in its own environment; a refused operation changes nothing -/
def runStep (r : Run) (eo : Env × Op) : Run :=
  match stepE eo.1 r.l r.s eo.2 with
  | .error _ => r
  | .ok (l', s') =>
    { l := l', s := s', aggCount := aggCountNext eo.2 r.s s' r.aggCount, respLog := respLogNext eo.1 eo.2 r.s r.respLog,
      paid := paidNext eo.1 eo.2 r.s r.paid }

theorem runStep_cases (r : Run) (e : Env) (op : Op) :
    runStep r (e, op) = r ∨ ∃ l' s', stepE e r.l r.s op = .ok (l', s') ∧
      runStep r (e, op) = { l := l', s := s', aggCount := aggCountNext op r.s s' r.aggCount,
                            respLog := respLogNext e op r.s r.respLog, paid := paidNext e op r.s r.paid } := by
  unfold runStep
  cases stepE e r.l r.s op with
  | error x => exact Or.inl rfl
  | ok ls => exact Or.inr ⟨ls.1, ls.2, rfl, rfl⟩

theorem runStep_ls (r : Run) (eo : Env × Op) :
    ((runStep r eo).l, (runStep r eo).s) = step eo.1 (r.l, r.s) eo.2 := by
  unfold runStep step
  cases h : stepE eo.1 r.l r.s eo.2 with
  | error x => rfl
  | ok p => obtain ⟨l', s'⟩ := p; rfl

theorem foldl_runStep_ls (ops : List (Env × Op)) (r : Run) :
    ((ops.foldl runStep r).l, (ops.foldl runStep r).s) = ops.foldl (fun ls eo => step eo.1 ls eo.2) (r.l, r.s) :=
  (List.foldl_hom (fun r : Run => (r.l, r.s)) (fun r eo => (runStep_ls r eo).symm)).symm

/-- the least height the next operation may carry: the end-blocker closes its block -/
def nextClock (eo : Env × Op) : Int :=
  match eo.2 with
  | .endBlock => eo.1.h + 1
  | _ => eo.1.h

/-- a timed history: heights never go back, nothing follows the end-blocker at the same height, one bond denomination -/
def Timed (bond : Denom) : Int → List (Env × Op) → Prop
  | _, [] => True
  | c, eo :: rest => c ≤ eo.1.h ∧ eo.1.bond = bond ∧ Timed bond (nextClock eo) rest

/-- for `decide` in the concrete examples -/
def Timed.dec (bond : Denom) : (c : Int) → (ops : List (Env × Op)) → Decidable (Timed bond c ops)
  | _, [] => isTrue trivial
  | c, eo :: rest =>
    match Timed.dec bond (nextClock eo) rest with
    | isTrue h3 =>
      if h1 : c ≤ eo.1.h then
        if h2 : eo.1.bond = bond then isTrue ⟨h1, h2, h3⟩ else isFalse (fun h => h2 h.2.1)
      else isFalse (fun h => h1 h.1)
    | isFalse h3 => isFalse (fun h => h3 h.2.2)

instance (bond : Denom) (c : Int) (ops : List (Env × Op)) : Decidable (Timed bond c ops) := Timed.dec bond c ops

/-- the kind of the error an operation is refused with (used by the concrete examples) -/
def refusal (e : Env) (r : Run) (op : Op) : Option String :=
  match stepE e r.l r.s op with
  | .error x => some x.kind
  | .ok _ => none

def evSig (ev : RespEv) : Addr × Int := (ev.op, ev.score)

/-- what the ghost records say about the task stored under one key -/
structure KI (ft : Option Task) (ac : Nat) (lg : List RespEv) (pd : Denom → Int) : Prop where
  once : ac ≤ 1
  pending : ∀ t, ft = some t → t.status = 1 → ac = 0 ∧ ∀ d, pd d = 0
  resp : ∀ t, ft = some t → t.responses.map rsig = lg.map evSig
  nodup : ∀ t, ft = some t → (t.responses.map (·.op)).Nodup
  early : ∀ t, ft = some t → ∀ ev ∈ lg, ev.h ≤ t.closing
  paid : ∀ t, ft = some t → ∀ d, 0 ≤ pd d ∧ pd d ≤ Coins.amountOf t.bounty d

theorem KI_none {ac : Nat} {lg : List RespEv} {pd : Denom → Int} (h : ac ≤ 1) : KI none ac lg pd :=
  ⟨h, (fun u hu => by cases hu), (fun u hu => by cases hu), (fun u hu => by cases hu), (fun u hu => by cases hu),
    (fun u hu => by cases hu)⟩

def KeyInv (r : Run) (k : String) : Prop :=
  KI (findTask r.s k) (r.aggCount k) (r.respLog.filter (·.key == k)) (r.paid k)

def LogInv (log : List RespEv) : Prop := ∀ ev ∈ log, ev.wasOp = true ∧ 0 ≤ ev.score ∧ ev.score ≤ 100

structure Inv (bond : Denom) (c : Int) (r : Run) : Prop where
  idx : Idx c r.s
  endInv : EndInv bond r.s
  opsNodup : (r.s.ops.map (·.addr)).Nodup
  log : LogInv r.respLog
  keys : ∀ k, KeyInv r k
  fin : ∀ k t, findTask r.s k = some t → t.status ≠ 1 → t.closing < c

theorem leftPending_same {s s' : State} {k : String} (h : findTask s' k = findTask s k) : leftPending s s' k = false := by
  unfold leftPending
  rw [h]
  cases findTask s k with
  | none => rfl
  | some t => simp

theorem map_op_of_rsig {rs rs' : List Response} (h : rs'.map rsig = rs.map rsig) : rs'.map (·.op) = rs.map (·.op) := by
  have : ∀ l : List Response, l.map (·.op) = (l.map rsig).map Prod.fst := by
    intro l; rw [List.map_map]; rfl
  rw [this, this, h]

/-- an operation that is neither the end-blocker nor a task message for `k`, and leaves the lookup of `k` as it is, leaves the
    three ghost records at `k` as they are: a creation or a response under another key writes under that key only, and nothing
    left `pending` under `k` -/
theorem ghosts_other {e : Env} {op : Op} {s s' : State} {r : Run} {k : String} (hne : op ≠ .endBlock)
    (hk : op.taskKey ≠ some k) (hf : findTask s' k = findTask s k) :
    aggCountNext op s s' r.aggCount k = r.aggCount k ∧
    (respLogNext e op s r.respLog).filter (·.key == k) = r.respLog.filter (·.key == k) ∧
    paidNext e op s r.paid k = r.paid k := by
  have hlp := leftPending_same hf
  cases op with
  | createTask c f b cr w v =>
    have hck : ¬ (k = c ++ f) := by
      intro h'; apply hk; simp [Op.taskKey, h']
    refine ⟨by simp [aggCountNext, hck], ?_, by funext d; simp [paidNext, hck]⟩
    simp only [respLogNext, List.filter_filter]
    apply List.filter_congr
    intro ev _
    by_cases hev : ev.key = k
    · simp [hev, hck]
    · simp [hev]
  | respond c f sc o =>
    have hck : ¬ (c ++ f = k) := by
      intro h'; apply hk; simp [Op.taskKey, h']
    refine ⟨by simp [aggCountNext, hlp], ?_, rfl⟩
    simp [respLogNext, List.filter_append, hck]
  | endBlock => exact absurd rfl hne
  | _ => exact ⟨by simp [aggCountNext, hlp], rfl, rfl⟩

theorem KI.of_task {t : Task} {ac : Nat} {lg : List RespEv} {pd : Denom → Int} (once : ac ≤ 1)
    (pending : t.status = 1 → ac = 0 ∧ ∀ d, pd d = 0) (resp : t.responses.map rsig = lg.map evSig)
    (nodup : (t.responses.map (·.op)).Nodup) (early : ∀ ev ∈ lg, ev.h ≤ t.closing)
    (paid : ∀ d, 0 ≤ pd d ∧ pd d ≤ Coins.amountOf t.bounty d) : KI (some t) ac lg pd :=
  ⟨once, fun _ h => by cases h; exact pending, fun _ h => by cases h; exact resp, fun _ h => by cases h; exact nodup,
    fun _ h => by cases h; exact early, fun _ h => by cases h; exact paid⟩

theorem KI.respond {t : Task} {ac : Nat} {lg : List RespEv} {pd : Denom → Int} (h : KI (some t) ac lg pd) {r : Response}
    {ev : RespEv} (hsig : rsig r = evSig ev) (hdup : t.responses.any (·.op == r.op) = false) (hcl : ev.h ≤ t.closing) :
    KI (some { t with responses := t.responses ++ [r] }) ac (lg ++ [ev]) pd := by
  refine .of_task h.once (h.pending t rfl) ?_ ?_ ?_ (h.paid t rfl)
  · simp only [List.map_append, List.map_cons, List.map_nil]
    rw [h.resp t rfl, hsig]
  · simp only [List.map_append, List.map_cons, List.map_nil]
    rw [List.nodup_append]
    refine ⟨h.nodup t rfl, by simp, ?_⟩
    intro a ha b hbb
    simp only [List.mem_singleton] at hbb
    subst hbb
    obtain ⟨x, hx, hxa⟩ := List.mem_map.1 ha
    intro heq
    have := List.any_eq_false.mp hdup x hx
    apply this
    simp [hxa, heq]
  · intro ev' hev
    rcases List.mem_append.mp hev with h1 | h1
    · exact h.early t rfl ev' h1
    · rw [List.mem_singleton.mp h1]; exact hcl

theorem KI.create {t : Task} (hb : Coins.isAnyNegative t.bounty = false) (hr : t.responses = []) :
    KI (some t) 0 [] (fun _ => 0) :=
  .of_task (Nat.zero_le _) (fun _ => ⟨rfl, fun _ => rfl⟩) (by rw [hr]; rfl) (by rw [hr]; simp) (fun _ hev => nomatch hev)
    fun d => ⟨Int.le_refl _, Coins.amountOf_nonneg_of_not_anyNegative _ hb d⟩

theorem KI.finish {t t' : Task} {ac : Nat} {lg : List RespEv} {pd pd' : Denom → Int} (h : KI (some t) ac lg pd)
    (hst : t.status = 1) (hfin : Fin t t') (hq : ∀ d, pd d ≤ pd' d ∧ pd' d ≤ pd d + Coins.amountOf t.bounty d) :
    KI (some t') (ac + 1) lg pd' := by
  have hp0 := h.pending t rfl hst
  refine .of_task (by rw [hp0.1]; exact Nat.le_refl 1) (fun hust => absurd hust hfin.not_pending)
    (hfin.resp.trans (h.resp t rfl)) (by rw [map_op_of_rsig hfin.resp]; exact h.nodup t rfl)
    (fun ev hev => by rw [hfin.closing]; exact h.early t rfl ev hev) fun d => ?_
  have := hq d
  rw [hp0.2 d] at this
  rw [hfin.bounty]; omega

theorem keyInv_step {bond : Denom} {c : Int} {r : Run} {e : Env} {op : Op} {l' : Ledger} {s' : State}
    (hinv : Inv bond c r) (hb : e.bond = bond) (h : stepE e r.l r.s op = .ok (l', s'))
    (hi' : EndInv bond s') (k : String) :
    KI (findTask s' k) (aggCountNext op r.s s' r.aggCount k) ((respLogNext e op r.s r.respLog).filter (·.key == k))
      (paidNext e op r.s r.paid k) := by
  have hK : KI (findTask r.s k) (r.aggCount k) (r.respLog.filter (·.key == k)) (r.paid k) := hinv.keys k
  by_cases hend : op = .endBlock
  · subst hend
    rcases endBlock_pstep (by rw [hb]; exact hinv.endInv) hinv.opsNodup (Except.map_pair_ok h).2 r.paid k with
      ⟨hf, hq⟩ | ⟨t, t', ht, hst, ht', hfin, hq⟩
    · have hac : aggCountNext .endBlock r.s s' r.aggCount k = r.aggCount k := by simp [aggCountNext, leftPending_same hf]
      have hpk : paidNext e .endBlock r.s r.paid k = r.paid k := funext hq
      rw [hf, hac, hpk]; exact hK
    · have hlp : leftPending r.s s' k = true := by
        unfold leftPending; rw [ht, ht']; simp [hst, hfin.not_pending]
      have hac : aggCountNext .endBlock r.s s' r.aggCount k = r.aggCount k + 1 := by simp [aggCountNext, hlp]
      rw [ht', hac]
      exact (ht ▸ hK).finish hst hfin hq
  · cases stepE_keyStep h k with
    | same hf hk =>
      obtain ⟨g1, g2, g3⟩ := ghosts_other (e := e) (r := r) hend hk hf
      rw [hf, g1, g2, g3]; exact hK
    | fin hop => exact absurd hop hend
    | msg hev hf =>
      rw [hf]
      cases hev with
      | @respond ct fn sc o t hk _ _ ht hcl hdup =>
        subst hk
        -- the task keeps its status, so it did not leave `pending`
        have hac : aggCountNext (.respond ct fn sc o) r.s s' r.aggCount (ct ++ fn) = r.aggCount (ct ++ fn) := by
          simp [aggCountNext, leftPending, ht, hf]
        have hlg : (respLogNext e (.respond ct fn sc o) r.s r.respLog).filter (·.key == ct ++ fn) =
            r.respLog.filter (·.key == ct ++ fn) ++ [{ key := ct ++ fn, op := o, score := sc, h := e.h, wasOp := isOp r.s o }] := by
          simp [respLogNext, List.filter_append]
        rw [hac, hlg]
        exact (ht ▸ hK).respond rfl hdup hcl
      | @delete ct fn fo d t hk _ ht =>
        subst hk
        -- nothing is stored under the key afterwards, and `leftPending` wants a task on both sides
        have hac : aggCountNext (.deleteTask ct fn fo d) r.s s' r.aggCount (ct ++ fn) = r.aggCount (ct ++ fn) := by
          simp [aggCountNext, leftPending, ht, hf]
        rw [hac]; exact KI_none hK.once
      | @create ct fn b cr w v s0 window expi hk =>
        subst hk
        have hac : aggCountNext (.createTask ct fn b cr w v) r.s s' r.aggCount (ct ++ fn) = 0 := by simp [aggCountNext]
        have hlg : (respLogNext e (.createTask ct fn b cr w v) r.s r.respLog).filter (·.key == ct ++ fn) = [] := by
          simp only [respLogNext, List.filter_filter]
          rw [List.filter_eq_nil_iff]
          intro ev _
          by_cases hev : ev.key = ct ++ fn <;> simp [hev]
        have hpd : paidNext e (.createTask ct fn b cr w v) r.s r.paid (ct ++ fn) = fun _ => 0 := by
          funext d; simp [paidNext]
        rw [hac, hlg, hpd]
        exact KI.create (findTask_tasksOk hi'.tasks hf).1 rfl

theorem logInv_step {e : Env} {op : Op} {l l' : Ledger} {s s' : State} {log : List RespEv} (hl : LogInv log)
    (h : stepE e l s op = .ok (l', s')) : LogInv (respLogNext e op s log) := by
  cases op with
  | respond c f sc o =>
    obtain ⟨hop, _, _, _, _, h0, h100, _⟩ := respond_ok_iff.mp (Except.map_pair_ok h).2
    intro ev hev
    rcases List.mem_append.mp hev with h1 | h1
    · exact hl ev h1
    · rw [List.mem_singleton.mp h1]; exact ⟨hop, h0, h100⟩
  | createTask c f b cr w v =>
    intro ev hev
    simp only [respLogNext] at hev
    exact hl ev (List.mem_filter.mp hev).1
  | _ => exact hl

theorem idx_next {c : Int} {e : Env} {op : Op} {l l' : Ledger} {s s' : State} (hi : Idx c s) (hc : c ≤ e.h)
    (h : stepE e l s op = .ok (l', s')) : Idx (nextClock (e, op)) s' := by
  by_cases hend : op = .endBlock
  · subst hend
    exact idx_endBlock (Except.map_pair_ok h).2 hc hi
  · have : nextClock (e, op) = e.h := by
      cases op <;> first | rfl | exact absurd rfl hend
    rw [this]
    exact idx_stepE hend h hc hi

theorem nextClock_ge (eo : Env × Op) : eo.1.h ≤ nextClock eo := by
  unfold nextClock; split <;> omega

theorem fin_step {c : Int} {e : Env} {op : Op} {l l' : Ledger} {s s' : State} (hi : Idx c s) (hc : c ≤ e.h)
    (hfin : ∀ k t, findTask s k = some t → t.status ≠ 1 → t.closing < c)
    (h : stepE e l s op = .ok (l', s')) :
    ∀ k t, findTask s' k = some t → t.status ≠ 1 → t.closing < nextClock (e, op) := by
  intro k t' ht' hst'
  have hge := nextClock_ge (e, op)
  cases stepE_keyStep h k with
  | same hf _ => rw [hf] at ht'; have := hfin k t' ht' hst'; dsimp only at hge; omega
  | msg hev hf =>
    rw [ht'] at hf; subst hf
    cases hev with
    | respond _ _ _ ht => have := hfin k _ ht hst'; dsimp only at hge ⊢; omega
    | create => exact absurd rfl hst'
  | fin hop hm ht _ ht2 hf2 =>
    rw [ht2] at ht'; cases ht'; subst hop
    rw [hf2.closing, closing_at hi hc hm ht]
    show e.h < e.h + 1
    omega

theorem inv_step {bond : Denom} {c : Int} {r : Run} (eo : Env × Op) (hinv : Inv bond c r) (hc : c ≤ eo.1.h)
    (hb : eo.1.bond = bond) : Inv bond (nextClock eo) (runStep r eo) := by
  obtain ⟨e, op⟩ := eo
  have hge := nextClock_ge (e, op)
  rcases runStep_cases r e op with hr | ⟨l', s', hs, hr⟩ <;> rw [hr]
  · exact ⟨idx_mono (by omega) hinv.idx, hinv.endInv, hinv.opsNodup, hinv.log, hinv.keys,
      fun k t ht hst => by have := hinv.fin k t ht hst; omega⟩
  · have hi' : EndInv bond s' := hb ▸ stepE_endInv _ r.l l' r.s s' _ hs (hb ▸ hinv.endInv)
    exact ⟨idx_next hinv.idx hc hs, hi', stepE_opsNodup hs hinv.opsNodup, logInv_step hinv.log hs,
      fun k => keyInv_step hinv hb hs hi' k, fin_step hinv.idx hc hinv.fin hs⟩

theorem inv_run {bond : Denom} {c : Int} {r0 : Run} (pre post : List (Env × Op)) (h0 : Inv bond c r0)
    (ht : Timed bond c (pre ++ post)) : ∃ c', Inv bond c' (pre.foldl runStep r0) ∧ Timed bond c' post :=
  foldl_ind (fun l r => ∃ c', Inv bond c' r ∧ Timed bond c' (l ++ post))
    (fun eo _ _ ⟨_, hi, ht⟩ => ⟨_, inv_step eo hi ht.1 ht.2.1, ht.2.2⟩) pre r0 ⟨c, h0, ht⟩

theorem inv_end {bond : Denom} {c : Int} {r0 : Run} (ops : List (Env × Op)) (h0 : Inv bond c r0) (ht : Timed bond c ops) :
    ∃ c', Inv bond c' (ops.foldl runStep r0) :=
  (inv_run ops [] h0 (by rwa [List.append_nil])).imp fun _ h => h.1

/-- the empty oracle state with no ghost records -/
def Run.init (l : Ledger) (p : Params) : Run :=
  { l := l, s := { ops := [], wds := [], total := [], tasks := [], closing := [], params := p },
    aggCount := fun _ => 0, respLog := [], paid := fun _ _ => 0 }

theorem inv_init (bond : Denom) (c : Int) (l : Ledger) (p : Params) (h1 : 0 < p.eps1) (h2 : 0 < p.eps2) :
    Inv bond c (Run.init l p) := by
  refine ⟨idx_empty c p, .empty bond p h1 h2, by simp [Run.init], (fun ev hev => by cases hev), fun k => ?_, ?_⟩
  · have hf : findTask (Run.init l p).s k = none := rfl
    unfold KeyInv
    rw [hf]
    exact KI_none (Nat.zero_le _)
  · intro k t ht; simp [Run.init, findTask] at ht

end Shentu.C15HH
