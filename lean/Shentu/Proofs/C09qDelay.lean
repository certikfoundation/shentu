import Shentu.Proofs.C09qSpec
/-
  `delayUnbonding` (x/shield/keeper/withdraw.go DelayUnbonding) against the queue invariant of C09qDefs: the loop, for the
  statements of Props/C09q.

  The loop invariant is `Inv` together with `Cands` (every remaining candidate still has its entry; below the delayed time
  the remaining candidates are exactly the entries; latest first); `spec_ind` is the induction over the specification's loop
  under it.  Every round of the implementation is `Spec.moveOne` then, so the loop is the specification's (`loop_eq_spec`,
  `delay_ok_spec`), and what a successful delay does is proved of the specification's loop by the same induction: every
  reflexive and transitive relation that a round establishes holds across a call (`spec_rel`, `delay_rel`).

  "A successful delay covers the amount", "an uncovered amount is refused" and "a covered amount is accepted" are false,
  with kernel-checked counterexamples: `delay_covered_fails`, `delay_panics_fails`, `delay_ok_of_covered_fails`.  The cause is
  the same in all three: when one pair of the provider has two entries completing exactly at the delayed time, `retime` picks
  the first of them for both candidates, so one balance is counted twice and the other never.  With the hypothesis
  `hone : ∀ v, entriesAt s p v D ≤ 1` (no pair has two entries completing exactly at the delayed time beforehand) the count
  is right: what is still to be covered plus what was postponed already (`settled`) stays the same from round to round
  (`settled_step`), and so does what completes by the delayed time (`byTime_moveOne`); hence `spec_covered` and
  `delaySpec_isSome_iff`.
-/
namespace Shentu.UbdQueue.Delay
open Shentu.UbdQueue Shentu.UbdQueue.Store Shentu.UbdQueue.Spec

/-- elementwise relation of two lists of the same length: the usual definition (Mathlib's `List.Forall₂`), declared in this
    namespace because these files import core Lean only -/
inductive List.Forall₂ (R : α → β → Prop) : List α → List β → Prop
  | nil : List.Forall₂ R [] []
  | cons {a b l₁ l₂} : R a b → List.Forall₂ R l₁ l₂ → List.Forall₂ R (a :: l₁) (b :: l₂)

theorem forall2_mid {R : α → β → Prop} {l1 : List α} {l1' : List β} (h1 : List.Forall₂ R l1 l1') {a : α} {b : β} (hab : R a b)
    {l2 : List α} {l2' : List β} (h2 : List.Forall₂ R l2 l2') : List.Forall₂ R (l1 ++ a :: l2) (l1' ++ b :: l2') := by
  induction h1 with
  | nil => exact List.Forall₂.cons hab h2
  | cons h _ ih => exact List.Forall₂.cons h ih

theorem forall2_refl {R : α → α → Prop} (hr : ∀ a, R a a) (l : List α) : List.Forall₂ R l l := by
  induction l with
  | nil => exact List.Forall₂.nil
  | cons a l ih => exact List.Forall₂.cons (hr a) ih

theorem forall2_trans {R : α → α → Prop} (ht : ∀ a b c, R a b → R b c → R a c) {l1 l2 : List α}
    (h12 : List.Forall₂ R l1 l2) : ∀ {l3 : List α}, List.Forall₂ R l2 l3 → List.Forall₂ R l1 l3 := by
  induction h12 with
  | nil => intro l3 h; cases h; exact List.Forall₂.nil
  | cons h _ ih =>
    intro l3 h23
    cases h23 with
    | cons h' t' => exact List.Forall₂.cons (ht _ _ _ h h') (ih t')

theorem forall2_perm {R : α → β → Prop} {b c : List α} (hp : b.Perm c) :
    ∀ d, List.Forall₂ R c d → ∃ d', d'.Perm d ∧ List.Forall₂ R b d' := by
  induction hp with
  | nil => intro d h; exact ⟨d, List.Perm.refl _, h⟩
  | cons x _ ih =>
    intro d h
    cases h with
    | cons hx ht =>
      obtain ⟨d', hp', hf'⟩ := ih _ ht
      exact ⟨_ :: d', List.Perm.cons _ hp', List.Forall₂.cons hx hf'⟩
  | swap x y l =>
    intro d h
    cases h with
    | cons hx ht =>
      cases ht with
      | cons hy ht' =>
        exact ⟨_, List.Perm.swap _ _ _, List.Forall₂.cons hy (List.Forall₂.cons hx ht')⟩
  | trans _ _ ih1 ih2 =>
    intro d h
    obtain ⟨d1, hp1, hf1⟩ := ih2 d h
    obtain ⟨d2, hp2, hf2⟩ := ih1 d1 hf1
    exact ⟨d2, hp2.trans hp1, hf2⟩

theorem count_cand_map (l : List Pair) (p v : String) (t T : Int) :
    ((l.filter (fun pr => pr.1 == p)).map (fun pr => (pr.2, t))).count (v, T) = if t = T then l.count (p, v) else 0 := by
  induction l with
  | nil => simp
  | cons x xs ih =>
    obtain ⟨x1, x2⟩ := x
    by_cases hx : x1 = p
    · rw [List.filter_cons_of_pos (by simpa using hx), List.map_cons, List.count_cons, List.count_cons, ih]
      by_cases ht : t = T <;> simp [ht, hx]
    · rw [List.filter_cons_of_neg (by simpa using hx), ih, List.count_cons]
      by_cases ht : t = T <;> simp [ht, hx]

theorem maturing_cons (x : Slice) (xs : List Slice) (p : String) (D : Int) :
    maturingByTime (x :: xs) p D =
      if x.1 ≤ D then (x.2.filter (fun pr => pr.1 == p)).map (fun pr => (pr.2, x.1)) ++ maturingByTime xs p D
      else maturingByTime xs p D := by
  unfold maturingByTime
  by_cases h : x.1 ≤ D <;> simp [h]

theorem count_maturing {q : List Slice} (h : q.Pairwise (fun x y => x.1 < y.1)) (p v : String) (T D : Int) :
    (maturingByTime q p D).count (v, T) = if T ≤ D then (getSlice q T).count (p, v) else 0 := by
  induction q with
  | nil => simp [maturingByTime]
  | cons x xs ih =>
    rw [List.pairwise_cons] at h
    have ih' := ih h.2
    rw [maturing_cons, getSlice_cons]
    by_cases hxD : x.1 ≤ D
    · rw [if_pos hxD, List.count_append, count_cand_map, ih']
      by_cases hxT : x.1 = T
      · have : getSlice xs T = [] := getSlice_eq_nil (fun y hy => by have := h.1 y hy; omega)
        have hTD : T ≤ D := by omega
        simp [hxT, this, hTD]
      · simp [hxT]
    · rw [if_neg hxD, ih']
      by_cases hxT : x.1 = T
      · have hTD : ¬ T ≤ D := by omega
        simp [hTD]
      · simp [hxT]

theorem mem_maturing {q : List Slice} {p : String} {D : Int} {c : String × Int} (h : c ∈ maturingByTime q p D) :
    c.2 ≤ D ∧ ∃ sl ∈ q, sl.1 = c.2 := by
  unfold maturingByTime at h
  simp only [List.mem_flatMap, List.mem_filter, List.mem_map, decide_eq_true_eq] at h
  obtain ⟨sl, ⟨hsl, hle⟩, pr, _, rfl⟩ := h
  exact ⟨hle, sl, hsl, rfl⟩

theorem sorted_maturing {q : List Slice} (h : q.Pairwise (fun x y => x.1 < y.1)) (p : String) (D : Int) :
    (maturingByTime q p D).Pairwise (fun c c' => c.2 ≤ c'.2) := by
  unfold maturingByTime
  rw [List.pairwise_flatMap]
  refine ⟨fun sl _ => ?_, (h.filter _).imp fun hab x hx y hy => ?_⟩
  · rw [List.pairwise_map]; exact List.pairwise_of_forall (fun _ _ => Int.le_refl _)
  · simp only [List.mem_map] at hx hy
    obtain ⟨_, _, rfl⟩ := hx
    obtain ⟨_, _, rfl⟩ := hy
    exact Int.le_of_lt hab

/-- every remaining candidate still has its entry; below `D` the candidates are exactly the entries; latest first -/
structure Cands (s : State) (p : String) (D : Int) (cs : List (String × Int)) : Prop where
  le : ∀ v T, cs.count (v, T) ≤ entriesAt s p v T
  eq : ∀ v T, T < D → cs.count (v, T) = entriesAt s p v T
  sorted : cs.Pairwise (fun c c' => c'.2 ≤ c.2)
  bound : ∀ c ∈ cs, c.2 ≤ D

theorem cands_init {s : State} (hi : Inv s) (p : String) (D : Int) :
    Cands s p D (maturingByTime s.queue p D).reverse ∧
      ∀ v, (maturingByTime s.queue p D).reverse.count (v, D) = entriesAt s p v D := by
  have hc : ∀ v T, (maturingByTime s.queue p D).reverse.count (v, T) = if T ≤ D then entriesAt s p v T else 0 := by
    intro v T
    rw [List.count_reverse, count_maturing hi.times, ← hi.counts p v T]; rfl
  refine ⟨{ le := ?_, eq := ?_, sorted := ?_, bound := ?_ }, ?_⟩
  · intro v T; rw [hc]; split <;> omega
  · intro v T hT; rw [hc, if_pos (by omega)]
  · rw [List.pairwise_reverse]; exact sorted_maturing hi.times p D
  · intro c hc'; exact (mem_maturing (List.mem_reverse.mp hc')).1
  · intro v; rw [hc, if_pos (Int.le_refl _)]

theorem cands_head {s : State} {p : String} {D : Int} {c : String × Int} {cs : List (String × Int)}
    (hc : Cands s p D (c :: cs)) : 0 < entriesAt s p c.1 c.2 ∧ c.2 ≤ D := by
  refine ⟨?_, hc.bound c (by simp)⟩
  have := hc.le c.1 c.2
  simp only [List.count_cons_self] at this
  omega

theorem cands_step {s : State} {p : String} {D : Int} {c : String × Int} {cs : List (String × Int)}
    (hc : Cands s p D (c :: cs)) (hq : 0 < entriesAt s p c.1 c.2) : Cands (moveOne s p D c) p D cs := by
  have hcount : ∀ v T, (c :: cs).count (v, T) = cs.count (v, T) + (if T = c.2 ∧ (p, v) = (p, c.1) then 1 else 0) := by
    intro v T
    obtain ⟨v0, T0⟩ := c
    rw [List.count_cons]
    by_cases e : T = T0 ∧ v = v0
    · obtain ⟨rfl, rfl⟩ := e; simp
    · have : ¬ (v0 = v ∧ T0 = T) := fun a => e ⟨a.2.symm, a.1.symm⟩
      simp [this, e]
  refine { le := ?_, eq := ?_, sorted := (List.pairwise_cons.mp hc.sorted).2, bound := fun c' hcm => hc.bound c' (by simp [hcm]) }
  · intro v T
    have h1 := moveOne_entriesAt D hq p v T
    have h2 := hc.le v T
    rw [hcount] at h2
    omega
  · intro v T hT
    have h1 := moveOne_entriesAt D hq p v T
    have h2 := hc.eq v T hT
    rw [hcount] at h2
    rw [if_neg (fun e : T = D ∧ _ => by omega)] at h1
    omega

theorem spec_ind {p : String} {D : Int} {P : List (String × Int) → Int → State → Option State → Prop}
    (stop : ∀ cs rem s, Inv s → Cands s p D cs → rem ≤ 0 → P cs rem s (some s))
    (fail : ∀ rem s, Inv s → Cands s p D [] → 0 < rem → P [] rem s none)
    (round : ∀ c cs rem s r, Inv s → Cands s p D (c :: cs) → 0 < rem → 0 < entriesAt s p c.1 c.2 → c.2 ≤ D →
        P cs (rem - firstBal (getEntries s.ubds p c.1) c.2) (moveOne s p D c) r → P (c :: cs) rem s r) :
    ∀ cs rem s, Inv s → Cands s p D cs → P cs rem s (specLoop p D cs rem s) := by
  intro cs
  induction cs with
  | nil =>
    intro rem s hi hc
    unfold specLoop
    by_cases h : rem > 0
    · rw [if_pos h]; exact fail rem s hi hc h
    · rw [if_neg h]; exact stop [] rem s hi hc (by omega)
  | cons c cs ih =>
    intro rem s hi hc
    rw [specLoop.eq_2]
    by_cases hr : rem ≤ 0
    · rw [if_pos hr]; exact stop _ rem s hi hc hr
    · obtain ⟨hq, hT⟩ := cands_head hc
      rw [if_neg hr]
      exact round c cs rem s _ hi hc (by omega) hq hT (ih _ _ (moveOne_inv s p D c hi hq) (cands_step hc hq))

theorem loop_eq_spec {p : String} {D : Int} : ∀ cs rem s, Inv s → Cands s p D cs →
    delayLoop p D cs rem s = match specLoop p D cs rem s with
      | some s' => .ok s'
      | none => .error "failed to delay enough unbondings" :=
  spec_ind (P := fun cs rem s r => delayLoop p D cs rem s = match r with
      | some s' => .ok s'
      | none => .error "failed to delay enough unbondings")
    (fun cs rem s _ _ hr => by
      cases cs
      · exact if_neg (by omega)
      · exact if_pos hr)
    (fun rem s _ _ hr => if_pos hr)
    (fun c cs rem s r hi _ hr hq _ ih => by
      rw [delayLoop.eq_2, if_neg (by omega), delayStep_eq s p D c hi hq]
      exact ih)

theorem delay_ok_spec {s s' : State} {p : String} {a D : Int} (h : Inv s) :
    delayUnbonding s p a D = .ok s' ↔ delaySpec s p a D = some s' := by
  unfold delayUnbonding delaySpec
  rw [loop_eq_spec _ a s h (cands_init h p D).1]
  cases specLoop p D (maturingByTime s.queue p D).reverse a s <;> simp

theorem spec_rel {p : String} {D : Int} (R : State → State → Prop) (hrefl : ∀ s, R s s)
    (htrans : ∀ a b c, R a b → R b c → R a c)
    (hstep : ∀ s c, Inv s → 0 < entriesAt s p c.1 c.2 → c.2 ≤ D → R s (moveOne s p D c)) :
    ∀ cs rem s, Inv s → Cands s p D cs → ∀ s', specLoop p D cs rem s = some s' → Inv s' ∧ R s s' :=
  spec_ind (P := fun _ _ s r => ∀ s', r = some s' → Inv s' ∧ R s s')
    (fun _ _ s hi _ _ s' e => by cases e; exact ⟨hi, hrefl s⟩)
    (fun _ _ _ _ _ s' e => by cases e)
    (fun c _ _ s _ hi _ _ hq hT ih s' e => ⟨(ih s' e).1, htrans _ _ _ (hstep s c hi hq hT) (ih s' e).2⟩)

theorem delay_rel {p : String} {D : Int} (R : State → State → Prop) (hrefl : ∀ s, R s s)
    (htrans : ∀ a b c, R a b → R b c → R a c)
    (hstep : ∀ s c, Inv s → 0 < entriesAt s p c.1 c.2 → c.2 ≤ D → R s (moveOne s p D c))
    {s s' : State} {a : Int} (h : Inv s) (ok : delayUnbonding s p a D = .ok s') : Inv s' ∧ R s s' :=
  spec_rel R hrefl htrans hstep _ _ _ h (cands_init h p D).1 s' ((delay_ok_spec h).mp ok)

theorem delayStep_ubds {s s1 : State} {p : String} {D : Int} {c : String × Int} {b : Int}
    (h : delayStep s p D c = .ok (s1, b)) : ∃ es', s1.ubds = setUbd s.ubds p c.1 es' := by
  unfold delayStep at h
  simp only at h
  split at h
  · cases h
  · split at h
    · cases h
    · rename_i es' a _
      simp only [Except.ok.injEq, Prod.mk.injEq] at h
      exact ⟨es', by rw [← h.1]⟩

theorem loop_frame_entries {p : String} {D : Int} (d v : String) (hd : d ≠ p) : ∀ cs rem s s',
    delayLoop p D cs rem s = .ok s' → getEntries s'.ubds d v = getEntries s.ubds d v := by
  intro cs
  induction cs with
  | nil =>
    intro rem s s' h
    unfold delayLoop at h
    split at h
    · cases h
    · cases h; rfl
  | cons c cs ih =>
    intro rem s s' h
    rw [delayLoop.eq_2] at h
    split at h
    · cases h; rfl
    · split at h
      · cases h
      · rename_i s1 b hstep
        obtain ⟨es', hs1⟩ := delayStep_ubds hstep
        rw [ih _ _ _ h, hs1, getEntries_setUbd, if_neg (fun e => hd e.1)]

theorem delayed_refl (D : Int) (e : Entry) : Delayed D e e := ⟨rfl, Or.inl rfl⟩

theorem delayed_trans (D : Int) (a b c : Entry) (h1 : Delayed D a b) (h2 : Delayed D b c) : Delayed D a c := by
  unfold Delayed at *
  refine ⟨by omega, ?_⟩
  omega

/-- one pair of the provider "p" with two entries completing at 100 (balances 5 and 1) and one completing at 50 (balance 4) -/
def s0 : State :=
  run {} [.undelegate "p" "v1" 50 4, .undelegate "p" "v1" 100 5, .undelegate "p" "v1" 100 1, .undelegate "b" "v1" 100 7]

theorem inv_s0 : Inv s0 :=
  undelegate_inv _ _ _ _ _ (undelegate_inv _ _ _ _ _ (undelegate_inv _ _ _ _ _ (undelegate_inv _ _ _ _ _ inv_empty)))

theorem nonneg_s0 : NonNeg s0.ubds "p" := by unfold NonNeg; decide

/-- two entries of one pair completing at 4, balances 50 and 100 -/
def s1 : State := run {} [.undelegate "p" "v1" 4 50, .undelegate "p" "v1" 4 100]

theorem inv_s1 : Inv s1 := undelegate_inv _ _ _ _ _ (undelegate_inv _ _ _ _ _ inv_empty)

theorem nonneg_s1 : NonNeg s1.ubds "p" := by unfold NonNeg; decide

/-- the hypotheses of `delay_inv`, `delay_error`, `delay_entries`, `delay_frame_queue` hold of a non-trivial state: `s0` satisfies the invariant and the delay goes through -/
example : Inv s0 ∧ ∃ s', delayUnbonding s0 "p" 10 100 = .ok s' := ⟨inv_s0, _, rfl⟩
example : Inv s0 ∧ ∃ msg, delayUnbonding s0 "p" 15 100 = .error msg := ⟨inv_s0, _, rfl⟩

/-- Without `hone` a successful delay need not cover the amount: in `s0` the pair ("p", "v1") has two entries completing
    exactly at the delayed time 100; `retime` picks the same first one (balance 5) for both candidates, so 10 is "delayed"
    while only 6 completes at 100 afterwards and the entry completing at 50 is not postponed. -/
theorem delay_covered_fails : ¬ (∀ (s s' : State) (p : String) (a D : Int), Inv s → NonNeg s.ubds p → 0 < a →
    delayUnbonding s p a D = .ok s' → a ≤ atTime s'.ubds p D) := by
  intro H
  have ⟨s', hs', hat⟩ : ∃ s', delayUnbonding s0 "p" 10 100 = .ok s' ∧ atTime s'.ubds "p" 100 = 6 := ⟨_, rfl, by decide⟩
  have := H s0 s' "p" 10 100 inv_s0 nonneg_s0 (by decide) hs'
  omega

/-- Without `hone` an uncovered amount need not be refused: in `s0` only 10 completes by 100, yet a delay of 11 goes through
    (5 is counted twice). -/
theorem delay_panics_fails : ¬ (∀ (s : State) (p : String) (a D : Int), Inv s → NonNeg s.ubds p → byTime s.ubds p D < a →
    ∃ msg, delayUnbonding s p a D = .error msg) := by
  intro H
  have hb : byTime s0.ubds "p" 100 = 10 := by decide
  obtain ⟨msg, hm⟩ := H s0 "p" 11 100 inv_s0 nonneg_s0 (by rw [hb]; decide)
  have ⟨s', hs'⟩ : ∃ s', delayUnbonding s0 "p" 11 100 = .ok s' := ⟨_, rfl⟩
  rw [hs'] at hm
  cases hm

/-- Without `hone` a covered amount need not be accepted: the double counting also counts too little. In `s1` 150 completes
    by 4, but a delay of 150 panics: the first entry (50) is counted twice, the second (100) never. -/
theorem delay_ok_of_covered_fails : ¬ (∀ (s : State) (p : String) (a D : Int), Inv s → NonNeg s.ubds p →
    a ≤ byTime s.ubds p D → ∃ s', delayUnbonding s p a D = .ok s') := by
  intro H
  have hb : byTime s1.ubds "p" 4 = 150 := by decide
  obtain ⟨s', hs'⟩ := H s1 "p" 150 4 inv_s1 nonneg_s1 (by rw [hb]; decide)
  have he : delayUnbonding s1 "p" 150 4 = .error "failed to delay enough unbondings" := rfl
  rw [he] at hs'
  cases hs'

theorem step_nonneg {s : State} {p : String} {D : Int} {c : String × Int}
    (hk : s.ubds.Pairwise (fun x y => ¬ (x.del = y.del ∧ x.val = y.val))) (hn : NonNeg s.ubds p)
    (hq : 0 < entriesAt s p c.1 c.2) : NonNeg (moveOne s p D c).ubds p := by
  obtain ⟨e0, hm0, _, _, ed⟩ := moveOne_edit D hq
  have hold : ∀ v, ∀ x ∈ getEntries s.ubds p v, 0 ≤ x.bal := fun v x hx => by
    obtain ⟨u', hu', hd', hx'⟩ := mem_of_getEntries hx; exact hn u' hu' hd' x hx'
  intro u hu hd e he
  rw [← getEntries_of_mem (ed.keys hk) hu, hd] at he
  rcases ed.mem he with m | ⟨_, m⟩
  · exact hold _ e m
  · -- the re-timed entry has the balance of the one it replaces
    rw [List.mem_singleton.mp m]; exact hold _ e0 hm0

/-- the hypothesis `hone` of the `_partial` theorems along the loop: a pair that is still a candidate for `D` has at most one
    entry there -/
def OneAt (s : State) (p : String) (D : Int) (cs : List (String × Int)) : Prop :=
  ∀ v, (v, D) ∈ cs → entriesAt s p v D ≤ 1

theorem not_mem_later {s : State} {p : String} {D : Int} {c : String × Int} {cs : List (String × Int)}
    (hc : Cands s p D (c :: cs)) (hT : c.2 ≠ D) (v' : String) : (v', D) ∉ c :: cs := by
  intro hm
  rcases List.mem_cons.mp hm with e | e
  · exact hT (congrArg Prod.snd e).symm
  · have h1 := (List.pairwise_cons.mp hc.sorted).1 _ e
    have h2 := hc.bound c (by simp)
    simp only at h1 h2; omega

theorem not_mem_same {s : State} {p : String} {D : Int} {v : String} {cs : List (String × Int)}
    (hc : Cands s p D ((v, D) :: cs)) (ho : OneAt s p D ((v, D) :: cs)) : (v, D) ∉ cs := by
  intro hm
  have h1 := hc.le v D
  have h2 := ho v (by simp)
  rw [List.count_cons_self] at h1
  have := List.count_pos_iff.mpr hm
  omega

theorem firstBal_single {es : List Entry} {D : Int} (h0 : 0 < es.countP (fun e => e.t == D))
    (h1 : es.countP (fun e => e.t == D) ≤ 1) : balSum (es.filter (fun e => e.t == D)) = firstBal es D := by
  obtain ⟨l1, e, l2, hes, ht, hb, _⟩ := moveFirst_spec D h0
  rw [hb]
  rw [hes] at h1 ⊢
  simp only [List.countP_append, List.countP_cons, ht, beq_self_eq_true, if_true] at h1
  have e1 : l1.filter (fun e => e.t == D) = [] := List.filter_eq_nil_iff.mpr (List.countP_eq_zero.mp (by omega))
  have e2 : l2.filter (fun e => e.t == D) = [] := List.filter_eq_nil_iff.mpr (List.countP_eq_zero.mp (by omega))
  simp [List.filter_append, ht, e1, e2, balSum]

theorem oneAt_step {s : State} {p : String} {D : Int} {c : String × Int} {cs : List (String × Int)}
    (hc : Cands s p D (c :: cs)) (ho : OneAt s p D (c :: cs)) (hq : 0 < entriesAt s p c.1 c.2) :
    OneAt (moveOne s p D c) p D cs := by
  intro v' hv'
  have h0 := ho v' (List.mem_cons_of_mem _ hv')
  have h1 := moveOne_entriesAt D hq p v' D
  by_cases hv : v' = c.1
  · subst hv
    by_cases hT : c.2 = D
    · obtain ⟨v, T⟩ := c; subst hT; exact absurd hv' (not_mem_same hc ho)
    · exact absurd (List.mem_cons_of_mem _ hv') (not_mem_later hc hT _)
  · have : ¬ (p, v') = (p, c.1) := fun e => hv (congrArg Prod.snd e)
    simp only [this, and_false, if_false] at h1; omega

/-- what completes at `D` and is not waiting to be "delayed" to `D` once more -/
def settled (p : String) (cs : List (String × Int)) (D : Int) : String → String → List Entry → Int :=
  fun d v es => if d = p ∧ (v, D) ∉ cs then balSum (es.filter (fun e => e.t == D)) else 0

theorem mem_cons_ne {u : Ubd} {p : String} {c : String × Int} {D : Int} {cs : List (String × Int)}
    (hu : ¬ (u.del = p ∧ u.val = c.1)) (hd : u.del = p) : ((u.val, D) ∈ c :: cs) ↔ (u.val, D) ∈ cs := by
  have : ¬ (u.val, D) = c := fun e => hu ⟨hd, congrArg Prod.fst e⟩
  simp [List.mem_cons, this]

theorem settled_step {s : State} {p : String} {D : Int} {c : String × Int} {cs : List (String × Int)}
    (hk : s.ubds.Pairwise (fun x y => ¬ (x.del = y.del ∧ x.val = y.val))) (hc : Cands s p D (c :: cs)) (ho : OneAt s p D (c :: cs)) (hq : 0 < entriesAt s p c.1 c.2) :
    sumU (moveOne s p D c).ubds (settled p cs D)
      = sumU s.ubds (settled p (c :: cs) D) + firstBal (getEntries s.ubds p c.1) c.2 := by
  show sumU (setUbd s.ubds p c.1 _) _ = _
  rw [sumU_setUbd hk p c.1 _ (settled p (c :: cs) D) (settled p cs D) (by simp [settled, balSum])
    (fun u _ hu => by unfold settled; by_cases hd : u.del = p <;> simp only [hd, mem_cons_ne hu, false_and, if_false])]
  have hf := balSum_filter_moveFirst (fun t => t == D) D hq
  simp only [beq_self_eq_true, if_true] at hf
  obtain ⟨v, T⟩ := c
  unfold settled
  by_cases hT : T = D
  · subst hT
    have hm := not_mem_same hc ho
    have hb : balSum ((getEntries s.ubds p v).filter (fun e => e.t == T)) = firstBal (getEntries s.ubds p v) T :=
      firstBal_single hq (ho v (by simp))
    simp only [beq_self_eq_true, if_true] at hf
    simp only [hm, List.mem_cons_self, not_true, not_false_eq_true, and_true, and_false, if_true, if_false]
    omega
  · have hm1 := not_mem_later hc hT v
    have hm2 : (v, D) ∉ cs := fun e => hm1 (List.mem_cons_of_mem _ e)
    have : (T == D) = false := by simpa using hT
    simp only [this, Bool.false_eq_true, if_false] at hf
    simp only [hm1, hm2, not_false_eq_true, and_true, if_true]
    omega

theorem byTime_moveOne {s : State} {p : String} {D : Int} {c : String × Int}
    (hk : s.ubds.Pairwise (fun x y => ¬ (x.del = y.del ∧ x.val = y.val)))
    (hq : 0 < entriesAt s p c.1 c.2) (hT : c.2 ≤ D) : byTime (moveOne s p D c).ubds p D = byTime s.ubds p D := by
  obtain ⟨e, _, ht, _, ed⟩ := moveOne_edit D hq
  have := ed.sum hk (fun d' _ e => if d' = p ∧ decide (e.t ≤ D) = true then e.bal else 0)
  rw [← byTime_eq_sumE, ← byTime_eq_sumE] at this
  simpa [wsum, ht, hT] using this

theorem filter_nonneg {us : List Ubd} {p : String} (hn : NonNeg us p) {u : Ubd} (hu : u ∈ us) (hd : u.del = p)
    (f : Entry → Bool) : 0 ≤ balSum (u.entries.filter f) :=
  balSum_nonneg (fun e he => hn u hu hd e (List.mem_filter.mp he).1)

theorem settled_le {us : List Ubd} {p : String} {cs : List (String × Int)} {D : Int} (hn : NonNeg us p) :
    sumU us (settled p cs D) ≤ atTime us p D := by
  rw [atTime_eq]
  apply sumU_le
  intro u hu
  unfold settled
  by_cases hd : u.del = p
  · have := filter_nonneg hn hu hd (fun e => e.t == D)
    simp only [hd, true_and, if_true]; split <;> omega
  · simp [hd]

theorem balSum_filter_le (D : Int) (es : List Entry) :
    balSum (es.filter (fun e => decide (e.t ≤ D)))
      = balSum (es.filter (fun e => decide (e.t < D))) + balSum (es.filter (fun e => e.t == D)) := by
  induction es with
  | nil => simp [balSum]
  | cons e es ih =>
    simp only [List.filter_cons]
    by_cases h1 : e.t < D
    · have h2 : e.t ≤ D := by omega
      have h3 : ¬ e.t = D := by omega
      simp [h1, h2, h3, balSum_cons, ih]; omega
    · by_cases h3 : e.t = D
      · have h2 : e.t ≤ D := by omega
        simp [h3, balSum_cons, ih]; omega
      · have h2 : ¬ e.t ≤ D := by omega
        simp [h1, h2, h3, ih]

theorem atTime_le_byTime {us : List Ubd} {p : String} {D : Int} (hn : NonNeg us p) : atTime us p D ≤ byTime us p D := by
  rw [atTime_eq, byTime_eq]
  apply sumU_le
  intro u hu
  by_cases hd : u.del = p
  · have := filter_nonneg hn hu hd (fun e => decide (e.t < D))
    simp only [hd, if_true, balSum_filter_le]; omega
  · simp [hd]

/-- at the start every pair with an entry at `D` is a candidate -/
theorem settled_init {s : State} {p : String} {D : Int} (hi : Inv s) :
    sumU s.ubds (settled p (maturingByTime s.queue p D).reverse D) = 0 := by
  rw [← sumU_zero s.ubds]
  apply sumU_congr
  intro u hu
  unfold settled
  split
  · rename_i h
    have hcnt := (cands_init hi p D).2 u.val
    rw [List.count_eq_zero.mpr h.2] at hcnt
    unfold entriesAt at hcnt
    rw [← h.1, getEntries_of_mem hi.keys hu] at hcnt
    rw [List.filter_eq_nil_iff.mpr (List.countP_eq_zero.mp hcnt.symm)]; rfl
  · rfl

/-- when no candidate is left, nothing completes before `D` -/
theorem settled_nil {s : State} {p : String} {D : Int} (hi : Inv s) (hc : Cands s p D []) :
    sumU s.ubds (settled p [] D) = byTime s.ubds p D := by
  rw [byTime_eq]
  apply sumU_congr
  intro u hu
  unfold settled
  by_cases hd : u.del = p
  · have : u.entries.filter (fun e => decide (e.t < D)) = [] := by
      rw [List.filter_eq_nil_iff]
      intro e he hlt
      have h1 := hc.eq u.val e.t (by simpa using hlt)
      unfold entriesAt at h1
      rw [← hd, getEntries_of_mem hi.keys hu] at h1
      have : 0 < u.entries.countP (fun x => x.t == e.t) := List.countP_pos_iff.mpr ⟨e, he, by simp⟩
      simp at h1; omega
    simp only [hd, List.not_mem_nil, not_false_eq_true, and_self, if_true, balSum_filter_le, this]
    simp [balSum]
  · simp [hd]

/-- with `hone` the loop goes through exactly when what is left to cover, together with what was counted already, is there
    by `D` (a round adds to the second what it takes from the first), and then that much completes exactly at `D` -/
theorem spec_covered {p : String} {D : Int} : ∀ cs rem s, Inv s → Cands s p D cs → OneAt s p D cs → NonNeg s.ubds p →
    ((specLoop p D cs rem s).isSome ↔ rem + sumU s.ubds (settled p cs D) ≤ byTime s.ubds p D) ∧
      ∀ s', specLoop p D cs rem s = some s' → rem + sumU s.ubds (settled p cs D) ≤ atTime s'.ubds p D :=
  spec_ind (P := fun cs rem s r => OneAt s p D cs → NonNeg s.ubds p →
      (r.isSome ↔ rem + sumU s.ubds (settled p cs D) ≤ byTime s.ubds p D) ∧
        ∀ s', r = some s' → rem + sumU s.ubds (settled p cs D) ≤ atTime s'.ubds p D)
    (fun cs rem s _ _ hr _ hn => by
      have := settled_le (cs := cs) (D := D) hn
      have := atTime_le_byTime (D := D) hn
      refine ⟨by simp; omega, fun s' e => ?_⟩
      cases e; omega)
    (fun rem s hi hc hr _ _ => by
      rw [settled_nil hi hc]
      exact ⟨by simp; omega, fun s' e => by cases e⟩)
    (fun c cs rem s r hi hc _ hq hT ih ho hn => by
      have := ih (oneAt_step hc ho hq) (step_nonneg hi.keys hn hq)
      rw [settled_step hi.keys hc ho hq, byTime_moveOne hi.keys hq hT] at this
      refine ⟨this.1.trans (by omega), fun s' e => ?_⟩
      have := this.2 s' e; omega)

theorem delaySpec_isSome_iff (s : State) (p : String) (a D : Int) (h : Inv s) (hn : NonNeg s.ubds p)
    (hone : ∀ v, entriesAt s p v D ≤ 1) : (delaySpec s p a D).isSome ↔ a ≤ byTime s.ubds p D := by
  have := (spec_covered _ a s h (cands_init h p D).1 (fun v _ => hone v) hn).1
  rwa [settled_init h, Int.add_zero] at this

/-- two pairs of the provider, one entry each at 100, one earlier entry -/
def s2 : State :=
  run {} [.undelegate "p" "v1" 50 4, .undelegate "p" "v1" 100 5, .undelegate "p" "v2" 100 1, .undelegate "b" "v1" 100 7]

theorem inv_s2 : Inv s2 :=
  undelegate_inv _ _ _ _ _ (undelegate_inv _ _ _ _ _ (undelegate_inv _ _ _ _ _ (undelegate_inv _ _ _ _ _ inv_empty)))

theorem nonneg_s2 : NonNeg s2.ubds "p" := by unfold NonNeg; decide

theorem hone_s2 : ∀ v, entriesAt s2 "p" v 100 ≤ 1 := by
  intro v
  have hu : s2.ubds = [⟨"b", "v1", [⟨100, 7⟩]⟩, ⟨"p", "v1", [⟨50, 4⟩, ⟨100, 5⟩]⟩, ⟨"p", "v2", [⟨100, 1⟩]⟩] := by decide
  unfold entriesAt
  rw [hu]
  simp only [getEntries_cons, getEntries_nil]
  (repeat' split) <;> decide

/-- the hypotheses of the three partial theorems hold of `s2` (delay to 100): 7 is covered and goes through, 11 is not -/
example : Inv s2 ∧ NonNeg s2.ubds "p" ∧ (∀ v, entriesAt s2 "p" v 100 ≤ 1) ∧ (0 : Int) < 7 ∧
    (∃ s', delayUnbonding s2 "p" 7 100 = .ok s') ∧ 7 ≤ byTime s2.ubds "p" 100 ∧ byTime s2.ubds "p" 100 < 11 :=
  ⟨inv_s2, nonneg_s2, hone_s2, by decide, ⟨_, rfl⟩, by decide, by decide⟩

/-- below `D` a pair only loses entries, and while one is left at `T` nothing was taken from any earlier time: the second
    needs the first for the rest of the loop -/
theorem spec_latest {p : String} {D : Int} : ∀ cs rem s, Inv s → Cands s p D cs → ∀ s', specLoop p D cs rem s = some s' →
    (∀ v T, T < D → entriesAt s' p v T ≤ entriesAt s p v T) ∧
    ∀ v T, T < D → 0 < entriesAt s' p v T → ∀ v' T', T' < T → entriesAt s' p v' T' = entriesAt s p v' T' :=
  spec_ind (P := fun cs rem s r => ∀ s', r = some s' →
      (∀ v T, T < D → entriesAt s' p v T ≤ entriesAt s p v T) ∧
      ∀ v T, T < D → 0 < entriesAt s' p v T → ∀ v' T', T' < T → entriesAt s' p v' T' = entriesAt s p v' T')
    (fun _ _ _ _ _ _ s' e => by cases e; exact ⟨fun _ _ _ => Nat.le_refl _, by intros; rfl⟩)
    (fun _ _ _ _ _ s' e => by cases e)
    (fun c cs rem s r hi hc _ hq _ ih s' e => by
      obtain ⟨hmono, hlat⟩ := ih s' e
      have hstep : ∀ v T, T < D → entriesAt (moveOne s p D c) p v T ≤ entriesAt s p v T := fun v T hT => by
        have h1 := moveOne_entriesAt D hq p v T
        rw [if_neg (fun e : T = D ∧ _ => by omega)] at h1
        omega
      refine ⟨fun v T hT => Nat.le_trans (hmono v T hT) (hstep v T hT), fun v T hT hleft v' T' hT' => ?_⟩
      rw [hlat v T hT hleft v' T' hT']
      have h1 := moveOne_entriesAt D hq p v' T'
      rw [if_neg (fun e : T' = D ∧ _ => by omega)] at h1
      by_cases hk : T' = c.2 ∧ (p, v') = (p, c.1)
      · -- this round took from `T' < T`: latest first, no candidate is left at `T`, so after the round nothing completes at
        -- `T` (below `D` the candidates are the entries), and nothing comes back there
        exfalso
        have hz : cs.count (v, T) = 0 := by
          apply List.count_eq_zero.mpr
          intro hm
          have := (List.pairwise_cons.mp hc.sorted).1 _ hm
          simp only at this
          omega
        have h3 := (cands_step hc hq).eq v T hT
        have h4 := hmono v T hT
        omega
      · rw [if_neg hk] at h1
        omega)

/-- the hypotheses of `delay_latest_first` hold of `s0` with the delay of 10 to 100: the entry completing at 50 is left -/
example : ∃ s', delayUnbonding s0 "p" 10 100 = .ok s' ∧ 0 < entriesAt s' "p" "v1" 50 := ⟨_, rfl, by decide⟩

end Shentu.UbdQueue.Delay
