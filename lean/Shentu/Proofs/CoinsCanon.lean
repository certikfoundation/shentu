import Shentu.Proofs.BankLemmas
/-
  `Coins.canon`, the sorted list without zero entries that `sdk.Coins` iterates over: it lists every denomination once
  (`canon_denoms_nodup`); what is in it (`mem_canon`), and what follows: it keeps every amount (`amountOf_canon`), and what
  `IsZero` and `IsAllPositive` say of the amounts.
-/
namespace Shentu.Coins

theorem nodup_insertSorted {d : Denom} {l : List Denom} (hd : d ∉ l) (hn : l.Nodup) : (insertSorted d l).Nodup := by
  induction l with
  | nil => simp [insertSorted]
  | cons y ys ih =>
    unfold insertSorted
    have hdy : d ≠ y := fun h => hd (by rw [h]; exact List.mem_cons_self)
    have hdys : d ∉ ys := fun h => hd (List.mem_cons_of_mem _ h)
    have hny := List.nodup_cons.mp hn
    split
    · exact List.nodup_cons.mpr ⟨hd, hn⟩
    · split
      · rename_i heq; exact absurd (by simpa using heq) hdy
      · refine List.nodup_cons.mpr ⟨?_, ih hdys hny.2⟩
        intro hm
        rcases (mem_insertSorted d y ys).mp hm with h | h
        · exact hdy h.symm
        · exact hny.1 h

theorem nodup_sortDenoms : ∀ {l : List Denom}, l.Nodup → (sortDenoms l).Nodup
  | [], _ => by simp [sortDenoms]
  | y :: ys, hn => by
    have e : sortDenoms (y :: ys) = insertSorted y (sortDenoms ys) := rfl
    rw [e]
    have hny := List.nodup_cons.mp hn
    exact nodup_insertSorted (fun h => hny.1 ((mem_sortDenoms y ys).mp h)) (nodup_sortDenoms hny.2)

theorem nodup_eraseDups_aux : ∀ (n : Nat) (l : List Denom), l.length ≤ n → l.eraseDups.Nodup
  | _, [], _ => by simp
  | 0, _ :: _, h => by simp at h
  | n + 1, a :: as, h => by
    rw [List.eraseDups_cons]
    refine List.nodup_cons.mpr ⟨?_, nodup_eraseDups_aux n _ ?_⟩
    · intro hm
      rw [List.mem_eraseDups] at hm
      have := (List.mem_filter.mp hm).2
      simp at this
    · have := List.length_filter_le (fun b => !b == a) as
      simp only [List.length_cons] at h
      omega

theorem fst_filterMap_sublist {β : Type} (f : Denom → Option (Denom × β)) (hf : ∀ d x, f d = some x → x.1 = d) :
    ∀ L : List Denom, ((L.filterMap f).map (·.1)).Sublist L
  | [] => List.Sublist.slnil
  | y :: ys => by
    rw [List.filterMap_cons]
    split
    · exact (fst_filterMap_sublist f hf ys).cons _
    · rename_i x hx
      rw [List.map_cons, hf y x hx]
      exact (fst_filterMap_sublist f hf ys).cons_cons _

theorem canon_denoms_nodup (c : Coins) : ((canon c).map (·.1)).Nodup := by
  refine (nodup_sortDenoms (nodup_eraseDups_aux _ _ (Nat.le_refl _))).sublist (fst_filterMap_sublist _ (fun d x h => ?_) _)
  dsimp only at h
  split at h <;> cases h
  rfl

theorem mem_canon (c : Coins) (x : Denom × Int) : x ∈ canon c ↔ x.1 ∈ denoms c ∧ x.2 = amountOf c x.1 ∧ x.2 ≠ 0 := by
  unfold canon
  rw [List.mem_filterMap]
  constructor
  · rintro ⟨d, hd, h⟩
    dsimp only at h
    split at h
    · cases h
    · rename_i hz
      cases h
      exact ⟨(mem_sortDenoms d _).mp hd, rfl, by simpa using hz⟩
  · obtain ⟨d, v⟩ := x
    rintro ⟨hd, hv, hz⟩
    dsimp only at hd hv hz
    subst hv
    exact ⟨d, (mem_sortDenoms d _).mpr hd, by simp [hz]⟩

theorem amountOf_of_mem {c : Coins} (hn : (c.map (·.1)).Nodup) {x : Denom × Int} (hx : x ∈ c) : amountOf c x.1 = x.2 := by
  induction c with
  | nil => cases hx
  | cons y ys ih =>
    obtain ⟨hy, hys⟩ := List.nodup_cons.mp hn
    rw [amountOf_cons]
    rcases List.mem_cons.mp hx with rfl | hm
    · rw [amountOf_eq_zero_of_notMem ys _ hy]; simp
    · have hne : ¬ y.1 = x.1 := fun e => hy (List.mem_map.mpr ⟨x, hm, e.symm⟩)
      rw [ih hys hm]; simp [hne]

/-- `canon c` has the entry `(d, amountOf c d)` for `d`, or none when that amount is zero -/
theorem amountOf_canon (c : Coins) (d : Denom) : amountOf (canon c) d = amountOf c d := by
  by_cases hz : amountOf c d = 0
  · rw [hz]
    refine amountOf_eq_zero_of_notMem _ d fun hc => ?_
    obtain ⟨x, hx, rfl⟩ := List.mem_map.mp hc
    obtain ⟨-, h2, h3⟩ := (mem_canon c x).mp hx
    exact h3 (h2.trans hz)
  · have hm : d ∈ denoms c := Decidable.not_not.mp fun hm => hz (amountOf_of_not_mem_denoms c d hm)
    exact amountOf_of_mem (canon_denoms_nodup c) ((mem_canon c (d, amountOf c d)).mpr ⟨hm, rfl, hz⟩)

theorem canon_nonneg (c : Coins) (h : isAnyNegative c = false) : ∀ x ∈ canon c, 0 ≤ x.2 := by
  intro x hx
  rw [((mem_canon c x).mp hx).2.1]
  exact amountOf_nonneg_of_not_anyNegative c h x.1

theorem amountOf_of_isZero {c : Coins} (h : isZero c = true) (d : Denom) : amountOf c d = 0 := by
  by_cases hm : d ∈ denoms c
  · apply Decidable.byContradiction
    intro hz
    have : (d, amountOf c d) ∈ canon c := (mem_canon c _).mpr ⟨hm, rfl, hz⟩
    rw [List.isEmpty_iff.mp h] at this
    cases this
  · exact amountOf_of_not_mem_denoms c d hm

theorem amountOf_pos_of_allPositive (c : Coins) (bond : Denom) (h1 : isAllPositive c = true)
    (h2 : ((denoms c).any (· != bond)) = false) : 0 < amountOf c bond := by
  unfold isAllPositive at h1
  simp only [Bool.and_eq_true, Bool.not_eq_true', List.all_eq_true, decide_eq_true_eq] at h1
  obtain ⟨hne, hall⟩ := h1
  obtain ⟨d, hd⟩ : ∃ d, d ∈ denoms c := by
    cases hc : canon c with
    | nil => rw [hc] at hne; cases hne
    | cons x xs => exact ⟨x.1, ((mem_canon c x).mp (by rw [hc]; exact List.mem_cons_self)).1⟩
  obtain rfl : d = bond := by simpa using List.any_eq_false.mp h2 d hd
  exact hall d hd

end Shentu.Coins
