import Shentu.Props.C03a
import Shentu.Proofs.ShieldMachine
/-
  Definitions and helper lemmas for `Shentu/Props/C07P.lean`: C07 over histories in which the withdraw period is
  changed by parameter-change proposals.

  `POp` adds the step `setPeriod p` to the operations of C03a.  The ghost log `PGhost` stores with each request the
  period that was in force when the request was made.  `logSumP log a T` sums the requests of `a` whose own due
  time (request time + own period) is at most `T`.  `PInv` is the invariant behind the history theorem; it mentions
  no period at all, only the due times in the log.  The history theorem of `Shentu/Props/C07.lean` (one constant period)
  is the case without `setPeriod` steps (`prun_ops`, `pinv_lift`) and is proved from `prun_inv` as well.
-/
namespace Shentu.Props.C07P
open Shentu Shentu.Shield Shentu.Shield.Coll Shentu.Props.C03a Shentu.Props.C07

/-- the operations of a history: the operations of C03a, and a change of the withdraw period -/
inductive POp where
  | op (o : Op)
  | setPeriod (p : Int)

/-- the parameter change itself: only `params.withdrawPeriod` is replaced -/
def setPeriodState (p : Int) (s : State) : State := { s with params := { s.params with withdrawPeriod := p } }

/-- ghost state: the log of requests, each with the period in force when it was made; the amount released to each
    provider so far; the latest block time -/
structure PGhost where
  log : List (Req × Int)
  released : Addr → Int
  now : Int

/-- the amount `a` has requested with due time (request time + the period in force at the request) at most `T` -/
def logSumP (log : List (Req × Int)) (a : Addr) (T : Int) : Int :=
  sumI (·.1.amount) (log.filter (fun r => r.1.addr == a && decide (r.1.time + r.2 ≤ T)))

def tag (P : Int) (l : List Req) : List (Req × Int) := l.map (fun r => (r, P))

/-- the ghost of `C07` seen as a ghost with periods: every logged request gets the period `P` -/
def liftGhost (P : Int) (g : Ghost) : PGhost := ⟨tag P g.log, g.released, g.now⟩

/-- `op o` is admissible as in C03a; a period is admissible when positive (the chain's parameter validation) -/
def POp.admissible : POp → State → Prop
  | .op o, s => o.admissible s
  | .setPeriod p, _ => 0 < p

/-- One step with its ghost bookkeeping.  `op o` runs `C07.gstep o` (on a ghost with an empty log, so that the log
    that comes back is exactly what the step logged) and appends the logged requests, each tagged with the period of
    the state the step ran in.  `setPeriod p` changes the parameter and nothing else: no log entry, no release, no time. -/
def pstep : POp → World × PGhost → World × PGhost
  | .op o, x =>
    let y := gstep o (x.1, ⟨[], x.2.released, x.2.now⟩)
    (y.1, ⟨x.2.log ++ tag x.1.2.params.withdrawPeriod y.2.log, y.2.released, y.2.now⟩)
  | .setPeriod p, x => ((x.1.1, setPeriodState p x.1.2), x.2)

def prun (ops : List POp) (x : World × PGhost) : World × PGhost := ops.foldl (fun x op => pstep op x) x

/-- every step is admissible in the state it is run in -/
def PAdmissible : List POp → World × PGhost → Prop
  | [], _ => True
  | op :: ops, x => op.admissible x.1.2 ∧ PAdmissible ops (pstep op x)

/-- the block time of a step (`setPeriod` has none) -/
def popTime : POp → Option Int
  | .op o => opTime o
  | .setPeriod _ => none

/-- block times are non-decreasing along the history -/
def PTimed : List POp → Int → Prop
  | [], _ => True
  | op :: ops, now => (∀ t, popTime op = some t → now ≤ t) ∧ PTimed ops ((popTime op).getD now)

/-- the invariant: for every provider and every time `T` from now on, what has been released plus what is queued to
    mature by `T` is covered by the requests whose own due time is at most `T` -/
def PInv (g : PGhost) (s : State) : Prop :=
  ∀ a T, g.now ≤ T → g.released a + dueBy a T s.withdraws ≤ logSumP g.log a T

@[simp] theorem logSumP_nil (a : Addr) (T : Int) : logSumP [] a T = 0 := rfl

theorem logSumP_cons (r : Req × Int) (log : List (Req × Int)) (a : Addr) (T : Int) :
    logSumP (r :: log) a T = (if r.1.addr == a && decide (r.1.time + r.2 ≤ T) then r.1.amount else 0) + logSumP log a T := by
  unfold logSumP
  by_cases h : (r.1.addr == a && decide (r.1.time + r.2 ≤ T)) = true
  · simp only [List.filter_cons, h, if_true, sumI_cons]
  · simp only [List.filter_cons, h]; simp

theorem logSumP_append (l1 l2 : List (Req × Int)) (a : Addr) (T : Int) :
    logSumP (l1 ++ l2) a T = logSumP l1 a T + logSumP l2 a T := by
  unfold logSumP; rw [List.filter_append, sumI_append]

theorem logSumP_tag (P : Int) (l : List Req) (a : Addr) (T : Int) : logSumP (tag P l) a T = logSum P l a T := by
  induction l with
  | nil => rfl
  | cons r l ih =>
    show logSumP ((r, P) :: tag P l) a T = _
    rw [logSumP_cons, logSum_cons, ih]

theorem tag_append (P : Int) (l1 l2 : List Req) : tag P (l1 ++ l2) = tag P l1 ++ tag P l2 := by
  unfold tag; rw [List.map_append]

/-- `C07.gstep`, opened here and nowhere else: on a step that fails only the time moves -/
theorem gstep_error {o : Op} {w : World} {x : Err} (g : Ghost) (h : o.apply w = .error x) :
    gstep o (w, g) = (w, ⟨g.log, g.released, (opTime o).getD g.now⟩) := by
  unfold gstep; simp only [h]

theorem gstep_ok {o : Op} {w w' : World} (g : Ghost) (h : o.apply w = .ok w') :
    gstep o (w, g) =
      (w', ⟨g.log ++ opRequests o w,
            fun b => g.released b + (if (opCompletes o).isSome then collOf w.2 b - collOf w'.2 b else 0),
            (opTime o).getD g.now⟩) := by
  unfold gstep; simp only [h]

/-- a step reads the log only to append to it: run on the emptied log it returns exactly what it logged -/
theorem gstep_empty_log (o : Op) (w : World) (g : Ghost) :
    (gstep o (w, g)).1 = (gstep o (w, ⟨[], g.released, g.now⟩)).1 ∧
    (gstep o (w, g)).2.log = g.log ++ (gstep o (w, ⟨[], g.released, g.now⟩)).2.log ∧
    (gstep o (w, g)).2.released = (gstep o (w, ⟨[], g.released, g.now⟩)).2.released ∧
    (gstep o (w, g)).2.now = (gstep o (w, ⟨[], g.released, g.now⟩)).2.now := by
  cases h : o.apply w with
  | error x => rw [gstep_error g h, gstep_error _ h]; exact ⟨rfl, (List.append_nil _).symm, rfl, rfl⟩
  | ok w' => rw [gstep_ok g h, gstep_ok _ h]; exact ⟨rfl, rfl, rfl, rfl⟩

theorem gstep_world (o : Op) (w : World) (g : Ghost) : (gstep o (w, g)).1 = step o w := by
  cases h : o.apply w with
  | error x => rw [gstep_error g h, step_error h]
  | ok w' => rw [gstep_ok g h, step_ok h]

theorem pstep_op_world (o : Op) (x : World × PGhost) : (pstep (.op o) x).1 = step o x.1 := gstep_world o x.1 _

theorem pstep_op_error (o : Op) (w : World) (g : PGhost) (err : Err) (h : o.apply w = .error err) :
    pstep (.op o) (w, g) = (w, ⟨g.log, g.released, (opTime o).getD g.now⟩) := by
  show (_, _) = _
  rw [gstep_error _ h]
  simp only [tag, List.map_nil, List.append_nil]

theorem pstep_op_ok (o : Op) (w w' : World) (g : PGhost) (h : o.apply w = .ok w') :
    pstep (.op o) (w, g) =
      (w', ⟨g.log ++ tag w.2.params.withdrawPeriod (opRequests o w),
            fun b => g.released b + (if (opCompletes o).isSome then collOf w.2 b - collOf w'.2 b else 0),
            (opTime o).getD g.now⟩) := by
  show (_, _) = _
  rw [gstep_ok _ h]
  rfl

theorem pstep_op_now (o : Op) (x : World × PGhost) : (pstep (.op o) x).2.now = (opTime o).getD x.2.now := by
  cases h : o.apply x.1 with
  | error e => rw [pstep_op_error o x.1 x.2 e h]
  | ok w' => rw [pstep_op_ok o x.1 w' x.2 h]

theorem setPeriod_collInv (p : Int) (s : State) (hi : CollInv s) : CollInv (setPeriodState p s) :=
  ⟨hi.coll, hi.wdr, hi.wdrQ, hi.wdrOwner, hi.wdrPos, hi.provNonneg, hi.nodup⟩

/-- the steps that release matured withdrawals (the end-blocker, the bare release) request nothing, and the time up to
    which they release is their block time -/
theorem opCompletes_some {o : Op} {t : Int} (h : opCompletes o = some t) (w : World) :
    opRequests o w = [] ∧ opTime o = some t := by
  cases o <;> simp only [opCompletes] at h <;> first | (cases h; exact ⟨rfl, rfl⟩) | cases h

theorem pstep_op_inv (o : Op) (w : World) (g : PGhost) (hi : CollInv w.2) (hadm : o.admissible w.2)
    (ht : ∀ t, opTime o = some t → g.now ≤ t) (hg : PInv g w.2) :
    CollInv (pstep (.op o) (w, g)).1.2 ∧ PInv (pstep (.op o) (w, g)).2 (pstep (.op o) (w, g)).1.2 := by
  have hnow : g.now ≤ (opTime o).getD g.now := by
    cases h : opTime o with
    | none => exact Int.le_refl _
    | some t => exact ht t h
  cases h : o.apply w with
  | error x =>
    rw [pstep_op_error o w g x h]
    refine ⟨hi, ?_⟩
    intro a T hT
    exact hg a T (Int.le_trans hnow hT)
  | ok w' =>
    rw [pstep_op_ok o w w' g h]
    obtain ⟨hi', hf⟩ := apply_step o w w' hi hadm h
    refine ⟨hi', ?_⟩
    intro a T hT
    dsimp only at hT ⊢
    have h0 := hg a T (Int.le_trans hnow hT)
    cases hc : opCompletes o with
    | none =>
      have := hf.grow hc a T
      simp only [Option.isSome_none, Bool.false_eq_true, if_false, logSumP_append, logSumP_tag]
      omega
    | some t =>
      obtain ⟨hq, hcoll⟩ := hf.rel t hc
      obtain ⟨hreq, htime⟩ := opCompletes_some hc w
      have htT : t ≤ T := by rw [htime] at hT; exact hT
      simp only [Option.isSome_some, if_true, hreq, tag, List.map_nil, List.append_nil]
      -- what the release takes from the collateral of `a` is what was due by `t`, and just that leaves `dueBy a T`
      rw [hq, dueBy_filter_not_due a t T _ htT, hcoll a]
      omega

theorem pstep_inv (op : POp) (w : World) (g : PGhost) (hi : CollInv w.2) (hadm : op.admissible w.2)
    (ht : ∀ t, popTime op = some t → g.now ≤ t) (hg : PInv g w.2) :
    CollInv (pstep op (w, g)).1.2 ∧ PInv (pstep op (w, g)).2 (pstep op (w, g)).1.2 := by
  cases op with
  | op o => exact pstep_op_inv o w g hi hadm ht hg
  | setPeriod p => exact ⟨setPeriod_collInv p w.2 hi, hg⟩

theorem pstep_now (op : POp) (x : World × PGhost) : (pstep op x).2.now = (popTime op).getD x.2.now := by
  cases op with
  | op o => exact pstep_op_now o x
  | setPeriod p => rfl

theorem prun_inv (ops : List POp) (w : World) (g : PGhost) (hi : CollInv w.2) (hadm : PAdmissible ops (w, g))
    (htime : PTimed ops g.now) (hg : PInv g w.2) :
    CollInv (prun ops (w, g)).1.2 ∧ PInv (prun ops (w, g)).2 (prun ops (w, g)).1.2 :=
  (foldl_ind (f := fun x op => pstep op x)
    (fun ops x => (CollInv x.1.2 ∧ PInv x.2 x.1.2) ∧ PAdmissible ops x ∧ PTimed ops x.2.now)
    (fun op _ x ⟨⟨hi, hg⟩, hadm, htime⟩ =>
      ⟨pstep_inv op x.1 x.2 hi hadm.1 htime.1 hg, hadm.2, by rw [pstep_now op x]; exact htime.2⟩)
    ops (w, g) ⟨⟨hi, hg⟩, hadm, htime⟩).1

theorem pinv_empty (s : State) (t0 : Int) (hq : s.withdraws = []) : PInv ⟨[], fun _ => 0, t0⟩ s := by
  intro a T _
  rw [hq]; simp [dueBy]

theorem pstep_lift (P : Int) (o : Op) (w : World) (g : Ghost) (hP : w.2.params.withdrawPeriod = P) :
    pstep (.op o) (w, liftGhost P g) = ((gstep o (w, g)).1, liftGhost P (gstep o (w, g)).2) := by
  obtain ⟨h1, h2, h3, h4⟩ := gstep_empty_log o w g
  show (_, _) = _
  simp only [liftGhost]
  rw [h1, h2, h3, h4, tag_append, hP]

theorem step_period (o : Op) (w : World) : (step o w).2.params.withdrawPeriod = w.2.params.withdrawPeriod :=
  congrArg _ (step_untouched o w).params

theorem prun_ops (P : Int) (ops : List Op) (w : World) (g : Ghost) (hi : CollInv w.2)
    (hP : w.2.params.withdrawPeriod = P) (hadm : Admissible ops w) :
    prun (ops.map .op) (w, liftGhost P g) = ((grun ops (w, g)).1, liftGhost P (grun ops (w, g)).2) := by
  induction ops generalizing w g with
  | nil => rfl
  | cons o ops ih =>
    have hw := gstep_world o w g
    show prun (ops.map .op) (pstep (.op o) (w, liftGhost P g)) = ((grun ops (gstep o (w, g))).1, liftGhost P (grun ops (gstep o (w, g))).2)
    rw [pstep_lift P o w g hP]
    exact ih (gstep o (w, g)).1 (gstep o (w, g)).2 (by rw [hw]; exact step_collInv o w hi hadm.1)
      (by rw [hw, step_period o w]; exact hP) (by rw [hw]; exact hadm.2)

theorem padmissible_ops (ops : List Op) (w : World) (g : PGhost) (hadm : Admissible ops w) :
    PAdmissible (ops.map .op) (w, g) := by
  induction ops generalizing w g with
  | nil => trivial
  | cons o ops ih =>
    refine ⟨hadm.1, ?_⟩
    have := ih (pstep (.op o) (w, g)).1 (pstep (.op o) (w, g)).2 (by rw [pstep_op_world]; exact hadm.2)
    exact this

theorem ptimed_ops (ops : List Op) (now : Int) (h : Timed ops now) : PTimed (ops.map .op) now := by
  induction ops generalizing now with
  | nil => trivial
  | cons o ops ih => exact ⟨h.1, ih _ h.2⟩

theorem pinv_lift (P : Int) (g : Ghost) (s : State) : PInv (liftGhost P g) s ↔ GhostInv P g s := by
  constructor
  · intro h a T hT; have := h a T hT; simp only [liftGhost, logSumP_tag] at this; exact this
  · intro h a T hT; have := h a T hT; simp only [liftGhost, logSumP_tag]; exact this

end Shentu.Props.C07P
