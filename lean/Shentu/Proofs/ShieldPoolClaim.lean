import Shentu.Proofs.ShieldPoolLists
import Shentu.Proofs.ShieldWrites
/-
  Lookups (`findPool`, `findList`, `findPurchase`) after the claim lock and its release:
  what a client reading the store sees before and after `secureCollaterals` / `restoreShield`.  Both leave `shifted`;
  `shifted_exact` is that state with pool and list rewritten under the keys a client found them by.
-/
namespace Shentu.Shield.PoolLm

/-- the purchase `id` held by `holder` in `pool`: the first entry with that id in the holder's list for the pool -/
def findPurchase (s : State) (pool : Nat) (holder : Addr) (id : Nat) : Option Purchase :=
  match findList s pool holder with
  | none => none
  | some l => l.entries.find? (·.id == id)

theorem find?_lists_replace (lists : List PList) (pool : Nat) (holder : Addr) (lst' : PList)
    (hk : lst'.pool = pool ∧ lst'.purchaser = holder) (pool' : Nat) (holder' : Addr) :
    (lists.map (fun x => if x.pool == pool && x.purchaser == holder then lst' else x)).find?
        (fun l => l.pool == pool' && l.purchaser == holder') =
      if pool' = pool ∧ holder' = holder then
        (lists.find? (fun l => l.pool == pool' && l.purchaser == holder')).map (fun _ => lst')
      else lists.find? (fun l => l.pool == pool' && l.purchaser == holder') :=
  (Keyed.find_replace listKey (k := (pool, holder)) (Prod.ext hk.1 hk.2) (pool', holder') lists).trans
    (ite_congr (Prod.mk.injEq ..) (fun _ => rfl) (fun _ => rfl))

theorem findPurchase_shift {s s' : State} {pool : Nat} {holder : Addr} {lst : PList} {id : Nat} {f : Purchase → Purchase}
    (hfl : findList s pool holder = some lst) (hf : ∀ a : Purchase, a.id = id → (f a).id = id)
    (hl : s'.lists = s.lists.map (fun x => if x.pool == pool && x.purchaser == holder then
      { pool := pool, purchaser := holder, entries := replaceFirst (·.id == id) f lst.entries } else x))
    (pool' : Nat) (holder' : Addr) (id' : Nat) :
    findPurchase s' pool' holder' id' =
      if pool' = pool ∧ holder' = holder ∧ id' = id then (findPurchase s pool holder id).map f
      else findPurchase s pool' holder' id' := by
  unfold findPurchase findList
  rw [hl, find?_lists_replace s.lists pool holder _ ⟨rfl, rfl⟩ pool' holder']
  by_cases hk : pool' = pool ∧ holder' = holder
  · rw [if_pos hk]
    obtain ⟨rfl, rfl⟩ := hk
    have hfl' : s.lists.find? (fun l => l.pool == pool' && l.purchaser == holder') = some lst := hfl
    rw [hfl']
    simp only [Option.map_some, true_and]
    by_cases hid : id' = id
    · subst hid
      rw [if_pos rfl]
      exact find?_replaceFirst_same _ f (fun a ha => by
        simp only [beq_iff_eq] at ha ⊢; exact hf a ha) lst.entries
    · rw [if_neg hid]
      exact find?_replaceFirst_other _ _ f
        (fun a ha => by simp only [beq_iff_eq] at ha; simp only [ha]; simpa using fun h => hid h.symm)
        (fun a ha => by simp only [beq_iff_eq] at ha; rw [hf a ha]; simpa using fun h => hid h.symm) lst.entries
  · rw [if_neg hk]
    have : ¬ (pool' = pool ∧ holder' = holder ∧ id' = id) := fun h => hk ⟨h.1, h.2.1⟩
    rw [if_neg this]

theorem reads_replace {s s' : State} {pool : Nat} {holder : Addr} {lst : PList} {id : Nat} {f : Purchase → Purchase} {p p' : Pool}
    (hfl : findList s pool holder = some lst) (hf : ∀ a : Purchase, a.id = id → (f a).id = id)
    (hfp : findPool s pool = some p) (hp' : p'.id = p.id)
    (hl : s'.lists = s.lists.map (fun x => if x.pool == pool && x.purchaser == holder then
      { pool := pool, purchaser := holder, entries := replaceFirst (·.id == id) f lst.entries } else x))
    (hp : s'.pools = s.pools.map (fun x => if x.id == pool then p' else x)) :
    findPurchase s' pool holder id = (findPurchase s pool holder id).map f ∧
    (∀ pool' holder' id', ¬(pool' = pool ∧ holder' = holder ∧ id' = id) →
      findPurchase s' pool' holder' id' = findPurchase s pool' holder' id') ∧
    findPool s' pool = some p' ∧
    (∀ pool', pool' ≠ pool → findPool s' pool' = findPool s pool') := by
  have hshift := findPurchase_shift hfl hf hl
  obtain rfl : p'.id = pool := hp'.trans (findPool_id hfp)
  have hpools : ∀ pool', findPool s' pool' = if pool' = p'.id then some p' else findPool s pool' := fun pool' => by
    unfold findPool; rw [hp]; exact Keyed.find_replace_some Pool.id hfp p' hp' pool'
  refine ⟨by rw [hshift, if_pos ⟨rfl, rfl, rfl⟩], fun a b c hne => by rw [hshift, if_neg hne],
    by rw [hpools, if_pos rfl], fun pool' hne => by rw [hpools, if_neg hne]⟩

theorem lockedEntry_delTime (e : Env) (pu : Purchase) (loss dur : Int) :
    (lockedEntry e pu loss dur).delTime = max pu.delTime (e.t + dur) := by
  show (if pu.delTime < e.t + dur then e.t + dur else pu.delTime) = max pu.delTime (e.t + dur)
  rw [Int.max_def]
  split <;> split <;> omega

theorem lockedEntry_restored (e : Env) (en : Purchase) (loss dur : Int) :
    ({ lockedEntry e en loss dur with shield := (lockedEntry e en loss dur).shield + loss } : Purchase) =
      { en with delTime := max en.delTime (e.t + dur) } := by
  show Purchase.mk en.id en.endTime (lockedEntry e en loss dur).delTime (en.shield - loss + loss) en.fees = _
  rw [Int.sub_add_cancel, lockedEntry_delTime]

theorem pool_restored (p : Pool) (loss : Int) :
    ({ ({ p with shield := p.shield - loss } : Pool) with shield := ({ p with shield := p.shield - loss } : Pool).shield + loss } : Pool) = p := by
  show Pool.mk p.id (p.shield - loss + loss) p.limit p.active p.sponsor p.sponsorAddr = p
  rw [Int.sub_add_cancel]

theorem findPurchase_congr {s s' : State} (h : s'.lists = s.lists) (a : Nat) (b : Addr) (c : Nat) :
    findPurchase s' a b c = findPurchase s a b c := by unfold findPurchase; rw [findList_congr h]

theorem shifted_exact {s : State} {pool : Nat} {holder : Addr} {p : Pool} {lst : PList} (hfp : findPool s pool = some p)
    (hl : findList s pool holder = some lst) (id : Nat) (f : Purchase → Purchase) (d : Int) :
    shifted s p lst id f d =
      { s with
        totalShield := s.totalShield + d,
        pools := s.pools.map (fun x => if x.id == pool then { p with shield := p.shield + d } else x),
        lists := s.lists.map (fun x => if x.pool == pool && x.purchaser == holder then
          { pool := pool, purchaser := holder, entries := replaceFirst (·.id == id) f lst.entries } else x) } := by
  have hpid : p.id = pool := findPool_id hfp
  have hkey := findList_key hl
  have hfl' : findList s lst.pool lst.purchaser = some lst := by rw [hkey.1, hkey.2]; exact hl
  unfold shifted
  rw [setList_lists_some s { lst with entries := replaceFirst (·.id == id) f lst.entries } lst hfl']
  simp only [hkey.1, hkey.2, hpid]

theorem secureCollaterals_exact {e : Env} {s s' : State} {pool : Nat} {holder : Addr} {purchase : Nat} {loss dur : Int}
    (h : secureCollaterals e s pool holder purchase loss dur = .ok s')
    {lst : PList} (hl : findList s pool holder = some lst) {en : Purchase}
    (hen : lst.entries.find? (·.id == purchase) = some en) :
    ∃ p q, findPool s pool = some p ∧ loss ≤ en.shield ∧ loss ≤ p.shield ∧ s.totalClaimed + loss ≤ s.totalCollateral ∧
      s' = { s with
             withdraws := q,
             lists := s.lists.map (fun x => if x.pool == pool && x.purchaser == holder then
               { pool := pool, purchaser := holder,
                 entries := replaceFirst (·.id == purchase) (fun _ => lockedEntry e en loss dur) lst.entries } else x),
             pools := s.pools.map (fun x => if x.id == pool then { p with shield := p.shield - loss } else x),
             totalShield := s.totalShield - loss, totalClaimed := s.totalClaimed + loss } := by
  rcases secureCollaterals_ok h with ⟨p, lst0, pu, q, hfp, hlp, hcl, hfl0, htgt, hle, rfl⟩
  rw [hl] at hfl0; injection hfl0 with hfl0; subst hfl0
  rw [lockTarget_of_find hen] at htgt; injection htgt with htgt; subst htgt
  rw [(Keyed.of_find (κ := fun x : Purchase => x.id) hen).2, shifted_exact hfp hl]
  exact ⟨p, q, hfp, hle, hlp, hcl, rfl⟩

theorem findPurchase_none_iff (s : State) (pool : Nat) (holder : Addr) (id : Nat) :
    findPurchase s pool holder id = none ↔
      findList s pool holder = none ∨ ∃ lst, findList s pool holder = some lst ∧ lst.entries.find? (·.id == id) = none := by
  unfold findPurchase
  cases findList s pool holder with
  | none => simp
  | some l => simp

theorem findPurchase_some_iff (s : State) (pool : Nat) (holder : Addr) (id : Nat) (en : Purchase) :
    findPurchase s pool holder id = some en ↔
      ∃ lst, findList s pool holder = some lst ∧ lst.entries.find? (·.id == id) = some en := by
  unfold findPurchase
  cases findList s pool holder with
  | none => simp
  | some l => simp

end Shentu.Shield.PoolLm
