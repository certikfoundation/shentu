import Shentu.Model.Payout
import Shentu.Proofs.DecRound
import Mathlib.Tactic.Linarith
import Mathlib.Data.List.Forall2
/-
  The arithmetic of a claim payout out of a provider's stake, behind `Shentu/Props/C04b.lean`.  Every step reads the
  rounding of `sdk.Dec` off `Proofs/DecRound.lean` as inequalities between integers, multiplies them by the positive
  factors at hand and closes the goal linearly; `Dec.prec` stays an opaque positive number wherever its value does not
  matter.
-/
namespace Shentu.Payout
open DecRound

theorem foldl_add (l : List Int) (a : Int) : l.foldl (· + ·) a = a + l.foldl (· + ·) 0 := by
  induction l generalizing a with
  | nil => simp
  | cons x xs ih =>
    simp only [List.foldl_cons]
    rw [ih (a + x), ih (0 + x)]; omega

@[simp] theorem sum_nil : sum [] = 0 := rfl

theorem sum_cons (x : Int) (xs : List Int) : sum (x :: xs) = x + sum xs := by
  unfold sum
  rw [List.foldl_cons, foldl_add]; omega

theorem sum_nonneg (l : List Int) (h : ∀ d ∈ l, 0 ≤ d) : 0 ≤ sum l := by
  induction l with
  | nil => simp
  | cons x xs ih =>
    rw [sum_cons]
    have h1 := h x (by simp)
    have h2 := ih (fun d hd => h d (by simp [hd]))
    omega

theorem bondedOf_eq (ds : List Del) : bondedOf ds = sum (ds.map Del.amount) := rfl

/-- the tokens a validator with `K` tokens and `S` (raw) shares issues for `x` (raw) shares: their value `x·K/S`,
    rounded half-even to 18 digits and then truncated -/
def tk (K S x : Int) : Int := Dec.truncateInt (Dec.quo ⟨x * K⟩ ⟨S⟩)

theorem amount_eq (d : Del) : d.amount = tk d.vtokens d.vshares.raw d.shares.raw := by
  unfold Del.amount tokensFromShares Dec.mulInt tk
  rfl

/-- the tokens `t` issued against the value `v = x·K/S` of the shares: `v − 1 + 1/(2·10^18) − 10^-36 < t ≤ v + 1/(2·10^18)`
    (`quo_bounds` for the quotient, then the truncation) -/
theorem tk_bounds (K S x : Int) (hn : 0 ≤ x * K) (hS : 0 < S) :
    2 * tk K S x * Dec.prec * S ≤ 2 * (x * K) * Dec.prec + S ∧
    2 * (x * K) * Dec.prec * Dec.prec + Dec.prec * S < 2 * (tk K S x + 1) * Dec.prec * Dec.prec * S + 2 * S := by
  have hP := Dec.prec_pos
  obtain ⟨q1, q2, q0⟩ := quo_bounds ⟨x * K⟩ ⟨S⟩ hn hS
  have ht1 := tdiv_mul_le _ Dec.prec q0 hP
  have ht2 := lt_tdiv_succ_mul _ Dec.prec q0 hP
  unfold tk Dec.truncateInt
  dsimp only at q1 q2
  generalize (Dec.quo ⟨x * K⟩ ⟨S⟩).raw = c at *
  generalize Int.tdiv c Dec.prec = t at *
  -- `t·P ≤ c < (t+1)·P`, brought to the factor `S` of the bounds on `c·S`
  have h3 := Int.mul_le_mul_of_nonneg_right ht1 hS.le
  have h4 := Int.mul_le_mul_of_nonneg_left
    (Int.mul_le_mul_of_nonneg_right (Int.add_one_le_of_lt ht2) hS.le) hP.le
  exact ⟨by linarith, by linarith⟩

/-- a value below `a + 1` by more than half a unit of the 18th digit yields at most `a` tokens -/
theorem tk_le (K S x a : Int) (hn : 0 ≤ x * K) (hS : 0 < S)
    (h : 2 * (x * K) * Dec.prec + S < 2 * (a + 1) * Dec.prec * S) : tk K S x ≤ a := by
  by_contra hlt
  have := Int.mul_le_mul_of_nonneg_right (show a + 1 ≤ tk K S x by omega) (Int.mul_nonneg Dec.prec_pos.le hS.le)
  linarith [(tk_bounds K S x hn hS).1]

/-- a value of at least `a`, up to a quarter of a unit of the 18th digit, yields at least `a` tokens -/
theorem le_tk (K S x a : Int) (hn : 0 ≤ x * K) (hS : 0 < S)
    (h : 4 * a * Dec.prec * S ≤ 4 * (x * K) * Dec.prec + S) : a ≤ tk K S x := by
  have hP := Dec.prec_pos
  by_contra hlt
  have h1 := Int.mul_le_mul_of_nonneg_right (show tk K S x + 1 ≤ a by omega)
    (Int.mul_nonneg (Int.mul_nonneg hP.le hP.le) hS.le)
  have h2 := Int.mul_le_mul_of_nonneg_right h hP.le
  have h3 : 4 * S ≤ Dec.prec * S := Int.mul_le_mul_of_nonneg_right (by decide) hS.le
  linarith [(tk_bounds K S x hn hS).2]

theorem tk_self (K S : Int) (hK : 0 ≤ K) (hS : 0 < S) : tk K S S = K := by
  have hSP : 1 * S ≤ Dec.prec * S := Int.mul_le_mul_of_nonneg_right (by decide) hS.le
  apply Int.le_antisymm
  · exact tk_le K S S K (Int.mul_nonneg hS.le hK) hS (by linarith)
  · exact le_tk K S S K (Int.mul_nonneg hS.le hK) hS (by linarith)

/-- `RemoveDelShares` hands out all tokens for all shares; that is what the conversion yields anyway -/
theorem issued_eq_tk (d : Del) (sh : Dec) (hK : 0 ≤ d.vtokens) (hS : 0 < d.vshares.raw) :
    issued d sh = tk d.vtokens d.vshares.raw sh.raw := by
  show (if d.vshares.raw - sh.raw == 0 then d.vtokens else tk d.vtokens d.vshares.raw sh.raw) = _
  split
  · rename_i h0
    have : sh.raw = d.vshares.raw := by simp only [beq_iff_eq] at h0; omega
    rw [this, tk_self _ _ hK hS]
  · rfl

/-- the shares `QuoRoundUp` asks for `a` tokens are worth `a`, up to the value of one raw share above and of a
    `10^18`-th of it below -/
theorem quoRoundUp_bounds (S K a : Int) (hn : 0 ≤ S * a) (hK : 0 < K) :
    S * a * Dec.prec < (Dec.quoRoundUp (Dec.mulInt ⟨S⟩ a) (Dec.ofInt K)).raw * K * Dec.prec + K ∧
    (Dec.quoRoundUp (Dec.mulInt ⟨S⟩ a) (Dec.ofInt K)).raw * K * Dec.prec < S * a * Dec.prec + K * Dec.prec ∧
    0 ≤ (Dec.quoRoundUp (Dec.mulInt ⟨S⟩ a) (Dec.ofInt K)).raw := by
  have hP := Dec.prec_pos
  have hn' : 0 ≤ S * a * Dec.prec := Int.mul_nonneg hn hP.le
  show _ < Dec.chopRoundUp ((S * a * Dec.prec * Dec.prec).tdiv (K * Dec.prec)) * K * Dec.prec + K ∧
    Dec.chopRoundUp ((S * a * Dec.prec * Dec.prec).tdiv (K * Dec.prec)) * K * Dec.prec < _ ∧
    0 ≤ Dec.chopRoundUp ((S * a * Dec.prec * Dec.prec).tdiv (K * Dec.prec))
  rw [Int.mul_tdiv_mul_of_pos_left _ _ hP]
  have hw0 := Int.tdiv_nonneg hn' hK.le
  have hw1 := tdiv_mul_le _ K hn' hK
  have hw2 := lt_tdiv_succ_mul _ K hn' hK
  obtain ⟨hx1, hx2⟩ := chopRoundUp_bounds _ hw0
  generalize Int.tdiv (S * a * Dec.prec) K = w at *
  generalize Dec.chopRoundUp w = x at *
  have h1 := Int.mul_le_mul_of_nonneg_right hx1 hK.le
  have h2 := Int.mul_lt_mul_of_pos_right hx2 hK
  refine ⟨by linarith, by linarith, ?_⟩
  by_contra hneg
  have : (x + 1) * Dec.prec ≤ 0 * Dec.prec := Int.mul_le_mul_of_nonneg_right (by omega) hP.le
  linarith

/-- a delegation to a validator that has tokens, a raw share of which (a `10^18`-th of a share) is worth at most a
    quarter of a token; the delegation holds part of the validator's shares -/
def Sound (d : Del) : Prop :=
  0 < d.vtokens ∧ 4 * d.vtokens ≤ d.vshares.raw ∧ 0 ≤ d.shares.raw ∧ d.shares.raw ≤ d.vshares.raw

theorem sound_of_two_tokens (d : Del) (h : 0 < d.vtokens ∧ d.vtokens * Dec.prec ≤ 2 * d.vshares.raw ∧ 0 ≤ d.shares.raw ∧
    d.shares.raw ≤ d.vshares.raw) : Sound d := by
  have : d.vtokens * 8 ≤ d.vtokens * Dec.prec := Int.mul_le_mul_of_nonneg_left (by decide) h.1.le
  exact ⟨h.1, by omega, h.2.2⟩

/-- rounding the shares up makes the validator issue exactly the amount asked for: the shares asked for are worth
    between `a − 1/(4·10^18)` and `a + 1/4`; when the delegation holds fewer, it is worth `a` itself -/
theorem issued_ubdShares (d : Del) (h : Sound d) (a : Int) (ha : 0 ≤ a) (had : a ≤ d.amount) :
    issued d (ubdShares d a) = a := by
  have hP := Dec.prec_pos
  obtain ⟨hK, hKS, hs0, hsS⟩ := h
  obtain ⟨⟨s⟩, K, ⟨S⟩⟩ := d
  simp only at hK hKS hs0 hsS
  have hS : 0 < S := by omega
  rw [issued_eq_tk _ _ hK.le hS]
  rw [amount_eq] at had
  obtain ⟨hlow, hup, hx0⟩ := quoRoundUp_bounds S K a (Int.mul_nonneg hS.le ha) hK
  show tk K S (if (Dec.quoRoundUp (Dec.mulInt ⟨S⟩ a) (Dec.ofInt K)).raw > s then (⟨s⟩ : Dec)
    else Dec.quoRoundUp (Dec.mulInt ⟨S⟩ a) (Dec.ofInt K)).raw = a
  generalize (Dec.quoRoundUp (Dec.mulInt ⟨S⟩ a) (Dec.ofInt K)) = x at *
  have hSP : 1 * S ≤ Dec.prec * S := Int.mul_le_mul_of_nonneg_right (by decide) hS.le
  have hKP : 0 < K * Dec.prec := Int.mul_pos hK hP
  have hKSP := Int.mul_le_mul_of_nonneg_right hKS hP.le
  by_cases hcap : x.raw > s
  · rw [if_pos hcap]
    refine Int.le_antisymm (tk_le K S s a (Int.mul_nonneg hs0 hK.le) hS ?_) had
    have : s * (K * Dec.prec) ≤ x.raw * (K * Dec.prec) := Int.mul_le_mul_of_nonneg_right (by omega) hKP.le
    linarith
  · rw [if_neg hcap]
    refine Int.le_antisymm (tk_le K S x.raw a (Int.mul_nonneg hx0 hK.le) hS (by linarith))
      (le_tk K S x.raw a (Int.mul_nonneg hx0 hK.le) hS (by linarith))

theorem split_core (bonded purchased payout : Int) (hq : 0 ≤ payout) :
    (split bonded purchased payout).1 = min payout (max (bonded - purchased) 0) ∧
    (split bonded purchased payout).2 = max (purchased - bonded) 0 := by
  unfold split
  split_ifs <;> simp only <;> omega

theorem ubdLoop_core (bs : List Int) (hb : ∀ b ∈ bs, 0 ≤ b) (u q : Int) (hu : 0 ≤ u) (hq : 0 ≤ q) :
    sum (ubdLoop bs u q).1 + (ubdLoop bs u q).2 = q ∧
    (ubdLoop bs u q).2 = max (q - max (sum bs - u) 0) 0 ∧
    List.Forall₂ (fun t b => 0 ≤ t ∧ t ≤ b) (ubdLoop bs u q).1 (bs.take (ubdLoop bs u q).1.length) := by
  induction bs generalizing u q with
  | nil => exact ⟨Int.zero_add q, by simp only [ubdLoop, sum_nil]; omega, List.Forall₂.nil⟩
  | cons b bs ih =>
    have hbs : ∀ x ∈ bs, 0 ≤ x := fun x hx => hb x (List.mem_cons_of_mem _ hx)
    have hsum := sum_nonneg bs hbs
    rw [ubdLoop, sum_cons]
    by_cases hq0 : q ≤ 0
    · rw [if_pos hq0]
      exact ⟨Int.zero_add q, by omega, List.Forall₂.nil⟩
    · rw [if_neg hq0]
      by_cases hbu : b ≤ u
      · -- the entry lies wholly in the uncovered part: it pays nothing
        have e1 : max (b - u) 0 = 0 := Int.max_eq_right (by omega)
        have e2 : max (u - b) 0 = u - b := Int.max_eq_left (by omega)
        have e3 : b + sum bs - u = sum bs - (u - b) := by omega
        obtain ⟨h1, h2, h3⟩ := ih hbs (u - b) q (by omega) hq
        simp only [e1, e2, e3, beq_self_eq_true, if_true, sum_cons, List.length_cons, List.take_succ_cons]
        exact ⟨by omega, h2, List.Forall₂.cons ⟨Int.le_refl 0, hb b List.mem_cons_self⟩ h3⟩
      · -- the entry pays `min q (b - u)`, and nothing is uncovered from here on
        have e1 : max (b - u) 0 = b - u := Int.max_eq_left (by omega)
        have e2 : max (u - b) 0 = 0 := Int.max_eq_right (by omega)
        have e3 : ¬ b - u = 0 := by omega
        have e4 : max (b + sum bs - u) 0 = b + sum bs - u := Int.max_eq_left (by omega)
        obtain ⟨h1, h2, h3⟩ := ih hbs 0 (q - min q (b - u)) (Int.le_refl 0) (by omega)
        rw [Int.sub_zero, Int.max_eq_left hsum] at h2
        simp only [e1, e2, e4, beq_iff_eq, e3, if_false, sum_cons, List.length_cons, List.take_succ_cons]
        have e5 : max (q - min q (b - u) - sum bs) 0 = max (q - (b + sum bs - u)) 0 := by
          by_cases hqb : q ≤ b - u
          · rw [Int.min_eq_left hqb, Int.max_eq_right (by omega), Int.max_eq_right (by omega)]
          · rw [Int.min_eq_right (by omega)]; congr 1; omega
        exact ⟨by omega, h2.trans e5,
          List.Forall₂.cons ⟨Int.le_min.mpr ⟨hq, by omega⟩, Int.le_trans (Int.min_le_right _ _) (by omega)⟩ h3⟩

/-- the ratio `p / T` of `PayFromDelegation`: at most one, and `T` times it falls short of `p` by at most one unit
    (half a unit from the rounding to 18 digits times `T < 2`, where the half-even rule decides the boundary) -/
theorem ratio_facts (p T : Int) (hp : 0 < p) (hpT : p ≤ T) (hbig : T < 2 * Dec.prec) :
    0 ≤ (Dec.quo (Dec.ofInt p) (Dec.ofInt T)).raw ∧ (Dec.quo (Dec.ofInt p) (Dec.ofInt T)).raw ≤ Dec.prec ∧
    p * Dec.prec - (Dec.quo (Dec.ofInt p) (Dec.ofInt T)).raw * T ≤ Dec.prec := by
  have hP := Dec.prec_pos
  have hT : 0 < T := by omega
  refine ⟨Dec.quo_ofInt_nonneg p T hp.le hT, Dec.quo_ofInt_le_one p T hp.le hT hpT, ?_⟩
  have hn : 0 ≤ p * Dec.prec * Dec.prec := Int.mul_nonneg (Int.mul_nonneg hp.le hP.le) hP.le
  rw [quo_ofInt_raw]
  have hz0 := Int.tdiv_nonneg hn hT.le
  have hz2 := lt_tdiv_succ_mul _ T hn hT
  obtain ⟨hc1, -, hev⟩ := chopRound_spec _ hz0
  generalize (p * Dec.prec * Dec.prec).tdiv T = z at *
  generalize Dec.chopRound z = c at *
  -- `T` times the rounding error of at most half a unit; at `T = 2·10^18 − 1` the half-even rule decides
  have hmul : 2 * (z * T) - Dec.prec * T ≤ 2 * Dec.prec * (c * T) := by
    have := Int.mul_le_mul_of_nonneg_right hc1 hT.le
    linarith
  have hz2' : p * Dec.prec * Dec.prec < z * T + T := by linarith
  clear hz2 hn hP hz0 hp hpT
  simp only [Dec.prec] at *
  by_cases hT2 : T ≤ 2 * 1000000000000000000 - 2
  · generalize z * T = X at *
    generalize c * T = Y at *
    omega
  · have hTe : T = 2 * 1000000000000000000 - 1 := by omega
    subst hTe
    by_contra hcon
    have h2 := hev (by omega)
    omega

/-- exactness is by construction: every delegation but the last is asked for at most what remains, the last one for all
    of it; no hypothesis on the ratio -/
theorem amounts_sum (R : Dec) (l : List Int) (rem : Int) (hl : l ≠ []) (hrem : 0 ≤ rem) : sum (amounts R l rem) = rem := by
  fun_induction amounts R l rem with
  | case1 => exact absurd rfl hl
  | case2 | case4 => rw [sum_nil]; omega
  | case3 => rw [sum_cons, sum_nil]; omega
  | case5 d d2 ds rem h0 u0 u ih =>
    have hu : u ≤ rem := by simp only [u, u0, Bool.and_eq_true, decide_eq_true_eq]; omega
    rw [sum_cons, ih (List.cons_ne_nil _ _) (by omega)]; omega


/-- what is still to pay is covered by the ratio's share `R·S/10^18` of the delegations not yet visited (their sum `S`), up
    to less than one unit — or up to exactly one unit while only empty delegations have been visited -/
def Covered (R S rem : Int) : Prop :=
  rem * Dec.prec ≤ R * S + (Dec.prec - 1) ∨ (rem * Dec.prec ≤ R * S + Dec.prec ∧ rem ≤ S ∧ R < Dec.prec)

/-- one round: the floor `f` of the share `R·d/10^18`, one more while that stays below `d` and below what remains -/
theorem covered_step (R d S rem f u : Int) (hR0 : 0 ≤ R) (hRP : R ≤ Dec.prec) (hd : 0 ≤ d) (hS : 0 ≤ S) (hrem : 0 < rem)
    (hf : f = (R * d).tdiv Dec.prec) (hu : u = if min f rem < rem ∧ min f rem < d then min f rem + 1 else min f rem)
    (hinv : Covered R (d + S) rem) : 0 ≤ u ∧ u ≤ d ∧ u ≤ rem ∧ Covered R S (rem - u) := by
  have hRd0 : 0 ≤ R * d := Int.mul_nonneg hR0 hd
  have hRd : R * d ≤ Dec.prec * d := Int.mul_le_mul_of_nonneg_right hRP hd
  have hRS : 0 ≤ R * S := Int.mul_nonneg hR0 hS
  -- a non-empty delegation under a ratio below one is asked for strictly more than its exact share
  have hstrict : d = 0 ∨ Dec.prec ≤ R ∨ R * d + 1 ≤ Dec.prec * d := by
    by_cases h1 : d = 0
    · exact .inl h1
    · by_cases h2 : Dec.prec ≤ R
      · exact .inr (.inl h2)
      · exact .inr (.inr (Int.mul_lt_mul_of_pos_right (by omega) (by omega)))
  have hf1 := tdiv_mul_le (R * d) Dec.prec hRd0 Dec.prec_pos
  have hf2 := lt_tdiv_succ_mul (R * d) Dec.prec hRd0 Dec.prec_pos
  unfold Covered at hinv ⊢
  rw [Int.mul_add] at hinv
  rw [← hf] at hf1 hf2
  clear hf
  generalize R * d = Rd at *
  generalize R * S = RS at *
  simp only [Dec.prec] at *
  -- the three cases: all that remains (`rem ≤ f`), the floor and one more (`f < d`), the floor itself (`f = d`)
  by_cases hfr : rem ≤ f
  · rw [Int.min_eq_right hfr, if_neg (by omega)] at hu
    omega
  · rw [Int.min_eq_left (by omega)] at hu
    by_cases hfd : f < d
    · rw [if_pos ⟨by omega, hfd⟩] at hu
      omega
    · rw [if_neg (by omega)] at hu
      omega

theorem amounts_le (R : Int) (hR0 : 0 ≤ R) (hRP : R ≤ Dec.prec) (l : List Int) (rem : Int) (hl : ∀ d ∈ l, 0 ≤ d)
    (hrem : 0 ≤ rem) (hinv : Covered R (sum l) rem) :
    List.Forall₂ (fun a d => 0 ≤ a ∧ a ≤ d) (amounts ⟨R⟩ l rem) (l.take (amounts ⟨R⟩ l rem).length) := by
  fun_induction amounts ⟨R⟩ l rem with
  | case1 | case2 | case4 => exact .nil
  | case3 d rem h0 =>
    -- the last delegation: `rem·P ≤ R·d + P − 1 ≤ P·d + P − 1`, or `rem ≤ d` outright
    have hRd := Int.mul_le_mul_of_nonneg_right hRP (hl d List.mem_cons_self)
    unfold Covered at hinv
    rw [sum_cons, sum_nil, Int.add_zero] at hinv
    simp only [Dec.prec] at hinv hRd
    exact .cons ⟨hrem, by omega⟩ .nil
  | case5 d d2 ds rem h0 u0 u ih =>
    have htl : ∀ x ∈ d2 :: ds, 0 ≤ x := fun x hx => hl x (List.mem_cons_of_mem _ hx)
    rw [sum_cons] at hinv
    obtain ⟨hu0, hud, hur, hnext⟩ := covered_step R d (sum (d2 :: ds)) rem _ u hR0 hRP (hl d List.mem_cons_self)
      (sum_nonneg _ htl) (by omega) rfl (by simp only [u, u0, Bool.and_eq_true, decide_eq_true_eq]; rfl) hinv
    exact .cons ⟨hu0, hud⟩ (ih htl (by omega) hnext)

/-- the ratio `p / T` of `PayFromDelegation` covers `p` at the start (`ratio_facts`; at ratio one exactly) -/
theorem covered_ratio (p T : Int) (hp : 0 < p) (hpT : p ≤ T) (hbig : T < 2 * Dec.prec) :
    Covered (Dec.quo (Dec.ofInt p) (Dec.ofInt T)).raw T p := by
  obtain ⟨-, hRP, he⟩ := ratio_facts p T hp hpT hbig
  generalize (Dec.quo (Dec.ofInt p) (Dec.ofInt T)).raw = R at *
  have := Int.mul_le_mul_of_nonneg_right hpT Dec.prec_pos.le
  unfold Covered
  rw [Int.mul_comm T] at this
  by_cases hlt : R < Dec.prec
  · omega
  · obtain rfl : R = Dec.prec := by omega
    omega

theorem amounts_exact_core (p : Int) (ds : List Int) (hd : ∀ d ∈ ds, 0 ≤ d) (hp : 0 < p) (hpT : p ≤ sum ds)
    (hbig : sum ds < 2 * Dec.prec) :
    sum (amounts (Dec.quo (Dec.ofInt p) (Dec.ofInt (sum ds))) ds p) = p ∧
    List.Forall₂ (fun a d => 0 ≤ a ∧ a ≤ d) (amounts (Dec.quo (Dec.ofInt p) (Dec.ofInt (sum ds))) ds p)
      (ds.take (amounts (Dec.quo (Dec.ofInt p) (Dec.ofInt (sum ds))) ds p).length) := by
  obtain ⟨hR0, hRP, -⟩ := ratio_facts p (sum ds) hp hpT hbig
  exact ⟨amounts_sum _ ds p (by rintro rfl; simp only [sum_nil] at hpT; omega) hp.le,
    amounts_le _ hR0 hRP ds p hd hp.le (covered_ratio p (sum ds) hp hpT hbig)⟩

theorem amount_nonneg (d : Del) (h : Sound d) : 0 ≤ d.amount :=
  (Dec.truncateInt_bounds _ (Dec.quo_nonneg _ _ (Int.mul_nonneg h.2.2.1 h.1.le) (by have := h.1; have := h.2.1; omega))).1

theorem zip_issued (ds : List Del) (hwf : ∀ d ∈ ds, Sound d) :
    ∀ amts : List Int, List.Forall₂ (fun a d => 0 ≤ a ∧ a ≤ d) amts ((ds.map Del.amount).take amts.length) →
      List.zipWith (fun d a => issued d (ubdShares d a)) ds amts = amts ∧
      List.Forall₂ (fun a d => 0 ≤ a ∧ a ≤ Del.amount d) amts (ds.take amts.length) := by
  induction ds with
  | nil =>
    intro amts h
    cases amts with
    | nil => exact ⟨rfl, List.Forall₂.nil⟩
    | cons a as => simp at h
  | cons d ds ih =>
    intro amts h
    cases amts with
    | nil => exact ⟨by simp, by simp⟩
    | cons a as =>
      simp only [List.map_cons, List.length_cons, List.take_succ_cons, List.forall₂_cons] at h
      obtain ⟨⟨ha0, had⟩, hrest⟩ := h
      obtain ⟨ih1, ih2⟩ := ih (fun x hx => hwf x (List.mem_cons_of_mem _ hx)) as hrest
      simp only [List.zipWith_cons_cons, List.length_cons, List.take_succ_cons, List.forall₂_cons]
      refine ⟨?_, ⟨ha0, had⟩, ih2⟩
      rw [issued_ubdShares d (hwf d List.mem_cons_self) a ha0 had, ih1]

theorem amounts_nonneg (ds : List Del) (hwf : ∀ d ∈ ds, Sound d) : ∀ x ∈ ds.map Del.amount, 0 ≤ x := by
  intro x hx
  obtain ⟨d, hd, rfl⟩ := List.mem_map.mp hx
  exact amount_nonneg d (hwf d hd)

theorem payFromDelegation_core (ds : List Del) (hwf : ∀ d ∈ ds, Sound d)
    (hbig : bondedOf ds < 2 * Dec.prec) (fd : Int) (hfd : 0 < fd) (hfdB : fd ≤ bondedOf ds) :
    sum (payFromDelegation (bondedOf ds) ds fd) = fd ∧
    List.Forall₂ (fun a d => 0 ≤ a ∧ a ≤ Del.amount d) (payFromDelegation (bondedOf ds) ds fd)
      (ds.take (payFromDelegation (bondedOf ds) ds fd).length) := by
  obtain ⟨h1, h2⟩ := amounts_exact_core fd (ds.map Del.amount) (amounts_nonneg ds hwf) hfd hfdB hbig
  obtain ⟨h3, h4⟩ := zip_issued ds hwf _ h2
  unfold payFromDelegation
  simp only [bondedOf_eq]
  rw [h3]
  exact ⟨h1, h4⟩

/-- the early return of `makePayout` when the delegations pay everything is the walk over the unbonding entries with nothing
    left to raise: the payout goes through exactly when the walk leaves nothing unpaid -/
theorem makePayout_eq (bonded purchased payout : Int) (ds : List Del) (ubds : List Int) :
    makePayout bonded purchased payout ds ubds =
      if (ubdLoop ubds (split bonded purchased payout).2 (payout - (split bonded purchased payout).1)).2 = 0 then
        .ok (if (split bonded purchased payout).1 > 0 then payFromDelegation bonded ds (split bonded purchased payout).1 else [],
          (ubdLoop ubds (split bonded purchased payout).2 (payout - (split bonded purchased payout).1)).1)
      else .error "exact pay out was not made from unbondings" := by
  unfold makePayout
  dsimp only
  by_cases hf : payout - (split bonded purchased payout).1 = 0
  · have h0 : ∀ u, ubdLoop ubds u 0 = ([], 0) := fun u => by cases ubds <;> simp [ubdLoop]
    simp [hf, h0]
  · split <;> simp_all

/-- after the split, the walk over the unbonding entries leaves nothing unpaid exactly when the stake covers
    `purchased + payout` -/
theorem ubdLoop_split_left (bonded purchased payout : Int) (ubds : List Int) (hu : ∀ b ∈ ubds, 0 ≤ b) (hq : 0 < payout) :
    (ubdLoop ubds (split bonded purchased payout).2 (payout - (split bonded purchased payout).1)).2 = 0 ↔
      purchased + payout ≤ bonded + sum ubds := by
  obtain ⟨hs1, hs2⟩ := split_core bonded purchased payout hq.le
  have hS := sum_nonneg ubds hu
  rw [hs1, hs2, (ubdLoop_core ubds hu _ _ (Int.le_max_right _ _) (Int.sub_nonneg_of_le (Int.min_le_left _ _))).2.1]
  -- either the delegations lie within `purchased` (they pay nothing, the walk skips the rest) or they exceed it
  rcases Int.le_total bonded purchased with h | h
  · rw [Int.max_eq_right (Int.sub_nonpos_of_le h), Int.max_eq_left (Int.sub_nonneg_of_le h), Int.min_eq_right hq.le]
    omega
  · rw [Int.max_eq_left (Int.sub_nonneg_of_le h), Int.max_eq_right (Int.sub_nonpos_of_le h), Int.sub_zero,
      Int.max_eq_left hS]
    omega

/-- `makePayout_exact` for every exchange rate up to a quarter of `10^18` tokens per share -/
theorem makePayout_core (ds : List Del) (ubds : List Int) (purchased payout : Int)
    (hwf : ∀ d ∈ ds, Sound d)
    (hu : ∀ b ∈ ubds, 0 ≤ b) (hp : 0 ≤ purchased) (hq : 0 < payout)
    (hback : purchased + payout ≤ bondedOf ds + sum ubds) (hbig : bondedOf ds < 2 * Dec.prec) :
    ∃ pd pu, makePayout (bondedOf ds) purchased payout ds ubds = .ok (pd, pu) ∧ sum pd + sum pu = payout ∧
      List.Forall₂ (fun a d => 0 ≤ a ∧ a ≤ Del.amount d) pd (ds.take pd.length) ∧
      List.Forall₂ (fun t b => 0 ≤ t ∧ t ≤ b) pu (ubds.take pu.length) := by
  obtain ⟨hs1, hs2⟩ := split_core (bondedOf ds) purchased payout hq.le
  have hB0 : 0 ≤ bondedOf ds := sum_nonneg _ (amounts_nonneg ds hwf)
  have hr0 := (ubdLoop_split_left (bondedOf ds) purchased payout ubds hu hq).mpr hback
  obtain ⟨h1, -, h3⟩ := ubdLoop_core ubds hu (split (bondedOf ds) purchased payout).2
    (payout - (split (bondedOf ds) purchased payout).1) (by omega) (by omega)
  rw [makePayout_eq, if_pos hr0]
  generalize (split (bondedOf ds) purchased payout).1 = fd at *
  obtain ⟨pd, hpd, hd1, hd2⟩ : ∃ pd, (if fd > 0 then payFromDelegation (bondedOf ds) ds fd else []) = pd ∧
      sum pd = fd ∧ List.Forall₂ (fun a d => 0 ≤ a ∧ a ≤ Del.amount d) pd (ds.take pd.length) := by
    by_cases hpos : fd > 0
    · rw [if_pos hpos]
      exact ⟨_, rfl, payFromDelegation_core ds hwf hbig fd hpos (by omega)⟩
    · rw [if_neg hpos]
      exact ⟨_, rfl, by rw [sum_nil]; omega, List.Forall₂.nil⟩
  rw [hpd]
  exact ⟨pd, _, rfl, by omega, hd2, h3⟩

end Shentu.Payout
