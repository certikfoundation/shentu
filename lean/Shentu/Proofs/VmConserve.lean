import Shentu.EVM.Impl
import Shentu.Proofs.Keys
/-
  The coins a frame's cache holds (`total`) when it has one entry per address (`EVM.Keyed`): what `put`, `del`, the value
  transfer, SSTORE and account creation do to them; SELFDESTRUCT cut into the pieces along which its effect is stated
  (`keeps_selfdestruct`, `VmKeeps.lean`).
-/
namespace Shentu.EVM

def total (w : World) : Nat := (w.map (·.balance)).foldl (· + ·) 0

/-- one entry per address (what Burrow's account cache guarantees by being a map) -/
def Keyed (w : World) : Prop := (w.map (·.addr)).Nodup

-- for `by decide` on the worlds of the examples
instance (w : World) : Decidable (Keyed w) := by unfold Keyed; infer_instance

theorem foldl_add_acc (l : List Nat) (a : Nat) : l.foldl (· + ·) a = a + l.foldl (· + ·) 0 := by
  induction l generalizing a with
  | nil => simp
  | cons x xs ih =>
    simp only [List.foldl_cons]
    rw [ih (a + x), ih (0 + x)]
    omega

theorem total_nil : total [] = 0 := rfl

theorem total_cons (a : Account) (w : World) : total (a :: w) = a.balance + total w := by
  unfold total
  simp only [List.map_cons, List.foldl_cons]
  rw [foldl_add_acc]
  omega

theorem keyed_nil : Keyed [] := by unfold Keyed; simp

theorem keyed_cons (a : Account) (w : World) : Keyed (a :: w) ↔ (∀ b ∈ w, b.addr ≠ a.addr) ∧ Keyed w := by
  unfold Keyed
  simp only [List.map_cons, List.nodup_cons, List.mem_map, not_exists, not_and]

/-- the balance the cache holds for an address (0 without an account) — the `bal` of SELFDESTRUCT -/
def balOf (w : World) (x : Nat) : Nat := ((w.get x).map (·.balance)).getD 0

theorem get_nil (x : Nat) : World.get [] x = none := rfl

theorem get_cons (a : Account) (w : World) (x : Nat) :
    World.get (a :: w) x = if a.addr = x then some a else World.get w x := by
  unfold World.get
  rw [List.find?_cons]
  by_cases h : a.addr = x
  · simp [h]
  · have : (a.addr == x) = false := by simpa using h
    simp [h, this]

theorem get_addr {w : World} {x : Nat} {acc : Account} (h : World.get w x = some acc) : acc.addr = x :=
  (Shentu.Keyed.of_find (fun a : Account => a.addr) h).2

theorem get_none_iff {w : World} {x : Nat} : World.get w x = none ↔ ∀ b ∈ w, b.addr ≠ x :=
  Shentu.Keyed.find_none_iff (fun a : Account => a.addr)

theorem balOf_of_get_some {w : World} {x : Nat} {acc : Account} (h : World.get w x = some acc) : balOf w x = acc.balance := by
  simp [balOf, h]

theorem balOf_of_get_none {w : World} {x : Nat} (h : World.get w x = none) : balOf w x = 0 := by
  simp [balOf, h]

theorem filter_ne_of_get_none {w : World} {x : Nat} (h : World.get w x = none) : w.filter (·.addr != x) = w :=
  Shentu.Keyed.remove_fix (fun a : Account => a.addr) x w (get_none_iff.1 h)

theorem get_filter_ne (w : World) (x y : Nat) :
    World.get (w.filter (·.addr != x)) y = if y = x then none else World.get w y := by
  have h := Shentu.Keyed.find_remove (fun a : Account => a.addr) x y w
  by_cases hyx : y = x
  · rw [if_pos hyx]; rw [if_pos hyx.symm] at h; exact h
  · rw [if_neg hyx]; rw [if_neg (Ne.symm hyx)] at h; exact h

theorem total_filter_ne {w : World} (x : Nat) (hk : Keyed w) : total (w.filter (·.addr != x)) + balOf w x = total w := by
  induction w with
  | nil => simp [total_nil, balOf, get_nil]
  | cons a w ih =>
    rw [keyed_cons] at hk
    rw [List.filter_cons]
    by_cases hax : a.addr = x
    · have h1 : (a.addr != x) = false := by simp [hax]
      rw [h1]
      simp only [Bool.false_eq_true, if_false]
      have hnone : World.get w x = none := get_none_iff.2 (fun b hb => by rw [← hax]; exact hk.1 b hb)
      rw [filter_ne_of_get_none hnone, total_cons]
      have : balOf (a :: w) x = a.balance := balOf_of_get_some (by rw [get_cons]; simp [hax])
      omega
    · have h1 : (a.addr != x) = true := by simp [hax]
      rw [h1]
      simp only [if_true]
      rw [total_cons, total_cons]
      have : balOf (a :: w) x = balOf w x := by unfold balOf; rw [get_cons]; simp [hax]
      have := ih hk.2
      omega

theorem balOf_le_total {w : World} (x : Nat) (hk : Keyed w) : balOf w x ≤ total w := by
  have := total_filter_ne x hk
  omega

theorem keyed_del {w : World} (x : Nat) (hk : Keyed w) : Keyed (w.del x) :=
  Shentu.Keyed.keys_remove_nodup (fun a : Account => a.addr) _ hk

theorem get_del (w : World) (x y : Nat) : (w.del x).get y = if y = x then none else w.get y := get_filter_ne w x y

theorem total_del {w : World} (x : Nat) (hk : Keyed w) : total (w.del x) + balOf w x = total w := total_filter_ne x hk

theorem keyed_put {w : World} (acc : Account) (hk : Keyed w) : Keyed (w.put acc) := by
  unfold World.put
  rw [keyed_cons]
  refine ⟨?_, keyed_del acc.addr hk⟩
  intro b hb
  have := (List.mem_filter.1 hb).2
  simpa using this

theorem get_put (w : World) (acc : Account) (y : Nat) : (w.put acc).get y = if y = acc.addr then some acc else w.get y := by
  unfold World.put
  rw [get_cons, get_filter_ne]
  by_cases h : acc.addr = y
  · simp [h]
  · have : ¬ y = acc.addr := fun e => h e.symm
    simp [h, this]

theorem total_put {w : World} (acc : Account) (hk : Keyed w) : total (w.put acc) + balOf w acc.addr = total w + acc.balance := by
  unfold World.put
  rw [total_cons]
  have := total_filter_ne acc.addr hk
  omega

theorem balOf_put_ne (w : World) (acc : Account) {y : Nat} (h : y ≠ acc.addr) : balOf (w.put acc) y = balOf w y := by
  unfold balOf
  rw [get_put]
  simp [h]

theorem balOf_put_self (w : World) (acc : Account) : balOf (w.put acc) acc.addr = acc.balance := by
  unfold balOf
  rw [get_put]
  simp

/-- an account replaced by one with the same address and balance (SSTORE, storing code): no balance changes, hence neither
    do the coins -/
theorem balOf_put_same {w : World} {x : Nat} {acc acc' : Account} (h : w.get x = some acc) (ha : acc'.addr = acc.addr)
    (hb : acc'.balance = acc.balance) (y : Nat) : balOf (w.put acc') y = balOf w y := by
  obtain rfl := get_addr h
  by_cases hy : y = acc'.addr
  · subst hy
    rw [balOf_put_self, hb, ha]
    exact (balOf_of_get_some h).symm
  · exact balOf_put_ne w acc' hy

theorem total_put_same {w : World} {x : Nat} {acc acc' : Account} (hk : Keyed w) (h : w.get x = some acc) (ha : acc'.addr = acc.addr)
    (hb : acc'.balance = acc.balance) : total (w.put acc') = total w ∧ Keyed (w.put acc') := by
  have h1 := total_put acc' hk
  have h2 := balOf_put_same h ha hb acc'.addr
  rw [balOf_put_self] at h2
  exact ⟨by omega, keyed_put _ hk⟩

theorem balOf_del_ne (w : World) (x : Nat) {y : Nat} (h : y ≠ x) : balOf (w.del x) y = balOf w y := by
  unfold balOf
  rw [get_del]
  simp [h]

theorem balOf_add_le_total {w : World} {a b : Nat} (hk : Keyed w) (hab : a ≠ b) : balOf w a + balOf w b ≤ total w := by
  have h1 := total_del a hk
  have h2 := balOf_le_total b (keyed_del a hk)
  rw [balOf_del_ne w a (Ne.symm hab)] at h2
  omega

theorem transfer_ok {w w' : World} {frm to v : Nat} (h : transfer w frm to v = .ok w') :
    (v = 0 ∧ w' = w) ∨ ∃ f t, w.get frm = some f ∧ v ≤ f.balance ∧
      (w.put { f with balance := f.balance - v }).get to = some t ∧
      w' = (w.put { f with balance := f.balance - v }).put { t with balance := t.balance + v } := by
  unfold transfer at h
  split at h; · cases h
  split at h
  · rename_i hv
    cases h
    exact .inl ⟨by simpa using hv, rfl⟩
  · split at h; · cases h
    rename_i f hf
    split at h; · cases h
    rename_i hge
    dsimp only at h
    split at h; · cases h
    rename_i t ht
    split at h; · cases h
    cases h
    exact .inr ⟨f, t, hf, by omega, ht, rfl⟩

theorem transfer_total_keyed {w w' : World} {frm to value : Nat} (hk : Keyed w) (h : transfer w frm to value = .ok w') :
    total w' = total w ∧ Keyed w' := by
  rcases transfer_ok h with ⟨_, rfl⟩ | ⟨f, t, hf, hle, ht, rfl⟩
  · exact ⟨rfl, hk⟩
  · have hfa : f.addr = frm := get_addr hf
    subst hfa
    have hta : t.addr = to := get_addr ht
    subst hta
    have hbf : balOf w f.addr = f.balance := balOf_of_get_some hf
    have hk1 : Keyed (w.put { f with balance := f.balance - value }) := keyed_put _ hk
    have h1 := total_put { f with balance := f.balance - value } hk
    have hbt := balOf_of_get_some ht
    have h2 := total_put { t with balance := t.balance + value } hk1
    dsimp only at h1 h2
    refine ⟨?_, keyed_put _ hk1⟩
    omega

theorem sstore_total_keyed {w : World} (a k v : Nat) (hk : Keyed w) :
    total (w.sstore a k v) = total w ∧ Keyed (w.sstore a k v) := by
  unfold World.sstore
  split
  · rename_i acc hacc
    exact total_put_same hk hacc rfl rfl
  · exact ⟨rfl, hk⟩

theorem create_total_keyed {w : World} {a : Nat} (hk : Keyed w) (h : w.get a = none) :
    total (w.put { addr := a }) = total w ∧ Keyed (w.put { addr := a }) := by
  have h1 := total_put { addr := a } hk
  have h2 := balOf_of_get_none h
  simp only at h1
  refine ⟨?_, keyed_put _ hk⟩
  omega

theorem settle_cases (readOnly : Bool) (w : World) (dirty : Bool) (removed : List Nat) (r : CallRes) :
    (settle readOnly w dirty removed r).world = w ∨
    ((settle readOnly w dirty removed r).world = r.world ∧ r.err = none) := by
  unfold settle
  split
  · exact .inl rfl
  · rename_i he
    split
    · exact .inl rfl
    · split
      · exact .inr ⟨rfl, he⟩
      · exact .inl rfl

/-- the accounts a frame opens on: those it is given, or those after the value transfer of a CALL / CALLCODE that succeeds -/
theorem openFrame_cases (env : Env) (w : World) :
    (openFrame env w).1 = w ∨ (env.callType ≤ 1 ∧ transfer w env.caller env.callee env.value = .ok (openFrame env w).1) := by
  unfold openFrame
  by_cases hct : env.callType ≤ 1
  · rw [if_pos hct]
    cases transfer w env.caller env.callee env.value with
    | ok w' => exact .inr ⟨hct, rfl⟩
    | error e => exact .inl rfl
  · rw [if_neg hct]
    exact .inl rfl

theorem openFrame_total_keyed (env : Env) {w : World} (hk : Keyed w) :
    total (openFrame env w).1 = total w ∧ Keyed (openFrame env w).1 := by
  rcases openFrame_cases env w with h | ⟨_, h⟩
  · rw [h]; exact ⟨rfl, hk⟩
  · exact transfer_total_keyed hk h

def SafeW (n : Nat) (w : World) : Prop := Keyed w ∧ total w = n

theorem SafeW.of_total_keyed {n : Nat} {w w' : World} (hw : SafeW n w) (h : total w' = total w ∧ Keyed w') : SafeW n w' :=
  ⟨h.2, h.1.trans hw.2⟩

/-
  `selfdestruct` cut at its join points.  In `do` notation the code after an `if` without `else` is shared by both branches;
  here each such continuation is a function of its own (`sdCreate`: ensure the beneficiary's account, then `sdMove`: check
  the contract's, then `sdCredit`: credit the beneficiary, then `sdDelete`: remove the contract, then `sdEnd`), so that each
  can be given the precondition that holds where it starts.  `selfdestruct_eq` holds by `rfl`: put together
  (`sdExplicit`), the pieces are what the `do` block elaborates to.
-/
def sdEnd : M (Option ByteArray) := pure (some ByteArray.empty)

def sdDelete (env : Env) : M (Option ByteArray) :=
  getF >>= fun s =>
    if (s.world.get env.callee).isNone = true then pushErr Err.duplicateAddress >>= fun _ => sdEnd
    else setWorld (s.world.del env.callee) >>= fun _ => setRemoved (env.callee :: s.removed) >>= fun _ => sdEnd

def sdCredit (env : Env) (receiver : Nat) (s : Frame) : M (Option ByteArray) :=
  if env.readOnly = true then pushErr Err.illegalWrite >>= fun _ => sdEnd
  else match s.world.get receiver with
    | some r =>
      if r.balance + balOf s.world env.callee ≥ U64 then pushErr Err.integerOverflow >>= fun _ => sdDelete env
      else setWorld (s.world.put { r with balance := r.balance + balOf s.world env.callee }) >>= fun _ => sdDelete env
    | none => pushErr Err.nonExistentAccount >>= fun _ => sdDelete env

def sdMove (env : Env) (receiver : Nat) : M (Option ByteArray) :=
  getF >>= fun s =>
    if (s.world.get env.callee).isNone = true then pushErr Err.nonExistentAccount >>= fun _ => sdCredit env receiver s
    else sdCredit env receiver s

def sdCreate (env : Env) (receiver : Nat) (s : Frame) : M (Option ByteArray) :=
  if (s.world.get receiver).isNone = true then
    useGas 1 >>= fun _ =>
      if (s.world.get env.callee).isNone = true then pushErr Err.generic >>= fun _ => sdEnd
      else if env.readOnly = true then pushErr Err.illegalWrite >>= fun _ => sdEnd
      else setWorld (s.world.put { addr := receiver }) >>= fun _ => sdMove env receiver
  else sdMove env receiver

def sdExplicit (env : Env) : M (Option ByteArray) :=
  pop >>= fun x => useGas 1 >>= fun _ => getF >>= fun s =>
    if (env.q.selfDestructSelfKeeps && addrOf x == env.callee) = true then pure (some ByteArray.empty)
    else if (decide (addrOf x ≤ 0xff) || s.removed.contains (addrOf x)) = true then pure none
    else if (addrOf x == env.callee) = true then noteDev 15 >>= fun _ => sdCreate env (addrOf x) s
    else sdCreate env (addrOf x) s

theorem selfdestruct_eq (env : Env) : selfdestruct env = sdExplicit env := rfl

end Shentu.EVM
