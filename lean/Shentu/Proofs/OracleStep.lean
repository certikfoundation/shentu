import Shentu.Proofs.OracleLemmas
/-
  What an accepted oracle operation does, in four kinds (`Accepted`).  The five operator messages are one shape, `OpMsg`: the
  record under the sender's address goes from what is stored there to `new`, something may be queued for the sender as a
  withdrawal, the recorded total follows the record's collateral, and one payment runs between sender and module account;
  what differs between the five is the table `opEff`, and the conservation law of the record is a fact about the table alone
  (`opEff_law`).  The three task messages are one shape, `TaskMsg`: the task under one key goes from what is stored there to
  `new`.  The begin-blocker pays and drops the mature withdrawals; the end-blocker folds `endOne` over the closing tasks and
  drops their index entry.  Both store writes are `Keyed.put`, so lookups, keys and sums after any of the eight messages are
  read through its lemmas.
-/
namespace Shentu.Oracle
open Shentu

/-- the one payment of an operator message: none, `inn` from the sender to the module account, `out` from the module
    account to the sender -/
inductive Pay
  | none
  | inn (c : Coins)
  | out (c : Coins)

def Pay.innAt : Pay → Denom → Int
  | .inn c, d => Coins.amountOf c d
  | _, _ => 0

def Pay.outAt : Pay → Denom → Int
  | .out c, d => Coins.amountOf c d
  | _, _ => 0

def Paid (m a : Addr) (l l' : Ledger) : Pay → Prop
  | .inn c => l.send a m c = .ok l'
  | .out c => l.send m a c = .ok l'
  | .none => l' = l

theorem Paid.inv {m a : Addr} {l l' : Ledger} {p : Pay} (h : Paid m a l l' p) (hi : l.Inv) : l'.Inv := by
  cases p with
  | none => cases h; exact hi
  | inn c => exact Ledger.inv_send _ _ _ _ _ hi h
  | out c => exact Ledger.inv_send _ _ _ _ _ hi h

/-- what an operator message writes: the new record (`none`: the operator leaves), what is queued for the sender as a
    withdrawal, the payment, the new recorded total -/
structure OpEff where
  new : Option Operator
  q : Option Coins
  pay : Pay
  tot : Coins

/-- the five operator messages, given the record `old` stored under the sender's address and the recorded total -/
def opEff (old : Option Operator) (total : Coins) : Op → OpEff
  | .createOperator a c p => ⟨some { addr := a, proposer := p, coll := c, rew := [] }, none, .inn c, Coins.add total c⟩
  | .addCollateral _ c => ⟨old.map fun o => { o with coll := Coins.add o.coll c }, none, .inn c, Coins.add total c⟩
  | .reduceCollateral _ c => ⟨old.map fun o => { o with coll := Coins.sub o.coll c }, some c, .none, Coins.sub total c⟩
  | .removeOperator _ => ⟨none, old.map (·.coll), .out ((old.map (·.rew)).getD []), Coins.sub total ((old.map (·.coll)).getD [])⟩
  | .withdrawReward _ => ⟨old.map fun o => { o with rew := [] }, none, .out ((old.map (·.rew)).getD []), total⟩
  | _ => ⟨old, none, .none, total⟩

/-- the state after an operator message -/
def opWrite (e : Env) (s : State) (a : Addr) (x : OpEff) : State :=
  { s with ops := Keyed.put Operator.addr a x.new s.ops,
           wds := match x.q with
             | none => s.wds
             | some c => upsertWd a (Gen.Oracle.dueBlock e.h s.params.lock) c s.wds,
           total := x.tot }

def collAt (o : Option Operator) (d : Denom) : Int := Keyed.val (fun x => Coins.amountOf x.coll d) o
def rewAt (o : Option Operator) (d : Denom) : Int := Keyed.val (fun x => Coins.amountOf x.rew d) o
def qAt (q : Option Coins) (d : Denom) : Int := Coins.amountOf (q.getD []) d

/-- an accepted operator message of `a` with effect `x`.  What the record holds is conserved: its collateral and what is
    queued make up the old collateral and what was paid in; its rewards are the old ones less what was paid out; the recorded
    total moves with its collateral (`law`); collateral that was not negative does not become so. -/
structure OpMsg (e : Env) (l l' : Ledger) (s s' : State) (a : Addr) (x : OpEff) : Prop where
  addr : ∀ n, x.new = some n → n.addr = a
  state : s' = opWrite e s a x
  paid : Paid e.modAddr a l l' x.pay
  law : ∀ d, collAt x.new d + qAt x.q d = collAt (findOp s a) d + x.pay.innAt d ∧
    rewAt x.new d + x.pay.outAt d = rewAt (findOp s a) d ∧
    Coins.amountOf x.tot d - Coins.amountOf s.total d = collAt x.new d - collAt (findOp s a) d
  nonneg : ∀ n d, x.new = some n → (∀ o, findOp s a = some o → 0 ≤ Coins.amountOf o.coll d) → 0 ≤ Coins.amountOf n.coll d

/-- the address an operator message is about -/
def Op.sender : Op → Option Addr
  | .createOperator a _ _ | .removeOperator a | .addCollateral a _ | .reduceCollateral a _ | .withdrawReward a => some a
  | _ => none

/-- the table keeps the law of `OpMsg`, whatever the model does: a creation needs that nothing is stored under the
    address, the other four messages that something is -/
theorem opEff_law {op : Op} {a : Addr} (ha : op.sender = some a) {old : Option Operator} (tot : Coins)
    (ho : match op with | .createOperator .. => old = none | _ => old.isSome = true) (d : Denom) :
    collAt (opEff old tot op).new d + qAt (opEff old tot op).q d = collAt old d + (opEff old tot op).pay.innAt d ∧
    rewAt (opEff old tot op).new d + (opEff old tot op).pay.outAt d = rewAt old d ∧
    Coins.amountOf (opEff old tot op).tot d - Coins.amountOf tot d = collAt (opEff old tot op).new d - collAt old d := by
  cases op <;> cases ha <;> dsimp only at ho
  case createOperator => subst ho; simp [opEff, collAt, rewAt, qAt, Pay.innAt, Pay.outAt]; omega
  all_goals
    obtain ⟨o, rfl⟩ := Option.isSome_iff_exists.mp ho
    simp [opEff, collAt, rewAt, qAt, Pay.innAt, Pay.outAt] <;> omega

section
variable {e : Env} {l l' : Ledger} {s s' : State}

/-- the model follows the table: per message, the record found, the state written and the payment made -/
theorem stepE_opMsg {op : Op} {a : Addr} (ha : op.sender = some a) (h : stepE e l s op = .ok (l', s')) :
    OpMsg e l l' s s' a (opEff (findOp s a) s.total op) := by
  have law := opEff_law ha (old := findOp s a) s.total
  cases op <;> cases ha
  case createOperator c p =>
    obtain ⟨hpos, hno, hs, rfl⟩ := createOperator_ok h
    exact ⟨fun _ hn => by cases hn; rfl, by rw [setOp_eq]; rfl, hs, law (by simpa [isOp] using hno),
      fun n d hn _ => by cases hn; exact Coins.amountOf_nonneg_of_allPositive c hpos d⟩
  case addCollateral c =>
    obtain ⟨hpos, o, ho, hs, rfl⟩ := addCollateral_ok h
    obtain rfl : o.addr = a := find_addr ho
    refine ⟨fun _ hn => by rw [ho] at hn; cases hn; rfl, by rw [setOp_eq, ho]; rfl, hs, law (by rw [ho]; rfl),
      fun n d hn h0 => ?_⟩
    rw [ho] at hn; cases hn
    have := Coins.amountOf_nonneg_of_allPositive c hpos d
    have := h0 o ho
    simp only [Coins.amountOf_add]; omega
  case reduceCollateral c =>
    obtain ⟨rfl, o, ho, hneg, rfl⟩ := reduceCollateral_ok h
    obtain rfl : o.addr = a := find_addr ho
    exact ⟨fun _ hn => by rw [ho] at hn; cases hn; rfl, by rw [setOp_eq, ho]; rfl, rfl, law (by rw [ho]; rfl),
      fun n d hn _ => by rw [ho] at hn; cases hn; exact Coins.amountOf_nonneg_of_not_anyNegative _ hneg d⟩
  case removeOperator =>
    obtain ⟨o, ho, hs, rfl⟩ := removeOperator_ok h
    exact ⟨fun _ hn => (by cases hn), by rw [ho]; rfl, by rw [ho]; exact hs, law (by rw [ho]; rfl), fun n d hn _ => by cases hn⟩
  case withdrawReward =>
    obtain ⟨o, ho, hs, rfl⟩ := withdrawReward_ok h
    obtain rfl : o.addr = a := find_addr ho
    exact ⟨fun _ hn => by rw [ho] at hn; cases hn; rfl, by rw [setOp_eq, ho]; rfl, by rw [ho]; exact hs, law (by rw [ho]; rfl),
      fun n d hn h0 => by rw [ho] at hn; cases hn; exact h0 o ho⟩

variable {a : Addr} {x : OpEff}

theorem OpMsg.frame (h : OpMsg e l l' s s' a x) : s'.tasks = s.tasks ∧ s'.closing = s.closing ∧ s'.params = s.params := by
  rw [h.state]; exact ⟨rfl, rfl, rfl⟩

theorem OpMsg.findOp (h : OpMsg e l l' s s' a x) (a' : Addr) : findOp s' a' = if a = a' then x.new else findOp s a' := by
  rw [h.state]; exact Keyed.find_put Operator.addr h.addr s.ops a'

theorem OpMsg.opsNodup (h : OpMsg e l l' s s' a x) (hn : (s.ops.map (·.addr)).Nodup) : (s'.ops.map (·.addr)).Nodup := by
  rw [h.state]; exact Keyed.keys_put_nodup Operator.addr hn

theorem OpMsg.pend (h : OpMsg e l l' s s' a x) (a' : Addr) (d : Denom) :
    pendAmt s' a' d = pendAmt s a' d + if a == a' then qAt x.q d else 0 := by
  rw [h.state]
  cases hq : x.q with
  | none => simp [pendAmt, opWrite, hq, qAt]
  | some c => simp only [pendAmt, opWrite, hq, qAt, Option.getD]; exact pendList_upsert a _ c s.wds a' d

theorem OpMsg.held (h : OpMsg e l l' s s' a x) (a' : Addr) (d : Denom) :
    held s' a' d = held s a' d + if a == a' then x.pay.innAt d else 0 := by
  have hc : ∀ y, collAmt y a' d = collAt (Oracle.findOp y a') d := fun y => by
    unfold collAmt collAt; cases Oracle.findOp y a' <;> rfl
  rw [Oracle.held, Oracle.held, hc, hc, h.pend, h.findOp]
  by_cases haa : a = a'
  · subst haa; have := (h.law d).1; simp only [if_true, beq_self_eq_true]; omega
  · simp [haa]

end

/-- an accepted task message under key `k` wrote `new` there: the task store gets `new` under `k` (a creation drops what
    was stored first, so that the new task stands last), the operators, the withdrawals, the recorded total and the
    parameters stay; a creation is also entered in the closing index, of which nothing is said here -/
structure TaskMsg (s s' : State) (k : String) (new : Option Task) : Prop where
  key : ∀ n, new = some n → n.key = k
  frame : s'.ops = s.ops ∧ s'.wds = s.wds ∧ s'.total = s.total ∧ s'.params = s.params
  tasks : ∃ fresh : Bool, s'.tasks = Keyed.put Task.key k new (if fresh then Keyed.put Task.key k none s.tasks else s.tasks)

section
variable {s s' : State} {k : String} {new : Option Task}

theorem TaskMsg.setTask {t : Task} (hk : t.key = k) : TaskMsg s (setTask s t) k (some t) :=
  ⟨fun _ hn => by cases hn; exact hk, ⟨setTask_ops s t, setTask_wds s t, setTask_total s t, setTask_params s t⟩, false,
    by rw [setTask_eq, hk]; rfl⟩

theorem TaskMsg.delTask : TaskMsg s (delTask s k) k none := ⟨fun _ hn => (by cases hn), ⟨rfl, rfl, rfl, rfl⟩, false, rfl⟩

theorem TaskMsg.sameColl (h : TaskMsg s s' k new) : SameColl s s' :=
  ⟨h.frame.2.1, fun _ => by rw [h.frame.1]⟩

theorem TaskMsg.findTask (h : TaskMsg s s' k new) (k' : String) : findTask s' k' = if k = k' then new else findTask s k' := by
  obtain ⟨fresh, ht⟩ := h.tasks
  unfold Oracle.findTask
  rw [ht, Keyed.find_put Task.key h.key]
  cases fresh
  · rfl
  · split
    · rfl
    · rename_i hk; simp only [if_true]; rw [Keyed.find_put Task.key (fun _ hn => by cases hn), if_neg hk]

theorem TaskMsg.mem (h : TaskMsg s s' k new) {t : Task} (ht : t ∈ s'.tasks) : new = some t ∨ t ∈ s.tasks := by
  obtain ⟨fresh, e⟩ := h.tasks
  rw [e] at ht
  rcases Keyed.mem_put Task.key ht with h1 | h1
  · exact Or.inl h1
  · cases fresh <;> simp only [Bool.false_eq_true, if_false, if_true] at h1
    · exact Or.inr h1
    · exact Or.inr ((Keyed.mem_put Task.key h1).resolve_left (fun hn => by cases hn))

theorem TaskMsg.keysNodup (h : TaskMsg s s' k new) (hn : (s.tasks.map Task.key).Nodup) : (s'.tasks.map Task.key).Nodup := by
  obtain ⟨fresh, ht⟩ := h.tasks
  rw [ht]
  cases fresh
  · exact Keyed.keys_put_nodup Task.key hn
  · simp only [if_true]; exact Keyed.keys_put_nodup Task.key (Keyed.keys_put_nodup Task.key hn)

theorem TaskMsg.sum (h : TaskMsg s s' k new) (g : Task → Int) (hn : (s.tasks.map Task.key).Nodup) :
    (s'.tasks.map g).sum = (s.tasks.map g).sum - Keyed.val g (Oracle.findTask s k) + Keyed.val g new := by
  obtain ⟨fresh, ht⟩ := h.tasks
  rw [ht]
  cases fresh
  · exact Keyed.sum_put Task.key g h.key hn
  · simp only [if_true]
    rw [Keyed.sum_put Task.key g h.key (Keyed.keys_put_nodup Task.key hn),
      Keyed.sum_put Task.key g (fun _ hn => by cases hn) hn,
      Keyed.find_put Task.key (fun _ hn => by cases hn), if_pos rfl]
    simp [Oracle.findTask]

end

/-- the task that `createTask` stores: pending, no responses, closing `window` blocks after the current one -/
def newTask (e : Env) (ct fn : String) (b : Coins) (cr : Addr) (window expi : Int) : Task :=
  { contract := ct, function := fn, begin := e.h, bounty := b, expiration := expi, creator := cr, responses := [],
    result := 0, closing := Gen.Oracle.ctClosingBlock e.h window, waiting := window, status := 1 }

/-- an accepted task message under key `k`, with the value `new` it leaves there: a response is appended to the task while
    it is open; the creator deletes the task after its closing block; a new pending task takes the place of what was stored,
    which must have passed its closing block, and is entered in the closing index -/
inductive TaskEv (e : Env) (l l' : Ledger) (s s' : State) (k : String) : Op → Option Task → Prop
  | respond {ct fn : String} {sc : Int} {o : Addr} {t : Task} (hk : k = ct ++ fn) (hl : l' = l) (hop : isOp s o = true)
      (ht : findTask s k = some t) (hcl : e.h ≤ t.closing) (hdup : t.responses.any (·.op == o) = false) (h0 : 0 ≤ sc)
      (h100 : sc ≤ 100)
      (hs : s' = setTask s { t with responses := t.responses ++ [{ op := o, score := sc, weight := 0, reward := [] }] }) :
      TaskEv e l l' s s' k (.respond ct fn sc o)
        (some { t with responses := t.responses ++ [{ op := o, score := sc, weight := 0, reward := [] }] })
  | delete {ct fn : String} {fo : Bool} {d : Addr} {t : Task} (hk : k = ct ++ fn) (hl : l' = l) (ht : findTask s k = some t)
      (hexp : fo = true ∨ t.expiration < e.t) (hcl : t.closing < e.h) (hcr : t.creator = d) (hs : s' = delTask s k) :
      TaskEv e l l' s s' k (.deleteTask ct fn fo d) none
  | create {ct fn : String} {b : Coins} {cr : Addr} {w v : Int} {s0 : State} {window expi : Int} (hk : k = ct ++ fn)
      (hsend : l.send cr e.modAddr b = .ok l')
      (hpre : findTask s k = none ∧ s0 = s ∨ ∃ old, findTask s k = some old ∧ old.closing < e.h ∧ s0 = delTask s k)
      (hw : 0 ≤ window)
      (hs : s' = addClosing (setTask s0 (newTask e ct fn b cr window expi)) (Gen.Oracle.ctClosingBlock e.h window) (ct, fn)) :
      TaskEv e l l' s s' k (.createTask ct fn b cr w v)
        (some (newTask e ct fn b cr window expi))

/-- the key a task message is about -/
def Op.taskKey : Op → Option String
  | .createTask c f _ _ _ _ | .respond c f _ _ | .deleteTask c f _ _ => some (c ++ f)
  | _ => none

section
variable {e : Env} {l l' : Ledger} {s s' : State} {k : String} {op : Op} {new : Option Task}

theorem stepE_taskEv (hk : op.taskKey = some k) (h : stepE e l s op = .ok (l', s')) : ∃ new, TaskEv e l l' s s' k op new := by
  cases op <;> cases hk
  case createTask c f b cr w v =>
    obtain ⟨s0, window, expi, _, hpre, hw, hs, rfl⟩ := createTask_ok h
    exact ⟨_, .create rfl hs hpre hw rfl⟩
  case respond c f sc o =>
    obtain ⟨rfl, hr⟩ := Except.map_pair_ok h
    obtain ⟨hop, t, ht, hcl, hdup, h0, h100, rfl⟩ := respond_ok_iff.mp hr
    exact ⟨_, .respond rfl rfl hop ht hcl hdup h0 h100 rfl⟩
  case deleteTask c f fo d =>
    obtain ⟨rfl, hr⟩ := Except.map_pair_ok h
    obtain ⟨t, ht, hexp, hcl, hcr, rfl⟩ := deleteTask_ok_iff.mp hr
    exact ⟨_, .delete rfl rfl ht hexp hcl hcr rfl⟩

theorem TaskEv.msg (h : TaskEv e l l' s s' k op new) : TaskMsg s s' k new := by
  cases h with
  | respond hk _ _ ht _ _ _ _ hs => rw [hs]; exact TaskMsg.setTask (findTask_mem ht).2
  | delete _ _ _ _ _ _ hs => rw [hs]; exact TaskMsg.delTask
  | @create ct fn _ _ _ _ s0 window _ hk _ hpre _ hs =>
    subst hk
    have h0 : s0 = { s with tasks := Keyed.put Task.key (ct ++ fn) none s.tasks } := by
      rcases hpre with ⟨hnone, h0⟩ | ⟨_, _, _, h0⟩
      · rw [h0]
        show s = { s with tasks := s.tasks.filter _ }
        rw [Keyed.remove_fix Task.key _ _ (Keyed.not_mem_keys Task.key hnone)]
      · exact h0
    rw [hs, h0]
    exact ⟨fun _ hn => (by cases hn; rfl), by simp, true, by rw [addClosing_tasks, setTask_eq]; rfl⟩

end

/-- what an accepted operation is: an operator message, a task message, the begin-blocker, the end-blocker -/
inductive Accepted (e : Env) (l l' : Ledger) (s s' : State) : Op → Prop
  | operator {op : Op} {a : Addr} (ha : op.sender = some a) (hm : OpMsg e l l' s s' a (opEff (findOp s a) s.total op)) :
      Accepted e l l' s s' op
  | task {op : Op} {k : String} {new : Option Task} (hev : TaskEv e l l' s s' k op new) : Accepted e l l' s s' op
  | beginBlock (hp : payWithdraws e (s.wds.filter (mature e.h)) l = .ok l')
      (hs : s' = { s with wds := s.wds.filter (fun w => !(mature e.h w)) }) : Accepted e l l' s s' .beginBlock
  | endBlock {s1 : State} (hl : l' = l) (hf : endFold e.bond (closingAt s e.h) s = .ok s1) (hs : s' = delClosing s1 e.h) :
      Accepted e l l' s s' .endBlock

theorem stepE_accepted {e : Env} {l l' : Ledger} {s s' : State} {op : Op} (h : stepE e l s op = .ok (l', s')) :
    Accepted e l l' s s' op := by
  cases op with
  | createOperator a c p => exact .operator (a := a) rfl (stepE_opMsg rfl h)
  | removeOperator a => exact .operator (a := a) rfl (stepE_opMsg rfl h)
  | addCollateral a c => exact .operator (a := a) rfl (stepE_opMsg rfl h)
  | reduceCollateral a c => exact .operator (a := a) rfl (stepE_opMsg rfl h)
  | withdrawReward a => exact .operator (a := a) rfl (stepE_opMsg rfl h)
  | createTask c f b cr w v => obtain ⟨_, hev⟩ := stepE_taskEv (k := c ++ f) rfl h; exact .task hev
  | respond c f sc o => obtain ⟨_, hev⟩ := stepE_taskEv (k := c ++ f) rfl h; exact .task hev
  | deleteTask c f fo d => obtain ⟨_, hev⟩ := stepE_taskEv (k := c ++ f) rfl h; exact .task hev
  | beginBlock => obtain ⟨hp, hs⟩ := beginBlock_ok h; exact .beginBlock hp hs
  | endBlock =>
    obtain ⟨rfl, hr⟩ := Except.map_pair_ok h
    obtain ⟨s1, hf, hs⟩ := endBlock_ok hr
    exact .endBlock rfl hf hs

end Shentu.Oracle
