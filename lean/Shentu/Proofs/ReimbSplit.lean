import Shentu.Proofs.PayoutLemmas
import Shentu.Proofs.HaltShieldPayout
import Shentu.Proofs.ShieldFundLemmas
import Shentu.Proofs.ShieldPoolLists
/-
  C04, the proportional split of a claim's loss over the collateral providers (`Shield.reimburseLoop`):
  when does the split reach the whole loss?  Definitions (`truncShare`, `SpareTwo`, `splitLeft`) and the arithmetic
  behind `Props/C04r.lean`; `Props/C04c.lean` reads the shape of one provider's two amounts (`payout_shape`) here too.
  `Halt.feasible` (Proofs/HaltShieldPayout.lean) is the test under which `createReimbursement` does not panic; the end of the
  file shows it from the books.
-/
namespace Shentu.ReimbSplit
open Shentu.Shield Shentu.Shield.Fund Shentu.DecRound

/-- the truncated share `trunc(c · r)` of a provider with collateral `c` under the ratio `r` -/
def truncShare (r : Dec) (c : Int) : Int := Dec.truncateInt (Dec.mul (Dec.ofInt c) r)

/-- the provider keeps at least two units beyond its two truncated shares -/
def SpareTwo (pr yr : Dec) (p : Provider) : Prop :=
  truncShare pr p.collateral + truncShare yr p.collateral + 2 ≤ p.collateral

instance (pr yr : Dec) (p : Provider) : Decidable (SpareTwo pr yr p) := by unfold SpareTwo; infer_instance

/-- what is left of the loss after the split over the providers (the first component of `reimburseLoop`'s result) -/
def splitLeft (pr yr : Dec) : List Provider → Int → Int → Int
  | [], _, ty => ty
  | p :: ps, tp, ty =>
    if ty ≤ 0 then ty else splitLeft pr yr ps (tp - payoutPur pr yr p tp ty) (ty - payoutPay pr yr p tp ty)

/-- the payment `trunc(c · yr) + 1` of a provider that has collateral; a provider without collateral pays nothing -/
def succPay (yr : Dec) (p : Provider) : Int := if p.collateral = 0 then 0 else truncShare yr p.collateral + 1

/-- the sum of the payments `trunc(c · yr) + 1` over the providers that have collateral -/
def succSum (yr : Dec) (ps : List Provider) : Int := sumI (succPay yr) ps

theorem succSum_nil (yr : Dec) : succSum yr [] = 0 := rfl
theorem succSum_cons (yr : Dec) (p : Provider) (ps : List Provider) :
    succSum yr (p :: ps) = succPay yr p + succSum yr ps := sumI_cons _ _ _

theorem truncShare_eq (r : Dec) (c : Int) : truncShare r c = Int.tdiv (c * r.raw) Dec.prec :=
  Dec.trunc_mul_ofInt c r

/-- what the loop leaves unpaid is `splitLeft`; in the proof: `splitLeft` of what is still to be walked is the same before and
    after every round -/
theorem reimburseLoop_left (e : Env) (pr yr : Dec) (ps : List Provider) :
    ∀ (tp ty : Int) (l : Ledger) (s : State) (left : Int) (l' : Ledger) (s' : State),
      reimburseLoop e pr yr ps tp ty l s = .ok (left, l', s') → left = splitLeft pr yr ps tp ty := by
  intro tp ty l s left l' s' h
  obtain ⟨ps', tp', hs, hend⟩ := reimburseLoop_star h
  have := hs.lift (R := fun a b => splitLeft pr yr a.1 a.2.1 a.2.2.1 = splitLeft pr yr b.1 b.2.1 b.2.2.1) (fun _ => rfl) Eq.trans
    (fun r => by cases r with | mk p ps tp ty l s s1 s2 hty h1 h2 => exact (by dsimp only; rw [splitLeft, if_neg (by omega)]))
  rw [this]
  rcases hend with rfl | hle
  · rfl
  · cases ps' with
    | nil => rfl
    | cons p ps' => exact (by rw [splitLeft, if_pos hle])

theorem feasible_of_nonpos (pr yr : Dec) (ps : List Provider) (tp ty : Int) (h : ty ≤ 0) :
    Halt.feasible pr yr ps tp ty = true := by
  cases ps with
  | nil => unfold Halt.feasible; simpa using h
  | cons p ps => unfold Halt.feasible; simp [h]

theorem truncShare_zero (r : Dec) : truncShare r 0 = 0 := Dec.trunc_mul_ofInt_zero r

/-- the two amounts asked of one provider, with the `min`s and the two "+ 1" guards written out over the truncated shares; the
    lemmas below name the two amounts and leave the case analysis of this shape to `omega` -/
theorem payout_shape (pr yr : Dec) (p : Provider) (tp ty : Int) :
    payoutPur pr yr p tp ty =
      (if min (truncShare pr p.collateral) tp < tp ∧
          p.collateral > min (truncShare yr p.collateral) ty + min (truncShare pr p.collateral) tp
        then min (truncShare pr p.collateral) tp + 1 else min (truncShare pr p.collateral) tp) ∧
    payoutPay pr yr p tp ty =
      (if min (truncShare yr p.collateral) ty < ty ∧
          p.collateral > min (truncShare yr p.collateral) ty + payoutPur pr yr p tp ty
        then min (truncShare yr p.collateral) ty + 1 else min (truncShare yr p.collateral) ty) := by
  unfold payoutPay payoutPur truncShare
  simp only [Bool.and_eq_true, decide_eq_true_eq, and_self]

theorem step_of_zero (pr yr : Dec) (p : Provider) (tp ty : Int) (hc : p.collateral = 0) (htp : 0 ≤ tp) (hty : 0 < ty) :
    payoutPur pr yr p tp ty = 0 ∧ payoutPay pr yr p tp ty = 0 := by
  obtain ⟨h1, h2⟩ := payout_shape pr yr p tp ty
  simp only [hc, truncShare_zero] at h1 h2
  generalize payoutPur pr yr p tp ty = a at *
  generalize payoutPay pr yr p tp ty = b at *
  omega

/-- with two spare units neither "+ 1" guard fails for lack of collateral: the two amounts fit, and the provider pays the rest of
    the loss or its truncated share plus one -/
theorem step_of_spareTwo (pr yr : Dec) (p : Provider) (tp ty : Int) (hs : SpareTwo pr yr p) :
    payoutPur pr yr p tp ty + payoutPay pr yr p tp ty ≤ p.collateral ∧
    (payoutPay pr yr p tp ty = ty ∨ payoutPay pr yr p tp ty = truncShare yr p.collateral + 1) := by
  obtain ⟨h1, h2⟩ := payout_shape pr yr p tp ty
  unfold SpareTwo at hs
  generalize payoutPur pr yr p tp ty = a at *
  generalize payoutPay pr yr p tp ty = b at *
  omega

/-- so the split is feasible as soon as the loss is within the sum of the payments `trunc(c · yr) + 1` -/
theorem feasible_of_spareTwo (pr yr : Dec) (ps : List Provider) :
    ∀ (tp ty : Int), 0 ≤ tp → (∀ p ∈ ps, p.collateral = 0 ∨ SpareTwo pr yr p) → ty ≤ succSum yr ps →
      Halt.feasible pr yr ps tp ty = true := by
  induction ps with
  | nil =>
    intro tp ty _ _ h
    rw [succSum_nil] at h
    exact feasible_of_nonpos _ _ _ _ _ h
  | cons p ps ih =>
    intro tp ty htp hsp h
    by_cases hty : ty ≤ 0
    · exact feasible_of_nonpos _ _ _ _ _ hty
    · rw [succSum_cons] at h
      have hpur := Fund.payoutPur_le pr yr p tp ty
      have hrest := fun q hq => hsp q (List.mem_cons_of_mem _ hq)
      unfold Halt.feasible
      simp only [Bool.or_eq_true, Bool.and_eq_true, decide_eq_true_eq]
      rcases hsp p List.mem_cons_self with hc | hs
      · obtain ⟨h1, h2⟩ := step_of_zero pr yr p tp ty hc htp (by omega)
        have h3 : succPay yr p = 0 := by unfold succPay; rw [if_pos hc]
        refine Or.inr ⟨by omega, ?_⟩
        exact ih _ _ (by omega) hrest (by omega)
      · obtain ⟨hfit, hpay⟩ := step_of_spareTwo pr yr p tp ty hs
        refine Or.inr ⟨hfit, ?_⟩
        rcases hpay with hp | hp
        · exact feasible_of_nonpos _ _ _ _ _ (by omega)
        · have h3 : succPay yr p ≤ truncShare yr p.collateral + 1 := by
            unfold succPay
            split
            · rename_i hc; rw [hc, truncShare_zero]; omega
            · omega
          exact ih _ _ (by omega) hrest (by omega)

/-- every payment `trunc(c · y) + 1` is strictly more than the exact share `c · y` -/
theorem succSum_gt (yr : Dec) (hy : 0 ≤ yr.raw) (ps : List Provider) (hc : ∀ p ∈ ps, 0 ≤ p.collateral) :
    sumI (·.collateral) ps * yr.raw ≤ succSum yr ps * Dec.prec ∧
    (0 < sumI (·.collateral) ps → sumI (·.collateral) ps * yr.raw + 1 ≤ succSum yr ps * Dec.prec) := by
  induction ps with
  | nil => simp [succSum, sumI]
  | cons p ps ih =>
    obtain ⟨ih1, ih2⟩ := ih (fun q hq => hc q (List.mem_cons_of_mem _ hq))
    rw [succSum_cons, sumI_cons]
    unfold succPay
    by_cases h0 : p.collateral = 0
    · rw [if_pos h0, h0]
      simp only [zero_add]
      exact ⟨ih1, ih2⟩
    · rw [if_neg h0, truncShare_eq, Int.add_mul, Int.add_mul]
      have h1 := lt_tdiv_succ_mul (p.collateral * yr.raw) Dec.prec
        (Int.mul_nonneg (hc p List.mem_cons_self) hy) Dec.prec_pos
      exact ⟨by omega, fun _ => by omega⟩

theorem sum_trunc_succ_ge (a T : Int) (ps : List Provider) (hT : 0 < T) (hTP : T < Dec.prec) (ha : 0 ≤ a)
    (hc : ∀ p ∈ ps, 0 ≤ p.collateral) (hsum : T = sumI (·.collateral) ps) :
    a ≤ succSum (Dec.quo (Dec.ofInt a) (Dec.ofInt T)) ps := by
  have hP := Dec.prec_pos
  have h1 := (succSum_gt _ (Dec.quo_ofInt_nonneg a T ha hT) ps hc).2 (by omega)
  rw [← hsum] at h1
  have h2 := (quo_ofInt_bounds a T ha hT).1
  generalize (Dec.quo (Dec.ofInt a) (Dec.ofInt T)).raw = y at h1 h2
  generalize succSum _ ps = S at h1 ⊢
  -- the ratio falls short of `a / T` by at most `1/2 + 10^-18` units of its last digit; times `T < 10^18` that is less
  -- than the one unit by which the payments exceed `T · y`
  by_contra hlt
  have e1 : S * Dec.prec ≤ (a - 1) * Dec.prec := Int.mul_le_mul_of_nonneg_right (by omega) hP.le
  have e2 : 2 * Dec.prec * (T * y + 1) ≤ 2 * Dec.prec * ((a - 1) * Dec.prec) :=
    Int.mul_le_mul_of_nonneg_left (h1.trans e1) (by omega)
  have e3 : T * (Dec.prec + 2) ≤ Dec.prec * (Dec.prec + 2) := Int.mul_le_mul_of_nonneg_right hTP.le (by omega)
  have e4 := Int.mul_pos hP hP
  linarith

theorem spareTwo_of_share (p : Provider) (T ts a : Int) (hc : 0 ≤ p.collateral) (hcT : p.collateral ≤ T) (hT : 0 < T)
    (hTP : T < Dec.prec) (hts : 0 ≤ ts) (ha : 0 ≤ a) (hsh : 2 * T ≤ p.collateral * (T - ts - a)) :
    SpareTwo (Dec.quo (Dec.ofInt ts) (Dec.ofInt T)) (Dec.quo (Dec.ofInt a) (Dec.ofInt T)) p := by
  have hP := Dec.prec_pos
  have hy1 := Dec.quo_ofInt_nonneg ts T hts hT
  have hy2 := Dec.quo_ofInt_nonneg a T ha hT
  have u := quo_pair_le (Dec.ofInt ts) (Dec.ofInt a) (Dec.ofInt T) (Dec.ofInt_nonneg ts hts) (Dec.ofInt_nonneg a ha)
    (Int.mul_pos hT hP)
  have e (x : Int) : (Dec.ofInt x).raw = x * Dec.prec := rfl
  rw [e, e, e] at u
  unfold SpareTwo
  rw [truncShare_eq, truncShare_eq]
  generalize (Dec.quo (Dec.ofInt ts) (Dec.ofInt T)).raw = y1 at hy1 u ⊢
  generalize (Dec.quo (Dec.ofInt a) (Dec.ofInt T)).raw = y2 at hy2 u ⊢
  have g1 := tdiv_mul_le (p.collateral * y1) Dec.prec (Int.mul_nonneg hc hy1) hP
  have g2 := tdiv_mul_le (p.collateral * y2) Dec.prec (Int.mul_nonneg hc hy2) hP
  generalize Int.tdiv (p.collateral * y1) Dec.prec = x at g1 ⊢
  generalize Int.tdiv (p.collateral * y2) Dec.prec = w at g2 ⊢
  generalize p.collateral = c at *
  -- otherwise `(c − 1)·10^18 ≤ c·y1 + c·y2`; times `10^18·T` this contradicts the bound on the two ratios and `hsh`
  by_contra hlt
  have n0 : (c - 1) * Dec.prec ≤ (x + w) * Dec.prec := Int.mul_le_mul_of_nonneg_right (by omega) hP.le
  have n1 : Dec.prec * T * ((c - 1) * Dec.prec) ≤ Dec.prec * T * (c * y1 + c * y2) :=
    Int.mul_le_mul_of_nonneg_left (by linarith) (Int.mul_nonneg hP.le hT.le)
  have v1 := Int.mul_le_mul_of_nonneg_left u hc
  have v3 := Int.mul_le_mul_of_nonneg_left hsh (Int.mul_nonneg hP.le hP.le)
  have v4 : c * (T * Dec.prec) < Dec.prec * (T * Dec.prec) :=
    Int.mul_lt_mul_of_pos_right (by omega) (Int.mul_pos hT hP)
  linarith

theorem feasible_of_books (s : State) (amount : Int) (hi : Shentu.Shield.Coll.CollInv s) (hT : 0 < s.totalCollateral)
    (hTP : s.totalCollateral < Dec.prec) (hamt : 0 ≤ amount)
    (hsh : 0 ≤ s.totalShield)
    (hsp : ∀ p ∈ s.providers, p.collateral = 0 ∨ SpareTwo (Dec.quo (Dec.ofInt s.totalShield) (Dec.ofInt s.totalCollateral))
      (Dec.quo (Dec.ofInt amount) (Dec.ofInt s.totalCollateral)) p) :
    Halt.feasible (Dec.quo (Dec.ofInt s.totalShield) (Dec.ofInt s.totalCollateral))
      (Dec.quo (Dec.ofInt amount) (Dec.ofInt s.totalCollateral)) s.providers s.totalShield amount = true :=
  feasible_of_spareTwo _ _ _ _ _ hsh hsp
    (sum_trunc_succ_ge amount s.totalCollateral s.providers hT hTP hamt (fun p hp => (hi.provNonneg p hp).1) hi.coll)

theorem spareTwo_of_books (s : State) (amount : Int) (hi : Shentu.Shield.Coll.CollInv s) (hT : 0 < s.totalCollateral)
    (hTP : s.totalCollateral < Dec.prec) (hsh : 0 ≤ s.totalShield) (hamt : 0 ≤ amount)
    (hshare : ∀ p ∈ s.providers, p.collateral = 0 ∨
      2 * s.totalCollateral ≤ p.collateral * (s.totalCollateral - s.totalShield - amount)) :
    ∀ p ∈ s.providers, p.collateral = 0 ∨ SpareTwo (Dec.quo (Dec.ofInt s.totalShield) (Dec.ofInt s.totalCollateral))
      (Dec.quo (Dec.ofInt amount) (Dec.ofInt s.totalCollateral)) p := by
  intro p hp
  have hc : ∀ q ∈ s.providers, 0 ≤ q.collateral := fun q hq => (hi.provNonneg q hq).1
  have hle := sumI_mem_le (·.collateral) s.providers hc p hp
  rw [← hi.coll] at hle
  rcases hshare p hp with h0 | h2
  · exact Or.inl h0
  · exact Or.inr (spareTwo_of_share p _ _ _ (hc p hp) hle hT hTP hsh hamt h2)

theorem amount_le_of_share (s : State) (amount : Int) (hi : Shentu.Shield.Coll.CollInv s) (hT : 0 < s.totalCollateral)
    (hshare : ∀ p ∈ s.providers, p.collateral = 0 ∨
      2 * s.totalCollateral ≤ p.collateral * (s.totalCollateral - s.totalShield - amount)) :
    s.totalShield + amount ≤ s.totalCollateral := by
  -- otherwise the unused collateral is negative, every provider is exempt as one without collateral, and there is none
  by_contra hgt
  have hz : ∀ p ∈ s.providers, p.collateral = 0 := fun p hp =>
    (hshare p hp).resolve_right fun h2 => by
      have := Int.mul_nonpos_of_nonneg_of_nonpos (hi.provNonneg p hp).1
        (show s.totalCollateral - s.totalShield - amount ≤ 0 by omega)
      omega
  rw [hi.coll, PoolLm.sumI_zero _ _ hz] at hT
  exact Int.lt_irrefl 0 hT

end Shentu.ReimbSplit
