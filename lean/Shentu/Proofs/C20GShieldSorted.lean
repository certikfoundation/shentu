import Shentu.Props.C03a
import Shentu.Proofs.ShieldMachine
import Shentu.Proofs.ShieldPoolLists
import Shentu.Props.C20
/-
  C20 (x/shield, over histories): the withdraw queue of the shield model stays ordered by completion time.

  `Props/C20.lean` shows that an import rebuilds the exported withdraw queue entry for entry when the queue is
  `sortedByTime`.  This file shows that the hypothesis holds on every reachable state: every successful operation
  of the model (every constructor of `Props.C03a.Op`) keeps the queue sorted, hence so does every history.
  No hypothesis on amounts or on the other books is needed.  The same sweep follows the fee clock `lastUpdate`: only the
  purchases start it and only the end-blocker moves it, so once started it stays started and the block fees are zero after
  every end-blocker.
-/
namespace Shentu.C20GShieldH
open Shentu Shentu.Shield Shentu.Props.C20 Shentu.Props.C03a

theorem sorted_iff_times (l : List Withdraw) :
    sortedByTime l ↔ List.Pairwise (fun a b : Int => a ≤ b) (l.map (·.time)) := by
  rw [sorted_iff_pairwise, List.pairwise_map]

theorem sorted_of_times_eq {l l' : List Withdraw} (h : l'.map (·.time) = l.map (·.time)) (hs : sortedByTime l) :
    sortedByTime l' := by
  rw [sorted_iff_times] at *; rw [h]; exact hs

theorem sorted_sublist {l l' : List Withdraw} (h : l'.Sublist l) (hs : sortedByTime l) : sortedByTime l' := by
  rw [sorted_iff_pairwise] at *; exact hs.sublist h

theorem removeLast_sublist {α} (p : α → Bool) (l : List α) : (removeLast p l).Sublist l := by
  rcases Coll.removeLast_cases p l with ⟨_, e⟩ | ⟨l1, x, l2, rfl, _, _, e⟩
  · rw [e]; exact List.Sublist.refl _
  · rw [e]; exact (List.Sublist.refl l1).append (List.sublist_cons_self x l2)

theorem removeFirst_sublist {α} (p : α → Bool) (l : List α) : (removeFirst p l).Sublist l := by
  rcases Coll.removeFirst_cases p l with ⟨_, e⟩ | ⟨l1, x, l2, rfl, _, _, e⟩
  · rw [e]; exact List.Sublist.refl _
  · rw [e]; exact (List.Sublist.refl l1).append (List.sublist_cons_self x l2)

@[simp] theorem setPool_lu (s : State) (p : Pool) : (setPool s p).lastUpdate = s.lastUpdate := rfl
@[simp] theorem setProvider_lu (s : State) (p : Provider) : (setProvider s p).lastUpdate = s.lastUpdate := rfl

/-- what every operation except the purchases and the end-blocker does to the two things an export relies on:
    a sorted withdraw queue stays sorted, and the fee clock `lastUpdate` is not touched -/
structure Keeps (s s' : State) : Prop where
  sorted : sortedByTime s.withdraws → sortedByTime s'.withdraws
  clock : s'.lastUpdate = s.lastUpdate

theorem Keeps.refl (s : State) : Keeps s s := ⟨id, rfl⟩
theorem Keeps.trans {s1 s2 s3 : State} (h1 : Keeps s1 s2) (h2 : Keeps s2 s3) : Keeps s1 s3 :=
  ⟨fun h => h2.sorted (h1.sorted h), h2.clock.trans h1.clock⟩
theorem Keeps.of_queue {s s' : State} (hq : s'.withdraws = s.withdraws) (hl : s'.lastUpdate = s.lastUpdate) : Keeps s s' :=
  ⟨fun h => hq ▸ h, hl⟩

theorem delayLoop_sorted (a : Addr) (t : Int) (ws : List Withdraw) (rem : Int) (q q' : List Withdraw)
    (hs : sortedByTime q) (h : delayLoop a t ws rem q = .ok q') : sortedByTime q' := by
  obtain ⟨ws', rem', hc, _⟩ := delayLoop_star h
  refine hc.keep (P := fun x => sortedByTime x.2.2) ?_ hs
  intro _ _ hr hq
  cases hr with
  | mk w ws rem q _ => exact insertWithdraw_sorted _ _ (sorted_sublist (removeLast_sublist _ _) hq)

theorem payoutWithdrawLoop_sorted (ws : List Withdraw) (u fw : Int) (q q' : List Withdraw)
    (hs : sortedByTime q) (h : payoutWithdrawLoop ws u fw q = .ok q') : sortedByTime q' := by
  obtain ⟨ws', u', hc⟩ := payoutWithdrawLoop_star h
  refine hc.keep (P := fun x => sortedByTime x.2.2.2) ?_ hs
  intro _ _ hr hq
  cases hr with
  | pass => exact hq
  | take w ws u fw q _ _ =>
    show sortedByTime (takenFrom w _ q)
    unfold takenFrom
    split
    · exact sorted_sublist (removeFirst_sublist _ _) hq
    · refine sorted_of_times_eq (PoolLm.replaceFirst_map_of_eq _ _ (·.time) ?_ q) hq
      intro _ _; rfl

/-- the entries an operation on the collateral book inserts are inserted in order; the walks over the queue remove entries
    or rewrite them in place -/
theorem Keeps.of_chain {s s' : State} (h : Star CollWrite s s') : Keeps s s' :=
  h.lift Keeps.refl Keeps.trans (fun w => by
    cases w with
    | requested => exact ⟨insertWithdraw_sorted _ _, rfl⟩
    | paidOut _ _ hq => exact ⟨fun hs => payoutWithdrawLoop_sorted _ _ _ _ _ hs hq, rfl⟩
    | delayed hq => exact ⟨fun hs => delayLoop_sorted _ _ _ _ _ _ hs hq, rfl⟩
    | dequeued => exact ⟨sorted_sublist List.filter_sublist, rfl⟩
    | rebonded | deposited | fresh | released => exact .of_queue rfl rfl)

theorem secureCollaterals_keeps (e : Env) (s s' : State) (poolID : Nat) (purchaser : Addr) (purchaseID : Nat)
    (loss duration : Int) (h : secureCollaterals e s poolID purchaser purchaseID loss duration = .ok s') : Keeps s s' := by
  obtain ⟨pool, lst, pu, s1, _, _, _, _, _, _, hloop, rfl⟩ := PoolLm.secureCollaterals_steps h
  exact (Keeps.of_chain (secureLoop_chain hloop)).trans (Keeps.of_queue rfl rfl)

theorem createReimbursement_keeps (e : Env) (l l' : Ledger) (s s' : State) (pid : Nat) (amount : Int)
    (beneficiary : Addr) (h : createReimbursement e l s pid amount beneficiary = .ok (l', s')) : Keeps s s' := by
  obtain ⟨left, s1, _, hloop, _, rfl⟩ := createReimbursement_ok e l l' s s' pid amount beneficiary h
  exact (Keeps.of_chain (reimburseLoop_chain hloop)).trans (Keeps.of_queue rfl rfl)

theorem claimEnds_keeps (e : Env) (l l' : Ledger) (s s' : State) (pid poolID : Nat) (restoreTo beneficiary : Addr)
    (purchaseID : Nat) (loss : Int) (o : ClaimOutcome)
    (h : claimEnds e l s pid poolID restoreTo beneficiary purchaseID loss o = .ok (l', s')) : Keeps s s' := by
  cases o <;> simp only [claimEnds] at h
  · exact createReimbursement_keeps e l l' s s' pid loss beneficiary h
  · cases h; exact Keeps.of_queue rfl rfl
  · cases h; rw [claimEnd, restoreShield_writes]; exact Keeps.of_queue rfl rfl
  · cases h; exact Keeps.refl s

theorem purchaseCore_lu (e : Env) (l l' : Ledger) (s s' : State) (poolID : Nat) (shield : Coins) (purchaser : Addr)
    (fees staking : Coins) (h : purchaseCore e l s poolID shield purchaser fees staking = .ok (l', s')) :
    s'.lastUpdate = if s.lastUpdate == zeroTime then e.t else s.lastUpdate := by
  obtain ⟨pool, s1, -, -, -, hpaid, rfl⟩ := PoolLm.purchaseCore_ok h
  rw [PoolLm.pcFinish_paid hpaid]

theorem purchase_lu (e : Env) (l l' : Ledger) (s s' : State) (poolID : Nat) (shield : Coins) (purchaser : Addr)
    (staking : Bool) (h : purchase e l s poolID shield purchaser staking = .ok (l', s')) :
    s'.lastUpdate = if s.lastUpdate == zeroTime then e.t else s.lastUpdate :=
  purchaseCore_lu _ _ _ _ _ _ _ _ _ _ (PoolLm.purchase_ok h).2.2

theorem createPool_lu (e : Env) (l l' : Ledger) (s s' : State) (creator : Addr) (shield fees : Coins) (sponsor : String)
    (sponsorAddr : Addr) (limit : Int) (h : createPool e l s creator shield fees sponsor sponsorAddr limit = .ok (l', s')) :
    s'.lastUpdate = if s.lastUpdate == zeroTime then e.t else s.lastUpdate := by
  -- the purchase runs on `s` with the new pool appended: another state, with the clock of `s`
  have hlu := purchaseCore_lu _ _ _ _ _ _ _ _ _ _ (PoolLm.createPool_ok h).2.2
  exact hlu

theorem updatePool_lu (e : Env) (l l' : Ledger) (s s' : State) (updater : Addr) (poolID : Nat) (shield fees : Coins)
    (limit : Int) (h : updatePool e l s updater poolID shield fees limit = .ok (l', s')) :
    s'.lastUpdate = s.lastUpdate ∨ s'.lastUpdate = if s.lastUpdate == zeroTime then e.t else s.lastUpdate := by
  obtain ⟨_, _, pool, s1, _, rfl, hcore | ⟨_, ⟨_, rfl⟩ | ⟨_, rfl⟩⟩⟩ := PoolLm.updatePool_ok h
  · exact Or.inr (purchaseCore_lu _ _ _ (setPool s _) _ _ _ _ _ _ hcore)
  · exact Or.inl rfl
  · exact Or.inl rfl

theorem expireAndDistribute_queue (e : Env) (s s' : State) (h : expireAndDistribute e s = .ok s') :
    s'.withdraws = s.withdraws := by rw [expireAndDistribute_writes h]

theorem endBlock_sorted (e : Env) (s s' : State) (hs : sortedByTime s.withdraws)
    (h : endBlock e s = .ok s') : sortedByTime s'.withdraws := by
  obtain ⟨s1, s2, h1, h2, rfl⟩ := PoolLm.endBlock_ok h
  exact (Keeps.of_chain (completeWithdrawals_chain h2)).sorted (expireAndDistribute_queue e s s1 h1 ▸ hs)

theorem endBlock_lu (e : Env) (s s' : State) (hl : s.lastUpdate ≠ zeroTime) (h : endBlock e s = .ok s') :
    s'.lastUpdate = e.t := by
  obtain ⟨s1, s2, h1, h2, rfl⟩ := PoolLm.endBlock_ok h
  exact (Keeps.of_chain (completeWithdrawals_chain h2)).clock.trans (PoolLm.expireAndDistribute_started hl h1).2

/-- the only operations that write the block time into `lastUpdate` while the clock runs are the end-blocker and its
    first half; their block time must not be Go's zero time -/
def Op.timeOk : Op → Prop
  | .endBlock e => e.t ≠ zeroTime
  | .expireAndDistribute e => e.t ≠ zeroTime
  | _ => True

theorem apply_keeps (op : Op) (w w' : World) (h : op.apply w = .ok w') :
    (sortedByTime w.2.withdraws → sortedByTime w'.2.withdraws) ∧
      (w.2.lastUpdate ≠ zeroTime → Op.timeOk op → w'.2.lastUpdate ≠ zeroTime) := by
  have hu := apply_untouched op w w' h
  obtain ⟨l, s⟩ := w
  obtain ⟨l', s'⟩ := w'
  have keep : ∀ {P : Prop}, Keeps s s' →
      (sortedByTime s.withdraws → sortedByTime s'.withdraws) ∧ (s.lastUpdate ≠ zeroTime → P → s'.lastUpdate ≠ zeroTime) :=
    fun k => ⟨k.sorted, fun hl _ => k.clock ▸ hl⟩
  cases hc : op.writesColl with
  | false =>
    have hq : s'.withdraws = s.withdraws := (hu.coll hc).2.1
    cases hm : op.movesClock with
    | false => exact keep (Keeps.of_queue hq (hu.clock hm))
    | true =>
      -- a purchase leaves the queue alone and a running clock running
      have bought : ∀ {x : Int}, (s'.lastUpdate = s.lastUpdate ∨ s'.lastUpdate = if s.lastUpdate == zeroTime then x else s.lastUpdate) →
          (sortedByTime s.withdraws → sortedByTime s'.withdraws) ∧ (s.lastUpdate ≠ zeroTime → Op.timeOk op → s'.lastUpdate ≠ zeroTime) :=
        fun hl => ⟨fun hs => hq ▸ hs, fun h0 _ => by
          rw [if_neg (by simpa using h0), or_self] at hl; rw [hl]; exact h0⟩
      cases op <;> cases hc <;> cases hm <;> simp only [Op.apply] at h
      case purchase.refl.refl e poolID shield purchaser staking => exact bought (Or.inr (purchase_lu e l l' s s' _ _ _ _ h))
      case createPool.refl.refl e creator shield fees sponsor sponsorAddr limit =>
        exact bought (Or.inr (createPool_lu e l l' s s' _ _ _ _ _ _ h))
      case updatePool.refl.refl e updater poolID shield fees limit => exact bought (updatePool_lu e l l' s s' _ _ _ _ _ h)
  | true =>
  cases hk : op.onColl with
  | true => exact keep (.of_chain (apply_chain op _ _ hk h))
  | false =>
  cases op <;> cases hc <;> cases hk <;> simp only [Op.apply] at h
  case withdrawRewards.refl.refl e a => rw [withdrawRewards_writes h]; exact ⟨id, fun hl _ => hl⟩
  case secureCollaterals.refl.refl e poolID purchaser purchaseID loss duration =>
    exact keep (secureCollaterals_keeps e s _ _ _ _ _ _ (Except.map_pair_ok h).2)
  case claimEnds.refl.refl e pid poolID restoreTo beneficiary purchaseID loss o =>
    exact keep (claimEnds_keeps e l l' s s' _ _ _ _ _ _ _ h)
  case createReimbursement.refl.refl e pid amount beneficiary =>
    exact keep (createReimbursement_keeps e l l' s s' pid amount beneficiary h)
  case endBlock.refl.refl e =>
    have hx := (Except.map_pair_ok h).2
    exact ⟨fun hs => endBlock_sorted e s _ hs hx, fun h0 ht => endBlock_lu e s _ h0 hx ▸ ht⟩
  case expireAndDistribute.refl.refl e =>
    have hx := (Except.map_pair_ok h).2
    exact ⟨fun hs => expireAndDistribute_queue e s _ hx ▸ hs, fun h0 ht => (PoolLm.expireAndDistribute_started h0 hx).2 ▸ ht⟩

theorem step_keeps (op : Op) (w : World) :
    (sortedByTime w.2.withdraws → sortedByTime (step op w).2.withdraws) ∧
      (w.2.lastUpdate ≠ zeroTime → Op.timeOk op → (step op w).2.lastUpdate ≠ zeroTime) :=
  step_ind (P := fun x => (sortedByTime w.2.withdraws → sortedByTime x.2.withdraws) ∧
    (w.2.lastUpdate ≠ zeroTime → Op.timeOk op → x.2.lastUpdate ≠ zeroTime)) op w ⟨id, fun hl _ => hl⟩ (apply_keeps op w)

theorem run_sorted (ops : List Op) (w : World) (hs : sortedByTime w.2.withdraws) :
    sortedByTime (run ops w).2.withdraws :=
  List.foldlRecOn (motive := fun w : World => sortedByTime w.2.withdraws) ops _ hs (fun w h op _ => (step_keeps op w).1 h)

theorem run_started (ops : List Op) (w : World) (hl : w.2.lastUpdate ≠ zeroTime) (ht : ∀ op ∈ ops, Op.timeOk op) :
    (run ops w).2.lastUpdate ≠ zeroTime :=
  List.foldlRecOn (motive := fun w : World => w.2.lastUpdate ≠ zeroTime) ops _ hl
    (fun w h op ho => (step_keeps op w).2 h (ht op ho))

theorem run_endBlock_blockFees_zero (ops : List Op) (w : World) (hl : w.2.lastUpdate ≠ zeroTime)
    (ht : ∀ op ∈ ops, Op.timeOk op) (e : Env) (s' : State) (h : endBlock e (run ops w).2 = .ok s') :
    s'.blockFees = Dec.zero :=
  block_fees_zero_after_endBlock e _ s' (run_started ops w hl ht) h

example : sortedByTime (Ex.l0, Ex.s0).2.withdraws := by simp [Ex.s0, sortedByTime]
example : sortedByTime (run Ex.hist (Ex.l0, Ex.s0)).2.withdraws := run_sorted _ _ (by simp [Ex.s0, sortedByTime])
example : ∀ op ∈ Ex.hist, Op.timeOk op := by
  intro op hop
  simp only [Ex.hist, List.mem_cons, List.not_mem_nil, or_false] at hop
  rcases hop with h | h | h | h | h | h <;> subst h <;> simp only [Op.timeOk] <;> decide

end Shentu.C20GShieldH
