import Shentu.Proofs.ShieldCollOps
import Shentu.Proofs.ShieldCollGhost
import Shentu.Proofs.ShieldLoops
import Shentu.Proofs.ShieldWrites
/-
  `CreateReimbursement`: the payout spread over the providers, and `DequeueCompletedWithdrawQueue`.  Neither keeps
  `CollInv` from round to round: a payout keeps `CollRest` and lowers the sum of the collaterals under their total until
  the end (`Spreads`), a release keeps `CollInv` of the queue with the entries still to be released put back (`Settles`);
  `reimburseLoop_spec` and `completeLoop_spec` are the lifts of the loops' chains (`reimburseLoop_star`, `completeLoop_star`)
  along these relations; `completeWithdrawals_spec` and `endBlock_spec` put the frame of the end-blocker around the second.
-/
namespace Shentu.Shield.Coll
open List

/-- the withdrawals forced by the staking hooks while a payout is spread over the providers (ghost log of `reimburseLoop`) -/
def reimburseLog (e : Env) (purchaseRatio payoutRatio : Dec) : List Provider → Int → Int → State → List Req
  | [], _, _, _ => []
  | p :: ps, totalPurchased, totalPayout, s =>
    if totalPayout ≤ 0 then []
    else
      let pur0 := min (Dec.truncateInt (Dec.mul (Dec.ofInt p.collateral) purchaseRatio)) totalPurchased
      let pay0 := min (Dec.truncateInt (Dec.mul (Dec.ofInt p.collateral) payoutRatio)) totalPayout
      let pur := if pur0 < totalPurchased && p.collateral > pay0 + pur0 then pur0 + 1 else pur0
      let pay := if pay0 < totalPayout && p.collateral > pay0 + pur then pay0 + 1 else pay0
      match updateProviderForPayout s p.addr pur pay with
      | .error _ => []
      | .ok s1 =>
        match stakingChanged e s1 p.addr with
        | .error _ => []
        | .ok s2 => changedLog e s1 p.addr ++ reimburseLog e purchaseRatio payoutRatio ps (totalPurchased - pur) (totalPayout - pay) s2

/-- what `reimburseLoop` guarantees when it starts in `CollRest` (as for `PayoutLike`, `rest` is then a fact) -/
structure Reimbursed (tpay left : Int) (log : List Req) (s s' : State) : Prop where
  rest : CollRest s'
  left_nonneg : 0 ≤ left
  sumColl : sumI (·.collateral) s'.providers = sumI (·.collateral) s.providers - (tpay - left)
  tc : s'.totalCollateral = s.totalCollateral
  params : s'.params = s.params
  grow : QGrow s.params.withdrawPeriod log s.withdraws s'.withdraws

theorem reimburseLog_cons (e : Env) (pr yr : Dec) (p : Provider) (ps : List Provider) (tp ty : Int) (s : State) :
    reimburseLog e pr yr (p :: ps) tp ty s =
      if ty ≤ 0 then []
      else
        match updateProviderForPayout s p.addr (Fund.payoutPur pr yr p tp ty) (Fund.payoutPay pr yr p tp ty) with
        | .error _ => []
        | .ok s1 =>
          match stakingChanged e s1 p.addr with
          | .error _ => []
          | .ok s2 =>
            changedLog e s1 p.addr ++
              reimburseLog e pr yr ps (tp - Fund.payoutPur pr yr p tp ty) (ty - Fund.payoutPay pr yr p tp ty) s2 := rfl

/-- A stretch of `reimburseLoop` entered in `CollRest` with non-negative snapshot collaterals and amounts still to be
    collected: it is left the same way; the providers' collateral has dropped by what was collected; the ghost log of
    the whole is the requests forced on the stretch followed by the log of what remains. -/
def Spreads (e : Env) (pr yr : Dec) : PayoutState → PayoutState → Prop
  | (ps, tp, ty, _, s), (ps', tp', ty', _, s') =>
    (∀ p ∈ ps, 0 ≤ p.collateral) → 0 ≤ tp → 0 ≤ ty → CollRest s →
      ((∀ p ∈ ps', 0 ≤ p.collateral) ∧ 0 ≤ tp' ∧ 0 ≤ ty' ∧ CollRest s') ∧
      sumI (·.collateral) s'.providers = sumI (·.collateral) s.providers - (ty - ty') ∧
      s'.totalCollateral = s.totalCollateral ∧ s'.params = s.params ∧
      ∃ log, reimburseLog e pr yr ps tp ty s = log ++ reimburseLog e pr yr ps' tp' ty' s' ∧
        QGrow s.params.withdrawPeriod log s.withdraws s'.withdraws

theorem Spreads.refl (e : Env) (pr yr : Dec) (a : PayoutState) : Spreads e pr yr a a := by
  obtain ⟨ps, tp, ty, l, s⟩ := a
  intro hps htp hty hr
  exact ⟨⟨hps, htp, hty, hr⟩, by omega, rfl, rfl, [], rfl, QGrow.refl _ _⟩

theorem Spreads.trans {e : Env} {pr yr : Dec} {a b c : PayoutState} (h1 : Spreads e pr yr a b) (h2 : Spreads e pr yr b c) :
    Spreads e pr yr a c := by
  obtain ⟨ps, tp, ty, l, s⟩ := a
  obtain ⟨ps1, tp1, ty1, l1, s1⟩ := b
  obtain ⟨ps2, tp2, ty2, l2, s2⟩ := c
  intro hps htp hty hr
  obtain ⟨⟨a1, a2, a3, a4⟩, a5, a6, a7, log1, a8, a9⟩ := h1 hps htp hty hr
  obtain ⟨b1, b5, b6, b7, log2, b8, b9⟩ := h2 a1 a2 a3 a4
  rw [a7] at b9
  exact ⟨b1, by rw [b5, a5]; omega, b6.trans a6, b7.trans a7, log1 ++ log2, by rw [a8, b8, List.append_assoc], a9.trans b9⟩

theorem PayoutRound.spreads {e : Env} {pr yr : Dec} (hpr : 0 ≤ pr.raw) {a b : PayoutState} (h : PayoutRound e pr yr a b) :
    Spreads e pr yr a b := by
  cases h with
  | mk p ps tp ty l s s1 s2 hty h1 h2 =>
  intro hps htp _ hr
  obtain ⟨hpur, hle⟩ := Fund.payoutPur_bounds pr yr p tp ty (hps p List.mem_cons_self) hpr htp
  have hpay := Fund.payoutPay_le pr yr p tp ty
  have g1 := updateProviderForPayout_payoutLike _ _ _ _ _ hr hpur h1
  obtain ⟨hr2, g2, _⟩ := stakingChanged_sound h2 g1.rest
  have w2 : s2.totalCollateral = s1.totalCollateral ∧ s2.params = s1.params := by rw [stakingChanged_writes h2]; exact ⟨rfl, rfl⟩
  refine ⟨⟨fun x hx => hps x (List.mem_cons_of_mem _ hx), by omega, by omega, hr2⟩, ?_, ?_, ?_,
    changedLog e s1 p.addr, ?_, ?_⟩
  · have := g1.sumColl; have := w2.1; omega
  · rw [w2.1, g1.tc]
  · rw [w2.2, g1.params]
  · rw [reimburseLog_cons, if_neg (by omega), h1]
    dsimp only
    rw [h2]
  · have q1 : QGrow s.params.withdrawPeriod [] s.withdraws s1.withdraws := g1.qgrow
    have q2 := stakingChanged_qgrow h2
    rw [g1.params] at q2
    exact q1.trans q2

theorem reimburseLoop_spec (e : Env) (pr payr : Dec) (hpr : 0 ≤ pr.raw) :
    ∀ (ps : List Provider) (tp tpay : Int) (l : Ledger) (s : State) (left : Int) (l' : Ledger) (s' : State),
      (∀ p ∈ ps, 0 ≤ p.collateral) → 0 ≤ tp → 0 ≤ tpay → CollRest s →
      reimburseLoop e pr payr ps tp tpay l s = .ok (left, l', s') →
      Reimbursed tpay left (reimburseLog e pr payr ps tp tpay s) s s' := by
  intro ps tp tpay l s left l' s' hps htp htpay hr h
  obtain ⟨ps', tp', hc, hend⟩ := reimburseLoop_star h
  obtain ⟨⟨_, _, hleft, hr'⟩, hsum, htc, hpar, log, hlog, hq⟩ :=
    hc.lift (Spreads.refl e pr payr) Spreads.trans (PayoutRound.spreads hpr) hps htp htpay hr
  -- nothing more is logged once the loop has stopped
  have hnil : reimburseLog e pr payr ps' tp' left s' = [] := by
    rcases hend with rfl | hle
    · rfl
    · cases ps' with
      | nil => rfl
      | cons p ps' => rw [reimburseLog_cons, if_pos hle]
  rw [hlog, hnil, List.append_nil]
  exact ⟨hr', hleft, hsum, htc, hpar, hq⟩

/-- the withdrawals forced while `CreateReimbursement` runs (ghost log) -/
def payoutLog (e : Env) (s : State) (amount : Int) : List Req :=
  reimburseLog e (Dec.quo (Dec.ofInt s.totalShield) (Dec.ofInt s.totalCollateral))
    (Dec.quo (Dec.ofInt amount) (Dec.ofInt s.totalCollateral)) s.providers s.totalShield amount s

theorem createReimbursement_inv {e : Env} {l l' : Ledger} {s s' : State} {pid : Nat} {amount : Int} {beneficiary : Addr}
    (hi : CollInv s) (hamt : 0 ≤ amount) (hsh : 0 ≤ s.totalShield)
    (h : createReimbursement e l s pid amount beneficiary = .ok (l', s')) :
    CollInv s' ∧ s'.totalCollateral = s.totalCollateral - amount ∧ s'.params = s.params ∧
      QGrow s.params.withdrawPeriod (payoutLog e s amount) s.withdraws s'.withdraws := by
  obtain ⟨left, s1, _, hloop, hleft, rfl⟩ := createReimbursement_ok e l l' s s' pid amount beneficiary h
  have htc : 0 ≤ s.totalCollateral := by
    rw [hi.coll]; exact sumI_nonneg _ _ (fun p hp => (hi.provNonneg p hp).1)
  have hpr : 0 ≤ (Dec.quo (Dec.ofInt s.totalShield) (Dec.ofInt s.totalCollateral)).raw :=
    Dec.quo_nonneg _ _ (Dec.ofInt_nonneg _ hsh) (Dec.ofInt_nonneg _ htc)
  have hR := reimburseLoop_spec e _ _ hpr _ _ _ _ _ _ _ _ (fun p hp => (hi.provNonneg p hp).1) hsh hamt hi.rest hloop
  -- all of the loss was collected: only now is `totalCollateral` lowered, by all of it
  obtain rfl : left = 0 := by have := hR.left_nonneg; omega
  refine ⟨(collInv_iff _).mpr ⟨?_, hR.rest.wdr, hR.rest.wdrQ, hR.rest.wdrOwner, hR.rest.wdrPos, hR.rest.provNonneg, hR.rest.nodup⟩,
    rfl, hR.params, hR.grow⟩
  show s.totalCollateral - amount = sumI _ s1.providers
  rw [hR.sumColl, hi.coll]; omega

theorem wsum_filter (r p : Withdraw → Bool) (q : List Withdraw) : wsum r (q.filter p) = wsum (fun w => r w && p w) q := by
  unfold wsum; rw [List.filter_filter]

/-- A stretch of `completeLoop`.  The loop runs on a state whose queue has already lost the matured entries, so `CollInv`
    does not hold of the state itself: what is kept is `CollInv` with the entries still to be released put back; and
    collateral minus what is still to be released is constant. -/
def Settles (a b : List Withdraw × State) : Prop :=
  CollInv { a.2 with withdraws := a.2.withdraws ++ a.1 } →
    CollInv { b.2 with withdraws := b.2.withdraws ++ b.1 } ∧ b.2.withdraws = a.2.withdraws ∧ b.2.params = a.2.params ∧
    (∀ x, collOf b.2 x - wsum (fun w => w.addr == x) b.1 = collOf a.2 x - wsum (fun w => w.addr == x) a.1) ∧
    (∀ x, wdgOf b.2 x - wsum (fun w => w.addr == x) b.1 = wdgOf a.2 x - wsum (fun w => w.addr == x) a.1)

theorem Settles.refl (a : List Withdraw × State) : Settles a a := fun h => ⟨h, rfl, rfl, fun _ => rfl, fun _ => rfl⟩

theorem Settles.trans {a b c : List Withdraw × State} (h1 : Settles a b) (h2 : Settles b c) : Settles a c := by
  intro h
  obtain ⟨a1, a2, a3, a4, a5⟩ := h1 h
  obtain ⟨b1, b2, b3, b4, b5⟩ := h2 a1
  exact ⟨b1, b2.trans a2, b3.trans a3, fun x => (b4 x).trans (a4 x), fun x => (b5 x).trans (a5 x)⟩

theorem Release.settles {a b : List Withdraw × State} (h : Release a b) : Settles a b := by
  cases h with
  | mk w ws s p hf =>
  intro hi
  rw [collInv_iff] at hi
  obtain ⟨hcoll, hr⟩ := hi
  have hfS : findProvider { s with withdraws := s.withdraws ++ w :: ws } w.addr = some p := hf
  have hnn := hr.provNonneg p (findProvider_some hf).1
  have hp' : ({ p with collateral := p.collateral - w.amount, withdrawing := p.withdrawing - w.amount } : Provider).addr = w.addr :=
    (findProvider_some hf).2
  -- with the entries still to be released put back, the round takes `w` out of the queue
  have hq : QueueWrite w.addr (-w.amount) (s.withdraws ++ w :: ws) (s.withdraws ++ ws) :=
    .of_perm (l := [w]) (l' := []) perm_middle (.refl _) (by simp) (by simp) (by simp only [sumI_nil, sumI_cons]; omega)
  have hT : CollInv { released s p w with withdraws := (released s p w).withdraws ++ ws } := by
    rw [collInv_iff]
    refine ⟨?_, hr.write hfS hp' rfl hq (Int.sub_eq_add_neg ..) (Int.sub_eq_add_neg ..) (by simp only; omega)⟩
    show s.totalCollateral - w.amount = sumI _ (updP _ _)
    rw [sumColl_update hr.nodup hf hp']
    simp only; simp only at hcoll; omega
  have step : ∀ (v v' : Addr → Int) (x : Int), v w.addr = x → (∀ b, v' b = if b = w.addr then x - w.amount else v b) →
      ∀ b, v' b - wsum (fun y => y.addr == b) ws = v b - wsum (fun y => y.addr == b) (w :: ws) := by
    intro v v' x hx hv b
    rw [hv b, wsum_cons]
    by_cases hb : b = w.addr
    · subst hb; simp only [if_true, beq_self_eq_true]; omega
    · have hb' : (w.addr == b) = false := by simpa using fun h => hb h.symm
      simp only [hb, hb', if_false]; simp
  exact ⟨hT, rfl, rfl,
    step _ _ _ (collOf_found hf) (collOf_update hf (s' := released s p w) hp' rfl),
    step _ _ _ (wdgOf_found hf) (wdgOf_update hf (s' := released s p w) hp' rfl)⟩

theorem completeLoop_spec :
    ∀ (ws : List Withdraw) (s s' : State), CollInv { s with withdraws := s.withdraws ++ ws } → completeLoop ws s = .ok s' →
      CollInv s' ∧ s'.withdraws = s.withdraws ∧ s'.params = s.params ∧
      (∀ b, collOf s' b = collOf s b - wsum (fun w => w.addr == b) ws) ∧
      (∀ b, wdgOf s' b = wdgOf s b - wsum (fun w => w.addr == b) ws) := by
  intro ws s s' hi h
  obtain ⟨g1, g2, g3, g4, g5⟩ := (completeLoop_star h).lift Settles.refl Settles.trans Release.settles hi
  simp only [List.append_nil] at g1
  exact ⟨g1, g2, g3, fun b => by have := g4 b; simp only [wsum_nil] at this; omega, fun b => by have := g5 b; simp only [wsum_nil] at this; omega⟩

theorem completeWithdrawals_spec {e : Env} {s s' : State} (hi : CollInv s) (h : completeWithdrawals e s = .ok s') :
    CollInv s' ∧ s'.withdraws = s.withdraws.filter (fun w => !(decide (w.time ≤ e.t))) ∧ s'.params = s.params ∧
    (∀ b, collOf s' b = collOf s b - dueBy b e.t s.withdraws) ∧
    (∀ b, wdgOf s' b = wdgOf s b - dueBy b e.t s.withdraws) := by
  unfold completeWithdrawals at h
  dsimp only at h
  have hperm : s.withdraws ~ s.withdraws.filter (fun w => !(decide (w.time ≤ e.t))) ++ s.withdraws.filter (fun w => decide (w.time ≤ e.t)) :=
    ((filter_append_perm _ s.withdraws).symm).trans perm_append_comm
  have h0 := hi.perm hperm
  obtain ⟨g1, g2, g3, g4, g5⟩ := completeLoop_spec _ _ _ h0 h
  have hdue : ∀ b, wsum (fun w => w.addr == b) (s.withdraws.filter (fun w => decide (w.time ≤ e.t))) = dueBy b e.t s.withdraws :=
    fun b => wsum_filter _ _ _
  exact ⟨g1, g2, g3, fun b => by rw [g4 b, hdue]; rfl, fun b => by rw [g5 b, hdue]; rfl⟩

theorem completeLoop_total :
    ∀ (ws : List Withdraw) (s : State), (∀ w ∈ ws, ∃ p, findProvider s w.addr = some p) → ∃ s', completeLoop ws s = .ok s' := by
  intro ws
  induction ws with
  | nil => intro s _; exact ⟨s, rfl⟩
  | cons w ws ih =>
    intro s h
    obtain ⟨p, hp⟩ := h w List.mem_cons_self
    unfold completeLoop
    rw [hp]
    dsimp only
    apply ih
    intro x hx
    obtain ⟨p2, hp2⟩ := h x (List.mem_cons_of_mem _ hx)
    show ∃ y, findProvider (setProvider s _) x.addr = some y
    rw [findProvider_setProvider]
    split
    · rw [hp2]; exact ⟨_, rfl⟩
    · exact ⟨p2, hp2⟩

theorem completeWithdrawals_total (e : Env) (s : State) (hi : CollInv s) : ∃ s', completeWithdrawals e s = .ok s' := by
  unfold completeWithdrawals
  apply completeLoop_total
  intro w hw
  exact hi.rest.owner_addr (List.mem_filter.mp hw).1

theorem endBlock_spec (e : Env) (s s' : State) (hi : CollInv s) (h : endBlock e s = .ok s') :
    CollInv s' ∧ s'.withdraws = s.withdraws.filter (fun w => !(decide (w.time ≤ e.t))) ∧ s'.params = s.params ∧
    (∀ b, collOf s' b = collOf s b - dueBy b e.t s.withdraws) ∧
    (∀ b, wdgOf s' b = wdgOf s b - dueBy b e.t s.withdraws) := by
  obtain ⟨s1, s2, hs1, hs2, rfl⟩ := PoolLm.endBlock_ok h
  have f1 := expireAndDistribute_frame e s s1 hs1
  obtain ⟨g1, g2, g3, g4, g5⟩ := completeWithdrawals_spec (f1.same.inv hi) hs2
  have f3 : Frame s2 (closePools s2) := Frame.mk' rfl rfl rfl rfl rfl
  refine ⟨f3.same.inv g1, ?_, ?_, ?_, ?_⟩
  · rw [f3.same.queue, g2, f1.same.queue]
  · rw [f3.params, g3, f1.params]
  · intro b; rw [f3.same.collOf, g4, f1.same.collOf, f1.same.queue]
  · intro b; rw [f3.same.wdgOf, g5, f1.same.wdgOf, f1.same.queue]

theorem claimEnds_frame {e : Env} {l l' : Ledger} {s s' : State} {pid poolID : Nat} {restoreTo beneficiary : Addr}
    {purchaseID : Nat} {loss : Int} {o : ClaimOutcome}
    (h : claimEnds e l s pid poolID restoreTo beneficiary purchaseID loss o = .ok (l', s')) (ho : o ≠ .paid) : Frame s s' := by
  unfold claimEnds at h
  cases o with
  | paid => exact absurd rfl ho
  | vetoed => cases h; exact Frame.mk' rfl rfl rfl rfl rfl
  | rejected => cases h; rw [restoreShield_writes]; exact Frame.mk' rfl rfl rfl rfl rfl
  | failed => cases h; exact Frame.refl s

theorem claimEnds_inv {e : Env} {l l' : Ledger} {s s' : State} {pid poolID : Nat} {restoreTo beneficiary : Addr}
    {purchaseID : Nat} {loss : Int} {o : ClaimOutcome} (hi : CollInv s)
    (hadm : o = .paid → 0 ≤ loss ∧ 0 ≤ s.totalShield)
    (h : claimEnds e l s pid poolID restoreTo beneficiary purchaseID loss o = .ok (l', s')) : CollInv s' := by
  cases o with
  | paid => exact (createReimbursement_inv hi (hadm rfl).1 (hadm rfl).2 h).1
  | _ => exact (claimEnds_frame h nofun).same.inv hi

end Shentu.Shield.Coll
