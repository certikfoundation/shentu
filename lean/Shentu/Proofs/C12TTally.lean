import Shentu.Proofs.C12TSum
import Shentu.Proofs.Keys
import Shentu.Props.C10
/-
  The accumulation performed by the stake round of governance (`Gov.stakeTally`) in closed form: the two loops, the
  validator table they leave, the list of counted pieces (which shares are counted, for which option, through whom),
  and the independence of the order of the votes.
-/
namespace Shentu.C12TH
open Shentu Shentu.Gov

/-- a delegation as governance sees it: delegator, validator, shares -/
abbrev Del := Addr × Addr × Dec

/-- the voting power the chain attributes to `s` shares of a validator with `vs` shares and `vt` bonded tokens -/
def pw (s vs : Dec) (vt : Int) : Dec := Dec.mulInt (Dec.quo s vs) vt

theorem addList_perm (r : Results) {l₁ l₂ : List (Nat × Dec)} (p : l₁.Perm l₂) : addList r l₁ = addList r l₂ :=
  p.foldl_eq' (fun x _ y _ b => addTo_comm b x.1 y.1 x.2 y.2) r

/-- one counted piece: `shares` of validator `val` (which has `vshares` shares and `vtokens` tokens) counted for `option` -/
structure Piece where
  val : Addr
  option : Nat
  shares : Dec
  vshares : Dec
  vtokens : Int

def Piece.power (p : Piece) : Dec := pw p.shares p.vshares p.vtokens


def addPieces (r : Results) (ps : List Piece) : Results := addList r (ps.map (fun p => (p.option, p.power)))

theorem addPieces_append (r : Results) (l₁ l₂ : List Piece) : addPieces r (l₁ ++ l₂) = addPieces (addPieces r l₁) l₂ := by
  simp only [addPieces, List.map_append, addList_append]

/-- one delegation of a voting delegator (the body of the loop in `delegatorVoting`) -/
def dedStep (o : Nat) (acc : List ValInfo × Results) (d : Del) : List ValInfo × Results :=
  match acc.1.find? (·.addr == d.2.1) with
  | none => acc
  | some vi =>
    let power := Dec.mulInt (Dec.quo d.2.2 vi.shares) vi.tokens
    (acc.1.map (fun x => if x.addr == vi.addr then { x with deductions := Dec.add x.deductions d.2.2 } else x),
     acc.2.addTo o power)

theorem delegatorVoting_eq (e : Env) (v : Vote) (vals : List ValInfo) (r : Results) :
    delegatorVoting e v vals r = (e.stake.dels.filter (·.1 == v.voter)).foldl (dedStep v.option) (vals, r) := rfl

/-- one vote (the body of the vote loop in `stakeTally`) -/
def voteStep (e : Env) (acc : List ValInfo × Results) (v : Vote) : List ValInfo × Results :=
  if acc.1.any (·.addr == v.voter) then
    (acc.1.map (fun x => if x.addr == v.voter then { x with vote := v.option } else x), acc.2)
  else delegatorVoting e v acc.1 acc.2

/-- the validator table the tally starts from -/
def vals0 (e : Env) : List ValInfo :=
  e.stake.vals.map (fun v => { addr := v.1, tokens := v.2.1, shares := v.2.2, deductions := Dec.zero, vote := 0 })

def voteLoop (e : Env) (votes : List Vote) : List ValInfo × Results :=
  votes.foldl (voteStep e) (vals0 e, ({} : Results))

/-- the accumulated `Results` of the stake round over `votes` (in the given order) -/
def stakeResults (e : Env) (votes : List Vote) : Results :=
  (voteLoop e votes).1.foldl Props.C10.valStep (voteLoop e votes).2

/-- the tally parameters and decision applied to the accumulated results -/
def decide (e : Env) (g : State) (p : Proposal) (cd : Int) (r : Results) : Bool × Bool :=
  let tp := if Gen.Gov.certStakeTallyKinds.contains p.kind then g.params.certStake else g.params.default
  if p.kind == "claim" then claimPassVeto cd r tp else stakePassVeto e.stake.totalBonded r tp

def lookOf (vals : List ValInfo) (a : Addr) : Option (Dec × Int) :=
  (vals.find? (·.addr == a)).map (fun vi => (vi.shares, vi.tokens))

theorem lookOf_map (vals : List ValInfo) {f : ValInfo → ValInfo}
    (hf : ∀ x, (f x).addr = x.addr ∧ (f x).shares = x.shares ∧ (f x).tokens = x.tokens) :
    lookOf (vals.map f) = lookOf vals := by
  funext a
  unfold lookOf
  induction vals with
  | nil => rfl
  | cons x xs ih =>
    simp only [List.map_cons, List.find?_cons, (hf x).1]
    cases hx : (x.addr == a) with
    | true => simp only [Option.map_some, (hf x).2.1, (hf x).2.2]
    | false => simpa only [Bool.false_eq_true, if_false] using ih

theorem any_map_addr (vals : List ValInfo) (f : ValInfo → ValInfo) (hf : ∀ x, (f x).addr = x.addr) (a : Addr) :
    (vals.map f).any (·.addr == a) = vals.any (·.addr == a) := by
  induction vals with
  | nil => rfl
  | cons x xs ih => simp only [List.map_cons, List.any_cons, hf x, ih]

/-- Both loops of the tally have this form: every step rewrites the records of the validator table in place (`F`;
    addresses, shares and tokens stay, hence the lookups and the set `isV` of addresses in the table) and adds the
    pieces that depend on the table through its lookups only (`C`).  So the table goes through the steps record
    by record, and all pieces are those computed from the initial table. -/
theorem foldl_table {α} {step : List ValInfo × Results → α → List ValInfo × Results} {F : α → ValInfo → ValInfo}
    {C : (Addr → Option (Dec × Int)) → α → List Piece} {isV : Addr → Bool}
    (hF : ∀ a x, (F a x).addr = x.addr ∧ (F a x).shares = x.shares ∧ (F a x).tokens = x.tokens)
    (hstep : ∀ vals r a, (∀ b, vals.any (·.addr == b) = isV b) →
      step (vals, r) a = (vals.map (F a), addPieces r (C (lookOf vals) a))) :
    ∀ (l : List α) (vals : List ValInfo) (r : Results), (∀ b, vals.any (·.addr == b) = isV b) →
      l.foldl step (vals, r) =
        (vals.map (fun x => l.foldl (fun x a => F a x) x), addPieces r (l.flatMap (C (lookOf vals))))
  | [], vals, r, _ => by simp only [List.foldl_nil, List.map_id', List.flatMap_nil, addPieces, List.map_nil, addList_nil]
  | a :: l, vals, r, h => by
    rw [List.foldl_cons, hstep vals r a h,
      foldl_table hF hstep l _ _ (fun b => (any_map_addr _ _ (fun x => (hF a x).1) b).trans (h b)),
      lookOf_map _ (hF a), List.map_map, List.flatMap_cons, addPieces_append]
    rfl

/-- the pieces counted through a list of (option, delegation) pairs: one per delegation to a validator in the table -/
def contribs (look : Addr → Option (Dec × Int)) (ods : List (Nat × Del)) : List Piece :=
  ods.filterMap (fun od => (look od.2.2.1).map (fun st => ⟨od.2.2.1, od.1, od.2.2.2, st.1, st.2⟩))

theorem contribs_append (look : Addr → Option (Dec × Int)) (l₁ l₂ : List (Nat × Del)) :
    contribs look (l₁ ++ l₂) = contribs look l₁ ++ contribs look l₂ := by
  simp [contribs, List.filterMap_append]

theorem contribs_flatMap {α} (look : Addr → Option (Dec × Int)) (g : α → List (Nat × Del)) (l : List α) :
    l.flatMap (fun a => contribs look (g a)) = contribs look (l.flatMap g) := by
  induction l with
  | nil => rfl
  | cons a l ih => rw [List.flatMap_cons, List.flatMap_cons, contribs_append, ih]

/-- the deductions a list of delegations adds to a validator record -/
def addDed (ds : List Del) (x : ValInfo) : ValInfo :=
  { x with deductions := ⟨x.deductions.raw + sumOn (ds.filter (·.2.1 == x.addr)) (·.2.2.raw)⟩ }

/-- what one delegation of a voting delegator does to a validator record -/
def deduct (d : Del) (x : ValInfo) : ValInfo :=
  if x.addr == d.2.1 then { x with deductions := Dec.add x.deductions d.2.2 } else x

theorem deduct_frame (d : Del) (x : ValInfo) :
    (deduct d x).addr = x.addr ∧ (deduct d x).shares = x.shares ∧ (deduct d x).tokens = x.tokens := by
  unfold deduct; split <;> exact ⟨rfl, rfl, rfl⟩

theorem foldl_deduct (ds : List Del) (x : ValInfo) : ds.foldl (fun x d => deduct d x) x = addDed ds x := by
  induction ds generalizing x with
  | nil => simp [addDed]
  | cons d ds ih =>
    rw [List.foldl_cons, ih, deduct, BEq.comm]
    cases hx : (d.2.1 == x.addr) <;> simp [addDed, hx, Dec.add, Int.add_assoc]


theorem dedStep_eq (o : Nat) (vals : List ValInfo) (r : Results) (d : Del) :
    dedStep o (vals, r) d = (vals.map (deduct d), addPieces r (contribs (lookOf vals) [(o, d)])) := by
  cases hf : vals.find? (·.addr == d.2.1) with
  | none =>
    have hm : vals.map (deduct d) = vals :=
      (List.map_congr_left fun x hx => if_neg (List.find?_eq_none.mp hf x hx)).trans (List.map_id _)
    simp [dedStep, hm, contribs, lookOf, hf, addPieces]
  | some vi =>
    have hva : vi.addr = d.2.1 := by
      have := List.find?_some hf
      exact beq_iff_eq.mp this
    simp only [dedStep, hf, hva, contribs, lookOf, List.filterMap_cons, List.filterMap_nil, Option.map_some,
      addPieces, List.map_cons, List.map_nil, addList_cons, addList_nil]
    rfl

theorem dedFold (o : Nat) (ds : List Del) (vals : List ValInfo) (r : Results) :
    ds.foldl (dedStep o) (vals, r) =
      (vals.map (addDed ds), addPieces r (contribs (lookOf vals) (ds.map (fun d => (o, d))))) := by
  rw [foldl_table (C := fun look d => contribs look [(o, d)]) deduct_frame
      (fun vals r d _ => dedStep_eq o vals r d) ds vals r (fun _ => rfl),
    contribs_flatMap, ← List.map_eq_flatMap]
  simp only [foldl_deduct]

/-- the option a validator record ends with: the last vote cast from the validator's own address -/
def voteOf (votes : List Vote) (a : Addr) (dflt : Nat) : Nat :=
  votes.foldl (fun o v => if v.voter == a then v.option else o) dflt

@[simp] theorem voteOf_nil (a : Addr) (dflt : Nat) : voteOf [] a dflt = dflt := rfl
theorem voteOf_cons (v : Vote) (vs : List Vote) (a : Addr) (dflt : Nat) :
    voteOf (v :: vs) a dflt = voteOf vs a (if v.voter == a then v.option else dflt) := rfl

/-- the (option, delegation) pairs that the delegator branch of the vote loop processes, in processing order:
    for every vote whose voter is not a bonded validator, all the voter's delegations -/
def votedDels (isV : Addr → Bool) (dels : List Del) (votes : List Vote) : List (Nat × Del) :=
  (votes.filter (fun v => !isV v.voter)).flatMap (fun v => (dels.filter (·.1 == v.voter)).map (fun d => (v.option, d)))

theorem votedDels_cons_val (isV : Addr → Bool) (dels : List Del) (v : Vote) (vs : List Vote) (h : isV v.voter = true) :
    votedDels isV dels (v :: vs) = votedDels isV dels vs := by
  simp [votedDels, h]

theorem votedDels_cons_del (isV : Addr → Bool) (dels : List Del) (v : Vote) (vs : List Vote) (h : isV v.voter = false) :
    votedDels isV dels (v :: vs) =
      (dels.filter (·.1 == v.voter)).map (fun d => (v.option, d)) ++ votedDels isV dels vs := by
  simp [votedDels, h, List.flatMap_cons]

/-- what the vote loop does to one validator record -/
def updV (isV : Addr → Bool) (dels : List Del) (votes : List Vote) (x : ValInfo) : ValInfo :=
  { x with vote := voteOf votes x.addr x.vote,
           deductions := ⟨x.deductions.raw +
             sumOn ((votedDels isV dels votes).filter (fun od => od.2.2.1 == x.addr)) (fun od => od.2.2.2.raw)⟩ }

theorem updV_frame (isV : Addr → Bool) (dels : List Del) (votes : List Vote) (x : ValInfo) :
    (updV isV dels votes x).addr = x.addr ∧ (updV isV dels votes x).shares = x.shares ∧
      (updV isV dels votes x).tokens = x.tokens := ⟨rfl, rfl, rfl⟩

/-- what one vote does to the record `x` of a validator -/
def voteRec (isV : Addr → Bool) (dels : List Del) (v : Vote) (x : ValInfo) : ValInfo :=
  if isV v.voter then (if x.addr == v.voter then { x with vote := v.option } else x)
  else addDed (dels.filter (·.1 == v.voter)) x

theorem voteRec_frame (isV : Addr → Bool) (dels : List Del) (v : Vote) (x : ValInfo) :
    (voteRec isV dels v x).addr = x.addr ∧ (voteRec isV dels v x).shares = x.shares ∧
      (voteRec isV dels v x).tokens = x.tokens := by
  unfold voteRec
  split
  · split <;> exact ⟨rfl, rfl, rfl⟩
  · exact ⟨rfl, rfl, rfl⟩

theorem voteStep_eq (e : Env) (isV : Addr → Bool) (vals : List ValInfo) (r : Results) (v : Vote)
    (h : ∀ a, vals.any (·.addr == a) = isV a) :
    voteStep e (vals, r) v = (vals.map (voteRec isV e.stake.dels v),
      addPieces r (contribs (lookOf vals) (votedDels isV e.stake.dels [v]))) := by
  unfold voteStep voteRec
  rw [h]
  cases hv : isV v.voter with
  | true => simp only [if_true, votedDels_cons_val _ _ _ _ hv]; rfl
  | false =>
    simp only [Bool.false_eq_true, if_false, delegatorVoting_eq, dedFold, votedDels_cons_del _ _ _ _ hv]
    rw [show votedDels isV e.stake.dels [] = [] from rfl, List.append_nil]

theorem updV_cons (isV : Addr → Bool) (dels : List Del) (v : Vote) (vs : List Vote) (x : ValInfo)
    (hx : isV x.addr = true) : updV isV dels (v :: vs) x = updV isV dels vs (voteRec isV dels v x) := by
  unfold voteRec
  cases hv : isV v.voter with
  | true =>
    simp only [updV, voteOf_cons, votedDels_cons_val _ _ _ _ hv, BEq.comm (a := v.voter), if_true]
    cases (x.addr == v.voter) <;> rfl
  | false =>
    -- the voter is not in the table and `x` is, so the vote is not cast from the address of `x`
    have h2 : (v.voter == x.addr) = false := beq_false_of_ne (fun h => by rw [h, hx] at hv; cases hv)
    simp only [updV, addDed, voteOf_cons, h2, Bool.false_eq_true, if_false, votedDels_cons_del _ _ _ _ hv,
      List.filter_append, sumOn_append, List.filter_map, sumOn_map, Function.comp_def, Int.add_assoc]

theorem foldl_voteRec (isV : Addr → Bool) (dels : List Del) (votes : List Vote) (x : ValInfo) (hx : isV x.addr = true) :
    votes.foldl (fun x v => voteRec isV dels v x) x = updV isV dels votes x := by
  induction votes generalizing x with
  | nil => simp [updV, votedDels]
  | cons v vs ih => rw [List.foldl_cons, ih _ ((voteRec_frame isV dels v x).1.symm ▸ hx), updV_cons _ _ _ _ _ hx]

theorem loopFold (e : Env) (isV : Addr → Bool) (votes : List Vote) (vals : List ValInfo) (r : Results)
    (h : ∀ a, vals.any (·.addr == a) = isV a) :
    votes.foldl (voteStep e) (vals, r) =
      (vals.map (updV isV e.stake.dels votes),
       addPieces r (contribs (lookOf vals) (votedDels isV e.stake.dels votes))) := by
  have hvd : votes.flatMap (fun v => votedDels isV e.stake.dels [v]) = votedDels isV e.stake.dels votes := by
    induction votes with
    | nil => rfl
    | cons v vs ih =>
      rw [List.flatMap_cons, ih]
      show _ = votedDels isV e.stake.dels ([v] ++ vs)
      simp only [votedDels, List.filter_append, List.flatMap_append]
  rw [foldl_table (C := fun look v => contribs look (votedDels isV e.stake.dels [v])) (voteRec_frame isV e.stake.dels)
    (voteStep_eq e isV) votes vals r h, contribs_flatMap, hvd]
  congr 1
  refine List.map_congr_left fun x hx => foldl_voteRec isV _ votes x ?_
  rw [← h]
  exact List.any_eq_true.mpr ⟨x, hx, beq_self_eq_true _⟩

/-- the piece counted through a validator record: its shares minus the deductions, if it voted -/
def valPiece (vi : ValInfo) : Option Piece :=
  if vi.vote == 0 then none else some ⟨vi.addr, vi.vote, Dec.sub vi.shares vi.deductions, vi.shares, vi.tokens⟩

theorem valFold : ∀ (vals : List ValInfo) (r : Results),
    vals.foldl Props.C10.valStep r = addPieces r (vals.filterMap valPiece) := by
  intro vals
  induction vals with
  | nil => intro r; rfl
  | cons x xs ih =>
    intro r
    simp only [List.foldl_cons, ih, List.filterMap_cons, valPiece, Props.C10.valStep]
    cases hx : (x.vote == 0) with
    | true => simp
    | false => simp [addPieces, Piece.power, pw]

/-- the validator table after the vote loop -/
def finalVals (e : Env) (votes : List Vote) : List ValInfo :=
  (vals0 e).map (updV (isValidator e) e.stake.dels votes)

theorem vals0_any (e : Env) (a : Addr) : (vals0 e).any (·.addr == a) = isValidator e a := by
  simp only [vals0, isValidator, List.any_map]
  rfl

/-- pieces counted through delegators: one per delegation (to a bonded validator) of a voting delegator -/
def delPieces (e : Env) (votes : List Vote) : List Piece :=
  (votedDels (isValidator e) e.stake.dels votes).filterMap (fun od =>
    (lookOf (vals0 e) od.2.2.1).map (fun st => ⟨od.2.2.1, od.1, od.2.2.2, st.1, st.2⟩))

/-- pieces counted through validators: one per validator that voted — its shares minus the deductions -/
def valPieces (e : Env) (votes : List Vote) : List Piece :=
  (finalVals e votes).filterMap (fun vi =>
    if vi.vote == 0 then none else some ⟨vi.addr, vi.vote, Dec.sub vi.shares vi.deductions, vi.shares, vi.tokens⟩)

def pieces (e : Env) (votes : List Vote) : List Piece := delPieces e votes ++ valPieces e votes

theorem voteLoop_eq (e : Env) (votes : List Vote) :
    voteLoop e votes = (finalVals e votes, addPieces ({} : Results) (delPieces e votes)) := by
  unfold voteLoop finalVals
  exact loopFold e (isValidator e) votes (vals0 e) _ (vals0_any e)

theorem results_are_pieces (e : Env) (votes : List Vote) :
    stakeResults e votes = addList ({} : Results) ((pieces e votes).map (fun p => (p.option, p.power))) := by
  unfold stakeResults
  rw [voteLoop_eq, valFold, ← addPieces_append]
  rfl

/-- every voter appears once (what `setVote` guarantees for the votes of one proposal) -/
def VotersDistinct (votes : List Vote) : Prop := (votes.map (·.voter)).Nodup

/-- the option voted from address `a` (0 = no vote) -/
def voteAt (votes : List Vote) (a : Addr) : Nat :=
  match votes.find? (·.voter == a) with
  | some v => v.option
  | none => 0

def hasVoted (votes : List Vote) (a : Addr) : Bool := votes.any (·.voter == a)

/-- the address voted and is not the operator address of a bonded validator: the delegator branch of the tally -/
def delegatorVoted (e : Env) (votes : List Vote) (a : Addr) : Bool := !isValidator e a && hasVoted votes a

theorem VotersDistinct.cons {v : Vote} {vs : List Vote} (h : VotersDistinct (v :: vs)) :
    v.voter ∉ vs.map (·.voter) ∧ VotersDistinct vs := List.nodup_cons.mp h

@[simp] theorem voteAt_nil (a : Addr) : voteAt [] a = 0 := rfl
theorem voteAt_cons (v : Vote) (vs : List Vote) (a : Addr) :
    voteAt (v :: vs) a = if v.voter == a then v.option else voteAt vs a := by
  unfold voteAt
  simp only [List.find?_cons]
  cases (v.voter == a) <;> rfl
@[simp] theorem hasVoted_nil (a : Addr) : hasVoted [] a = false := rfl
theorem hasVoted_cons (v : Vote) (vs : List Vote) (a : Addr) :
    hasVoted (v :: vs) a = (v.voter == a || hasVoted vs a) := by simp [hasVoted]

theorem hasVoted_false_of_not_mem (vs : List Vote) (a : Addr) (h : a ∉ vs.map (·.voter)) : hasVoted vs a = false := by
  cases hh : hasVoted vs a with
  | false => rfl
  | true =>
    obtain ⟨v, hv, hva⟩ := List.any_eq_true.mp hh
    exact absurd (List.mem_map.mpr ⟨v, hv, beq_iff_eq.mp hva⟩) h

theorem voteAt_of_not_voted (vs : List Vote) (a : Addr) (h : hasVoted vs a = false) : voteAt vs a = 0 := by
  induction vs with
  | nil => rfl
  | cons v vs ih =>
    rw [hasVoted_cons, Bool.or_eq_false_iff] at h
    rw [voteAt_cons, h.1, ih h.2]; rfl

theorem voteAt_of_mem (vs : List Vote) (hd : VotersDistinct vs) (v : Vote) (hv : v ∈ vs) : voteAt vs v.voter = v.option := by
  unfold voteAt; rw [find_of_key hd hv]

theorem voteOf_not_voted (vs : List Vote) (a : Addr) (dflt : Nat) (h : hasVoted vs a = false) : voteOf vs a dflt = dflt := by
  induction vs generalizing dflt with
  | nil => rfl
  | cons v vs ih =>
    rw [hasVoted_cons, Bool.or_eq_false_iff] at h
    rw [voteOf_cons, h.1, ih _ h.2]; rfl

theorem voteOf_eq (vs : List Vote) (hd : VotersDistinct vs) (a : Addr) (dflt : Nat) :
    voteOf vs a dflt = if hasVoted vs a then voteAt vs a else dflt := by
  induction vs generalizing dflt with
  | nil => rfl
  | cons v vs ih =>
    have hd' := hd.cons
    rw [voteOf_cons, voteAt_cons, hasVoted_cons]
    by_cases hva : v.voter = a
    · have h1 : (v.voter == a) = true := beq_iff_eq.mpr hva
      have h2 : hasVoted vs a = false := hasVoted_false_of_not_mem vs a (hva ▸ hd'.1)
      simp only [h1, if_true, Bool.true_or]
      exact voteOf_not_voted vs a _ h2
    · have h1 : (v.voter == a) = false := beq_false_of_ne hva
      simp only [h1, Bool.false_eq_true, if_false, Bool.false_or]
      exact ih hd'.2 dflt

theorem voteOf_zero (vs : List Vote) (hd : VotersDistinct vs) (a : Addr) : voteOf vs a 0 = voteAt vs a := by
  rw [voteOf_eq vs hd]
  cases h : hasVoted vs a with
  | true => rfl
  | false => simp [voteAt_of_not_voted vs a h]

theorem hasVoted_perm {vs vs' : List Vote} (p : vs.Perm vs') (a : Addr) : hasVoted vs a = hasVoted vs' a := p.any_eq

theorem VotersDistinct.perm {vs vs' : List Vote} (p : vs.Perm vs') (hd : VotersDistinct vs) : VotersDistinct vs' :=
  (List.Perm.nodup_iff (p.map (fun x : Vote => x.voter))).mp hd

theorem voteAt_perm {vs vs' : List Vote} (p : vs.Perm vs') (hd : VotersDistinct vs) (a : Addr) :
    voteAt vs a = voteAt vs' a := by
  cases h : hasVoted vs a with
  | false =>
    rw [voteAt_of_not_voted vs a h, voteAt_of_not_voted vs' a (by rw [← hasVoted_perm p]; exact h)]
  | true =>
    obtain ⟨v, hv, hva⟩ := List.any_eq_true.mp h
    have hva' : v.voter = a := beq_iff_eq.mp hva
    rw [← hva', voteAt_of_mem vs hd v hv, voteAt_of_mem vs' (hd.perm p) v (p.mem_iff.mp hv)]

theorem sumOn_votes (votes : List Vote) (hd : VotersDistinct votes) (a : Addr) (g : Nat → Int) :
    sumOn votes (fun v => if v.voter == a then g v.option else 0) = if hasVoted votes a then g (voteAt votes a) else 0 := by
  cases h : hasVoted votes a with
  | false =>
    refine sumOn_zero _ _ (fun v hv => if_neg (fun hva => ?_))
    rw [hasVoted, List.any_eq_true.mpr ⟨v, hv, hva⟩] at h; cases h
  | true =>
    obtain ⟨v, hv, hva⟩ := List.any_eq_true.mp h
    rw [← beq_iff_eq.mp hva, voteAt_of_mem votes hd v hv]
    exact sumOn_unique (fun w : Vote => w.voter) votes (fun w => g w.option) hd v hv

/-- Summing over the votes and, per vote, over the voter's delegations is summing over the delegations of those who
    voted, each with its voter's option: voters are distinct, so every delegation is met once. -/
theorem sum_exchange (isV : Addr → Bool) (dels : List Del) (F : Nat → Del → Int) (votes : List Vote)
    (hd : VotersDistinct votes) :
    sumOn (votedDels isV dels votes) (fun od => F od.1 od.2) =
      sumOn (dels.filter (fun d => !isV d.1 && hasVoted votes d.1)) (fun d => F (voteAt votes d.1) d) := by
  -- per vote, the sum over the voter's delegations as a sum over all delegations
  have hv : ∀ v ∈ votes,
      (if (!isV v.voter) = true then sumOn ((dels.filter (·.1 == v.voter)).map (fun d => (v.option, d))) (fun od => F od.1 od.2)
        else 0) = sumOn dels (fun d => if v.voter == d.1 then (if (!isV d.1) = true then F v.option d else 0) else 0) := by
    intro v _
    rw [sumOn_map, sumOn_filter]
    have hd1 : ∀ d : Del, (v.voter == d.1) = true → isV d.1 = isV v.voter := fun d h => by rw [beq_iff_eq.mp h]
    by_cases hp : (!isV v.voter) = true
    · rw [if_pos hp]
      refine sumOn_congr _ _ _ fun d _ => ?_
      rw [BEq.comm]
      cases hb : (v.voter == d.1) with
      | false => rfl
      | true => rw [hd1 d hb, if_pos rfl, if_pos rfl, if_pos hp]
    · rw [if_neg hp]
      refine (sumOn_zero _ _ fun d _ => ?_).symm
      cases hb : (v.voter == d.1) with
      | false => rfl
      | true => rw [hd1 d hb, if_pos rfl, if_neg hp]
  unfold votedDels
  rw [sumOn_flatMap, sumOn_filter, sumOn_congr _ _ _ hv, sumOn_comm, sumOn_filter]
  refine sumOn_congr _ _ _ fun d _ => ?_
  rw [sumOn_votes votes hd d.1 (fun o => if (!isV d.1) = true then F o d else 0)]
  cases isV d.1 <;> cases hasVoted votes d.1 <;> rfl

/-- the shares deducted from validator `a`: the delegations to `a` of the delegators that voted themselves -/
def dedOf (e : Env) (votes : List Vote) (a : Addr) : Int :=
  sumOn (e.stake.dels.filter (fun d => d.2.1 == a && delegatorVoted e votes d.1)) (fun d => d.2.2.raw)

/-- the record of validator `v` after the vote loop -/
def finalVal (e : Env) (votes : List Vote) (v : Addr × Int × Dec) : ValInfo :=
  { addr := v.1, tokens := v.2.1, shares := v.2.2, deductions := ⟨dedOf e votes v.1⟩, vote := voteAt votes v.1 }

theorem finalVals_closed (e : Env) (votes : List Vote) (hd : VotersDistinct votes) :
    finalVals e votes = e.stake.vals.map (finalVal e votes) := by
  unfold finalVals vals0
  rw [List.map_map]
  apply List.map_congr_left
  intro v _
  simp only [Function.comp, updV, finalVal, voteOf_zero votes hd, Dec.zero, dedOf, delegatorVoted]
  congr 2
  rw [sumOn_filter]
  have := sum_exchange (isValidator e) e.stake.dels (fun _ d => if d.2.1 == v.1 then d.2.2.raw else 0) votes hd
  rw [this, sumOn_filter_ite]
  exact Int.zero_add _

theorem lookOf_vals0 (e : Env) (a : Addr) :
    lookOf (vals0 e) a = (e.stake.vals.find? (·.1 == a)).map (fun v => (v.2.2, v.2.1)) := by
  unfold lookOf vals0
  rw [List.find?_map, Option.map_map]
  rfl

theorem pieces_perm (e : Env) {vs vs' : List Vote} (p : vs.Perm vs') (hd : VotersDistinct vs) :
    (pieces e vs).Perm (pieces e vs') := by
  unfold pieces
  apply List.Perm.append
  · unfold delPieces votedDels
    exact ((p.filter _).flatMap_right _).filterMap _
  · unfold valPieces
    rw [finalVals_closed e vs hd, finalVals_closed e vs' (hd.perm p)]
    have : ∀ v, finalVal e vs v = finalVal e vs' v := by
      intro v
      unfold finalVal dedOf delegatorVoted
      rw [voteAt_perm p hd]
      simp only [hasVoted_perm p]
    rw [List.map_congr_left (fun v _ => this v)]

theorem stakeResults_perm (e : Env) {vs vs' : List Vote} (p : vs.Perm vs') (hd : VotersDistinct vs) :
    stakeResults e vs = stakeResults e vs' := by
  rw [results_are_pieces, results_are_pieces]
  exact addList_perm _ ((pieces_perm e p hd).map _)

theorem get_eq (e : Env) (votes : List Vote) (o : Nat) (ho : o = 1 ∨ o = 2 ∨ o = 3 ∨ o = 4) :
    (get (stakeResults e votes) o).raw = sumOn ((pieces e votes).filter (fun p => p.option == o)) (fun p => p.power.raw) := by
  rw [results_are_pieces, addList_get _ _ o ho, List.filter_map, sumOn_map]
  have h0 : (get ({} : Results) o).raw = 0 := by
    rcases ho with h | h | h | h <;> subst h <;> rfl
  rw [h0]
  exact Int.zero_add _

end Shentu.C12TH
