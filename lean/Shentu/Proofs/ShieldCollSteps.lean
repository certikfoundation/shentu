import Shentu.Proofs.ShieldMachine
import Shentu.Proofs.ShieldCollPayout
/-
  One step of a history (`Shentu.Props.C03a.Op`) on the collateral books: every accepted operation is of one of a few
  kinds (`apply_step`), each of which keeps `CollInv` (C03) and says what C07 needs (`StepFacts`: parameters are never
  changed, which steps can lower a provider's collateral, how the queue grows); then the ghost log of C07.
-/
namespace Shentu.Shield.Coll
open List Shentu.Props.C03a

/-- the block time at which the step releases matured withdrawals (`none`: the step releases nothing) -/
def opCompletes : Op → Option Int
  | .endBlock e => some e.t
  | .completeWithdrawals e => some e.t
  | _ => none

/-- the step pays a claim (`CreateReimbursement`, on its own or at the end of a claim that is paid): besides the releases, the
    only steps that lower a provider's collateral -/
def opPays : Op → Bool
  | .createReimbursement _ _ _ _ => true
  | .claimEnds _ _ _ _ _ _ _ .paid => true
  | _ => false

/-- the block time of the step, when it has one -/
def opTime : Op → Option Int
  | .deposit e _ _ => some e.t
  | .withdraw e _ _ => some e.t
  | .stakingChanged e _ => some e.t
  | .purchase e _ _ _ _ => some e.t
  | .createPool e _ _ _ _ _ _ => some e.t
  | .updatePool e _ _ _ _ _ => some e.t
  | .unstake e _ _ _ => some e.t
  | .withdrawRewards e _ => some e.t
  | .withdrawReimbursement e _ _ => some e.t
  | .secureCollaterals e _ _ _ _ _ => some e.t
  | .claimEnds e _ _ _ _ _ _ _ => some e.t
  | .endBlock e => some e.t
  | .fundBlockRewards e _ _ => some e.t
  | .withdrawCollateral e _ _ => some e.t
  | .stakingHook e _ _ => some e.t
  | .secureFromProvider e _ _ _ => some e.t
  | .createReimbursement e _ _ _ => some e.t
  | .completeWithdrawals e => some e.t
  | .expireAndDistribute e => some e.t
  | _ => none

/-- the withdrawal requests made in the step (when it succeeds): the explicit one of `MsgWithdrawCollateral`, the
    ones forced by the staking hooks — also inside a claim payout -/
def opRequests : Op → World → List Req
  | .withdraw e a c, _ => requestLog e a (Coins.amountOf c e.bond)
  | .withdrawCollateral e a amount, _ => requestLog e a amount
  | .stakingChanged e a, w => changedLog e w.2 a
  | .stakingHook e a staked, w => hookLog e w.2 a staked
  | .claimEnds e _ _ _ _ _ loss .paid, w => payoutLog e w.2 loss
  | .createReimbursement e _ amount _, w => payoutLog e w.2 amount
  | _, _ => []

/-- what a successful step does, as far as C07 is concerned -/
structure StepFacts (op : Op) (w w' : World) : Prop where
  params : w'.2.params = w.2.params
  grow : opCompletes op = none →
    QGrow w.2.params.withdrawPeriod (opRequests op w) w.2.withdraws w'.2.withdraws
  keep : opCompletes op = none → opPays op = false → ∀ b, collOf w.2 b ≤ collOf w'.2 b
  rel : ∀ t, opCompletes op = some t →
    w'.2.withdraws = w.2.withdraws.filter (fun x => !(decide (x.time ≤ t))) ∧
    ∀ b, collOf w'.2 b = collOf w.2 b - dueBy b t w.2.withdraws

theorem step_ofFrame {op : Op} {w w' : World} (h : Frame w.2 w'.2) (hi : CollInv w.2) (h1 : opCompletes op = none)
    (h2 : opRequests op w = []) : CollInv w'.2 ∧ StepFacts op w w' := by
  refine ⟨h.same.inv hi, h.params, ?_, ?_, ?_⟩
  · intro _; rw [h2, h.same.queue]; exact QGrow.refl _ _
  · intro _ _ b; rw [h.same.collOf]; exact Int.le_refl _
  · intro t ht; rw [h1] at ht; cases ht

theorem step_ofSound {op : Op} {w w' : World} (h : Sound w.2 w'.2) (hp : w'.2.params = w.2.params) (hi : CollInv w.2)
    (h1 : opCompletes op = none) (h2 : QGrow w.2.params.withdrawPeriod (opRequests op w) w.2.withdraws w'.2.withdraws) :
    CollInv w'.2 ∧ StepFacts op w w' :=
  ⟨h.inv hi, hp, fun _ => h2, fun _ _ => (h hi.rest).2.2, fun t ht => by rw [h1] at ht; cases ht⟩

theorem step_ofDelayLike {op : Op} {w w' : World} (h : DelayLike w.2 w'.2) (hi : CollInv w.2)
    (h1 : opCompletes op = none) (h2 : opRequests op w = []) : CollInv w'.2 ∧ StepFacts op w w' :=
  step_ofSound h.sound h.params hi h1 (by rw [h2]; exact h.queue.qgrow hi.wdrPos)

theorem step_ofPayout {op : Op} {w w' : World} (hi : CollInv w'.2) (hp : w'.2.params = w.2.params)
    (hq : QGrow w.2.params.withdrawPeriod (opRequests op w) w.2.withdraws w'.2.withdraws)
    (h1 : opCompletes op = none) (h2 : opPays op = true) : CollInv w'.2 ∧ StepFacts op w w' :=
  ⟨hi, hp, fun _ => hq, fun _ h => (by rw [h2] at h; cases h), fun t ht => (by rw [h1] at ht; cases ht)⟩

theorem step_ofRelease {op : Op} {w w' : World} {t : Int} (hi : CollInv w'.2) (hp : w'.2.params = w.2.params)
    (hq : w'.2.withdraws = w.2.withdraws.filter (fun x => !(decide (x.time ≤ t))))
    (hc : ∀ b, collOf w'.2 b = collOf w.2 b - dueBy b t w.2.withdraws) (h1 : opCompletes op = some t) :
    CollInv w'.2 ∧ StepFacts op w w' :=
  ⟨hi, hp, fun h => (by rw [h1] at h; cases h), fun h => (by rw [h1] at h; cases h),
    fun t' ht => (by rw [h1] at ht; cases ht; exact ⟨hq, hc⟩)⟩

theorem apply_step (op : Op) (w w' : World) (hi : CollInv w.2) (hadm : op.admissible w.2) (h : op.apply w = .ok w') :
    CollInv w'.2 ∧ StepFacts op w w' := by
  have hu := apply_untouched op w w' h
  cases hc : op.writesColl with
  | false =>
    -- the operations on pools and purchases do not write the collateral books
    obtain ⟨h1, h2, h3, h4⟩ := hu.coll hc
    exact step_ofFrame (Frame.mk' h1 h2 h3 h4 hu.params) hi (by cases op <;> first | rfl | cases hc)
      (by cases op <;> first | rfl | cases hc)
  | true =>
  obtain ⟨l, s⟩ := w
  obtain ⟨l', s'⟩ := w'
  have hp : s'.params = s.params := hu.params
  cases op <;> cases hc <;> simp only [Op.apply] at h
  case deposit.refl e a c =>
    have hx := (Except.map_pair_ok h).2
    exact step_ofSound (w := (l, s)) (w' := (l', s')) (deposit_sound hx) hp hi rfl
      (by show QGrow _ [] s.withdraws s'.withdraws; rw [deposit_writes hx]; exact QGrow.refl _ _)
  case withdraw.refl e a c =>
    have hx := (Except.map_pair_ok h).2
    exact step_ofSound (w := (l, s)) (w' := (l', s')) (withdraw_sound hx) hp hi rfl
      (withdrawCollateral_qgrow (withdraw_ok hx).2)
  case stakingChanged.refl e a =>
    have hx := (Except.map_pair_ok h).2
    exact step_ofSound (w := (l, s)) (w' := (l', s')) (stakingChanged_sound hx) hp hi rfl
      (stakingChanged_qgrow hx)
  case withdrawRewards.refl e a => exact step_ofFrame (withdrawRewards_frame e l l' s s' a hi.nodup h) hi rfl rfl
  case secureCollaterals.refl e poolID purchaser purchaseID loss duration =>
    have hx := (Except.map_pair_ok h).2
    exact step_ofDelayLike (secureCollaterals_delayLike hx) hi rfl rfl
  case claimEnds.refl e pid poolID restoreTo beneficiary purchaseID loss o =>
    cases o with
    | paid =>
      have := createReimbursement_inv hi (hadm rfl).1 (hadm rfl).2 h
      exact step_ofPayout (w := (l, s)) this.1 hp this.2.2.2 rfl rfl
    | _ => exact step_ofFrame (claimEnds_frame h nofun) hi rfl rfl
  case endBlock.refl e =>
    have := endBlock_spec e s _ hi (Except.map_pair_ok h).2
    exact step_ofRelease (w := (l, s)) (w' := (l', s')) this.1 hp this.2.1 this.2.2.2.1 rfl
  case withdrawCollateral.refl e a amount =>
    have hx := (Except.map_pair_ok h).2
    exact step_ofSound (w := (l, s)) (w' := (l', s')) (withdrawCollateral_sound hadm hx) hp hi rfl
      (withdrawCollateral_qgrow hx)
  case stakingHook.refl e a staked =>
    have hx := (Except.map_pair_ok h).2
    exact step_ofSound (w := (l, s)) (w' := (l', s')) (stakingHook_sound hx) hp hi rfl
      (stakingHook_qgrow hx)
  case delayWithdraws.refl a amount t =>
    have hx := (Except.map_pair_ok h).2
    exact step_ofDelayLike (delayWithdraws_delayLike hx) hi rfl rfl
  case secureFromProvider.refl e p amount duration =>
    have hx := (Except.map_pair_ok h).2
    exact step_ofDelayLike (secureFromProvider_delayLike hx) hi rfl rfl
  case createReimbursement.refl e pid amount beneficiary =>
    have := createReimbursement_inv hi hadm.1 hadm.2 h
    exact step_ofPayout (w := (l, s)) this.1 hp this.2.2.2 rfl rfl
  case completeWithdrawals.refl e =>
    have := completeWithdrawals_spec hi (Except.map_pair_ok h).2
    exact step_ofRelease (w := (l, s)) (w' := (l', s')) this.1 hp this.2.1 this.2.2.2.1 rfl
  case expireAndDistribute.refl e =>
    have hx := (Except.map_pair_ok h).2
    exact step_ofFrame (expireAndDistribute_frame e s _ hx) hi rfl rfl

theorem apply_facts (op : Op) (w w' : World) (hi : CollInv w.2) (hadm : op.admissible w.2) (h : op.apply w = .ok w') :
    StepFacts op w w' := (apply_step op w w' hi hadm h).2

end Shentu.Shield.Coll

/-! The ghost bookkeeping of C07: what each step logs and releases.  It stands here, below `Props/C07`, because the
    histories with period changes (`Proofs/C07PLemmas`) run the same step. -/
namespace Shentu.Props.C07
open Shentu Shentu.Shield Shentu.Shield.Coll Shentu.Props.C03a

/-- ghost state: the log of requests, the amount released to each provider so far, the latest block time -/
structure Ghost where
  log : List Req
  released : Addr → Int
  now : Int

/-- one step with its ghost bookkeeping: a successful step logs its requests (`opRequests`) and, when it releases matured
    withdrawals (`opCompletes`), counts as released whatever each provider's collateral went down by; time advances in
    any case -/
def gstep (op : Op) (x : World × Ghost) : World × Ghost :=
  let now' := (opTime op).getD x.2.now
  match op.apply x.1 with
  | .error _ => (x.1, { x.2 with now := now' })
  | .ok w' =>
    (w', { log := x.2.log ++ opRequests op x.1,
           released := fun b => x.2.released b + (if (opCompletes op).isSome then collOf x.1.2 b - collOf w'.2 b else 0),
           now := now' })

def grun (ops : List Op) (x : World × Ghost) : World × Ghost := ops.foldl (fun x op => gstep op x) x

/-- block times are non-decreasing along the history (steps without a block time are unconstrained) -/
def Timed : List Op → Int → Prop
  | [], _ => True
  | op :: ops, now => (∀ t, opTime op = some t → now ≤ t) ∧ Timed ops ((opTime op).getD now)

/-- the invariant behind `dominance`: for every provider and every time `T` from now on, what has been released plus
    what is queued to mature by `T` is covered by the requests made at or before `T − P` -/
def GhostInv (P : Int) (g : Ghost) (s : State) : Prop :=
  ∀ a T, g.now ≤ T → g.released a + dueBy a T s.withdraws ≤ logSum P g.log a T

end Shentu.Props.C07
