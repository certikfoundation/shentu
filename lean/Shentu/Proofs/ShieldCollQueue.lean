import Shentu.Proofs.ShieldCollInv
import Shentu.Proofs.ShieldOps
import Shentu.Proofs.ShieldPurchase
import Shentu.Proofs.ShieldLoops
/-
  The loops over the withdrawal queue: `delayLoop` (claims postpone withdrawals) and `payoutWithdrawLoop`
  (payouts consume them).  Both take entries out of the queue and put changed ones back, so they are described up to
  permutation of the queue; each is read off its chain of rounds in `ShieldLoops` (`Moves`, `Takes`: a stretch of the walk
  under its invariant, one lemma per round).  One round edits one entry (`postponed`, `takenFrom`), and each edit has its
  two lemmas: what it is as a multiset (`_perm`) and that the others' entries stay where they are (`_others`).  What a
  payout has done to the queue is `Paid`, which composes (`Paid.trans`) and holds of one entry paying (`Paid.of_perm`).
-/
namespace Shentu.Shield.Coll
open List

/-- the amount of `a` that matures by `T` -/
def dueBy (a : Addr) (T : Int) (q : List Withdraw) : Int := wsum (fun w => w.addr == a && decide (w.time ≤ T)) q

def retime (t : Int) (w : Withdraw) : Withdraw := { w with time := t }

/-- `q'` is `q` with some entries of `a` that matured by `t` moved to `t` (as multisets) -/
def Delayed (a : Addr) (t : Int) (q q' : List Withdraw) : Prop :=
  ∃ moved rest, q ~ moved ++ rest ∧ q' ~ moved.map (retime t) ++ rest ∧ ∀ w ∈ moved, w.addr = a ∧ w.time ≤ t

/-- A stretch of the walk of `delayLoop`, on its running state (candidates still to be walked, amount still to be delayed,
    queue) as in `DelayRound`: entered with candidates of `a` that are all in the queue, it has walked a front part `moved` of
    them, which has gone to `t`; the others' entries are where they were. -/
def Moves (a : Addr) (t : Int) (x y : List Withdraw × Int × List Withdraw) : Prop :=
  (∀ w ∈ x.1, w.addr = a) → ∀ rest, x.2.2 ~ x.1 ++ rest →
    ∃ moved, x.1 = moved ++ y.1 ∧ y.2.2 ~ y.1 ++ (moved.map (retime t) ++ rest) ∧
      ∀ r : Withdraw → Bool, (∀ w, w.addr = a → r w = false) → y.2.2.filter r = x.2.2.filter r

theorem Moves.refl (a : Addr) (t : Int) (x : List Withdraw × Int × List Withdraw) : Moves a t x x :=
  fun _ _ hp => ⟨[], rfl, hp, fun _ _ => rfl⟩

theorem Moves.trans {a : Addr} {t : Int} {x y z : List Withdraw × Int × List Withdraw} (h1 : Moves a t x y) (h2 : Moves a t y z) :
    Moves a t x z := by
  intro ha rest hp
  obtain ⟨m1, e1, p1, o1⟩ := h1 ha rest hp
  obtain ⟨m2, e2, p2, o2⟩ := h2 (fun w hw => ha w (by rw [e1]; exact mem_append_right _ hw)) _ p1
  refine ⟨m1 ++ m2, by rw [e1, e2, append_assoc], p2.trans (Perm.append_left _ ?_), fun r hr => (o2 r hr).trans (o1 r hr)⟩
  rw [map_append, append_assoc]
  exact perm_append_comm_assoc _ _ _

theorem postponed_perm {a : Addr} (t : Int) {w : Withdraw} {q : List Withdraw} (hw : w ∈ q) (ha : w.addr = a) :
    ∃ q0, q ~ w :: q0 ∧ postponed a t w q ~ retime t w :: q0 := by
  have hany : q.any (fun x => x.time == w.time && x.addr == a && x.amount == w.amount) = true :=
    any_eq_true.mpr ⟨w, hw, by simp [ha]⟩
  obtain ⟨x, hx, _, hp⟩ := removeLast_perm _ q hany
  simp only [Bool.and_eq_true, beq_iff_eq] at hx
  obtain rfl : x = w := Withdraw.ext' hx.1.1 (by rw [hx.1.2, ha]) hx.2
  exact ⟨_, hp, insertWithdraw_perm _ _⟩

theorem postponed_others {a : Addr} (t : Int) {w : Withdraw} (q : List Withdraw) (ha : w.addr = a) (r : Withdraw → Bool)
    (hr : ∀ w : Withdraw, w.addr = a → r w = false) : (postponed a t w q).filter r = q.filter r := by
  show (insertWithdraw _ _).filter r = _
  rw [filter_insertWithdraw_of_not r { w with time := t } _ (hr _ ha)]
  apply removeLast_filter
  intro y hy
  simp only [Bool.and_eq_true, beq_iff_eq] at hy
  exact hr y hy.1.2

theorem DelayRound.moves {a : Addr} {t : Int} {x y : List Withdraw × Int × List Withdraw} (h : DelayRound a t x y) :
    Moves a t x y := by
  cases h with
  | mk w ws rem q _ =>
  intro haddr rest hperm
  have hw : w.addr = a := haddr w mem_cons_self
  obtain ⟨q0, hq, hq'⟩ := postponed_perm t (hperm.mem_iff.mpr (by simp)) hw
  exact ⟨[w], rfl, (hq'.trans ((hq.symm.trans hperm).cons_inv.cons _)).trans perm_middle.symm,
    postponed_others t q hw⟩

theorem delayWithdraws_spec {s s' : State} {a : Addr} {amount t : Int} (h : delayWithdraws s a amount t = .ok s') :
    ∃ q', s' = { s with withdraws := q' } ∧ Delayed a t s.withdraws q' ∧
      ∀ r : Withdraw → Bool, (∀ w, w.addr = a → r w = false) → q'.filter r = s.withdraws.filter r := by
  obtain ⟨q', hq, rfl⟩ := delayWithdraws_ok h
  have hc : ∀ w ∈ (s.withdraws.filter (fun w => decide (w.time ≤ t) && w.addr == a)).reverse, w.addr = a ∧ w.time ≤ t := by
    intro w hw
    have := (mem_filter.mp (mem_reverse.mp hw)).2
    simp only [Bool.and_eq_true, decide_eq_true_eq, beq_iff_eq] at this
    exact ⟨this.2, this.1⟩
  have hperm : s.withdraws ~ (s.withdraws.filter (fun w => decide (w.time ≤ t) && w.addr == a)).reverse ++
      s.withdraws.filter (fun w => !(decide (w.time ≤ t) && w.addr == a)) :=
    ((filter_append_perm _ s.withdraws).symm).trans (Perm.append_right _ (reverse_perm _).symm)
  obtain ⟨kept, _, hs, _⟩ := delayLoop_star hq
  obtain ⟨moved, hws, hq', hoth⟩ := hs.lift (Moves.refl a t) Moves.trans DelayRound.moves (fun w hw => (hc w hw).1) _ hperm
  dsimp only at hws hq' hoth
  refine ⟨q', rfl, ⟨moved, kept ++ s.withdraws.filter (fun w => !(decide (w.time ≤ t) && w.addr == a)), ?_, ?_, ?_⟩, hoth⟩
  · rw [← append_assoc, ← hws]; exact hperm
  · exact hq'.trans (perm_append_comm_assoc _ _ _)
  · intro w hw; exact hc w (by rw [hws]; exact mem_append_left _ hw)

/-- what a sequence of delays guarantees about the queue: every entry is still there, with the same owner
    and amount, and not earlier than before -/
structure Postponed (q q' : List Withdraw) : Prop where
  total : ∀ r : Withdraw → Bool, (∀ w t, r (retime t w) = r w) → wsum r q' = wsum r q
  early : (∀ w ∈ q, 0 < w.amount) → ∀ b T, dueBy b T q' ≤ dueBy b T q
  mem : ∀ x ∈ q', ∃ w ∈ q, x.addr = w.addr ∧ x.amount = w.amount ∧ w.time ≤ x.time
  mem' : ∀ w ∈ q, ∃ x ∈ q', x.addr = w.addr ∧ x.amount = w.amount ∧ w.time ≤ x.time
  len : q'.length = q.length

theorem Postponed.refl (q : List Withdraw) : Postponed q q :=
  ⟨fun _ _ => rfl, fun _ _ _ => Int.le_refl _, fun x hx => ⟨x, hx, rfl, rfl, Int.le_refl _⟩,
    fun x hx => ⟨x, hx, rfl, rfl, Int.le_refl _⟩, rfl⟩

theorem Postponed.pos {q q' : List Withdraw} (h : Postponed q q') (hp : ∀ w ∈ q, 0 < w.amount) : ∀ w ∈ q', 0 < w.amount := by
  intro x hx
  obtain ⟨w, hw, _, he, _⟩ := h.mem x hx
  rw [he]; exact hp w hw

theorem Postponed.trans {q1 q2 q3 : List Withdraw} (h1 : Postponed q1 q2) (h2 : Postponed q2 q3) : Postponed q1 q3 := by
  refine ⟨?_, ?_, ?_, ?_, h2.len.trans h1.len⟩
  · intro r hr; rw [h2.total r hr, h1.total r hr]
  · intro hp b T
    exact Int.le_trans (h2.early (h1.pos hp) b T) (h1.early hp b T)
  · intro x hx
    obtain ⟨y, hy, e1, e2, e3⟩ := h2.mem x hx
    obtain ⟨w, hw, f1, f2, f3⟩ := h1.mem y hy
    exact ⟨w, hw, e1.trans f1, e2.trans f2, Int.le_trans f3 e3⟩
  · intro w hw
    obtain ⟨y, hy, e1, e2, e3⟩ := h1.mem' w hw
    obtain ⟨x, hx, f1, f2, f3⟩ := h2.mem' y hy
    exact ⟨x, hx, f1.trans e1, f2.trans e2, Int.le_trans e3 f3⟩

theorem wsum_map_retime_eq (r : Withdraw → Bool) (t : Int) (l : List Withdraw) (hr : ∀ w t, r (retime t w) = r w) :
    wsum r (l.map (retime t)) = wsum r l := by
  induction l with
  | nil => rfl
  | cons x xs ih => simp only [List.map_cons, wsum_cons, ih, hr]; rfl

theorem dueBy_map_retime_le (b : Addr) (T t : Int) (l : List Withdraw) (hl : ∀ w ∈ l, 0 < w.amount ∧ w.time ≤ t) :
    dueBy b T (l.map (retime t)) ≤ dueBy b T l := by
  induction l with
  | nil => exact Int.le_refl _
  | cons x xs ih =>
    have h1 := ih (fun w hw => hl w (List.mem_cons_of_mem _ hw))
    have h2 := hl x List.mem_cons_self
    unfold dueBy at *
    simp only [List.map_cons, wsum_cons, retime]
    by_cases hb : (x.addr == b) = true
    · simp only [hb, Bool.true_and]
      by_cases hT : t ≤ T
      · have : x.time ≤ T := by omega
        simp only [hT, this, decide_true, if_true]; omega
      · by_cases hx : x.time ≤ T
        · simp only [hT, hx, decide_false, decide_true, if_true]; omega
        · simp only [hT, hx, decide_false]; omega
    · simp only [hb, Bool.false_and]; simpa [retime] using h1

theorem Delayed.postponed {a : Addr} {t : Int} {q q' : List Withdraw} (h : Delayed a t q q') : Postponed q q' := by
  obtain ⟨moved, rest, hq, hq', hm⟩ := h
  refine ⟨?_, ?_, ?_, ?_, ?_⟩
  · intro r hr
    rw [wsum_edit r hq hq', wsum_map_retime_eq r t moved hr]; omega
  · intro hp b T
    have := dueBy_map_retime_le b T t moved (fun w hw => ⟨hp w (hq.mem_iff.mpr (List.mem_append_left _ hw)), (hm w hw).2⟩)
    unfold dueBy at this ⊢
    rw [wsum_edit _ hq hq']; omega
  · intro x hx
    rcases mem_edit hq hq' hx with hx | hx
    · obtain ⟨w, hw, rfl⟩ := List.mem_map.mp hx
      exact ⟨w, hq.mem_iff.mpr (List.mem_append_left _ hw), rfl, rfl, (hm w hw).2⟩
    · exact ⟨x, hx, rfl, rfl, Int.le_refl _⟩
  · intro w hw
    rcases List.mem_append.mp (hq.mem_iff.mp hw) with hw | hw
    · exact ⟨retime t w, hq'.mem_iff.mpr (List.mem_append_left _ (List.mem_map.mpr ⟨w, hw, rfl⟩)), rfl, rfl, (hm w hw).2⟩
    · exact ⟨w, hq'.mem_iff.mpr (List.mem_append_right _ hw), rfl, rfl, Int.le_refl _⟩
  · rw [hq'.length_eq, hq.length_eq]; simp

theorem CollRest.postponed {s : State} (h : CollRest s) {q' : List Withdraw} (hp : Postponed s.withdraws q') :
    CollRest { s with withdraws := q' } := by
  refine ⟨h.wdr, ?_, ?_, hp.pos h.wdrPos, h.provNonneg, h.nodup⟩
  · intro p hpm
    rw [h.wdrQ p hpm]
    exact (hp.total _ (fun _ _ => rfl)).symm
  · intro x hx
    obtain ⟨w, hw, he, _⟩ := hp.mem x hx
    obtain ⟨p, hpm, hpa⟩ := h.wdrOwner w hw
    exact ⟨p, hpm, by rw [hpa, he]⟩

/-- what the operations run at claim submission do to the collateral books: only the queue is re-arranged -/
structure DelayLike (s s' : State) : Prop where
  provs : s'.providers = s.providers
  tc : s'.totalCollateral = s.totalCollateral
  tw : s'.totalWithdrawing = s.totalWithdrawing
  params : s'.params = s.params
  queue : Postponed s.withdraws s'.withdraws

theorem DelayLike.refl (s : State) : DelayLike s s := ⟨rfl, rfl, rfl, rfl, Postponed.refl _⟩

theorem DelayLike.trans {s1 s2 s3 : State} (h1 : DelayLike s1 s2) (h2 : DelayLike s2 s3) : DelayLike s1 s3 :=
  ⟨h2.provs.trans h1.provs, h2.tc.trans h1.tc, h2.tw.trans h1.tw, h2.params.trans h1.params, h1.queue.trans h2.queue⟩

theorem DelayLike.rest {s s' : State} (h : DelayLike s s') (hr : CollRest s) : CollRest s' := by
  have h1 := hr.postponed h.queue
  have : SameColl { s with withdraws := s'.withdraws } s' := ⟨by rw [h.provs], rfl, h.tc, h.tw⟩
  exact this.rest h1

theorem DelayLike.sound {s s' : State} (h : DelayLike s s') : Sound s s' := fun hr =>
  ⟨h.rest hr, by rw [h.tc, h.provs], fun b => by rw [collOf_of_providers h.provs]; exact Int.le_refl _⟩

theorem delayWithdraws_delayLike {s s' : State} {a : Addr} {amount t : Int} (h : delayWithdraws s a amount t = .ok s') :
    DelayLike s s' := by
  obtain ⟨q', h1, h2, _⟩ := delayWithdraws_spec h
  subst h1
  exact ⟨rfl, rfl, rfl, rfl, h2.postponed⟩

theorem secureFromProvider_delayLike {e : Env} {s s' : State} {p : Provider} {amount duration : Int}
    (h : secureFromProvider e s p amount duration = .ok s') : DelayLike s s' := by
  rcases secureFromProvider_ok h with h | ⟨amt, h⟩
  · rw [h]; exact DelayLike.refl s
  · exact delayWithdraws_delayLike h

theorem secureLoop_delayLike {e : Env} {ratio : Dec} {duration : Int} {ps : List Provider} {rem : Int} {s s' : State}
    (h : secureLoop e ratio duration ps rem s = .ok s') : DelayLike s s' :=
  (secureLoop_star h).lift DelayLike.refl DelayLike.trans (fun ⟨_, _, h⟩ => secureFromProvider_delayLike h)

theorem secureCollaterals_delayLike {e : Env} {s s' : State} {poolID : Nat} {purchaser : Addr} {purchaseID : Nat}
    {loss duration : Int} (h : secureCollaterals e s poolID purchaser purchaseID loss duration = .ok s') : DelayLike s s' := by
  obtain ⟨pool, lst, pu, s1, _, _, _, _, _, _, hloop, rfl⟩ := PoolLm.secureCollaterals_steps h
  exact (secureLoop_delayLike hloop).trans ⟨rfl, rfl, rfl, rfl, Postponed.refl _⟩

/-- the test that finds the entry `w` in the queue -/
def isIt (w : Withdraw) : Withdraw → Bool := fun x => x.time == w.time && x.addr == w.addr && x.amount == w.amount

theorem isIt_eq {w x : Withdraw} (h : isIt w x = true) : x = w := by
  simp only [isIt, Bool.and_eq_true, beq_iff_eq] at h
  exact Withdraw.ext' h.1.1 h.1.2 h.2

/-- what stays in the queue of the entry `w` after `p` has been taken out of it -/
def leftOf (w : Withdraw) (p : Int) : List Withdraw := if w.amount = p then [] else [{ w with amount := w.amount - p }]

theorem mem_leftOf {w z : Withdraw} {p : Int} (h : z ∈ leftOf w p) : z = { w with amount := w.amount - p } ∧ w.amount ≠ p := by
  unfold leftOf at h
  by_cases hp : w.amount = p
  · rw [if_pos hp] at h; cases h
  · rw [if_neg hp] at h; exact ⟨List.mem_singleton.mp h, hp⟩

theorem wsum_leftOf (r : Withdraw → Bool) (hr : ∀ w x, r { w with amount := x } = r w) (w : Withdraw) (p : Int) :
    wsum r (leftOf w p) = if r w then w.amount - p else 0 := by
  unfold leftOf
  split
  · rw [wsum_nil]; split <;> omega
  · rw [wsum_cons, hr, wsum_nil]; exact Int.add_zero _

theorem takenFrom_perm (w : Withdraw) (p : Int) (q : List Withdraw) (hw : w ∈ q) :
    ∃ q0, q ~ w :: q0 ∧ takenFrom w p q ~ leftOf w p ++ q0 := by
  have hany : q.any (isIt w) = true := List.any_eq_true.mpr ⟨w, hw, by simp [isIt]⟩
  show ∃ q0, _ ∧ (if w.amount == p then removeFirst (isIt w) q
    else replaceFirst (isIt w) (fun x => { x with amount := w.amount - p }) q) ~ _
  unfold leftOf
  by_cases hp : w.amount = p
  · simp only [hp, beq_self_eq_true, if_true]
    obtain ⟨x, hx, _, hperm⟩ := removeFirst_perm (isIt w) q hany
    rw [isIt_eq hx] at hperm
    exact ⟨_, hperm, Perm.refl _⟩
  · have : (w.amount == p) = false := by simpa using hp
    simp only [this, hp, if_false]
    obtain ⟨x, l0, hx, _, hperm, hperm'⟩ := replaceFirst_perm (isIt w) (fun x => { x with amount := w.amount - p }) q hany
    rw [isIt_eq hx] at hperm hperm'
    exact ⟨l0, hperm, hperm'⟩

/-- what a payout does to the queue: `fw` is taken out of the entries of `a`, nothing grows -/
structure Paid (a : Addr) (fw : Int) (q q' : List Withdraw) : Prop where
  nonneg : 0 ≤ fw
  mine : wsum (fun w => w.addr == a) q' = wsum (fun w => w.addr == a) q - fw
  le : ∀ r : Withdraw → Bool, (∀ w x, r { w with amount := x } = r w) → wsum r q' ≤ wsum r q
  pos : ∀ w ∈ q', 0 < w.amount
  mem : ∀ x ∈ q', ∃ w ∈ q, x.addr = w.addr ∧ x.time = w.time ∧ x.amount ≤ w.amount

theorem Paid.zero (a : Addr) (q : List Withdraw) (hp : ∀ w ∈ q, 0 < w.amount) : Paid a 0 q q :=
  ⟨Int.le_refl _, by omega, fun _ _ => Int.le_refl _, hp, fun x hx => ⟨x, hx, rfl, rfl, Int.le_refl _⟩⟩

theorem Paid.trans {a : Addr} {x y : Int} {q q1 q2 : List Withdraw} (h1 : Paid a x q q1) (h2 : Paid a y q1 q2) :
    Paid a (x + y) q q2 := by
  refine ⟨by have := h1.nonneg; have := h2.nonneg; omega, by rw [h2.mine, h1.mine]; omega,
    fun r hr => Int.le_trans (h2.le r hr) (h1.le r hr), h2.pos, fun v hv => ?_⟩
  obtain ⟨z, hz, e1, e2, e3⟩ := h2.mem v hv
  obtain ⟨w, hw, f1, f2, f3⟩ := h1.mem z hz
  exact ⟨w, hw, e1.trans f1, e2.trans f2, Int.le_trans e3 f3⟩

theorem Paid.of_perm {w : Withdraw} {p : Int} {q q' q0 : List Withdraw} (hq : q ~ w :: q0) (hq' : q' ~ leftOf w p ++ q0)
    (h0 : 0 < p) (hle : p ≤ w.amount) (hpos : ∀ x ∈ q, 0 < x.amount) : Paid w.addr p q q' := by
  have hsum : ∀ r : Withdraw → Bool, (∀ w x, r { w with amount := x } = r w) → wsum r q' = wsum r q - if r w then p else 0 := by
    intro r hr
    rw [wsum_edit r (l := [w]) hq hq', wsum_cons, wsum_leftOf r hr]
    split <;> simp <;> omega
  have hmem : ∀ z ∈ q', (z = { w with amount := w.amount - p } ∧ w.amount ≠ p) ∨ z ∈ q := fun z hz =>
    (mem_edit (l := [w]) hq hq' hz).imp_left mem_leftOf
  refine ⟨by omega, by rw [hsum _ (fun _ _ => rfl)]; simp, fun r hr => by have := hsum r hr; split at this <;> omega, ?_, ?_⟩
  · intro z hz
    rcases hmem z hz with ⟨rfl, hne⟩ | h
    · show 0 < w.amount - p; omega
    · exact hpos z h
  · intro z hz
    rcases hmem z hz with ⟨rfl, _⟩ | h
    · exact ⟨w, hq.mem_iff.mpr mem_cons_self, rfl, rfl, by show w.amount - p ≤ _; omega⟩
    · exact ⟨z, h, rfl, rfl, Int.le_refl _⟩

theorem Paid.queueWrite {a : Addr} {fw : Int} {q q' : List Withdraw} (h : Paid a fw q q')
    (hoth : ∀ r : Withdraw → Bool, (∀ w : Withdraw, w.addr = a → r w = false) → q'.filter r = q.filter r) :
    QueueWrite a (-fw) q q' :=
  ⟨by rw [h.mine]; omega,
    fun b hb => by unfold wsum; rw [hoth _ (fun w hw => by rw [hw]; simpa using fun e => hb e.symm)],
    fun w hw => have ⟨x, hx, e, _⟩ := h.mem w hw; .inr ⟨x, hx, e.symm⟩, fun _ => h.pos⟩

theorem takenFrom_others (r : Withdraw → Bool) (w : Withdraw) (p : Int) (q : List Withdraw)
    (hr : ∀ x : Withdraw, x.addr = w.addr → r x = false) : (takenFrom w p q).filter r = q.filter r := by
  unfold takenFrom
  split
  · apply removeFirst_filter; intro x hx; exact hr x (by rw [isIt_eq hx])
  · apply replaceFirst_filter; intro x hx
    have := isIt_eq hx
    exact ⟨hr x (by rw [this]), hr _ (by rw [this])⟩

/-- A stretch of the payout walk, entered with entries of `a` still to be walked, all of them in a queue of positive
    amounts: it is left the same way; what is no longer to be taken has been paid out of the entries of `a`; the entries
    of the others are where they were. -/
def Takes (a : Addr) : List Withdraw × Int × Int × List Withdraw → List Withdraw × Int × Int × List Withdraw → Prop
  | (ws, u, fw, q), (ws', u', fw', q') =>
    (∀ w ∈ ws, w.addr = a) → 0 ≤ u → (∀ w ∈ q, 0 < w.amount) → (∃ rest, q ~ ws ++ rest) →
      ((∀ w ∈ ws', w.addr = a) ∧ 0 ≤ u' ∧ ∃ rest, q' ~ ws' ++ rest) ∧ Paid a (fw - fw') q q' ∧
      ∀ r : Withdraw → Bool, (∀ w : Withdraw, w.addr = a → r w = false) → q'.filter r = q.filter r

theorem Takes.refl (a : Addr) (x : List Withdraw × Int × Int × List Withdraw) : Takes a x x := by
  obtain ⟨ws, u, fw, q⟩ := x
  exact fun h1 h2 h3 h4 => ⟨⟨h1, h2, h4⟩, by rw [Int.sub_self]; exact Paid.zero a q h3, fun _ _ => rfl⟩

theorem Takes.trans {a : Addr} {x y z : List Withdraw × Int × Int × List Withdraw} (h1 : Takes a x y) (h2 : Takes a y z) :
    Takes a x z := by
  obtain ⟨ws, u, fw, q⟩ := x
  obtain ⟨ws1, u1, fw1, q1⟩ := y
  obtain ⟨ws2, u2, fw2, q2⟩ := z
  intro i1 i2 i3 i4
  obtain ⟨⟨j1, j2, j4⟩, p1, o1⟩ := h1 i1 i2 i3 i4
  obtain ⟨k, p2, o2⟩ := h2 j1 j2 p1.pos j4
  have := p1.trans p2
  rw [show fw - fw1 + (fw1 - fw2) = fw - fw2 by omega] at this
  exact ⟨k, this, fun r hr => (o2 r hr).trans (o1 r hr)⟩

theorem PayoutWalk.takes (a : Addr) {x y : List Withdraw × Int × Int × List Withdraw} (h : PayoutWalk x y) : Takes a x y := by
  cases h with
  | pass w ws u fw q hfw hrem =>
    intro haddr hu hpos ⟨rest, hperm⟩
    exact ⟨⟨fun y hy => haddr y (mem_cons_of_mem _ hy), by omega, w :: rest, hperm.trans perm_middle.symm⟩,
      by rw [Int.sub_self]; exact Paid.zero a q hpos, fun _ _ => rfl⟩
  | take w ws u fw q hfw hrem =>
    intro haddr hu hpos ⟨rest, hperm⟩
    have hwa : w.addr = a := haddr w mem_cons_self
    obtain ⟨q0, hq, hq1⟩ := takenFrom_perm w (min fw (max (w.amount - u) 0)) q (hperm.mem_iff.mpr (by simp))
    have hq0 : q0 ~ ws ++ rest := (hq.symm.trans hperm).cons_inv
    refine ⟨⟨fun y hy => haddr y (mem_cons_of_mem _ hy), by omega, _ ++ rest,
        hq1.trans ((hq0.append_left _).trans (perm_append_comm_assoc ..))⟩, ?_,
      fun r hr => takenFrom_others r w _ q (fun x hx => hr x (by rw [hx, hwa]))⟩
    rw [← hwa, show fw - (fw - min fw (max (w.amount - u) 0)) = min fw (max (w.amount - u) 0) by omega]
    exact Paid.of_perm hq hq1 (by omega) (by omega) hpos

/-- the walk as `updateProviderForPayout` starts it: over the entries of `a`, newest first -/
theorem payoutLoop_of_queue {a : Addr} {u fw : Int} {q q' : List Withdraw} (hu : 0 ≤ u) (hpos : ∀ w ∈ q, 0 < w.amount)
    (h : payoutWithdrawLoop (q.filter (·.addr == a)).reverse u fw q = .ok q') :
    Paid a fw q q' ∧ ∀ r : Withdraw → Bool, (∀ w : Withdraw, w.addr = a → r w = false) → q'.filter r = q.filter r := by
  have hmine : ∀ w ∈ (q.filter (·.addr == a)).reverse, w.addr = a := by
    intro w hw
    have := (mem_filter.mp (mem_reverse.mp hw)).2
    simpa using this
  have hperm : q ~ (q.filter (·.addr == a)).reverse ++ q.filter (fun w => !(w.addr == a)) :=
    ((filter_append_perm _ q).symm).trans (Perm.append_right _ (reverse_perm _).symm)
  obtain ⟨_, _, hs⟩ := payoutWithdrawLoop_star h
  obtain ⟨_, hpaid, hoth⟩ := hs.lift (Takes.refl a) Takes.trans (PayoutWalk.takes a) hmine hu hpos ⟨_, hperm⟩
  rw [Int.sub_zero] at hpaid
  exact ⟨hpaid, hoth⟩

theorem payoutSplit_facts (free purchased payout : Int) (hf : 0 ≤ free) (hp : 0 ≤ purchased) :
    0 ≤ (payoutSplit free purchased payout).1 ∧ (payoutSplit free purchased payout).2 ≤ free := by
  unfold payoutSplit
  split
  · simp only; omega
  · split <;> simp only <;> omega

/-- What a payout from one provider does to the collateral books.  Unlike `Sound` it is only ever established from a
    state in `CollRest` (the walk through the queue needs the invariant), so `rest` and `sumColl` are plain facts. -/
structure PayoutLike (a : Addr) (payout : Int) (s s' : State) : Prop where
  rest : CollRest s'
  sumColl : sumI (·.collateral) s'.providers = sumI (·.collateral) s.providers - payout
  tc : s'.totalCollateral = s.totalCollateral
  params : s'.params = s.params
  collOf : ∀ b, collOf s' b = if b = a then collOf s b - payout else collOf s b
  le : ∀ r : Withdraw → Bool, (∀ w x, r { w with amount := x } = r w) → wsum r s'.withdraws ≤ wsum r s.withdraws
  others : ∀ r : Withdraw → Bool, (∀ w : Withdraw, w.addr = a → r w = false) → s'.withdraws.filter r = s.withdraws.filter r
  mem : ∀ x ∈ s'.withdraws, ∃ w ∈ s.withdraws, x.addr = w.addr ∧ x.time = w.time ∧ x.amount ≤ w.amount

theorem updateProviderForPayout_payoutLike (s s' : State) (a : Addr) (purchased payout : Int) (hr : CollRest s)
    (hpur : 0 ≤ purchased) (h : updateProviderForPayout s a purchased payout = .ok s') : PayoutLike a payout s s' := by
  obtain ⟨p, q, hf, hq, hs'⟩ := updateProviderForPayout_ok s s' a purchased payout h
  obtain ⟨hpm, hpa⟩ := findProvider_some hf
  have hnn := hr.provNonneg p hpm
  have hsplit := payoutSplit_facts (p.collateral - p.withdrawing) purchased payout (by omega) hpur
  generalize hfw : payout - (payoutSplit (p.collateral - p.withdrawing) purchased payout).2 = fw at *
  obtain ⟨hpaid, hoth⟩ := payoutLoop_of_queue hsplit.1 hr.wdrPos hq
  subst hs'
  have hp' : ({ p with collateral := p.collateral - payout, withdrawing := p.withdrawing - fw } : Provider).addr = a := hpa
  -- what is not taken out of the queue, `payout - fw`, is taken from the free collateral, which covers it
  have hle : p.withdrawing - fw ≤ p.collateral - payout := by have := hsplit.2; omega
  refine ⟨hr.write hf hp' rfl (hpaid.queueWrite hoth) (Int.sub_eq_add_neg ..) (Int.sub_eq_add_neg ..) hle, ?_, rfl, rfl,
    ?_, hpaid.le, hoth, hpaid.mem⟩
  · show sumI _ (updP _ _) = _
    rw [sumColl_update hr.nodup hf hp']; simp only; omega
  · intro b
    rw [collOf_update hf hp' rfl]
    split
    · rename_i hb; subst hb; rw [collOf_found hf]
    · rfl

end Shentu.Shield.Coll
