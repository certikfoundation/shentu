import Shentu.Proofs.VmKeeps
import Shentu.Proofs.C01txLists
/-
  An account without code only gains while the interpreter runs.

  `Passive a b w`: the address `a` has an account in the cache `w`, the account has no code and holds at least `b` coins.
  Every place of the interpreter model that writes the accounts keeps `Passive a b` in a frame that does not execute in
  `a`'s name (`env.callee ≠ a`), unless the frame has an error in its sink: the statements are `KeepsD Failed P m` of
  `VmKeeps.lean`, the frames that have an error (`Failed`) counting as doomed (`KeepsE P m` is that proposition written out).  The condition is needed because a doomed frame
  really breaks the property: a CREATE onto an address in use runs the constructor in the existing account's name, after
  having put DuplicateAddress into the creator's sink.
   * SSTORE writes the executing account;
   * SELFDESTRUCT creates / credits the beneficiary and deletes the executing account;
   * a CALL creates the missing target (an address that has no account, so not `a`) and adopts a successful callee's cache;
     the callee executes in the name of the target (CALL, STATICCALL: if that is `a`, the code is empty and nothing runs) or of
     the current account (CALLCODE, DELEGATECALL), and its value is taken from the current account;
   * CREATE runs the constructor in the name of the new address; if that address is `a` (which has an account) the creator's
     frame has DuplicateAddress in its sink before the constructor starts.
  The last section carries the bound from the interpreter's cache to the chain-level transaction (`CvmTx.tx`).
-/
namespace Shentu.LockVmH
open Shentu Shentu.EVM

/-- `m` keeps "an error is in the sink, or the accounts satisfy `P`" -/
def KeepsE (P : World → Prop) (m : M α) : Prop :=
  ∀ s : Frame, (s.err.isSome = true ∨ P s.world) → ((m s).val.2.err.isSome = true ∨ P (m s).val.2.world)

abbrev Failed (s : Frame) : Prop := s.err.isSome = true

theorem failed_doom : Doom Failed := ⟨fun h => h, fun h => h⟩

section prims
variable {P : World → Prop}

theorem pk_getF : KeepsE P getF := fun _ h => h
theorem pk_syncChild {w : World} (d : Bool) (r : List Nat) (h : P w) : KeepsE P (syncChild w d r) := fun _ _ => .inr h

end prims

/-- `a` has an account without code that holds at least `b` coins -/
def Passive (a b : Nat) (w : World) : Prop := ∃ acc, w.get a = some acc ∧ acc.code.size = 0 ∧ b ≤ acc.balance

theorem passive_mono {a b b' : Nat} {w : World} (h : Passive a b w) (hb : b' ≤ b) : Passive a b' w := by
  obtain ⟨acc, h1, h2, h3⟩ := h
  exact ⟨acc, h1, h2, by omega⟩

theorem passive_get {a b : Nat} {w : World} {acc : Account} (h : Passive a b w) (hg : w.get a = some acc) : b ≤ acc.balance := by
  obtain ⟨acc', h1, _, h3⟩ := h
  rw [hg] at h1
  cases h1
  exact h3

theorem passive_balOf {a b : Nat} {w : World} (h : Passive a b w) : b ≤ balOf w a := by
  obtain ⟨acc, h1, _, h3⟩ := h
  rw [balOf_of_get_some h1]; exact h3

theorem passive_put_other {a b : Nat} {w : World} (acc' : Account) (h : Passive a b w) (hne : acc'.addr ≠ a) :
    Passive a b (w.put acc') := by
  obtain ⟨acc, h1, h2, h3⟩ := h
  refine ⟨acc, ?_, h2, h3⟩
  rw [get_put]
  have : ¬ a = acc'.addr := fun e => hne e.symm
  simp [this, h1]

theorem passive_put_upd {a b b' x : Nat} {w : World} {acc0 : Account} (acc' : Account) (h : Passive a b w)
    (h0 : w.get x = some acc0) (haddr : acc'.addr = acc0.addr) (hcode : acc'.code = acc0.code)
    (hb : b' ≤ b) (hbal : x = a → b' ≤ acc'.balance) : Passive a b' (w.put acc') := by
  by_cases hx : x = a
  · subst hx
    obtain ⟨acc, h1, h2, _⟩ := h
    rw [h0] at h1
    cases h1
    refine ⟨acc', ?_, by rw [hcode]; exact h2, hbal rfl⟩
    rw [get_put, haddr, get_addr h0]
    simp
  · refine passive_put_other acc' (passive_mono h hb) ?_
    rw [haddr, get_addr h0]; exact hx

theorem passive_create {a b x : Nat} {w : World} (h : Passive a b w) (hx : w.get x = none) : Passive a b (w.put { addr := x }) := by
  refine passive_put_other _ h ?_
  intro e
  obtain ⟨acc, h1, _, _⟩ := h
  have e' : x = a := e
  rw [e', h1] at hx
  cases hx

theorem passive_del {a b x : Nat} {w : World} (h : Passive a b w) (hx : x ≠ a) : Passive a b (w.del x) := by
  obtain ⟨acc, h1, h2, h3⟩ := h
  refine ⟨acc, ?_, h2, h3⟩
  rw [get_del]
  have : ¬ a = x := fun e => hx e.symm
  simp [this, h1]

theorem passive_sstore {a b : Nat} {w : World} (x k v : Nat) (h : Passive a b w) (hx : x ≠ a) : Passive a b (w.sstore x k v) := by
  unfold World.sstore
  split
  · rename_i acc hacc
    refine passive_put_other _ h ?_
    show acc.addr ≠ a
    rw [get_addr hacc]; exact hx
  · exact h

theorem passive_transfer {a b frm to v : Nat} {w w' : World} (h : Passive a b w) (ht : transfer w frm to v = .ok w') :
    Passive a (b - (if frm = a then v else 0)) w' := by
  rcases transfer_ok ht with ⟨_, rfl⟩ | ⟨f, t, hf, hle, htg, rfl⟩
  · exact passive_mono h (Nat.sub_le _ _)
  · have h1 : Passive a (b - (if frm = a then v else 0)) (w.put { f with balance := f.balance - v }) := by
      refine passive_put_upd _ h hf rfl rfl (Nat.sub_le _ _) (fun e => ?_)
      have := passive_get h (e ▸ hf)
      simp only [e, if_true]
      show b - v ≤ f.balance - v
      omega
    refine passive_put_upd _ h1 htg rfl rfl (Nat.le_refl _) (fun e => ?_)
    have := passive_get h1 (e ▸ htg)
    show _ ≤ t.balance + v
    omega

/-- the frame does not execute in `a`'s name (or has no code to execute) and does not take its value from `a` -/
def Apart (a : Nat) (env : Env) : Prop := (env.callee ≠ a ∨ env.code.size = 0) ∧ (env.callType ≤ 1 → env.caller ≠ a)

theorem passive_credit {a b x : Nat} {w : World} {r : Account} (h : Passive a b w) (hr : w.get x = some r) (k : Nat) :
    Passive a b (w.put { r with balance := r.balance + k }) := by
  refine passive_put_upd _ h hr rfl rfl (Nat.le_refl _) (fun e => ?_)
  have := passive_get h (e ▸ hr)
  show b ≤ r.balance + k
  omega

theorem pk_sdEnd {a b : Nat} : KeepsE (Passive a b) sdEnd := KeepsD.pure _

theorem passive_selfdestruct {a b : Nat} (env : Env) (hcal : env.callee ≠ a) : KeepsD Failed (Passive a b) (selfdestruct env) :=
  keeps_selfdestruct failed_doom passive_create (fun _ _ _ _ _ h => h) (fun _ hw hr _ => passive_del (passive_credit hw hr _) hcal)

/-- the frame a CALL-family instruction starts does not execute in `a`'s name unless `a`'s (empty) code is what it runs -/
theorem good_callee {a b : Nat} {w : World} (h : Passive a b w) (self target : Nat) (hself : self ≠ a) (c : Bool) :
    (if c = true then target else self) ≠ a ∨ ((Option.map (fun (x : Account) => x.code) (w.get target)).getD ByteArray.empty).size = 0 := by
  by_cases ht : target = a
  · right
    obtain ⟨acc, h1, h2, _⟩ := h
    rw [ht, h1]
    exact h2
  · left
    split
    · exact ht
    · exact hself

/-- … and takes its value from the current account -/
theorem good_caller {a : Nat} (op caller self : Nat) (hself : self ≠ a) :
    (if (op == 0xf1) = true then 0 else if (op == 0xf2) = true then 1 else if (op == 0xf4) = true then 2 else 3) ≤ 1 →
    (if (op == 0xf4) = true then caller else self) ≠ a := by
  intro h
  by_cases h1 : op = 0xf1
  · subst h1; simpa using hself
  · by_cases h2 : op = 0xf2
    · subst h2; simpa using hself
    · exfalso
      simp only [beq_iff_eq, h1, h2, if_false] at h
      split at h <;> omega

section run
variable {a b : Nat} {child : ChildFn}

theorem passive_callFromSite (hc : ChildSpec (Apart a) (Passive a b) child) (env : Env) (hcal : env.callee ≠ a)
    (op gasLimit target value : Nat) (input : ByteArray) :
    KeepsD Failed (Passive a b) (callFromSite child env op gasLimit target value input) :=
  keeps_callFromSite failed_doom passive_create hc
    (fun cenv w hce hw =>
      ⟨by rw [hce.2.2.1, hce.2.1]; exact good_callee hw env.callee target hcal _,
       by rw [hce.2.2.2.2, hce.2.2.2.1]; exact good_caller op env.caller env.callee hcal⟩)
    gasLimit value input

theorem passive_initChildCode {w : World} (hw : Passive a b w) (creator addr : Nat) (haddr : addr ≠ a) (c : ByteArray) :
    Passive a b (initChildCode creator addr c w) := by
  unfold initChildCode
  split
  · exact hw
  · rename_i acc hacc
    refine passive_put_other _ hw ?_
    show acc.addr ≠ a
    rw [get_addr hacc]; exact haddr

theorem passive_createRun_other (hc : ChildSpec (Apart a) (Passive a b) child) (env : Env) (hcal : env.callee ≠ a) (v addr : Nat) (haddr : addr ≠ a)
    (input : ByteArray) : KeepsD Failed (Passive a b) (createRun child env v addr input) :=
  keeps_createRun failed_doom passive_create (fun c _ hw => passive_initChildCode hw _ _ haddr c) hc
    (fun _ => ⟨.inl haddr, fun _ => hcal⟩)

/-- a creation at `a` itself: `a` has an account, so DuplicateAddress is in the creator's sink before the constructor starts -/
theorem passive_createRun_self (env : Env) (v : Nat) (input : ByteArray) :
    KeepsD Failed (Passive a b) (createRun child env v a input) := by
  unfold createRun
  refine KeepsD.getF_bind failed_doom (fun s hs => ?_)
  have ht : (s.world.get a).isSome = true := by
    obtain ⟨acc, h1, _, _⟩ := hs
    rw [h1]; rfl
  simp only [ht, if_true]
  exact HoareD.dead (fun _ h => h) _ _

theorem passive_createRun (hc : ChildSpec (Apart a) (Passive a b) child) (env : Env) (hcal : env.callee ≠ a) (v addr : Nat)
    (input : ByteArray) : KeepsD Failed (Passive a b) (createRun child env v addr input) := by
  by_cases haddr : addr = a
  · subst haddr; exact passive_createRun_self env v input
  · exact passive_createRun_other hc env hcal v addr haddr input

theorem passive_writes (hc : ChildSpec (Apart a) (Passive a b) child) (env : Env) (hcal : env.callee ≠ a) : Writes Failed (Passive a b) child env where
  doom := failed_doom
  call := passive_callFromSite hc env hcal
  create := passive_createRun hc env hcal
  sstore := fun k v hw => passive_sstore _ k v hw hcal
  selfdestruct := passive_selfdestruct env hcal

theorem passive_openFrame_top (env : Env) {w : World} (hw : Passive a b w) :
    Passive a (b - (if env.caller = a ∧ env.callType ≤ 1 then env.value else 0)) (openFrame env w).1 := by
  rcases openFrame_cases env w with h | ⟨hct, h⟩
  · rw [h]; exact passive_mono hw (Nat.sub_le _ _)
  · simpa [hct] using passive_transfer hw h

theorem passive_openFrame (env : Env) (ht : env.callType ≤ 1 → env.caller ≠ a) {w : World} (hw : Passive a b w) :
    Passive a b (openFrame env w).1 := by
  have h := passive_openFrame_top env hw
  rwa [if_neg (fun h => ht h.2 h.1)] at h

theorem passive_step (hc : ChildSpec (Apart a) (Passive a b) child) (env : Env) (hg : env.callee ≠ a ∨ env.code.size = 0) :
    env.code.size ≠ 0 → KeepsD Failed (Passive a b) (step child env) :=
  fun hsz => (passive_writes hc env (hg.resolve_right hsz)).step

theorem runFrame_childOK (hc : ChildSpec (Apart a) (Passive a b) child) : ChildSpec (Apart a) (Passive a b) (runFrame child) :=
  fun env g _ rm hG hw hst he =>
    runFrame_keeps failed_doom (passive_step hc env hG.1) (passive_openFrame env hG.2 hw) g rm hst he

theorem runDepth_childOK : ∀ d : Nat, ChildSpec (Apart a) (Passive a b) (runDepth d) :=
  runDepth_spec failed_doom (fun env _ hG hw => passive_openFrame env hG.2 hw) (fun _ env hc hG => passive_step hc env hG.1)

/-- the outermost frame: `a` may be the one that pays the value -/
theorem execTop_passive (env : Env) (gas : Nat) (pre : World) (depth : Nat) (hg : env.callee ≠ a ∨ env.code.size = 0)
    (hw : Passive a b pre) :
    Passive a (b - (if env.caller = a ∧ env.callType ≤ 1 then env.value else 0)) (execTop env gas pre depth).world :=
  execTop_keeps failed_doom (passive_step (runDepth_childOK depth) env hg) (passive_mono hw (Nat.sub_le _ _))
    (passive_openFrame_top env hw) gas

end run

/-- `execTop_passive` as a statement about balances, for an address with or without an account -/
theorem execTop_only_gain (env : Env) (gas : Nat) (pre : World) (depth : Nat) (a : Nat)
    (hcode : ∀ acc, pre.get a = some acc → acc.code.size = 0) (hcallee : env.callee ≠ a ∨ env.code.size = 0) :
    balOf pre a ≤ balOf (execTop env gas pre depth).world a + (if env.caller = a ∧ env.callType ≤ 1 then env.value else 0) := by
  cases hg : pre.get a with
  | none => rw [balOf_of_get_none hg]; omega
  | some acc =>
    have hp : Passive a acc.balance pre := ⟨acc, hg, hcode acc hg, Nat.le_refl _⟩
    have := passive_balOf (execTop_passive env gas pre depth hcallee hp)
    rw [balOf_of_get_some hg]
    omega

section tx
open Shentu.CvmTx Shentu.CvmTxH

theorem loadWorld_code {c : Cfg} {l : Ledger} {st : Store} {x : Nat} (h : ∀ acc, World.get st x = some acc → acc.code.size = 0) :
    ∀ acc, World.get (loadWorld c l st) x = some acc → acc.code.size = 0 := by
  intro acc hacc
  rw [get_loadWorld] at hacc
  obtain ⟨a0, hg, rfl⟩ := Option.map_eq_some_iff.mp hacc
  exact h a0 hg

/-- **the interpreter-level bound that `C01tx.tx_respects_lock_partial` asks for**: whatever the callee, a caller whose
    account has no code ends, in the final cache of the transaction, with at least its balance minus the value -/
theorem codeless_caller_cache_bound {c : Cfg} {l : Ledger} {st : Store} {m : Msg} {w : World}
    (hdep : m.deploy = true → World.get st m.callee = none)
    (hcode : ∀ acc, World.get st m.caller = some acc → acc.code.size = 0)
    (hi : installCode m (vmRun c l st m) = some w) :
    cacheBal (loadWorld c l st) m.caller ≤ cacheBal w m.caller + m.value := by
  show balOf (loadWorld c l st) m.caller ≤ balOf w m.caller + m.value
  rw [installCode_balOf hi]
  by_cases hself : m.deploy = true ∧ m.callee = m.caller
  · -- a deployment onto the caller's own address: the caller has no account, hence nothing
    have : World.get (loadWorld c l st) m.caller = none := by rw [get_loadWorld, ← hself.2, hdep hself.1]; rfl
    rw [balOf_of_get_none this]; omega
  · have hg : World.get (preStore st m) m.caller = World.get st m.caller := by rw [get_preStore, if_neg hself]
    have hb : balOf (loadWorld c l (preStore st m)) m.caller = balOf (loadWorld c l st) m.caller := by
      unfold balOf; rw [get_loadWorld, get_loadWorld, hg]
    -- if the caller calls itself, its (empty) code is what runs
    have hgood : (envOf st m).callee ≠ m.caller ∨ (envOf st m).code.size = 0 := by
      by_cases hcc : m.callee = m.caller
      · right
        have hd : m.deploy = false := by
          cases hdd : m.deploy with
          | false => rfl
          | true => exact absurd ⟨hdd, hcc⟩ hself
        show (codeOf st m).size = 0
        unfold codeOf
        rw [hd, hcc]
        cases hg : World.get st m.caller with
        | none => rfl
        | some acc => exact hcode acc hg
      · exact .inl hcc
    have := execTop_only_gain (envOf st m) m.gas (loadWorld c l (preStore st m)) m.depth m.caller
      (loadWorld_code (fun acc h => hcode acc (hg ▸ h))) hgood
    rw [hb, show (if (envOf st m).caller = m.caller ∧ (envOf st m).callType ≤ 1 then (envOf st m).value else 0) = m.value from
      if_pos ⟨rfl, Nat.zero_le _⟩] at this
    exact this

end tx

end Shentu.LockVmH
