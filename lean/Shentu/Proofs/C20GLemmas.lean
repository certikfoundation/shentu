import Shentu.Model.Genesis
import Shentu.Proofs.OracleEffect
/-
  For `Shentu/Props/C20G.lean`, the oracle part: the relation `Shift` between a chain and the chain started from its export
  (every height-indexed deadline one block later), the proof that every operation of the model respects it (up to `SameE`;
  an operation is read construct by construct through `SameE.guard`, `withOp`, `withTask`, `sent`, `andThen`), and that
  importing the export of an `Exportable` state establishes it (`import_shift`).
-/
namespace Shentu.C20GH
open Shentu Shentu.Oracle Shentu.Genesis.Oracle

/-- the environment of the imported chain: the same block, one height later -/
def up (e : Env) : Env := { e with h := e.h + 1 }

@[simp] theorem up_modAddr (e : Env) : (up e).modAddr = e.modAddr := rfl
@[simp] theorem up_t (e : Env) : (up e).t = e.t := rfl

def shiftWd (w : Withdraw) : Withdraw := { w with due := w.due + 1 }

/-- the same task closing one block later.  `waiting` is written at creation and by the export and read by nothing else;
    `begin` is the height at which the task was created (an imported task keeps it, a task created on the imported chain
    has the later height); neither is read by any operation. -/
def TaskR (t t' : Task) : Prop :=
  ∃ w g, (g = t.begin ∨ g = t.begin + 1) ∧ t' = { t with closing := t.closing + 1, waiting := w, begin := g }

def TasksR : List Task → List Task → Prop
  | [], [] => True
  | a :: as, b :: bs => TaskR a b ∧ TasksR as bs
  | _, _ => False

@[simp] theorem TasksR_nil_nil : TasksR [] [] = True := by simp [TasksR]
@[simp] theorem TasksR_cons_cons (a b : Task) (as bs : List Task) : TasksR (a :: as) (b :: bs) = (TaskR a b ∧ TasksR as bs) := by
  simp [TasksR]
@[simp] theorem TasksR_nil_cons (b : Task) (bs : List Task) : TasksR [] (b :: bs) = False := by simp [TasksR]
@[simp] theorem TasksR_cons_nil (a : Task) (as : List Task) : TasksR (a :: as) [] = False := by simp [TasksR]

/-- **the relation between the exporting chain and the imported chain**, valid for blocks at heights `≥ c` of the former:
    the same operators (collateral, rewards), the same total, the same parameters; the same pending withdrawals, each due
    one block later; the same tasks, each closing one block later; the closing index of block `k + 1` of the imported chain
    lists the same tasks in the same order as the index of block `k` of the exporting chain. -/
structure Shift (c : Int) (a b : State) : Prop where
  ops : b.ops = a.ops
  total : b.total = a.total
  params : b.params = a.params
  wds : b.wds = a.wds.map shiftWd
  tasks : TasksR a.tasks b.tasks
  index : ∀ k, c ≤ k → closingAt b (k + 1) = closingAt a k

theorem TaskR.key {t t' : Task} (h : TaskR t t') : t'.key = t.key := by
  obtain ⟨w, g, _, rfl⟩ := h; rfl
theorem TaskR.contract {t t' : Task} (h : TaskR t t') : t'.contract = t.contract := by
  obtain ⟨w, g, _, rfl⟩ := h; rfl
theorem TaskR.function {t t' : Task} (h : TaskR t t') : t'.function = t.function := by
  obtain ⟨w, g, _, rfl⟩ := h; rfl
theorem TaskR.closing {t t' : Task} (h : TaskR t t') : t'.closing = t.closing + 1 := by
  obtain ⟨w, g, _, rfl⟩ := h; rfl
theorem TaskR.responses {t t' : Task} (h : TaskR t t') : t'.responses = t.responses := by
  obtain ⟨w, g, _, rfl⟩ := h; rfl
theorem TaskR.status {t t' : Task} (h : TaskR t t') : t'.status = t.status := by
  obtain ⟨w, g, _, rfl⟩ := h; rfl
theorem TaskR.expiration {t t' : Task} (h : TaskR t t') : t'.expiration = t.expiration := by
  obtain ⟨w, g, _, rfl⟩ := h; rfl
theorem TaskR.creator {t t' : Task} (h : TaskR t t') : t'.creator = t.creator := by
  obtain ⟨w, g, _, rfl⟩ := h; rfl

theorem TaskR.upd {t t' : Task} (h : TaskR t t') (rs : List Response) (res : Int) (st : Nat) :
    TaskR { t with responses := rs, result := res, status := st } { t' with responses := rs, result := res, status := st } := by
  obtain ⟨w, g, hg, rfl⟩ := h; exact ⟨w, g, hg, rfl⟩

theorem TaskR.updR {t t' : Task} (h : TaskR t t') (rs : List Response) :
    TaskR { t with responses := rs } { t' with responses := rs } := by
  obtain ⟨w, g, hg, rfl⟩ := h; exact ⟨w, g, hg, rfl⟩

theorem TasksR.find (k : String) : ∀ {l l' : List Task}, TasksR l l' →
    (l.find? (fun t => t.key == k) = none ∧ l'.find? (fun t => t.key == k) = none) ∨
    ∃ t t', l.find? (fun t => t.key == k) = some t ∧ l'.find? (fun t => t.key == k) = some t' ∧ TaskR t t'
  | [], [], _ => by simp
  | [], _ :: _, h => by simp at h
  | _ :: _, [], h => by simp at h
  | a :: as, b :: bs, h => by
    simp only [TasksR_cons_cons] at h
    simp only [List.find?_cons, h.1.key]
    cases a.key == k
    · exact TasksR.find k h.2
    · exact Or.inr ⟨a, b, rfl, rfl, h.1⟩

theorem TasksR.map (g g' : Task → Task) (hg : ∀ x x', TaskR x x' → TaskR (g x) (g' x')) :
    ∀ {l l' : List Task}, TasksR l l' → TasksR (l.map g) (l'.map g')
  | [], [], _ => by simp
  | [], _ :: _, h => by simp at h
  | _ :: _, [], h => by simp at h
  | a :: as, b :: bs, h => by
    simp only [TasksR_cons_cons] at h
    simp only [List.map_cons, TasksR_cons_cons]
    exact ⟨hg a b h.1, TasksR.map g g' hg h.2⟩

theorem TasksR.append : ∀ {l l' m m' : List Task}, TasksR l l' → TasksR m m' → TasksR (l ++ m) (l' ++ m')
  | [], [], _, _, _, h2 => by simpa using h2
  | [], _ :: _, _, _, h, _ => by simp at h
  | _ :: _, [], _, _, h, _ => by simp at h
  | a :: as, b :: bs, _, _, h, h2 => by
    simp only [TasksR_cons_cons] at h
    simp only [List.cons_append, TasksR_cons_cons]
    exact ⟨h.1, TasksR.append h.2 h2⟩

theorem TasksR.filter (p : Task → Bool) (hp : ∀ x x', TaskR x x' → p x = p x') :
    ∀ {l l' : List Task}, TasksR l l' → TasksR (l.filter p) (l'.filter p)
  | [], [], _ => by simp
  | [], _ :: _, h => by simp at h
  | _ :: _, [], h => by simp at h
  | a :: as, b :: bs, h => by
    simp only [TasksR_cons_cons] at h
    simp only [List.filter_cons, ← hp a b h.1]
    by_cases hc : p a = true
    · simp only [hc, if_true, TasksR_cons_cons]; exact ⟨h.1, TasksR.filter p hp h.2⟩
    · have hc' : p a = false := by simpa using hc
      simp only [hc', Bool.false_eq_true, if_false]; exact TasksR.filter p hp h.2

theorem closingAt_congr {s s' : State} (h : s'.closing = s.closing) (k : Int) : closingAt s' k = closingAt s k := by
  simp [closingAt, h]

theorem closingAt_addClosing (s : State) (k k' : Int) (id : String × String) :
    closingAt (addClosing s k id) k' = if k' = k then closingAt s k ++ [id] else closingAt s k' := by
  unfold addClosing
  cases hf : s.closing.find? (·.1 == k) with
  | some e0 =>
    simp only [Option.isSome_some, if_true, closingAt]
    rw [Keyed.find_update Prod.fst (F := fun e => (e.1, e.2 ++ [id])) (fun _ h => h)]
    by_cases hk : k' = k
    · subst hk; rw [if_pos rfl, if_pos rfl, hf]; rfl
    · rw [if_neg (fun h => hk h.symm), if_neg hk]
  | none =>
    simp only [Option.isSome_none, Bool.false_eq_true, if_false, closingAt, List.find?_append]
    by_cases hk : k' = k
    · subst hk; simp [hf]
    · simp only [hk, if_false]
      cases hf' : s.closing.find? (·.1 == k') with
      | some e1 => simp
      | none =>
        have : (k == k') = false := by simp; exact fun h => hk h.symm
        simp [this]

theorem closingAt_delClosing (s : State) (k k' : Int) :
    closingAt (delClosing s k) k' = if k' = k then [] else closingAt s k' := by
  unfold delClosing closingAt
  simp only [Keyed.find_remove Prod.fst]
  by_cases hk : k = k'
  · rw [if_pos hk, if_pos hk.symm]
  · rw [if_neg hk, if_neg (fun h => hk h.symm)]

/-- both fail with the same error, or both succeed with the same ledger and related states -/
def ResR (c : Int) : Except Err (Ledger × State) → Except Err (Ledger × State) → Prop
  | .ok p, .ok q => q.1 = p.1 ∧ Shift c p.2 q.2
  | .error x, .error y => y = x
  | _, _ => False

def ResS (c : Int) : Except Err State → Except Err State → Prop
  | .ok p, .ok q => Shift c p q
  | .error x, .error y => y = x
  | _, _ => False

@[simp] theorem ResR_ok (c : Int) (p q : Ledger × State) : ResR c (.ok p) (.ok q) = (q.1 = p.1 ∧ Shift c p.2 q.2) := rfl
@[simp] theorem ResR_error (c : Int) (x y : Err) : ResR c (.error x) (.error y) = (y = x) := rfl
@[simp] theorem ResR_err (c : Int) (x y : String) : ResR c (err x) (err y) = ((⟨y⟩ : Err) = ⟨x⟩) := rfl
@[simp] theorem ResR_panic (c : Int) (x y : String) : ResR c (panicE x) (panicE y) = ((⟨"panic:" ++ y⟩ : Err) = ⟨"panic:" ++ x⟩) := rfl
@[simp] theorem ResS_ok (c : Int) (p q : State) : ResS c (.ok p) (.ok q) = Shift c p q := rfl
@[simp] theorem ResS_error (c : Int) (x y : Err) : ResS c (.error x) (.error y) = (y = x) := rfl
@[simp] theorem ResS_err (c : Int) (x y : String) : ResS c (err x) (err y) = ((⟨y⟩ : Err) = ⟨x⟩) := rfl


@[simp] theorem delTask_params (s : State) (k : String) : (delTask s k).params = s.params := rfl
@[simp] theorem delOp_closing (s : State) (a : Addr) : (delOp s a).closing = s.closing := rfl
@[simp] theorem delClosing_params (s : State) (h : Int) : (delClosing s h).params = s.params := rfl

variable {c : Int} {a b : State}

theorem view_of_shift (h : Shift c a b) : View a b := .of_ops (incs := []) h.ops h.params

theorem findOp_shift (h : Shift c a b) (x : Addr) : findOp b x = findOp a x := findOp_congr a b h.ops x
theorem isOp_shift (h : Shift c a b) (x : Addr) : isOp b x = isOp a x := by simp [isOp, findOp_shift h]

theorem shift_frame {a' b' : State} (h : Shift c a b) (ho : b'.ops = a'.ops) (ht : b'.total = a'.total)
    (ha : a'.wds = a.wds ∧ a'.tasks = a.tasks ∧ a'.closing = a.closing ∧ a'.params = a.params)
    (hb : b'.wds = b.wds ∧ b'.tasks = b.tasks ∧ b'.closing = b.closing ∧ b'.params = b.params) : Shift c a' b' := by
  refine ⟨ho, ht, ?_, ?_, ?_, ?_⟩
  · rw [ha.2.2.2, hb.2.2.2]; exact h.params
  · rw [ha.1, hb.1]; exact h.wds
  · rw [ha.2.1, hb.2.1]; exact h.tasks
  · intro k hk; rw [closingAt_congr ha.2.2.1, closingAt_congr hb.2.2.1]; exact h.index k hk

theorem shift_setOp (h : Shift c a b) (o : Operator) : Shift c (setOp a o) (setOp b o) := by
  apply shift_frame h
  · unfold setOp; rw [isOp_shift h, h.ops]; split <;> rfl
  · simp [h.total]
  · simp
  · simp

theorem shift_delOp (h : Shift c a b) (x : Addr) : Shift c (delOp a x) (delOp b x) := by
  apply shift_frame h
  · simp [delOp, h.ops]
  · simp [h.total]
  · simp
  · simp

theorem shift_total (h : Shift c a b) (t : Coins) : Shift c { a with total := t } { b with total := t } :=
  shift_frame h h.ops rfl ⟨rfl, rfl, rfl, rfl⟩ ⟨rfl, rfl, rfl, rfl⟩

theorem shift_withCredits (h : Shift c a b) (incs : List (Addr × Coins)) : Shift c (withCredits incs a) (withCredits incs b) := by
  apply shift_frame h
  · simp [withCredits, h.ops]
  · exact h.total
  · exact ⟨rfl, rfl, rfl, rfl⟩
  · exact ⟨rfl, rfl, rfl, rfl⟩

theorem findTask_shift (h : Shift c a b) (k : String) :
    (findTask a k = none ∧ findTask b k = none) ∨ ∃ t t', findTask a k = some t ∧ findTask b k = some t' ∧ TaskR t t' :=
  TasksR.find k h.tasks

theorem shift_setTask (h : Shift c a b) {t t' : Task} (ht : TaskR t t') : Shift c (setTask a t) (setTask b t') := by
  have hk := ht.key
  refine ⟨by simp [h.ops], by simp [h.total], by simp [h.params], by simp [h.wds], ?_, ?_⟩
  · unfold setTask
    rw [hk]
    rcases findTask_shift h t.key with ⟨hfa, hfb⟩ | ⟨_, _, hfa, hfb, _⟩ <;> rw [hfa, hfb]
    · simp only [Option.isSome_none, Bool.false_eq_true, if_false]
      exact TasksR.append h.tasks (by simp [ht])
    · simp only [Option.isSome_some, if_true]
      apply TasksR.map _ _ _ h.tasks
      intro x x' hx
      rw [hx.key]
      split
      · exact ht
      · exact hx
  · intro k hk'
    rw [closingAt_congr (setTask_closing b t'), closingAt_congr (setTask_closing a t)]
    exact h.index k hk'

theorem shift_delTask (h : Shift c a b) (k : String) : Shift c (delTask a k) (delTask b k) := by
  refine ⟨h.ops, h.total, h.params, h.wds, ?_, fun k' hk' => h.index k' hk'⟩
  exact TasksR.filter _ (fun x x' hx => by rw [hx.key]) h.tasks

theorem shift_addClosing (h : Shift c a b) (k : Int) (id : String × String) :
    Shift c (addClosing a k id) (addClosing b (k + 1) id) := by
  refine ⟨by simp [h.ops], by simp [h.total], by simp [h.params], by simp [h.wds], by simpa using h.tasks, ?_⟩
  intro k' hk'
  rw [closingAt_addClosing, closingAt_addClosing]
  by_cases hkk : k' = k
  · subst hkk; simp [h.index k' hk']
  · have : ¬ k' + 1 = k + 1 := by omega
    simp [hkk, this, h.index k' hk']

theorem shift_delClosing (h : Shift c a b) (k : Int) : Shift c (delClosing a k) (delClosing b (k + 1)) := by
  refine ⟨h.ops, h.total, h.params, h.wds, h.tasks, ?_⟩
  intro k' hk'
  rw [closingAt_delClosing, closingAt_delClosing]
  by_cases hkk : k' = k
  · subst hkk; simp
  · have : ¬ k' + 1 = k + 1 := by omega
    simp [hkk, this, h.index k' hk']

theorem upsertWd_shift (x : Addr) (d : Int) (amt : Coins) (l : List Withdraw) :
    upsertWd x (d + 1) amt (l.map shiftWd) = (upsertWd x d amt l).map shiftWd := by
  induction l with
  | nil => rfl
  | cons w ws ih =>
    simp only [List.map_cons, upsertWd]
    have : ((shiftWd w).due == d + 1 && (shiftWd w).addr == x) = (w.due == d && w.addr == x) := by
      have hb : (w.due + 1 == d + 1) = (w.due == d) := by rw [Bool.eq_iff_iff]; simp
      show ((w.due + 1 == d + 1) && (w.addr == x)) = _
      rw [hb]
    rw [this]
    split
    · rfl
    · rw [ih]; rfl

theorem shift_createWithdraw (h : Shift c a b) (e : Env) (x : Addr) (amt : Coins) :
    Shift c (createWithdraw e a x amt) (createWithdraw (up e) b x amt) := by
  refine ⟨h.ops, h.total, h.params, ?_, h.tasks, fun k hk => h.index k hk⟩
  show upsertWd x (Gen.Oracle.dueBlock (e.h + 1) b.params.lock) amt b.wds = _
  rw [h.wds, h.params]
  have : Gen.Oracle.dueBlock (e.h + 1) a.params.lock = Gen.Oracle.dueBlock e.h a.params.lock + 1 := by
    simp only [Gen.Oracle.dueBlock]; omega
  rw [this, upsertWd_shift]; rfl

theorem mature_shift (h : Int) (w : Withdraw) : mature (h + 1) (shiftWd w) = mature h w := by
  simp [mature, Gen.Oracle.matureSkip, shiftWd]

theorem payWithdraws_shift (e : Env) : ∀ (ws : List Withdraw) (l : Ledger),
    payWithdraws (up e) (ws.map shiftWd) l = payWithdraws e ws l := by
  intro ws
  induction ws with
  | nil => intro l; rfl
  | cons w ws ih =>
    intro l
    simp only [List.map_cons, payWithdraws, up_modAddr, shiftWd]
    cases l.send e.modAddr w.addr w.amt with
    | error x => rfl
    | ok l' => exact ih l'

theorem filter_map_shift (p q : Withdraw → Bool) (hpq : ∀ w, p (shiftWd w) = q w) (l : List Withdraw) :
    (l.map shiftWd).filter p = (l.filter q).map shiftWd := by
  rw [List.filter_map, show p ∘ shiftWd = q from funext hpq]

theorem belowMin_shift (h : Shift c a b) (e : Env) (cs : Coins) : belowMin (up e) b cs = belowMin e a cs := by
  simp [belowMin, h.params, up]

def Shift2 (c : Int) (p q : Ledger × State) : Prop := q.1 = p.1 ∧ Shift c p.2 q.2

theorem ResS_iff {x y : Except Err State} : ResS c x y ↔ SameE (Shift c) x y := by
  cases x <;> cases y <;> exact Iff.rfl
theorem ResR_iff {x y : Except Err (Ledger × State)} : ResR c x y ↔ SameE (Shift2 c) x y := by
  cases x <;> cases y <;> exact Iff.rfl

theorem withLedger {x y : Except Err State} (h : SameE (Shift c) x y) (l : Ledger) :
    SameE (Shift2 c) (x.map (fun s' => (l, s'))) (y.map (fun s' => (l, s'))) :=
  h.map fun _ _ hs => ⟨rfl, hs⟩

/-- a lookup on which the two chains agree (`findOp`, after `findOp_shift`).  This rule and the three after it are stated at the
    types the model matches on (`Option Operator`, `Option Task`, `Except Err Ledger`, `Except Err State`) and are generic only
    in what is returned: generic in the type matched on, they do not unify with the matchers of the model's own `match`es. -/
theorem withOp {α β : Type} {R : α → β → Prop} (o : Option Operator) (x : Err) {F : Operator → Except Err α} {G : Operator → Except Err β}
    (h : ∀ r, SameE R (F r) (G r)) :
    SameE R (match o with | none => .error x | some r => F r) (match o with | none => .error x | some r => G r) := by
  cases o with
  | none => rfl
  | some r => exact h r

theorem withTask {α β : Type} {R : α → β → Prop} (h : Shift c a b) (k : String) (x : Err) {F : Task → Except Err α} {G : Task → Except Err β}
    (hF : ∀ t t', TaskR t t' → SameE R (F t) (G t')) :
    SameE R (match findTask a k with | none => .error x | some t => F t)
      (match findTask b k with | none => .error x | some t => G t) := by
  rcases findTask_shift h k with ⟨hfa, hfb⟩ | ⟨t, t', hfa, hfb, hf⟩ <;> rw [hfa, hfb]
  · rfl
  · exact hF t t' hf

/-- the bank call is the same on both sides and only its ledger is kept -/
theorem sent (z : Except Err Ledger) {s s' : State} (h : Shift c s s') :
    SameE (Shift2 c) (match z with | .error y => .error y | .ok l' => .ok (l', s))
      (match z with | .error y => .error y | .ok l' => .ok (l', s')) := by
  cases z with
  | error y => rfl
  | ok l' => exact ⟨rfl, h⟩

theorem andThen {α β : Type} {R : α → β → Prop} {x y : Except Err State} (h : SameE (Shift c) x y)
    {F : State → Except Err α} {G : State → Except Err β} (hF : ∀ s s', Shift c s s' → SameE R (F s) (G s')) :
    SameE R (match (generalizing := false) x with | .error e => .error e | .ok s => F s)
      (match (generalizing := false) y with | .error e => .error e | .ok s => G s) := by
  rcases h.cases with ⟨e, rfl, rfl⟩ | ⟨s, s', rfl, rfl, hs⟩
  · rfl
  · exact hF s s' hs

theorem respClosed_shift (e : Env) {t t' : Task} (hf : TaskR t t') :
    Gen.Oracle.respClosed (up e).h t'.closing = Gen.Oracle.respClosed e.h t.closing := by
  rw [hf.closing]; simp [Gen.Oracle.respClosed, up]
theorem rmNotFinished_shift (e : Env) {t t' : Task} (hf : TaskR t t') :
    Gen.Oracle.rmNotFinished (up e).h t'.closing = Gen.Oracle.rmNotFinished e.h t.closing := by
  rw [hf.closing]; simp [Gen.Oracle.rmNotFinished, up]
theorem ctNotClosed_shift (e : Env) {t t' : Task} (hf : TaskR t t') :
    Gen.Oracle.ctNotClosed t'.closing (up e).h = Gen.Oracle.ctNotClosed t.closing e.h := by
  rw [hf.closing, Bool.eq_iff_iff, Gen.Oracle.ctNotClosed_iff, Gen.Oracle.ctNotClosed_iff]
  exact Int.add_le_add_iff_right 1

theorem createOperator_shift (h : Shift c a b) (e : Env) (l : Ledger) (x : Addr) (coll : Coins) (p : Addr) :
    SameE (Shift2 c) (createOperator e l a x coll p) (createOperator (up e) l b x coll p) := by
  unfold createOperator
  rw [isOp_shift h, belowMin_shift h]
  refine .guard _ fun _ => .guard _ fun _ => .guard _ fun _ => sent _ ?_
  have h1 := shift_setOp h { addr := x, proposer := p, coll := coll, rew := [] }
  rw [h1.total]
  exact shift_total h1 _

theorem removeOperator_shift (h : Shift c a b) (e : Env) (l : Ledger) (x : Addr) :
    SameE (Shift2 c) (removeOperator e l a x) (removeOperator (up e) l b x) := by
  unfold removeOperator
  rw [findOp_shift h, h.total]
  refine withOp _ _ fun o => .guard _ fun _ => sent _ ?_
  exact shift_delOp (shift_createWithdraw (shift_total h _) e x o.coll) x

theorem addCollateral_shift (h : Shift c a b) (e : Env) (l : Ledger) (x : Addr) (inc : Coins) :
    SameE (Shift2 c) (addCollateral e l a x inc) (addCollateral (up e) l b x inc) := by
  unfold addCollateral
  rw [findOp_shift h]
  refine .guard _ fun _ => withOp _ _ fun o => sent _ ?_
  have h1 := shift_setOp h { o with coll := Coins.add o.coll inc }
  rw [h1.total]
  exact shift_total h1 _

theorem reduceCollateral_shift (h : Shift c a b) (e : Env) (l : Ledger) (x : Addr) (dec : Coins) :
    SameE (Shift2 c) (reduceCollateral e l a x dec) (reduceCollateral (up e) l b x dec) := by
  unfold reduceCollateral
  rw [findOp_shift h]
  refine .guard _ fun _ => withOp _ _ fun o => ?_
  dsimp only
  rw [belowMin_shift h, h.total]
  refine .guard _ fun _ => .guard _ fun _ => .guard _ fun _ => ⟨rfl, ?_⟩
  have h1 := shift_setOp h { o with coll := Coins.sub o.coll dec }
  rw [h1.total]
  exact shift_createWithdraw (shift_total h1 _) e x dec

theorem withdrawReward_shift (h : Shift c a b) (e : Env) (l : Ledger) (x : Addr) :
    SameE (Shift2 c) (withdrawReward e l a x) (withdrawReward (up e) l b x) := by
  unfold withdrawReward
  rw [findOp_shift h]
  exact withOp _ _ fun o => sent _ (shift_setOp h _)

theorem respond_shift (h : Shift c a b) (e : Env) (ct fn : String) (score : Int) (op : Addr) :
    SameE (Shift c) (respond e a ct fn score op) (respond (up e) b ct fn score op) := by
  unfold respond
  rw [isOp_shift h]
  refine .guard _ fun _ => withTask h _ _ fun t t' hf => ?_
  rw [respClosed_shift e hf, hf.responses]
  exact .guard _ fun _ => .guard _ fun _ => .guard _ fun _ => shift_setTask h (hf.updR _)

theorem deleteTask_shift (h : Shift c a b) (e : Env) (ct fn : String) (force : Bool) (deleter : Addr) :
    SameE (Shift c) (deleteTask e a ct fn force deleter) (deleteTask (up e) b ct fn force deleter) := by
  unfold deleteTask
  refine withTask h _ _ fun t t' hf => ?_
  rw [rmNotFinished_shift e hf, hf.expiration, hf.creator, up_t]
  exact .guard _ fun _ => .guard _ fun _ => .guard _ fun _ => shift_delTask h _

theorem createTask_shift (h : Shift c a b) (e : Env) (l : Ledger) (ct fn : String) (bounty : Coins) (cr : Addr) (wait validNs : Int) :
    SameE (Shift2 c) (createTask e l a ct fn bounty cr wait validNs) (createTask (up e) l b ct fn bounty cr wait validNs) := by
  unfold createTask
  rw [h.params]
  dsimp only
  refine andThen (c := c) ?_ fun a0 b0 h0 => ?_
  · refine .guard _ fun _ => ?_
    rcases findTask_shift h (ct ++ fn) with ⟨hfa, hfb⟩ | ⟨t, t', hfa, hfb, hf⟩ <;> rw [hfa, hfb]
    · exact h
    · dsimp only
      rw [ctNotClosed_shift e hf]
      exact .guard _ fun _ => shift_delTask h _
  · generalize (if Gen.Oracle.waitIsDefault wait = true then a.params.window else wait) = W
    have hcl : Gen.Oracle.ctClosingBlock (up e).h W = Gen.Oracle.ctClosingBlock e.h W + 1 := by
      simp only [Gen.Oracle.ctClosingBlock, up]; omega
    rw [hcl]
    exact sent _ (shift_addClosing (shift_setTask h0 ⟨_, (up e).h, .inr rfl, rfl⟩) _ _)

theorem beginBlock_shift (h : Shift c a b) (e : Env) (l : Ledger) :
    SameE (Shift2 c) (beginBlock e l a) (beginBlock (up e) l b) := by
  unfold beginBlock
  rw [h.wds, filter_map_shift (mature (up e).h) (mature e.h) (fun w => mature_shift e.h w),
    filter_map_shift (fun w => !(mature (up e).h w)) (fun w => !(mature e.h w))
      (fun w => by show (!(mature (e.h + 1) (shiftWd w))) = _; rw [mature_shift]), payWithdraws_shift]
  exact sent _ ⟨h.ops, h.total, h.params, rfl, h.tasks, fun k hk => h.index k hk⟩

theorem TaskR.finish {t t' : Task} (h : TaskR t t') {a b : State} (hp : b.params = a.params) (ag : Agg) :
    TaskR (finishTask a t ag) (finishTask b t' ag) := by
  unfold finishTask
  rw [hp]
  split
  · split <;> exact h.upd _ _ _
  · exact h.upd _ _ _

theorem aggregateE_shift (h : Shift c a b) (bond : Denom) (key : String) :
    SameE TaskR (aggregateE bond a key) (aggregateE bond b key) := by
  unfold aggregateE
  refine withTask h _ _ fun t t' hf => ?_
  rw [hf.status, hf.responses, ← (view_of_shift h).aggPure, show aggStart b = aggStart a by unfold aggStart; rw [h.params]]
  exact .guard _ fun _ => hf.finish h.params _

theorem distributeBountyE_retag (bond : Denom) (s : State) {t t' : Task} (ht : TaskR t t') :
    SameE (fun p q => q.1 = p.1 ∧ TaskR p.2 q.2) (distributeBountyE bond s t) (distributeBountyE bond s t') := by
  obtain ⟨w, g, hg, rfl⟩ := ht
  unfold distributeBountyE
  simp only [branch, branchDB]
  cases totalValid bond s
      (if Gen.Oracle.tvBranchMin t.result = true then 0 else if Gen.Oracle.tvBranchLow t.result s.params.threshold = true then 1 else 2)
      t.responses 0 with
  | error x => rfl
  | ok tv =>
    refine .guard _ fun _ => ?_
    cases payAllE bond
        (if Gen.Oracle.dbBranchMin t.result = true then 0 else if Gen.Oracle.dbBranchLow t.result s.params.threshold = true then 1 else 2)
        tv s (Coins.canon t.bounty) t.responses with
    | error x => rfl
    | ok p => exact ⟨rfl, w, g, hg, rfl⟩

theorem endOne_shift (h : Shift c a b) (bond : Denom) (id : String × String) :
    SameE (Shift c) (endOne bond a id) (endOne bond b id) := by
  unfold endOne
  dsimp only
  rw [aggregate_eq bond a, aggregate_eq bond b]
  rcases (aggregateE_shift h bond (id.1 ++ id.2)).cases with ⟨x, ha, hb⟩ | ⟨t1, t1', ha, hb, hT⟩ <;> rw [ha, hb] <;> dsimp only
  · exact .orKeep x h
  · rw [findTask_setTask, if_pos (aggregateE_ok ha).1, findTask_setTask, if_pos (aggregateE_ok hb).1]
    dsimp only
    rw [distributeBounty_eq bond a (setTask a t1) t1 (view_setTask a t1),
        distributeBounty_eq bond a (setTask b t1') t1' ((view_of_shift h).trans (view_setTask b t1'))]
    have h1 : Shift c (setTask a t1) (setTask b t1') := shift_setTask h hT
    rcases (distributeBountyE_retag bond a hT).cases with ⟨x, ha', hb'⟩ | ⟨⟨incs, t2⟩, ⟨incs', t2'⟩, ha', hb', hi, hT2⟩ <;>
      rw [ha', hb'] <;> dsimp only
    · exact .orKeep x h1
    · obtain rfl : incs' = incs := hi
      exact shift_setTask (shift_withCredits h1 _) hT2

theorem endFold_shift (bond : Denom) : ∀ (ids : List (String × String)) {a b : State}, Shift c a b →
    SameE (Shift c) (endFold bond ids a) (endFold bond ids b)
  | [], _, _, h => h
  | id :: ids, _, _, h => andThen (endOne_shift h bond id) fun _ _ h1 => endFold_shift bond ids h1

theorem endBlock_shift (h : Shift c a b) (e : Env) (hc : c ≤ e.h) : SameE (Shift c) (endBlock e a) (endBlock (up e) b) := by
  unfold endBlock
  show SameE _ _ (match endFold e.bond (closingAt b (e.h + 1)) b with
    | .error x => .error x
    | .ok s' => .ok (delClosing s' (e.h + 1)))
  rw [h.index e.h hc]
  exact andThen (endFold_shift e.bond _ h) fun _ _ h1 => shift_delClosing h1 _

theorem stepE_shift (h : Shift c a b) (e : Env) (hc : c ≤ e.h) (l : Ledger) (op : Op) :
    SameE (Shift2 c) (stepE e l a op) (stepE (up e) l b op) := by
  cases op with
  | createOperator x cs p => exact createOperator_shift h e l x cs p
  | removeOperator x => exact removeOperator_shift h e l x
  | addCollateral x cs => exact addCollateral_shift h e l x cs
  | reduceCollateral x cs => exact reduceCollateral_shift h e l x cs
  | withdrawReward x => exact withdrawReward_shift h e l x
  | createTask ct fn bo cr w v => exact createTask_shift h e l ct fn bo cr w v
  | respond ct fn sc o => exact withLedger (respond_shift h e ct fn sc o) l
  | deleteTask ct fn fo d => exact withLedger (deleteTask_shift h e ct fn fo d) l
  | beginBlock => exact beginBlock_shift h e l
  | endBlock => exact withLedger (endBlock_shift h e hc) l

/-- a history: every operation with the environment of its block -/
def run (ls : Ledger × State) (ops : List (Env × Op)) : Ledger × State := ops.foldl (fun ls eo => step eo.1 ls eo.2) ls
/-- the same history on the imported chain: every block one height later -/
def runUp (ls : Ledger × State) (ops : List (Env × Op)) : Ledger × State := ops.foldl (fun ls eo => step (up eo.1) ls eo.2) ls

/-- what an operation answered: `none` for success, the error otherwise -/
def outcome (e : Env) (ls : Ledger × State) (op : Op) : Option Err :=
  match stepE e ls.1 ls.2 op with
  | .ok _ => none
  | .error x => some x

def outcomes : Ledger × State → List (Env × Op) → List (Option Err)
  | _, [] => []
  | ls, eo :: rest => outcome eo.1 ls eo.2 :: outcomes (step eo.1 ls eo.2) rest
def outcomesUp : Ledger × State → List (Env × Op) → List (Option Err)
  | _, [] => []
  | ls, eo :: rest => outcome (up eo.1) ls eo.2 :: outcomesUp (step (up eo.1) ls eo.2) rest

theorem step_shift (h : Shift c a b) (e : Env) (hc : c ≤ e.h) (l : Ledger) (op : Op) :
    (step (up e) (l, b) op).1 = (step e (l, a) op).1 ∧ Shift c (step e (l, a) op).2 (step (up e) (l, b) op).2 ∧
      outcome (up e) (l, b) op = outcome e (l, a) op := by
  unfold step outcome
  dsimp only
  rcases (stepE_shift h e hc l op).cases with ⟨x, ha, hb⟩ | ⟨p, q, ha, hb, hl, hs⟩ <;> rw [ha, hb]
  · exact ⟨rfl, h, rfl⟩
  · exact ⟨hl, hs, rfl⟩

theorem run_shift_pair : ∀ (ops : List (Env × Op)) (x y : Ledger × State), y.1 = x.1 → Shift c x.2 y.2 →
    (∀ eo ∈ ops, c ≤ eo.1.h) →
    (runUp y ops).1 = (run x ops).1 ∧ Shift c (run x ops).2 (runUp y ops).2 ∧ outcomesUp y ops = outcomes x ops
  | [], _, _, h1, h, _ => ⟨h1, h, rfl⟩
  | eo :: rest, (l, a), (_, b), rfl, h, hc => by
    obtain ⟨h1, h2, h3⟩ := step_shift h eo.1 (hc eo List.mem_cons_self) l eo.2
    obtain ⟨i1, i2, i3⟩ := run_shift_pair rest _ _ h1 h2 (fun x hx => hc x (List.mem_cons_of_mem _ hx))
    exact ⟨i1, i2, by rw [outcomes, outcomesUp, h3, i3]⟩

def ids (ts : List Task) : List (String × String) := ts.map (fun t => (t.contract, t.function))
def idsAt (k : Int) (ts : List Task) : List (String × String) := ids (ts.filter (fun t => t.closing == k))

/-- what the export at height `h` relies on: task keys are distinct (they are keys of a store), and the closing index of
    every later block lists exactly the tasks that close then, in the order of the task list -/
structure Exportable (h : Int) (s : State) : Prop where
  keys : (s.tasks.map Task.key).Nodup
  index : ∀ k, h < k → closingAt s k = idsAt k s.tasks

/-- an exported and re-imported task: closing one block later, `waiting` as the export wrote it -/
def impT (h : Int) (t : Task) : Task := { t with closing := t.closing + 1, waiting := t.closing - h }

theorem impT_rel (h : Int) (t : Task) : TaskR t (impT h t) := ⟨t.closing - h, t.begin, Or.inl rfl, rfl⟩

theorem tasksR_impT (h : Int) : ∀ l : List Task, TasksR l (l.map (impT h))
  | [] => by simp
  | t :: ts => by simp only [List.map_cons, TasksR_cons_cons]; exact ⟨impT_rel h t, tasksR_impT h ts⟩

/-- `st'` is `st` with the tasks `ts` appended and the entries `idx k` appended to the closing index of every block `k` -/
structure Grown (st st' : State) (ts : List Task) (idx : Int → List (String × String)) : Prop where
  ops : st'.ops = st.ops
  wds : st'.wds = st.wds
  total : st'.total = st.total
  params : st'.params = st.params
  tasks : st'.tasks = st.tasks ++ ts
  index : ∀ k, closingAt st' k = closingAt st k ++ idx k

theorem updateAndSetTask_export (h : Int) (st : State) (t : Task) :
    updateAndSetTask (h + 1) st (exportTask h t) =
      if h < t.closing then addClosing (setTask st (impT h t)) (t.closing + 1) (t.contract, t.function)
      else setTask st (impT h t) := by
  have e1 : h + 1 + (t.closing - h) = t.closing + 1 := by omega
  unfold updateAndSetTask exportTask impT
  dsimp only
  rw [e1]
  by_cases hw : h < t.closing
  · rw [if_pos hw, if_pos (show t.closing - h > 0 by omega)]
  · rw [if_neg hw, if_neg (show ¬ t.closing - h > 0 by omega)]

theorem import_one (h : Int) (st : State) (t : Task) (hf : findTask st t.key = none) :
    Grown st (updateAndSetTask (h + 1) st (exportTask h t)) [impT h t]
      (fun k => if h < t.closing ∧ t.closing + 1 = k then [(t.contract, t.function)] else []) := by
  have hs : setTask st (impT h t) = { st with tasks := st.tasks ++ [impT h t] } := by
    unfold setTask; rw [show (impT h t).key = t.key from rfl, hf]; rfl
  rw [updateAndSetTask_export, hs]
  by_cases hw : h < t.closing
  · rw [if_pos hw]
    refine ⟨by simp, by simp, by simp, by simp, by simp, fun k => ?_⟩
    rw [closingAt_addClosing]
    by_cases hk : k = t.closing + 1
    · subst hk; simp [hw]; rfl
    · simp [hk, Ne.symm hk]; rfl
  · rw [if_neg hw]
    exact ⟨rfl, rfl, rfl, rfl, rfl, fun k => by rw [if_neg fun hh => hw hh.1, List.append_nil]; rfl⟩

theorem findTask_append_none (st : State) (u : Task) (k : String) (h1 : findTask st k = none) (h2 : u.key ≠ k) :
    findTask { st with tasks := st.tasks ++ [u] } k = none := by
  unfold findTask at *
  rw [List.find?_append, h1]
  simp [h2]

theorem ids_filter_cons (p : Task → Bool) (t : Task) (rest : List Task) :
    ids ((t :: rest).filter p) = (if p t = true then [(t.contract, t.function)] else []) ++ ids (rest.filter p) := by
  simp only [List.filter_cons]
  split <;> simp [ids]

theorem fold_import (h : Int) : ∀ (rest : List Task) (st : State),
    (∀ t ∈ rest, findTask st t.key = none) → (rest.map Task.key).Nodup →
    Grown st ((rest.map (exportTask h)).foldl (updateAndSetTask (h + 1)) st) (rest.map (impT h))
      (fun k => ids (rest.filter (fun t => decide (h < t.closing) && (t.closing + 1 == k)))) := by
  intro rest
  induction rest with
  | nil => intro st _ _; exact ⟨rfl, rfl, rfl, rfl, by simp, by simp [ids]⟩
  | cons t rest ih =>
    intro st hfree hnd
    simp only [List.map_cons, List.nodup_cons] at hnd
    obtain ⟨o1, o2, o3, o4, o5, o6⟩ := import_one h st t (hfree t List.mem_cons_self)
    have hfree' : ∀ u ∈ rest, findTask (updateAndSetTask (h + 1) st (exportTask h t)) u.key = none := by
      intro u hu
      have h1 := hfree u (List.mem_cons_of_mem _ hu)
      have h2 : (impT h t).key ≠ u.key := by
        intro heq
        apply hnd.1
        have : t.key = u.key := heq
        rw [this]
        exact List.mem_map.mpr ⟨u, hu, rfl⟩
      have := findTask_append_none st (impT h t) u.key h1 h2
      unfold findTask at this ⊢
      rw [o5]; exact this
    obtain ⟨i1, i2, i3, i4, i5, i6⟩ := ih (updateAndSetTask (h + 1) st (exportTask h t)) hfree' hnd.2
    simp only [List.map_cons, List.foldl_cons]
    refine ⟨i1.trans o1, i2.trans o2, i3.trans o3, i4.trans o4, ?_, ?_⟩
    · rw [i5, o5]; simp
    · intro k
      rw [i6, o6, ids_filter_cons, List.append_assoc]
      congr 2
      have : ((decide (h < t.closing) && (t.closing + 1 == k)) = true) ↔ (h < t.closing ∧ t.closing + 1 = k) := by simp
      simp only [this]

theorem wd_roundtrip (h : Int) (l : List Withdraw) : (l.map (exportWd h)).map (importWd (h + 1)) = l.map shiftWd := by
  rw [List.map_map]
  apply List.map_congr_left
  intro w _
  show ({ w with due := w.due - h + (h + 1) } : Withdraw) = { w with due := w.due + 1 }
  have : w.due - h + (h + 1) = w.due + 1 := by omega
  rw [this]

theorem import_fields (h : Int) (s : State) (hk : (s.tasks.map Task.key).Nodup) :
    (initGenesis (h + 1) (exportGenesis h s)).ops = s.ops ∧
    (initGenesis (h + 1) (exportGenesis h s)).wds = s.wds.map shiftWd ∧
    (initGenesis (h + 1) (exportGenesis h s)).total = s.total ∧
    (initGenesis (h + 1) (exportGenesis h s)).params = s.params ∧
    (initGenesis (h + 1) (exportGenesis h s)).tasks = s.tasks.map (impT h) ∧
    ∀ k, closingAt (initGenesis (h + 1) (exportGenesis h s)) k =
      ids (s.tasks.filter (fun t => decide (h < t.closing) && (t.closing + 1 == k))) := by
  unfold initGenesis exportGenesis emptyState
  dsimp only
  obtain ⟨i1, i2, i3, i4, i5, i6⟩ := fold_import h s.tasks
    { ops := s.ops, wds := (s.wds.map (exportWd h)).map (importWd (h + 1)), total := s.total, tasks := [], closing := [],
      params := s.params } (fun _ _ => rfl) hk
  refine ⟨i1, ?_, i3, i4, ?_, ?_⟩
  · rw [← wd_roundtrip h]; exact i2
  · simpa using i5
  · intro k; rw [i6]; simp [closingAt]

theorem import_shift (h : Int) (s : State) (hx : Exportable h s) :
    Shift (h + 1) s (initGenesis (h + 1) (exportGenesis h s)) := by
  obtain ⟨i1, i2, i3, i4, i5, i6⟩ := import_fields h s hx.keys
  refine ⟨i1, i3, i4, i2, ?_, ?_⟩
  · rw [i5]; exact tasksR_impT h s.tasks
  · intro k hk
    rw [i6, hx.index k (by omega)]
    unfold idsAt
    congr 1
    apply List.filter_congr
    intro t _
    by_cases ht : t.closing = k
    · have h1 : h < t.closing := by omega
      have h2 : t.closing + 1 = k + 1 := by omega
      rw [decide_eq_true h1, beq_iff_eq.mpr h2, beq_iff_eq.mpr ht]; rfl
    · have h2 : ¬ t.closing + 1 = k + 1 := by omega
      rw [beq_eq_false_iff_ne.mpr h2, beq_eq_false_iff_ne.mpr ht, Bool.and_false]

end Shentu.C20GH
