import Shentu.Proofs.Guards
import Shentu.Proofs.ShieldStores
import Shentu.Proofs.ShieldLoops
/-
  `RemoveExpiredPurchasesAndDistributeFees` (`expireAndDistribute`) as two steps: the expiry loop over the due purchase
  lists and the distribution of the fees it released (`distributeFees`).  What an accepted round of the loop is, is
  said once (`expireBody_cases`: the accumulator `expired …` over the store as it was or with the pool charged); its
  readers do not open the round again.
-/
namespace Shentu.Shield.PoolLm

/-- `res` is the pass over the entries, named by the caller (`hex`; `_ rfl` when no name is wanted) so that its components
    can be spoken of; `s1` is the store before the list is put back: as it was, or with the pool charged -/
theorem expireBody_cases {now : Int} {pool : Nat} {a : Addr} {acc acc1 : ExpAcc} {lst : PList}
    (h : expireBody now pool a acc lst = .ok acc1) (res : List Purchase × (Dec × Dec × Int))
    (hex : expireEntries now acc.s.lastUpdate acc.s.params.protection lst.entries (acc.fees, acc.totalFees, 0) = res) :
    ∃ s1, acc1 = expired acc pool a lst res s1 ∧
      ((lst.entries.any (·.delTime < now) = false ∧ s1 = acc.s) ∨
       (lst.entries.any (·.delTime < now) = true ∧
        ∃ p, findPool acc.s pool = some p ∧ s1 = setPool acc.s { p with shield := p.shield - res.2.2.2 })) := by
  unfold expireBody at h
  rw [hex] at h
  dsimp only at h
  split at h
  · rename_i hany
    split at h
    · cases h
    · rename_i p hp; cases h; exact ⟨_, rfl, .inr ⟨hany, p, hp, rfl⟩⟩
  · rename_i hany; cases h; exact ⟨_, rfl, .inl ⟨by simpa using hany, rfl⟩⟩

theorem putList_eq (s1 : State) (pool : Nat) (a : Addr) (lst : PList) (es : List Purchase) :
    putList s1 pool a lst es = { s1 with lists := (putList s1 pool a lst es).lists } := by
  unfold putList; split
  · rfl
  · exact setList_eq _ _

/-- the purchase list once `es` are its entries: none when no entry is left -/
def kept (lst : PList) (es : List Purchase) : Option PList := if es.isEmpty then none else some { lst with entries := es }

theorem optEntries_kept (lst : PList) (es : List Purchase) : optEntries (kept lst es) = es := by
  cases es <;> rfl

theorem kept_key {s : State} {pid : Nat} {a : Addr} {lst : PList} (h : findList s pid a = some lst) (es : List Purchase) :
    ∀ x, kept lst es = some x → listKey x = (pid, a) := by
  intro x hx; unfold kept at hx; split at hx
  · cases hx
  · exact setEntries_key h es x hx

theorem putList_lists {s1 s : State} (hl : s1.lists = s.lists) (pid : Nat) (a : Addr) (lst : PList) (es : List Purchase) :
    (putList s1 pid a lst es).lists = Keyed.put listKey (pid, a) (kept lst es) s.lists := by
  unfold putList kept; split
  · rw [deleteList_lists, hl]; rfl
  · rw [setList_lists_congr hl, setList_lists]; rfl

theorem expireBody_writes {now : Int} {pool : Nat} {a : Addr} {acc acc1 : ExpAcc} {lst : PList}
    (h : expireBody now pool a acc lst = .ok acc1) :
    acc1.s = { acc.s with pools := acc1.s.pools, lists := acc1.s.lists } := by
  obtain ⟨s1, rfl, h1⟩ := expireBody_cases h _ rfl
  dsimp only [expired]
  rw [putList_eq]
  rcases h1 with ⟨_, rfl⟩ | ⟨_, p, _, rfl⟩ <;> rfl

theorem expireLoop_writes (now : Int) (pairs : List (Nat × Addr)) (acc acc' : ExpAcc)
    (h : expireLoop now pairs acc = .ok acc') : acc'.s = { acc.s with pools := acc'.s.pools, lists := acc'.s.lists } :=
  (expireLoop_rel (R := fun x y => y.s = { x.s with pools := y.s.pools, lists := y.s.lists }) (I := fun _ => True)
    (fun _ => rfl) (fun h1 h2 => by rw [h2, h1]) (fun _ hb _ => ⟨expireBody_writes hb, trivial⟩) trivial h).1

/-- the second half of `expireAndDistribute`: the loop's totals are written back and the fees of the block are shared out -/
def distributeFees (e : Env) (s : State) (acc : ExpAcc) : Except Err State :=
  if s.lists.any (fun l => l.entries.any (fun en => s.origStakings.any (fun o => o.1 == en.id && o.2 != 0) && en.fees.raw > 0)) then
    err "unmodelled:stake-expiry"
  else if acc.totalFees.raw < 0 then panicE "shield:negative-service-fees"
  else
    let s1 : State := { acc.s with totalShield := acc.totalShield, serviceFees := acc.totalFees }
    let blockShare := Dec.quo (Dec.mul acc.totalFees (Dec.ofInt (e.t - s.lastUpdate))) (Dec.ofInt s.params.protection)
    let fees0 := Dec.add acc.fees blockShare
    let fees1 := if s1.remaining.raw < fees0.raw then s1.remaining else fees0
    let fees2 := Dec.add fees1 s1.blockFees
    let shared := if s1.totalCollateral > 0 then distributeLoop s1.totalCollateral fees2 s1.providers s1.remaining else (s1.providers, s1.remaining)
    if shared.2.raw < 0 then panicE "shield:negative-remaining"
    else .ok { s1 with providers := shared.1, remaining := Dec.add shared.2 s1.blockFees, blockFees := Dec.zero, lastUpdate := e.t }

theorem expireAndDistribute_eq (e : Env) (s : State) :
    expireAndDistribute e s =
      if s.lastUpdate == zeroTime then .ok s
      else
        match expireLoop e.t (duePairs s e.t) { s := s, fees := Dec.zero, totalFees := s.serviceFees, totalShield := s.totalShield } with
        | .error x => .error x
        | .ok acc => distributeFees e s acc := rfl

theorem distributeFees_ok {e : Env} {s s' : State} {acc : ExpAcc} (h : distributeFees e s acc = .ok s') :
    0 ≤ acc.totalFees.raw ∧
    ∃ provs rem,
      (provs = acc.s.providers ∨ ∃ fees, provs = (distributeLoop acc.s.totalCollateral fees acc.s.providers acc.s.remaining).1) ∧
      s' = { acc.s with totalShield := acc.totalShield, serviceFees := acc.totalFees, providers := provs,
                        remaining := rem, blockFees := Dec.zero, lastUpdate := e.t } := by
  unfold distributeFees at h
  obtain ⟨_, h⟩ := of_guard h
  obtain ⟨hfees, h⟩ := of_guard h
  dsimp only at h
  generalize hsh : (if acc.s.totalCollateral > 0 then _ else _ : List Provider × Dec) = shared at h
  obtain ⟨_, h⟩ := of_guard h
  cases h
  refine ⟨Int.not_lt.mp hfees, shared.1, _, ?_, rfl⟩
  rw [← hsh]
  split
  · exact Or.inr ⟨_, rfl⟩
  · exact Or.inl rfl

theorem expireAndDistribute_steps {e : Env} {s s' : State} (h : expireAndDistribute e s = .ok s') :
    s' = s ∨ ∃ acc, expireLoop e.t (duePairs s e.t)
        { s := s, fees := Dec.zero, totalFees := s.serviceFees, totalShield := s.totalShield } = .ok acc ∧
      distributeFees e s acc = .ok s' := by
  rw [expireAndDistribute_eq] at h
  by_cases hz : (s.lastUpdate == zeroTime) = true
  · rw [if_pos hz] at h; cases h; exact Or.inl rfl
  · rw [if_neg hz] at h
    cases hloop : expireLoop e.t (duePairs s e.t)
        { s := s, fees := Dec.zero, totalFees := s.serviceFees, totalShield := s.totalShield } with
    | error x => rw [hloop] at h; cases h
    | ok acc => rw [hloop] at h; exact Or.inr ⟨acc, rfl, h⟩

theorem expireAndDistribute_started {e : Env} {s s' : State} (hl : s.lastUpdate ≠ zeroTime)
    (h : expireAndDistribute e s = .ok s') : s'.blockFees = Dec.zero ∧ s'.lastUpdate = e.t := by
  rw [expireAndDistribute_eq, if_neg (by simpa using hl)] at h
  generalize expireLoop _ _ _ = r at h
  cases r with
  | error x => cases h
  | ok acc => obtain ⟨_, _, _, _, rfl⟩ := distributeFees_ok h; exact ⟨rfl, rfl⟩

theorem endBlock_ok {e : Env} {s s' : State} (h : endBlock e s = .ok s') :
    ∃ s1 s2, expireAndDistribute e s = .ok s1 ∧ completeWithdrawals e s1 = .ok s2 ∧ s' = closePools s2 := by
  unfold endBlock at h
  cases h1 : expireAndDistribute e s with
  | error x => rw [h1] at h; cases h
  | ok s1 =>
    rw [h1] at h
    dsimp only at h
    cases h2 : completeWithdrawals e s1 with
    | error x => rw [h2] at h; cases h
    | ok s2 => rw [h2] at h; cases h; exact ⟨s1, s2, rfl, h2, rfl⟩

end Shentu.Shield.PoolLm
