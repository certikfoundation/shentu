import Shentu.Proofs.C16mExec
/-
  The memory size that the cost lookup (`gasLookUp` → `dynPart` → `calcMemSize`) hands to `expandMemory`, in terms of the
  stack operands it peeks at.
-/
namespace Shentu.C16m2H
open Shentu.EVM Shentu.EVM.MemSpec Shentu.C16mH
open Shentu.Gen.Gas (OpInfo Dyn MemRule)

theorem memNeed_def (o len : Nat) : memNeed o len = toWordSize (memSize64 o len).1 * 32 := rfl

/-- for a constant length below 2^64 the two size functions of gas.go agree -/
theorem memSize64U_eq (o n : Nat) (hn : n < U64) : memSize64U o n = memSize64 o n := by
  unfold memSize64
  rw [if_neg (by omega)]

/-- `dynPart` after the memory size is fixed: the dynamic cost for `mem` bytes of memory, or the cost that no gas covers -/
def dynPriced (q : Quirks) (self : Nat) (d : Dyn) (mem : Nat) : M (Nat × Nat) := do
  let g ← dynGas self d mem
  match g with
  | none => if q.hugeOffsetNotOog then pushErr .generic else return (hugeCost, 0)
  | some _ => pure ()
  pure (g.getD 0, mem)

/-- `dynPart` after the memory rule has given the size `m` and the overflow flag `of`: round up to words, then either the
    cost that no gas covers (specification mode), or the overflow errors and `after` on the rounded size -/
def dynSized (q : Quirks) (after : Nat → M (Nat × Nat)) (m : Nat) (of : Bool) : M (Nat × Nat) := do
  let w := toWordSize m * 32
  if !q.hugeOffsetNotOog && (of || w ≥ U64 || w > memCap) then
    noteDev 5
    pure (hugeCost, 0)
  else
    if of then pushErr .integerOverflow
    if w ≥ U64 then pushErr .integerOverflow
    after (w % U64)

theorem dynPart_eq (q : Quirks) (self : Nat) (info : OpInfo) (d : Dyn) (hm : info.mem ≠ .none) :
    dynPart q self info d = calcMemSize info.mem >>= fun x => dynSized q (dynPriced q self d) x.1 x.2 := by
  unfold dynPart
  generalize info.mem = rule at hm
  cases rule <;> first | exact absurd rfl hm | rfl

theorem dynPriced_mem (q : Quirks) (self : Nat) (d : Dyn) (mem0 : Nat) (s : Frame) (cost mem : Nat) (s' : Frame)
    (h : (dynPriced q self d mem0 s).val = (some (cost, mem), s')) :
    mem = mem0 ∨ (q.hugeOffsetNotOog = false ∧ cost = hugeCost ∧ mem = 0) := by
  obtain ⟨g, s3, _, ht⟩ := bind_some h
  cases g with
  | some c => exact Or.inl (congrArg (fun r => r.1.getD (0, 0) |>.2) ht).symm
  | none =>
    simp only [] at ht
    by_cases hq : q.hugeOffsetNotOog = true
    · rw [if_pos hq] at ht
      obtain ⟨_, s4, _, ht⟩ := bind_some ht
      exact Or.inl (congrArg (fun r => r.1.getD (0, 0) |>.2) ht).symm
    · rw [if_neg hq] at ht
      cases ht
      exact Or.inr ⟨by simpa using hq, rfl, rfl⟩

/-- **The memory component of the cost lookup.**  When the memory rule has computed the sizes `(m, of)`, a lookup that ends
    without a pending error went on with exactly `m` rounded up to words, and neither `m` nor the rounding overflowed — unless
    the lookup answered with the cost that no gas covers (specification mode only). -/
theorem dynSized_mem (q : Quirks) (after : Nat → M (Nat × Nat)) (m : Nat) (of : Bool) (s : Frame) (cost mem : Nat) (s' : Frame)
    (h : (dynSized q after m of s).val = (some (cost, mem), s')) (he : s'.err = none) :
    (of = false ∧ toWordSize m * 32 < U64 ∧ (after (toWordSize m * 32) s).val = (some (cost, mem), s')) ∨
    (q.hugeOffsetNotOog = false ∧ cost = hugeCost ∧ mem = 0) := by
  unfold dynSized at h
  simp only [] at h
  split at h
  · rename_i hc
    cases h
    have hq : q.hugeOffsetNotOog = false := by
      cases hh : q.hugeOffsetNotOog
      · rfl
      · rw [hh] at hc; simp at hc
    exact Or.inr ⟨hq, rfl, rfl⟩
  · cases of with
    | true =>
      -- IntegerOverflow is pushed: the lookup cannot end without a pending error
      obtain ⟨_, s2, hp, h⟩ := bind_some h
      exact absurd (err_sticky h he) (pushErr_err _ _ _ hp)
    | false =>
      by_cases hw : toWordSize m * 32 ≥ U64
      · rw [if_neg (by decide), if_pos hw] at h
        obtain ⟨_, s2, hp, h⟩ := bind_some h
        exact absurd (err_sticky h he) (pushErr_err _ _ _ hp)
      · rw [if_neg (by decide), if_neg hw, Nat.mod_eq_of_lt (Nat.not_le.1 hw)] at h
        exact Or.inl ⟨rfl, Nat.not_le.1 hw, h⟩

theorem dynPart_mem (q : Quirks) (self : Nat) (info : OpInfo) (d : Dyn) (s : Frame) (hm : info.mem ≠ .none)
    (m : Nat) (of : Bool) (s1 : Frame) (hcalc : (calcMemSize info.mem s).val = (some (m, of), s1))
    (cost mem : Nat) (s' : Frame) (h : (dynPart q self info d s).val = (some (cost, mem), s')) (he : s'.err = none) :
    (of = false ∧ toWordSize m * 32 < U64 ∧ mem = toWordSize m * 32) ∨
    (q.hugeOffsetNotOog = false ∧ cost = hugeCost ∧ mem = 0) := by
  rw [dynPart_eq q self info d hm] at h
  obtain ⟨x, s2, hx, h⟩ := bind_some h
  cases hx.symm.trans hcalc
  rcases dynSized_mem q _ m of s1 cost mem s' h he with ⟨h1, h2, h3⟩ | h3
  · rcases dynPriced_mem q self d _ s1 cost mem s' h3 with h4 | h4
    · exact Or.inl ⟨h1, h2, h4⟩
    · exact Or.inr h4
  · exact Or.inr h3

/-- the same for the whole lookup: the second component of `gasLookUp` is what `expandMemory` is then called with -/
theorem lookup_mem (q : Quirks) (self : Nat) (info : OpInfo) (s : Frame) (hd : info.dyn ≠ .none) (hm : info.mem ≠ .none)
    (m : Nat) (of : Bool) (s1 : Frame) (hcalc : (calcMemSize info.mem s).val = (some (m, of), s1))
    (cost mem : Nat) (s' : Frame) (h : (gasLookUp q self info s).val = (some (cost, mem), s')) (he : s'.err = none) :
    (of = false ∧ toWordSize m * 32 < U64 ∧ mem = toWordSize m * 32) ∨
    (q.hugeOffsetNotOog = false ∧ hugeCost ≤ cost ∧ mem = 0) := by
  unfold gasLookUp at h
  rw [if_neg hd] at h
  obtain ⟨gm, s2, h1, h2⟩ := bind_some h
  rw [pure_val] at h2
  simp only [Prod.mk.injEq, Option.some.injEq] at h2
  obtain ⟨⟨hc, hmem⟩, hs⟩ := h2
  subst hs
  obtain ⟨c0, m0⟩ := gm
  simp only [] at hc hmem
  subst hmem
  rcases dynPart_mem q self info info.dyn s hm m of s1 hcalc c0 m0 s2 h1 he with h3 | ⟨h3, h4, h5⟩
  · exact Or.inl h3
  · exact Or.inr ⟨h3, by omega, h5⟩

theorem calc_memUint64 (a n : Nat) (s : Frame) (x : Nat) (hx : s.stack[a]? = some x) (hg : 3 ≤ s.gas) :
    (calcMemSize (.memUint64 a n) s).val = (some (memSize64U x n), { s with gas := s.gas - 3 }) :=
  bind_val_some (peek_ok a s x hx hg)

theorem calc_mem64 (a b : Nat) (s : Frame) (x y : Nat) (hx : s.stack[a]? = some x) (hy : s.stack[b]? = some y)
    (hg : 6 ≤ s.gas) :
    (calcMemSize (.mem64 a b) s).val = (some (memSize64 x y), { s with gas := s.gas - 6 }) :=
  (bind_val_some (peek_ok a s x hx (by omega))).trans
    (bind_val_some (peek_ok b { s with gas := s.gas - 3 } y hy (Nat.le_sub_of_add_le hg)))

/-- the larger of two windows (the call family: input window and output window): whenever no overflow is reported, neither
    window overflowed and the size is the larger of the two -/
theorem calc_mem64Comp (a b c d : Nat) (s : Frame) (x y z w : Nat) (hx : s.stack[a]? = some x) (hy : s.stack[b]? = some y)
    (hz : s.stack[c]? = some z) (hw : s.stack[d]? = some w) (hg : 12 ≤ s.gas) :
    ∃ m of s1, (calcMemSize (.mem64Comp a b c d) s).val = (some (m, of), s1) ∧
      (of = false → (memSize64 x y).2 = false ∧ (memSize64 z w).2 = false ∧ m = max (memSize64 x y).1 (memSize64 z w).1) := by
  unfold calcMemSize
  simp only []
  rw [bind_val_some (peek_ok a s x hx (by omega)), bind_val_some (peek_ok b { s with gas := s.gas - 3 } y hy (by simp only []; omega))]
  simp only []
  by_cases h1 : (memSize64 x y).2 = true
  · rw [if_pos h1]
    exact ⟨0, true, _, rfl, fun h => by cases h⟩
  · rw [if_neg h1, bind_val_some (peek_ok c { s with gas := s.gas - 3 - 3 } z hz (by simp only []; omega)),
      bind_val_some (peek_ok d { s with gas := s.gas - 3 - 3 - 3 } w hw (by simp only []; omega))]
    simp only []
    by_cases h2 : (memSize64 z w).2 = true
    · rw [if_pos h2]
      exact ⟨0, true, _, rfl, fun h => by cases h⟩
    · rw [if_neg h2]
      exact ⟨_, false, _, rfl, fun _ => ⟨by simpa using h1, by simpa using h2, rfl⟩⟩

/-- the lookup either reports `need`, or (specification mode only) answers with the cost that no gas covers -/
def Charged (q : Quirks) (cost mem need : Nat) : Prop :=
  mem = need ∨ (q.hugeOffsetNotOog = false ∧ hugeCost ≤ cost ∧ mem = 0)

/-- a table row with the rule `calcMemSize64WithUint(stack[a], n)`, `x` being the word at stack position `a` -/
theorem charged_memUint64 (q : Quirks) (self : Nat) (info : OpInfo) (s : Frame) (a n x : Nat) (hm : info.mem = .memUint64 a n)
    (hd : info.dyn ≠ .none) (hn : n < U64) (hx : s.stack[a]? = some x) (hg : 3 ≤ s.gas)
    (cost mem : Nat) (s' : Frame) (h : (gasLookUp q self info s).val = (some (cost, mem), s')) (he : s'.err = none) :
    Charged q cost mem (memNeed x n) := by
  have hcalc := calc_memUint64 a n s x hx hg
  rw [← hm] at hcalc
  rcases lookup_mem q self info s hd (by rw [hm]; exact fun e => by cases e) (memSize64U x n).1 (memSize64U x n).2 _ hcalc
    cost mem s' h he with h3 | h3
  · left
    rw [h3.2.2, memSize64U_eq _ _ hn]
    rfl
  · exact Or.inr h3

/-- a table row with the rule `calcMemSize64(stack[a], stack[b])` -/
theorem charged_mem64 (q : Quirks) (self : Nat) (info : OpInfo) (s : Frame) (a b x y : Nat) (hm : info.mem = .mem64 a b)
    (hd : info.dyn ≠ .none) (hx : s.stack[a]? = some x) (hy : s.stack[b]? = some y) (hg : 6 ≤ s.gas)
    (cost mem : Nat) (s' : Frame) (h : (gasLookUp q self info s).val = (some (cost, mem), s')) (he : s'.err = none) :
    Charged q cost mem (memNeed x y) := by
  have hcalc := calc_mem64 a b s x y hx hy hg
  rw [← hm] at hcalc
  rcases lookup_mem q self info s hd (by rw [hm]; exact fun e => by cases e) (memSize64 x y).1 (memSize64 x y).2 _ hcalc
    cost mem s' h he with h3 | h3
  · left
    rw [h3.2.2]
    rfl
  · exact Or.inr h3

/-- a table row with the rule "the larger of `calcMemSize64(stack[a], stack[b])` and `calcMemSize64(stack[c], stack[d])`" -/
theorem charged_mem64Comp (q : Quirks) (self : Nat) (info : OpInfo) (s : Frame) (a b c d x y z w : Nat)
    (hm : info.mem = .mem64Comp a b c d) (hd : info.dyn ≠ .none) (hx : s.stack[a]? = some x) (hy : s.stack[b]? = some y)
    (hz : s.stack[c]? = some z) (hw : s.stack[d]? = some w) (hg : 12 ≤ s.gas)
    (cost mem : Nat) (s' : Frame) (h : (gasLookUp q self info s).val = (some (cost, mem), s')) (he : s'.err = none) :
    Charged q cost mem (max (memNeed x y) (memNeed z w)) := by
  obtain ⟨m, of, s1, hcalc, hof⟩ := calc_mem64Comp a b c d s x y z w hx hy hz hw hg
  rw [← hm] at hcalc
  rcases lookup_mem q self info s hd (by rw [hm]; exact fun e => by cases e) _ _ _ hcalc cost mem s' h he with h3 | h3
  · left
    obtain ⟨_, _, hmx⟩ := hof h3.1
    rw [h3.2.2, hmx, toWordSize_max]
    rfl
  · exact Or.inr h3

end Shentu.C16m2H
