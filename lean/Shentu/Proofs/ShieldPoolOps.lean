import Shentu.Proofs.ShieldPoolInv
import Shentu.Proofs.BankLemmas
import Shentu.Proofs.ShieldPurchase
import Shentu.Proofs.ShieldWrites
/-
  The transitions of the pool books (`ShieldInv.addEntry`; `ShieldInv.shifted`, over the named state) of which the purchase
  bookkeeping, the claim lock and its release are instances, and what the payment step of a purchase does to the stakes.
  `PoolFrame`: a step that leaves alone everything `PoolInv` and the claim lock read (pools, purchase lists, stakes,
  `totalShield`, `stakingPool`, the id counters, `totalClaimed`, the parameters); every operation on the collateral book
  is such a step (`PoolFrame.of_chain`).
-/
namespace Shentu.Shield.PoolLm

theorem ShieldInv.addEntry {s s' : State} (h : ShieldInv s) {pool : Pool} {poolID : Nat} {purchaser : Addr} {entry : Purchase}
    (hf : findPool s poolID = some pool)
    (hid : entry.id = s.nextPurchase) (hnn : 0 ≤ entry.shield ∧ 0 ≤ entry.fees.raw)
    (hpools : s'.pools = s.pools.map (fun x => if x.id == pool.id then { pool with shield := pool.shield + entry.shield } else x))
    (hlists : s'.lists = (setList s (listWith s poolID purchaser entry)).lists)
    (hT : s'.totalShield = s.totalShield + entry.shield) (hN : s'.nextPool = s.nextPool)
    (hQ : s'.nextPurchase = s.nextPurchase + 1) : ShieldInv s' := by
  have hP : PoolsStep s s' poolID entry.shield :=
    PoolsStep.replace (pool' := { pool with shield := pool.shield + entry.shield }) h hf (findPool_id hf : pool.id = poolID) rfl hpools
  obtain ⟨hold, holdIds⟩ := h.found poolID purchaser
  refine h.step hP (ListsStep.put (n := some (listWith s poolID purchaser entry)) h (some_key (listWith_key ..))
    (hlists.trans (setList_lists s _)) ⟨pool, findPool_mem hf, findPool_id hf⟩ ?_ ?_ ?_ ?_ (by omega)) hT hN
  all_goals rw [show optEntries (some (listWith s poolID purchaser entry)) = _ from listWith_entries ..]
  · rw [sumI_append, sumI_cons, sumI_nil]; omega
  · exact List.forall_mem_append.mpr ⟨fun e he => by have := hold e he; omega, List.forall_mem_singleton.mpr ⟨hnn.1, hnn.2, by omega⟩⟩
  · rw [List.map_append, List.nodup_append]
    refine ⟨holdIds, List.pairwise_singleton _ _, fun x hx y hy => ?_⟩
    obtain ⟨e0, he0, rfl⟩ := List.mem_map.mp hx
    have := hold e0 he0
    rw [List.mem_singleton.mp hy]; show e0.id ≠ entry.id; omega
  · exact List.forall_mem_append.mpr ⟨fun e he => .inl (List.mem_map_of_mem he), List.forall_mem_singleton.mpr (.inr (by omega))⟩

theorem ShieldInv.shifted {s : State} (h : ShieldInv s) {pool : Pool} {lst : PList} {poolID : Nat} {purchaser : Addr}
    {id : Nat} {en : Purchase} {f : Purchase → Purchase} {d : Int}
    (hfp : findPool s poolID = some pool) (hfl : findList s poolID purchaser = some lst)
    (hen : lst.entries.find? (·.id == id) = some en)
    (hfid : ∀ a : Purchase, a.id = id → (f a).id = a.id)
    (hsh : (f en).shield = en.shield + d) (hnn : 0 ≤ (f en).shield) (hfees : (f en).fees = en.fees) :
    ShieldInv (Shield.shifted s pool lst id f d) := by
  have hP : PoolsStep s (Shield.shifted s pool lst id f d) poolID d :=
    PoolsStep.replace (pool' := { pool with shield := pool.shield + d }) h hfp (findPool_id hfp : pool.id = poolID) rfl rfl
  have hm := findList_mem hfl
  refine h.step hP (ListsStep.sub (n := some { lst with entries := replaceFirst (·.id == id) f lst.entries }) h hfl
    (setEntries_key hfl _) (setList_lists s _) ?_ ?_ ?_ rfl) rfl rfl
  · show sumI (·.shield) (replaceFirst (·.id == id) f lst.entries) = _
    rw [sumI_replaceFirst (·.shield) _ f lst.entries en hen, hsh]; omega
  · exact forall_replaceFirst _ f hen (h.entryNonneg lst hm)
      ⟨hnn, hfees ▸ (h.entryNonneg lst hm en (List.mem_of_find?_eq_some hen)).2⟩
  · show ((replaceFirst (·.id == id) f lst.entries).map (·.id)).Sublist _
    rw [replaceFirst_map_of_eq _ f (·.id) (fun a ha => hfid a (beq_iff_eq.mp ha))]; exact List.Sublist.refl _

theorem pcPaid_stakeInv {e : Env} {l l' : Ledger} {s s1 : State} {poolID : Nat} {purchaser : Addr} {fees staking : Coins}
    (h : pcPaid e l s poolID purchaser fees staking = .ok (l', s1)) (hinv : StakeInv s) : StakeInv s1 := by
  obtain ⟨hsend, rfl⟩ := pcPaid_ok_iff.mp h
  cases hz : Coins.isZero fees with
  | false => rw [if_pos rfl]; exact hinv.congr rfl rfl
  | true =>
    rw [hz, if_neg (by decide)] at hsend
    rw [if_neg (by decide)]
    have hamt : 0 ≤ Coins.amountOf staking e.bond := by
      have := Coins.amountOf_nonneg_of_not_anyNegative _ (Ledger.send_not_anyNegative hsend) e.bond
      simpa using this
    obtain ⟨hp, ha, hk⟩ := stakeWith_spec s poolID purchaser (Coins.amountOf staking e.bond)
    exact hinv.upsert (k := stakeWith s poolID purchaser _) (by rw [hp, ha]; exact hk) hamt rfl rfl

/-- `s'` agrees with `s` on everything `PoolInv` (and the claim lock) reads -/
structure PoolFrame (s s' : State) : Prop where
  pools : s'.pools = s.pools
  lists : s'.lists = s.lists
  stakes : s'.stakes = s.stakes
  totalShield : s'.totalShield = s.totalShield
  stakingPool : s'.stakingPool = s.stakingPool
  nextPool : s'.nextPool = s.nextPool
  nextPurchase : s'.nextPurchase = s.nextPurchase
  totalClaimed : s'.totalClaimed = s.totalClaimed
  params : s'.params = s.params

theorem PoolInv.frame' {s s' : State} (h : PoolInv s) (h1 : s'.pools = s.pools) (h2 : s'.lists = s.lists)
    (h3 : s'.stakes = s.stakes) (h4 : s'.totalShield = s.totalShield) (h5 : s'.stakingPool = s.stakingPool)
    (h6 : s'.nextPool = s.nextPool) (h7 : s'.nextPurchase = s.nextPurchase) : PoolInv s' :=
  { toShieldInv := h.toShieldInv.congr h1 h2 h4 h6 h7, toStakeInv := h.toStakeInv.congr h3 h5 }

theorem PoolInv.frame {s s' : State} (h : PoolInv s) (f : PoolFrame s s') : PoolInv s' :=
  h.frame' f.pools f.lists f.stakes f.totalShield f.stakingPool f.nextPool f.nextPurchase

/-- closes a frame goal once the successful branch is isolated in `h` -/
macro "frame_done " h:ident : tactic => `(tactic| (cases $h:ident; constructor <;> rfl))

theorem PoolFrame.of_writes {s s' : State}
    (h : s' = { s with admin := s'.admin, providers := s'.providers, withdraws := s'.withdraws, origStakings := s'.origStakings,
                       reimbs := s'.reimbs, totalCollateral := s'.totalCollateral, totalWithdrawing := s'.totalWithdrawing,
                       serviceFees := s'.serviceFees, remaining := s'.remaining, blockFees := s'.blockFees,
                       lastUpdate := s'.lastUpdate }) : PoolFrame s s' := by
  rw [h]; exact ⟨rfl, rfl, rfl, rfl, rfl, rfl, rfl, rfl, rfl⟩

theorem PoolFrame.of_coll {s s' : State} (h : CollWrites s s') : PoolFrame s s' := by
  rw [h]; exact .of_writes rfl

theorem PoolFrame.of_chain {s s' : State} (h : Star CollWrite s s') : PoolFrame s s' := .of_coll (chain_writes h)

end Shentu.Shield.PoolLm
