import Shentu.Proofs.ShieldPoolLists
import Shentu.Proofs.ShieldStores
/-
  `PoolInv`: the shield / pool / purchase / stake half of C03 (`BooksInv`) together with the
  well-formedness of the stores that the model maintains and that the sums depend on,
  and the abstract transitions every operation is an instance of: `ShieldInv.next` (any step; a new pool and the closing
  of pools are direct instances) and under it `ShieldInv.step`, from what a step does to the pools (`PoolsStep`) and to
  the purchase lists (`ListsStep`; `ListsStep.put` for one write under a key, whichever it is, and `ListsStep.sub` when
  it issues no id); `StakeInv.upsert`.
-/
namespace Shentu.Shield.PoolLm

structure ShieldInv (s : State) : Prop where
  shield : s.totalShield = sumI (·.shield) s.pools
  poolShield : ∀ p ∈ s.pools, p.shield = sumI (·.shield) (entriesOf s p.id)
  /-- every purchase list belongs to an existing pool (stronger than `BooksInv.listPool`) -/
  listPool : ∀ l ∈ s.lists, ∃ p ∈ s.pools, p.id = l.pool
  entryNonneg : ∀ l ∈ s.lists, ∀ e ∈ l.entries, 0 ≤ e.shield ∧ 0 ≤ e.fees.raw
  poolIds : s.pools.Pairwise (fun a b => a.id ≠ b.id)
  poolIdLt : ∀ p ∈ s.pools, p.id < s.nextPool
  listKeys : s.lists.Pairwise (fun a b => ¬(a.pool = b.pool ∧ a.purchaser = b.purchaser))
  entryIds : ∀ l ∈ s.lists, (l.entries.map (·.id)).Nodup
  crossIds : s.lists.Pairwise (fun a b => ∀ x ∈ a.entries, ∀ y ∈ b.entries, x.id ≠ y.id)
  purchaseIdLt : ∀ l ∈ s.lists, ∀ e ∈ l.entries, e.id < s.nextPurchase

structure StakeInv (s : State) : Prop where
  stake : s.stakingPool = sumStakes s
  stakeNonneg : ∀ k ∈ s.stakes, 0 ≤ k.amount
  stakeKeys : s.stakes.Pairwise (fun a b => ¬(a.pool = b.pool ∧ a.purchaser = b.purchaser))

structure PoolInv (s : State) : Prop extends ShieldInv s, StakeInv s

/-- the contribution of one purchase list to pool `pid` -/
def poolPart (pid : Nat) (l : PList) : Int := if l.pool == pid then sumI (·.shield) l.entries else 0

theorem poolPart_eq (pid : Nat) (l : PList) : poolPart pid l = if pid = l.pool then sumI (·.shield) l.entries else 0 := by
  unfold poolPart
  by_cases hp : pid = l.pool
  · subst hp; simp
  · have : (l.pool == pid) = false := by simpa using fun h => hp h.symm
    simp [this, hp]

theorem sumI_entries_lists (L : List PList) (pid : Nat) :
    sumI (·.shield) ((L.filter (·.pool == pid)).flatMap (·.entries)) = sumI (poolPart pid) L := by
  induction L with
  | nil => rfl
  | cons l L ih =>
    rw [List.filter_cons]
    cases hq : l.pool == pid with
    | true => simp only [if_true, List.flatMap_cons, sumI_append, sumI_cons, poolPart, hq, ih]
    | false => simp only [Bool.false_eq_true, if_false, sumI_cons, poolPart, hq, ih]; omega

theorem sumI_entriesOf (s : State) (pid : Nat) : sumI (·.shield) (entriesOf s pid) = sumI (poolPart pid) s.lists :=
  sumI_entries_lists s.lists pid

theorem mem_entriesOf {s : State} {pid : Nat} {e : Purchase} (h : e ∈ entriesOf s pid) :
    ∃ l ∈ s.lists, l.pool = pid ∧ e ∈ l.entries := by
  unfold entriesOf at h
  rcases List.mem_flatMap.mp h with ⟨l, hl, he⟩
  rcases List.mem_filter.mp hl with ⟨hl1, hl2⟩
  exact ⟨l, hl1, beq_iff_eq.mp hl2, he⟩

theorem ShieldInv.poolNonneg {s : State} (h : ShieldInv s) : ∀ p ∈ s.pools, 0 ≤ p.shield := by
  intro p hp
  rw [h.poolShield p hp]
  apply sumI_nonneg
  intro e he
  rcases mem_entriesOf he with ⟨l, hl, _, hel⟩
  exact (h.entryNonneg l hl e hel).1

theorem ShieldInv.totalNonneg {s : State} (h : ShieldInv s) : 0 ≤ s.totalShield := by
  rw [h.shield]; exact sumI_nonneg _ _ h.poolNonneg

theorem StakeInv.poolNonneg {s : State} (h : StakeInv s) : 0 ≤ s.stakingPool := by
  rw [h.stake]; exact sumI_nonneg _ _ h.stakeNonneg

theorem ShieldInv.listNodup {s : State} (h : ShieldInv s) : (s.lists.map listKey).Nodup :=
  (pairKeys_iff listKey s.lists).mp h.listKeys

theorem ShieldInv.poolNodup {s : State} (h : ShieldInv s) : (s.pools.map (·.id)).Nodup :=
  (Keyed.nodup_iff_pairwise Pool.id).mpr h.poolIds

theorem StakeInv.nodup {s : State} (h : StakeInv s) : (s.stakes.map stakeKey).Nodup :=
  (pairKeys_iff stakeKey s.stakes).mp h.stakeKeys

theorem ShieldInv.purchaseIds_nodup {s : State} (h : ShieldInv s) :
    (s.lists.flatMap (fun l => l.entries.map (·.id))).Nodup := by
  rw [List.nodup_iff_pairwise_ne]
  apply List.pairwise_flatMap.mpr
  refine ⟨fun l hl => List.nodup_iff_pairwise_ne.mp (h.entryIds l hl), ?_⟩
  apply List.Pairwise.imp _ h.crossIds
  intro a b hab x hx y hy
  rcases List.mem_map.mp hx with ⟨x0, hx0, rfl⟩
  rcases List.mem_map.mp hy with ⟨y0, hy0, rfl⟩
  exact hab x0 hx0 y0 hy0

theorem StakeInv.congr {s s' : State} (h : StakeInv s) (hk : s'.stakes = s.stakes) (hp : s'.stakingPool = s.stakingPool) :
    StakeInv s' := by
  constructor
  · rw [hp]; unfold sumStakes; rw [hk]; exact h.stake
  · rw [hk]; exact h.stakeNonneg
  · rw [hk]; exact h.stakeKeys

/-- what a step does to the pools: same ids in the same order, pool `pid` moves by `d` -/
structure PoolsStep (s s' : State) (pid : Nat) (d : Int) : Prop where
  ids : s'.pools.map (·.id) = s.pools.map (·.id)
  sum : sumI (·.shield) s'.pools = sumI (·.shield) s.pools + d
  each : ∀ p' ∈ s'.pools, ∃ p ∈ s.pools, p.id = p'.id ∧ p'.shield = p.shield + (if p'.id = pid then d else 0)

/-- what a step does to the purchase lists: the purchases of pool `pid` move by `d` in total -/
structure ListsStep (s s' : State) (pid : Nat) (d : Int) : Prop where
  sum : ∀ p, sumI (·.shield) (entriesOf s' p) = sumI (·.shield) (entriesOf s p) + (if p = pid then d else 0)
  each : ∀ l' ∈ s'.lists, (∃ p ∈ s.pools, p.id = l'.pool) ∧
    (∀ e ∈ l'.entries, 0 ≤ e.shield ∧ 0 ≤ e.fees.raw ∧ e.id < s'.nextPurchase) ∧ (l'.entries.map (·.id)).Nodup
  keys : s'.lists.Pairwise (fun a b => ¬(a.pool = b.pool ∧ a.purchaser = b.purchaser))
  cross : s'.lists.Pairwise (fun a b => ∀ x ∈ a.entries, ∀ y ∈ b.entries, x.id ≠ y.id)

/-- any step: the lists move by `d` in pool `pid` (`hL`), total and pools follow; `hkept`: a pool that still has a purchase
    list is not dropped -/
theorem ShieldInv.next {s s' : State} (h : ShieldInv s) {pid : Nat} {d : Int} (hL : ListsStep s s' pid d)
    (hT : s'.totalShield = s.totalShield + d)
    (hsum : sumI (·.shield) s'.pools = sumI (·.shield) s.pools + d)
    (heach : ∀ p' ∈ s'.pools, p'.id < s'.nextPool ∧
      p'.shield = sumI (·.shield) (entriesOf s p'.id) + (if p'.id = pid then d else 0))
    (hids : s'.pools.Pairwise (fun a b => a.id ≠ b.id))
    (hkept : ∀ p ∈ s.pools, ∀ l' ∈ s'.lists, p.id = l'.pool → ∃ p' ∈ s'.pools, p'.id = p.id) : ShieldInv s' where
  shield := by rw [hT, hsum, h.shield]
  poolShield p' hp' := by rw [(heach p' hp').2, hL.sum]
  listPool l' hl' := by
    obtain ⟨p, hp, hid⟩ := (hL.each l' hl').1
    obtain ⟨p', hp', hid'⟩ := hkept p hp l' hl' hid
    exact ⟨p', hp', hid'.trans hid⟩
  entryNonneg l' hl' e he := ⟨((hL.each l' hl').2.1 e he).1, ((hL.each l' hl').2.1 e he).2.1⟩
  poolIds := hids
  poolIdLt p' hp' := (heach p' hp').1
  listKeys := hL.keys
  entryIds l' hl' := (hL.each l' hl').2.2
  crossIds := hL.cross
  purchaseIdLt l' hl' e he := ((hL.each l' hl').2.1 e he).2.2

theorem ShieldInv.step {s s' : State} (h : ShieldInv s) {pid : Nat} {d : Int}
    (hP : PoolsStep s s' pid d) (hL : ListsStep s s' pid d)
    (hT : s'.totalShield = s.totalShield + d) (hN : s'.nextPool = s.nextPool) : ShieldInv s' := by
  refine h.next hL hT hP.sum (fun p' hp' => ?_) ?_ (fun p hp _ _ _ => ?_)
  · obtain ⟨p, hp, hid, hsh⟩ := hP.each p' hp'
    exact ⟨hN ▸ hid ▸ h.poolIdLt p hp, by rw [hsh, h.poolShield p hp, hid]⟩
  · have h1 : (s.pools.map (·.id)).Pairwise (· ≠ ·) := List.pairwise_map.mpr h.poolIds
    rw [← hP.ids] at h1
    exact List.pairwise_map.mp h1
  · have : p.id ∈ s'.pools.map (·.id) := hP.ids ▸ List.mem_map_of_mem hp
    obtain ⟨p', hp', hid⟩ := List.mem_map.mp this
    exact ⟨p', hp', hid⟩

theorem PoolsStep.same {s s' : State} (pid : Nat) (hp : s'.pools = s.pools) : PoolsStep s s' pid 0 := by
  constructor
  · rw [hp]
  · rw [hp]; omega
  · rw [hp]; intro p' hp'; exact ⟨p', hp', rfl, by split <;> omega⟩

theorem PoolsStep.replace {s s' : State} (h : ShieldInv s) {pid : Nat} {pool pool' : Pool} {d : Int}
    (hf : findPool s pid = some pool) (hid : pool'.id = pid) (hsh : pool'.shield = pool.shield + d)
    (hp : s'.pools = s.pools.map (fun x => if x.id == pool'.id then pool' else x)) : PoolsStep s s' pid d := by
  rw [hid] at hp
  obtain ⟨hmem, hkey⟩ := Keyed.of_find Pool.id hf
  constructor
  · rw [hp]; exact Keyed.keys_update Pool.id (F := fun _ => pool') (fun _ _ => hid) s.pools
  · rw [hp, sumI_def, sumI_def, Keyed.sum_update Pool.id (fun _ => pool') (·.shield) h.poolNodup hf, hsh]; omega
  · rw [hp]
    intro p' hp'
    rcases Keyed.mem_update Pool.id hp' with rfl | ⟨h1, h2⟩
    · exact ⟨pool, hmem, hkey.trans hid.symm, by rw [if_pos hid, hsh]⟩
    · exact ⟨p', h1, rfl, by rw [if_neg h2]; omega⟩

theorem ShieldInv.listKept {s s' : State} (h : ShieldInv s) (hq : s.nextPurchase ≤ s'.nextPurchase) (l : PList) (hl : l ∈ s.lists) :
    (∃ p ∈ s.pools, p.id = l.pool) ∧
    (∀ e ∈ l.entries, 0 ≤ e.shield ∧ 0 ≤ e.fees.raw ∧ e.id < s'.nextPurchase) ∧ (l.entries.map (·.id)).Nodup := by
  refine ⟨h.listPool l hl, fun e he => ?_, h.entryIds l hl⟩
  have := h.entryNonneg l hl e he
  have := h.purchaseIdLt l hl e he
  omega

theorem ListsStep.same {s s' : State} (h : ShieldInv s) (pid : Nat) (hl : s'.lists = s.lists)
    (hq : s.nextPurchase ≤ s'.nextPurchase) : ListsStep s s' pid 0 := by
  have he : ∀ p, entriesOf s' p = entriesOf s p := by intro p; unfold entriesOf; rw [hl]
  constructor
  · intro p; rw [he]; split <;> omega
  · rw [hl]; exact h.listKept hq
  · rw [hl]; exact h.listKeys
  · rw [hl]; exact h.crossIds

theorem ShieldInv.congr {s s' : State} (h : ShieldInv s) (hp : s'.pools = s.pools) (hl : s'.lists = s.lists)
    (ht : s'.totalShield = s.totalShield) (hn : s'.nextPool = s.nextPool) (hq : s'.nextPurchase = s.nextPurchase) :
    ShieldInv s' :=
  h.step (PoolsStep.same 0 hp) (ListsStep.same h 0 hl (Nat.le_of_eq hq.symm)) (ht.trans (Int.add_zero _).symm) hn

theorem val_poolPart (p : Nat) {pid : Nat} {a : Addr} {o : Option PList} (hk : ∀ x, o = some x → listKey x = (pid, a)) :
    Keyed.val (poolPart p) o = if p = pid then sumI (·.shield) (optEntries o) else 0 := by
  cases o with
  | none => split <;> rfl
  | some x => rw [Keyed.val_some, poolPart_eq, show x.pool = pid from congrArg Prod.fst (hk x rfl)]; rfl

theorem ShieldInv.apart {s : State} (h : ShieldInv s) {l b : PList} (hl : l ∈ s.lists) (hb : b ∈ s.lists) (hne : l ≠ b) :
    ∀ x ∈ l.entries, ∀ y ∈ b.entries, x.id ≠ y.id :=
  pairwise_of_mem_ne (fun a b : PList => ∀ x ∈ a.entries, ∀ y ∈ b.entries, x.id ≠ y.id)
    (fun _ _ hab x hx y hy hxy => hab y hy x hx hxy.symm) s.lists h.crossIds l hl b hb hne

theorem ShieldInv.found {s : State} (h : ShieldInv s) (pid : Nat) (a : Addr) :
    (∀ e ∈ optEntries (findList s pid a), 0 ≤ e.shield ∧ 0 ≤ e.fees.raw ∧ e.id < s.nextPurchase) ∧
    ((optEntries (findList s pid a)).map (·.id)).Nodup := by
  cases hf : findList s pid a with
  | none => exact ⟨nofun, List.nodup_nil⟩
  | some l =>
    have hm := findList_mem hf
    exact ⟨fun e he => ⟨(h.entryNonneg l hm e he).1, (h.entryNonneg l hm e he).2, h.purchaseIdLt l hm e he⟩, h.entryIds l hm⟩

/-- one write `n` (a list, or none) under the key `(pid, a)`; `hfrom`: every id written stood under that key before or is
    new (at least `nextPurchase`), which is what keeps the ids of different lists apart -/
theorem ListsStep.put {s s' : State} (h : ShieldInv s) {pid : Nat} {a : Addr} {n : Option PList} {d : Int}
    (hk : ∀ x, n = some x → listKey x = (pid, a))
    (hl : s'.lists = Keyed.put listKey (pid, a) n s.lists)
    (hpool : ∃ p ∈ s.pools, p.id = pid)
    (hsum : sumI (·.shield) (optEntries n) = sumI (·.shield) (optEntries (findList s pid a)) + d)
    (hnn : ∀ e ∈ optEntries n, 0 ≤ e.shield ∧ 0 ≤ e.fees.raw ∧ e.id < s'.nextPurchase)
    (hids : ((optEntries n).map (·.id)).Nodup)
    (hfrom : ∀ e ∈ optEntries n, e.id ∈ (optEntries (findList s pid a)).map (·.id) ∨ s.nextPurchase ≤ e.id)
    (hq : s.nextPurchase ≤ s'.nextPurchase) : ListsStep s s' pid d := by
  constructor
  · intro p
    rw [sumI_entriesOf, sumI_entriesOf, hl, sumI_def, sumI_def, Keyed.sum_put listKey _ hk h.listNodup, val_poolPart p hk,
      ← findList_eq, val_poolPart p (o := findList s pid a) (fun _ hx => findList_listKey hx)]
    split <;> omega
  · rw [hl]
    intro l' hl'
    rcases Keyed.mem_put listKey hl' with rfl | h1
    · exact ⟨(show l'.pool = pid from congrArg Prod.fst (hk l' rfl)) ▸ hpool, hnn, hids⟩
    · exact h.listKept hq l' h1
  · rw [hl]; exact (pairKeys_iff listKey _).mpr (Keyed.keys_put_nodup listKey h.listNodup)
  · rw [hl]
    refine Keyed.pairwise_put listKey hk h.listNodup h.crossIds (fun x hx b hb hbk => ?_)
    subst hx
    have key : ∀ e ∈ x.entries, ∀ y ∈ b.entries, e.id ≠ y.id := by
      intro e he y hy
      rcases hfrom e he with h1 | h1
      · -- an id that stood under the key: the list it stood in is another list than `b`
        cases hf : findList s pid a with
        | none => rw [hf] at h1; cases h1
        | some lst =>
          rw [hf] at h1
          obtain ⟨x0, hx0, hid⟩ := List.mem_map.mp h1
          exact hid ▸ h.apart (findList_mem hf) hb (fun hc => hbk (hc ▸ findList_listKey hf)) x0 hx0 y hy
      · have := h.purchaseIdLt b hb y hy
        omega
    exact ⟨key, fun y hy e he hxy => key e he y hy hxy.symm⟩

theorem ListsStep.sub {s s' : State} (h : ShieldInv s) {pid : Nat} {a : Addr} {lst : PList} {n : Option PList} {d : Int}
    (hfl : findList s pid a = some lst)
    (hk : ∀ x, n = some x → listKey x = (pid, a))
    (hl : s'.lists = Keyed.put listKey (pid, a) n s.lists)
    (hsum : sumI (·.shield) (optEntries n) = sumI (·.shield) lst.entries + d)
    (hnn : ∀ e ∈ optEntries n, 0 ≤ e.shield ∧ 0 ≤ e.fees.raw)
    (hsub : ((optEntries n).map (·.id)).Sublist (lst.entries.map (·.id)))
    (hq : s'.nextPurchase = s.nextPurchase) : ListsStep s s' pid d := by
  have hm := findList_mem hfl
  have hin : ∀ e ∈ optEntries n, e.id ∈ lst.entries.map (·.id) := fun e he => hsub.subset (List.mem_map_of_mem he)
  refine ListsStep.put h hk hl ((findList_key hfl).1 ▸ h.listPool lst hm) (by rw [hfl]; exact hsum) (fun e he => ?_)
    (hsub.nodup (h.entryIds lst hm)) (fun e he => by rw [hfl]; exact .inl (hin e he)) (by omega)
  obtain ⟨e0, he0, hid⟩ := List.mem_map.mp (hin e he)
  have := h.purchaseIdLt lst hm e0 he0
  exact ⟨(hnn e he).1, (hnn e he).2, by omega⟩

theorem ListsStep.replace {s s' : State} (h : ShieldInv s) {lst lst' : PList} {d : Int}
    (hf : findList s lst'.pool lst'.purchaser = some lst)
    (hl : s'.lists = s.lists.map (fun x => if x.pool == lst'.pool && x.purchaser == lst'.purchaser then lst' else x))
    (hsum : sumI (·.shield) lst'.entries = sumI (·.shield) lst.entries + d)
    (hnn : ∀ e ∈ lst'.entries, 0 ≤ e.shield ∧ 0 ≤ e.fees.raw)
    (hids : (lst'.entries.map (·.id)).Nodup)
    (hfrom : ∀ e ∈ lst'.entries, e.id ∈ lst.entries.map (·.id) ∨ s.nextPurchase ≤ e.id)
    (hlt : ∀ e ∈ lst'.entries, e.id < s'.nextPurchase)
    (hq : s.nextPurchase ≤ s'.nextPurchase) : ListsStep s s' lst'.pool d :=
  ListsStep.put (n := some lst') h (some_key rfl) (hl.trans (Keyed.upsert_found listKey (n := lst') hf).symm)
    ((findList_key hf).1 ▸ h.listPool lst (findList_mem hf)) (by rw [hf]; exact hsum)
    (fun e he => ⟨(hnn e he).1, (hnn e he).2, hlt e he⟩) hids (by rw [hf]; exact hfrom) hq

theorem ListsStep.append {s s' : State} (h : ShieldInv s) {lst' : PList}
    (hf : findList s lst'.pool lst'.purchaser = none)
    (hpool : ∃ p ∈ s.pools, p.id = lst'.pool)
    (hl : s'.lists = s.lists ++ [lst'])
    (hnn : ∀ e ∈ lst'.entries, 0 ≤ e.shield ∧ 0 ≤ e.fees.raw)
    (hids : (lst'.entries.map (·.id)).Nodup)
    (hfresh : ∀ e ∈ lst'.entries, s.nextPurchase ≤ e.id)
    (hlt : ∀ e ∈ lst'.entries, e.id < s'.nextPurchase)
    (hq : s.nextPurchase ≤ s'.nextPurchase) : ListsStep s s' lst'.pool (sumI (·.shield) lst'.entries) :=
  ListsStep.put (n := some lst') h (some_key rfl) (hl.trans (Keyed.upsert_new listKey (n := lst') hf).symm) hpool
    (by rw [hf]; exact (Int.add_zero _).symm.trans (Int.add_comm _ _)) (fun e he => ⟨(hnn e he).1, (hnn e he).2, hlt e he⟩) hids
    (fun e he => .inr (hfresh e he)) hq

theorem ListsStep.delete {s s' : State} (h : ShieldInv s) {pid : Nat} {a : Addr} {lst : PList}
    (hf : findList s pid a = some lst)
    (hl : s'.lists = s.lists.filter (fun x => !(x.pool == pid && x.purchaser == a)))
    (hq : s.nextPurchase ≤ s'.nextPurchase) : ListsStep s s' pid (- sumI (·.shield) lst.entries) :=
  ListsStep.put (n := none) h nofun hl ((findList_key hf).1 ▸ h.listPool lst (findList_mem hf))
    (by rw [hf]; show (0 : Int) = sumI _ lst.entries + _; omega) nofun List.nodup_nil nofun hq

theorem ShieldInv.setPool_meta {s : State} (h : ShieldInv s) {pid : Nat} {pool pool' : Pool}
    (hf : findPool s pid = some pool) (hid : pool'.id = pool.id) (hsh : pool'.shield = pool.shield) :
    ShieldInv (setPool s pool') := by
  have hid' : pool'.id = pid := hid.trans (findPool_id hf)
  apply h.step (PoolsStep.replace h hf hid' (by rw [hsh]; omega) (setPool_pools s pool'))
    (ListsStep.same h pid rfl (Nat.le_refl _))
  · show s.totalShield = s.totalShield + 0; omega
  · rfl

/-- `MsgCreatePool`'s first half: a pool with the next id and no shield -/
theorem ShieldInv.newPool {s s' : State} (h : ShieldInv s) {np : Pool}
    (hid : np.id = s.nextPool) (hsh : np.shield = 0)
    (hp : s'.pools = s.pools ++ [np]) (hn : s'.nextPool = s.nextPool + 1)
    (hl : s'.lists = s.lists) (ht : s'.totalShield = s.totalShield) (hq : s'.nextPurchase = s.nextPurchase) :
    ShieldInv s' := by
  have hlt : ∀ p ∈ s.pools, p.id < np.id := fun p hp' => hid ▸ h.poolIdLt p hp'
  refine h.next (pid := np.id) (ListsStep.same h np.id hl (Nat.le_of_eq hq.symm)) (ht.trans (Int.add_zero _).symm)
    (by rw [hp, sumI_append, sumI_cons, sumI_nil, hsh]; omega) ?_ ?_
    (fun p hp' _ _ _ => ⟨p, hp ▸ List.mem_append_left _ hp', rfl⟩)
  · rw [hp, hn]
    refine List.forall_mem_append.mpr ⟨fun p hp' => ⟨by have := h.poolIdLt p hp'; omega, ?_⟩, List.forall_mem_singleton.mpr ⟨by omega, ?_⟩⟩
    · rw [h.poolShield p hp']; split <;> omega
    · -- no purchase list names the id of the new pool
      rw [hsh, if_pos rfl, sumI_entriesOf, sumI_zero]; · rfl
      intro l hl'
      obtain ⟨p, hp', hpid⟩ := h.listPool l hl'
      have := hlt p hp'
      rw [poolPart_eq, if_neg (by omega)]
  · rw [hp]
    exact List.pairwise_append.mpr ⟨h.poolIds, List.pairwise_singleton _ _, fun a ha b hb =>
      List.mem_singleton.mp hb ▸ Nat.ne_of_lt (hlt a ha)⟩

/-- `ClosePools`: only pools without shield and without purchase lists are dropped -/
theorem ShieldInv.closePools {s : State} (h : ShieldInv s) : ShieldInv (Shield.closePools s) := by
  refine h.next (pid := 0) (ListsStep.same h 0 rfl (Nat.le_refl _)) (Int.add_zero _).symm ?_ (fun p' hp' => ?_)
    (h.poolIds.filter _) (fun p hp l hl hid => ⟨p, List.mem_filter.mpr ⟨hp, ?_⟩, rfl⟩)
  · show sumI (·.shield) (s.pools.filter _) = _
    rw [sumI_filter_of_zero, Int.add_zero]
    intro p hp hdrop
    simp only [Bool.or_eq_false_iff, decide_eq_false_iff_not] at hdrop
    have := h.poolNonneg p hp
    omega
  · have hp := (List.mem_filter.mp hp').1
    exact ⟨h.poolIdLt p' hp, by rw [h.poolShield p' hp]; split <;> omega⟩
  · simp only [Bool.or_eq_true]
    exact .inr (List.any_eq_true.mpr ⟨l, hl, by simpa using hid.symm⟩)

theorem StakeInv.upsert {s s' : State} (h : StakeInv s) {k : Stake} {d : Int}
    (hamt : k.amount = Keyed.val (·.amount) (findStake s k.pool k.purchaser) + d) (hd : 0 ≤ d)
    (hk : s'.stakes = (setStake s k).stakes) (hp : s'.stakingPool = s.stakingPool + d) : StakeInv s' := by
  have hv : 0 ≤ Keyed.val (·.amount) (findStake s k.pool k.purchaser) := by
    cases hf : findStake s k.pool k.purchaser with
    | none => exact Int.le_refl 0
    | some k0 => exact h.stakeNonneg k0 (findStake_mem hf)
  refine ⟨?_, ?_, ?_⟩
  · rw [hp, h.stake, show sumStakes s' = sumStakes (setStake s k) by rw [sumStakes, sumStakes, hk],
      sumStakes_setStake s k h.nodup]
    omega
  · intro x hx
    rw [hk, setStake_stakes] at hx
    rcases Keyed.mem_upsert stakeKey hx with rfl | hx
    · omega
    · exact h.stakeNonneg x hx
  · rw [hk, setStake_stakes]; exact (pairKeys_iff stakeKey _).mpr (Keyed.keys_upsert_nodup stakeKey k h.nodup)

end Shentu.Shield.PoolLm
