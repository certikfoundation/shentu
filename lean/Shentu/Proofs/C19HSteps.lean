import Shentu.Proofs.C19HDefs
import Shentu.Proofs.C19HVm
/-
  The operations of the history model `C19H.stepE`: what an accepted operation is (`Accepted`), that it keeps a well-formed
  world well-formed (`Accepted.wf`), and that a step is either refused or accepted (`step_cases`).  The ledger changes by
  debits that passed the spendable rule and by credits (`Spent`), which keeps every record sound; a transfer changes only the
  ledger and the code store (`wf_ledger`), a locked send, an unlock or a delegation of a vesting account also writes one
  vesting record (`wf_set`); a contract call is followed through its execution (`wf_call`).
-/
namespace Shentu.C19H
open Shentu.Vesting

/-- `stepE` accepted the operation: the model function it goes through accepted, and what that returned is put into the world -/
inductive Accepted (c : Cfg) (w : World) : Op → World → Prop
  | toContract {src dst amt l k} : Cvm.sendToContract c.bond w.l w.vs w.cvm src dst amt = .ok (l, k) →
      Accepted c w (.send src dst amt) { w with l := l, cvm := k }
  | send {src dst amt l} : Vesting.send w.l w.vs src dst amt = .ok l →
      Accepted c w (.send src dst amt) { w with l := l, accts := dst :: w.accts }
  | multiSend {src outs l} : multiSend w.l w.vs src outs = .ok l →
      Accepted c w (.multiSend src outs) { w with l := l, accts := outs.map (·.1) ++ w.accts }
  | fee {payer amt l} : Vesting.send w.l w.vs payer c.feeCollector amt = .ok l →
      Accepted c w (.fee payer amt) { w with l := l }
  | lockedSend {src dst u amt l vs} : Vesting.lockedSend w.l w.vs (isPlain w) src dst u amt = .ok (l, vs) →
      Accepted c w (.lockedSend src dst u amt) { w with l := l, vs := vs, accts := dst :: w.accts }
  | unlock {issuer account amt vs} : Vesting.unlock w.vs (hasAccount w) issuer account amt = .ok vs →
      Accepted c w (.unlock issuer account amt) { w with vs := vs }
  | call {caller callee} {value : Nat} {d0 z t hd l k} :
      Cvm.call c.bond w.l w.vs w.cvm caller callee (value : Int) d0 z t hd = .ok (l, k) →
      Accepted c w (.call caller callee value d0 z t hd) { w with l := l, cvm := k }
  | deploy {caller na code} {value : Nat} {l k} : ¬ hasAccount w na → Cvm.deploy c.bond w.l w.vs w.cvm caller na code (value : Int) = .ok (l, k) →
      Accepted c w (.deploy caller na code value) { w with l := l, cvm := k, accts := na :: w.accts }
  | delegate {del pool d amount l vs} : Vesting.delegate w.l w.vs del pool d amount = .ok (l, vs) →
      Accepted c w (.delegate del pool d amount) { w with l := l, vs := vs }

theorem stepE_accepted {c : Cfg} {w w' : World} {op : Op} (h : stepE c w op = .ok w') : Accepted c w op w' := by
  cases op with
  | send src dst amt =>
    simp only [stepE] at h
    split at h
    · split at h; · cases h
      rename_i hs; cases h; exact .toContract hs
    · split at h; · cases h
      rename_i hs; cases h; exact .send hs
  | multiSend src outs =>
    simp only [stepE] at h
    obtain ⟨_, h⟩ := of_guard h
    split at h; · cases h
    rename_i hs; cases h; exact .multiSend hs
  | fee payer amt =>
    simp only [stepE] at h
    split at h; · cases h
    rename_i hs; cases h; exact .fee hs
  | lockedSend src dst u amt =>
    simp only [stepE] at h
    split at h; · cases h
    rename_i hs; cases h; exact .lockedSend hs
  | unlock issuer account amt =>
    simp only [stepE] at h
    split at h; · cases h
    rename_i hs; cases h; exact .unlock hs
  | call caller callee value d0 z t hd =>
    simp only [stepE] at h
    split at h; · cases h
    rename_i hs; cases h; exact .call hs
  | deploy caller na code value =>
    simp only [stepE] at h
    obtain ⟨hnew, h⟩ := of_guard h
    split at h; · cases h
    rename_i hs; cases h; exact .deploy hnew hs
  | delegate del pool d amount =>
    simp only [stepE] at h
    split at h; · cases h
    rename_i hs; cases h; exact .delegate hs

theorem find_of_not_hasAccount {w : World} {a : Addr} (h : ¬ hasAccount w a) : find w.vs a = none := by
  cases hf : find w.vs a with
  | none => rfl
  | some m => exact absurd (by simp [hasAccount, hf]) h

/-- `l'` comes from `l` by debits that passed the spendable rule of `vs` and by credits: no balance is negative, and each is
    at least what it was or still covers the locked amount -/
def Spent (vs : Accounts) (l l' : Ledger) : Prop :=
  ∀ a d, 0 ≤ l'.balOf a d ∧ (l.balOf a d ≤ l'.balOf a d ∨ lockedOf vs a d ≤ l'.balOf a d)

theorem Spent.nonneg {vs : Accounts} {l l' : Ledger} (h : Spent vs l l') : Ledger.NonNeg l' := fun a d => (h a d).1

theorem Spent.mono {vs : Accounts} {l l1 l2 : Ledger} (h : Spent vs l l1) (hm : ∀ a d, l1.balOf a d ≤ l2.balOf a d) :
    Spent vs l l2 := by
  intro a d
  have := h a d
  have := hm a d
  omega

theorem spent_debit {l : Ledger} {vs : Accounts} {src : Addr} {amt : Coins} (hl : Ledger.NonNeg l)
    (hc : canSpend l vs src amt = .ok ()) : Spent vs l (l.debit src amt) := by
  intro a d
  rw [Ledger.balOf_debit']
  obtain ⟨h0, h1⟩ := canSpend_all hc d
  have := hl a d
  by_cases e : src = a
  · subst e
    have := lockedOf_nonneg vs src d
    rw [if_pos rfl]; omega
  · rw [if_neg e]; omega

theorem spent_move {l : Ledger} {vs : Accounts} {src : Addr} {amt : Coins} (dst : Addr) (hl : Ledger.NonNeg l)
    (hc : canSpend l vs src amt = .ok ()) : Spent vs l (l.move src dst amt) :=
  (spent_debit hl hc).mono (Ledger.credit_mono _ dst _ fun d => (canSpend_all hc d).1)

theorem value_move {bond : Denom} {l : Ledger} {vs : Accounts} {caller : Addr} {v : Int} (callee : Addr) (hl : Ledger.NonNeg l)
    (hv : 0 ≤ v) (hc : (if v > 0 then canSpend l vs caller [(bond, v)] else .ok ()) = .ok ()) :
    Spent vs l (l.move caller callee [(bond, v)]) ∧ v ≤ (l.move caller callee [(bond, v)]).balOf callee bond := by
  have hd : Spent vs l (l.debit caller [(bond, v)]) := by
    by_cases hp : v > 0
    · rw [if_pos hp] at hc; exact spent_debit hl hc
    · intro a d
      have := hl a d
      rw [Ledger.balOf_debit', Coins.amountOf_single_cons, show v = 0 by omega]
      simp only [ite_self]; omega
  have hpos : ∀ d, 0 ≤ Coins.amountOf [(bond, v)] d := fun d => by rw [Coins.amountOf_single_cons]; split <;> omega
  refine ⟨hd.mono (Ledger.credit_mono _ callee _ hpos), ?_⟩
  show v ≤ ((l.debit caller [(bond, v)]).credit callee [(bond, v)]).balOf callee bond
  rw [Ledger.balOf_credit', if_pos rfl, Coins.amountOf_single_cons, if_pos rfl]
  have := (hd callee bond).1
  omega

theorem accOK_fresh (l : Ledger) (dst u : Addr) (hl : Ledger.NonNeg l) : AccOK l dst (fresh dst u) := by
  refine ⟨?_, ?_, ?_, ?_, ?_⟩ <;> intro d <;> simp [fresh, vestingAmt]
  exact hl dst d

theorem AccOK.spent {l l' : Ledger} {a : Addr} {m : MVA} (ho : AccOK l a m)
    (h : ∀ d, l.balOf a d ≤ l'.balOf a d ∨ lockedAmt m d ≤ l'.balOf a d) : AccOK l' a m := by
  refine ⟨ho.vested_nonneg, ho.vested_le, ho.dv_nonneg, ho.df_nonneg, fun d => ?_⟩
  have := ho.present d
  have := lockedAmt_ge m d
  rcases h d with h | h <;> omega

theorem Spent.acc {vs : Accounts} {l l' : Ledger} {a : Addr} {m : MVA} (h : Spent vs l l') (hm : find vs a = some m)
    (ho : AccOK l a m) : AccOK l' a m :=
  ho.spent fun d => by have := (h a d).2; rwa [lockedOf_of_find hm d] at this

/-- the invariant of a stored record, by membership as the statements about histories have it -/
theorem WF.mem {w : World} (hw : WF w) {m : MVA} (hm : m ∈ w.vs) : AccOK w.l m.addr m :=
  hw.acc m.addr m (find_of_key hw.nodup hm)

theorem wf_ledger {w : World} {l' : Ledger} {k' : Cvm.State} {ac' : List Addr} (hw : WF w) (hl : Spent w.vs w.l l')
    (hs : ∀ a m, find w.vs a = some m → Cvm.find k' a = none) : WF { w with l := l', cvm := k', accts := ac' } :=
  ⟨hl.nonneg, hw.nodup, fun a m hm => hl.acc hm (hw.acc a m hm), hs⟩

theorem wf_set {w : World} {l' : Ledger} {a : Addr} {m' : MVA} {ac' : List Addr} (hw : WF w) (ha : m'.addr = a)
    (hn : Ledger.NonNeg l') (hacc : AccOK l' a m') (hcode : Cvm.find w.cvm a = none)
    (hrest : ∀ b m, a ≠ b → find w.vs b = some m → AccOK l' b m) :
    WF { w with l := l', vs := Vesting.set w.vs m', accts := ac' } := by
  subst ha
  refine ⟨hn, set_nodup _ hw.nodup, ?_, ?_⟩
  · intro b m hm
    have hm' : find (Vesting.set w.vs m') b = some m := hm
    show AccOK l' b m
    rw [find_set] at hm'
    by_cases e : m'.addr = b
    · rw [if_pos e] at hm'; cases hm'; subst e; exact hacc
    · rw [if_neg e] at hm'; exact hrest b m e hm'
  · intro b m hm
    have hm' : find (Vesting.set w.vs m') b = some m := hm
    show Cvm.find w.cvm b = none
    rw [find_set] at hm'
    by_cases e : m'.addr = b
    · subst e; exact hcode
    · rw [if_neg e] at hm'; exact hw.sep b m hm'

theorem wf_send {w : World} {l' : Ledger} {src dst : Addr} {amt : Coins} {ac' : List Addr} (hw : WF w)
    (h : Vesting.send w.l w.vs src dst amt = .ok l') : WF { w with l := l', accts := ac' } := by
  obtain ⟨hc, rfl⟩ := send_ok h
  exact wf_ledger hw (spent_move dst hw.nonneg hc) hw.sep

theorem wf_multiSend {w : World} {l' : Ledger} {src : Addr} {outs : List (Addr × Coins)} {ac' : List Addr} (hw : WF w)
    (h : multiSend w.l w.vs src outs = .ok l') : WF { w with l := l', accts := ac' } := by
  unfold multiSend at h
  obtain ⟨hpos, h⟩ := of_guard h
  dsimp only at h
  split at h; · cases h
  rename_i hc
  cases h
  have hp : ∀ o ∈ outs, ∀ d, 0 ≤ Coins.amountOf o.2 d := by
    intro o ho d
    have hpos' : outs.any (fun o => !Coins.isAllPositive o.2) = false := by simpa using hpos
    have := (List.any_eq_false.mp hpos') o ho
    exact Coins.amountOf_nonneg_of_allPositive o.2 (by simpa using this) d
  exact wf_ledger hw ((spent_debit hw.nonneg hc).mono (Ledger.foldl_credit_mono outs _ hp)) hw.sep

theorem wf_call {bond : Denom} {w : World} {l' : Ledger} {k' : Cvm.State} {caller callee : Addr} {v : Int} {d0 : String}
    {z : Bool} {t : Addr} {hd : Bool} (hv : 0 ≤ v) (hw : WF w)
    (h : Cvm.call bond w.l w.vs w.cvm caller callee v d0 z t hd = .ok (l', k')) : WF { w with l := l', cvm := k' } := by
  obtain ⟨hc', h⟩ := Cvm.call_ok h
  obtain ⟨hsp, hv1⟩ := value_move callee hw.nonneg hv hc'
  obtain ⟨hn, hmono, hcode⟩ :=
    runKind_frame bond 3 _ _ _ _ _ _ _ _ _ _ _ hsp.nonneg hv hv1 (kindAt_of_none w.cvm callee) h
  -- a vesting address holds no code, so the execution took nothing from it
  exact ⟨hn, hw.nodup,
    fun a m hm => (hsp.acc hm (hw.acc a m hm)).spent fun d => Or.inl (hmono a (hw.sep a m hm) d),
    fun a m hm => hcode a (hw.sep a m hm)⟩

theorem wf_sendToContract {bond : Denom} {w : World} {l' : Ledger} {k' : Cvm.State} {src dst : Addr} {amt : Coins} (hw : WF w)
    (h : Cvm.sendToContract bond w.l w.vs w.cvm src dst amt = .ok (l', k')) : WF { w with l := l', cvm := k' } := by
  obtain ⟨hpos, h⟩ := Cvm.sendToContract_ok h
  exact wf_call (by omega) hw h

theorem wf_deploy {bond : Denom} {w : World} {l' : Ledger} {k' : Cvm.State} {caller na : Addr} {code : String} {v : Int}
    {ac' : List Addr} (hv : 0 ≤ v) (hw : WF w) (hna : find w.vs na = none)
    (h : Cvm.deploy bond w.l w.vs w.cvm caller na code v = .ok (l', k')) : WF { w with l := l', cvm := k', accts := ac' } := by
  obtain ⟨hc', rfl, rfl⟩ := Cvm.deploy_ok h
  refine wf_ledger hw (value_move na hw.nonneg hv hc').1 fun a m hm => cfind_append_none _ _ _ (hw.sep a m hm) ?_
  intro e
  rw [← show na = a from e, hna] at hm; cases hm

theorem wf_lockedSend {w : World} {l' : Ledger} {vs' : Accounts} {src dst u : Addr} {amt : Coins} {ac' : List Addr} (hw : WF w)
    (h : lockedSend w.l w.vs (isPlain w) src dst u amt = .ok (l', vs')) : WF { w with l := l', vs := vs', accts := ac' } := by
  obtain ⟨m, hm, hpos, rfl, rfl, hc⟩ := lockedSend_ok h
  obtain ⟨hok, haddr, hcode⟩ : AccOK w.l dst m ∧ m.addr = dst ∧ Cvm.find w.cvm dst = none := by
    rcases hm with ⟨hm, _⟩ | ⟨hm, hf, he⟩
    · exact ⟨hw.acc dst m hm, find_addr hm, hw.sep dst m hm⟩
    · subst he
      refine ⟨accOK_fresh _ _ _ hw.nonneg, rfl, ?_⟩
      unfold isPlain at hf
      rw [hm] at hf
      simp only [Option.isNone_none, Bool.and_true, Bool.or_eq_false_iff] at hf
      simpa using hf.2
  have hamt : ∀ d, 0 ≤ Coins.amountOf amt d := Coins.amountOf_nonneg_of_allPositive amt hpos
  -- the credit keeps every record sound, and the sender's debit passed the spendable rule against the records as they
  -- are afterwards
  have hcr := Ledger.credit_mono w.l dst amt hamt
  have hsp := spent_debit (fun a d => Int.le_trans (hw.nonneg a d) (hcr a d)) hc
  refine wf_set hw haddr hsp.nonneg (hsp.acc (by rw [find_set, if_pos haddr]) ?_) hcode fun b m2 hne hm2 =>
    hsp.acc (by rw [find_set, if_neg (haddr ▸ hne)]; exact hm2) ((hw.acc b m2 hm2).spent fun d => Or.inl (hcr b d))
  refine ⟨hok.vested_nonneg, fun d => ?_, hok.dv_nonneg, hok.df_nonneg, fun d => ?_⟩
  · have := hok.vested_le d
    have := hamt d
    simp only [Coins.amountOf_add]; omega
  · have := hok.present d
    unfold vestingAmt at *
    rw [Ledger.balOf_credit', if_pos rfl]; simp only [Coins.amountOf_add]; omega

theorem wf_unlock {w : World} {vs' : Accounts} {issuer account : Addr} {amt : Coins} {ex : Addr → Bool} (hw : WF w)
    (h : unlock w.vs ex issuer account amt = .ok vs') : WF { w with vs := vs' } := by
  obtain ⟨m, hm, _, hpos, hle, rfl⟩ := unlock_ok h
  have hamt : ∀ d, 0 ≤ Coins.amountOf amt d := Coins.amountOf_nonneg_of_allPositive amt hpos
  have ho := hw.acc account m hm
  have hma : (unlocked m amt).addr = account := (unlocked_addr m amt).trans (find_addr hm)
  refine wf_set hw hma hw.nonneg ?_ (hw.sep account m hm) (fun b m2 _ hm2 => hw.acc b m2 hm2)
  refine ⟨fun d => ?_, fun d => ?_, fun d => ?_, fun d => ?_, fun d => ?_⟩
  · rw [unlocked_vested, Coins.amountOf_add]; have := ho.vested_nonneg d; have := hamt d; omega
  · rw [unlocked_vested, unlocked_ov]; exact hle d
  all_goals
    obtain ⟨e, he, hdv, hdf⟩ := unlocked_delegated m amt ho.dv_nonneg d
    have := hle d
    rw [Coins.amountOf_add] at this
  · rw [hdv]; have := ho.dv_nonneg d; omega
  · rw [hdf]; have := ho.df_nonneg d; omega
  · -- when the excess moved, what is left delegated-vesting is exactly what still vests
    have := ho.present d
    have := hamt d
    have := hw.nonneg account d
    unfold vestingAmt at *
    rw [hdv, unlocked_ov, unlocked_vested, Coins.amountOf_add]; omega

theorem wf_delegate {w : World} {l' : Ledger} {vs' : Accounts} {del pool : Addr} {d : Denom} {amount : Int} (hw : WF w)
    (h : delegate w.l w.vs del pool d amount = .ok (l', vs')) : WF { w with l := l', vs := vs' } := by
  obtain ⟨hpos, hcov, rfl, rfl⟩ := delegate_ok h
  have hn : Ledger.NonNeg (w.l.move del pool [(d, amount)]) := Ledger.nonneg_move1 _ _ hw.nonneg (by omega) hcov
  -- every other account can only have received
  have hrest : ∀ b m, del ≠ b → find w.vs b = some m → AccOK (w.l.move del pool [(d, amount)]) b m :=
    fun b m hne hm => (hw.acc b m hm).spent fun d' => Or.inl (Ledger.mono_move1 _ _ _ _ (by omega) hne d')
  cases hf : find w.vs del with
  | none =>
    refine ⟨hn, hw.nodup, fun a m hm => hrest a m ?_ hm, hw.sep⟩
    intro e; subst e; rw [hf] at hm; cases hm
  | some m =>
    have ho := hw.acc del m hf
    refine wf_set hw (find_addr (m := m) hf) hn ?_ (hw.sep del m hf) hrest
    refine ⟨ho.vested_nonneg, ho.vested_le, fun d' => ?_, fun d' => ?_, fun d' => ?_⟩
    · rw [trackDelegation_dv]; have := ho.dv_nonneg d'; split <;> omega
    · rw [trackDelegation_df]; have := ho.df_nonneg d'; split <;> omega
    · -- the coins that left the balance are counted in `dv` as far as they were still vesting
      have := ho.present d'
      have := hw.nonneg del d'
      show vestingAmt m d' ≤ _
      rw [trackDelegation_dv, Ledger.balOf_move1]
      by_cases e : d = d'
      · subst e; simp only [and_true, if_true]; split <;> omega
      · simp only [e, if_false, and_false]; omega

theorem Accepted.wf {c : Cfg} {w w' : World} {op : Op} (h : Accepted c w op w') (hw : WF w) : WF w' := by
  cases h with
  | toContract hs => exact wf_sendToContract hw hs
  | send hs => exact wf_send hw hs
  | multiSend hs => exact wf_multiSend hw hs
  | fee hs => exact wf_send hw hs
  | lockedSend hs => exact wf_lockedSend hw hs
  | unlock hs => exact wf_unlock hw hs
  | call hs => exact wf_call (by omega) hw hs
  | deploy hnew hs => exact wf_deploy (by omega) hw (find_of_not_hasAccount hnew) hs
  | delegate hs => exact wf_delegate hw hs

/-- what an accepted operation writes to the log of changes -/
def logOf : Op → List Change
  | .lockedSend _ dst _ amt => [.locked dst amt]
  | .unlock issuer account amt => [.unlocked account issuer amt]
  | _ => []

theorem step_cases (c : Cfg) (w : World) (op : Op) :
    (step c w op = w ∧ changeOf c w op = []) ∨
      ∃ w', step c w op = w' ∧ Accepted c w op w' ∧ changeOf c w op = logOf op := by
  unfold step changeOf
  cases h : stepE c w op with
  | error x => exact Or.inl ⟨rfl, rfl⟩
  | ok w' => exact Or.inr ⟨w', rfl, stepE_accepted h, by cases op <;> rfl⟩

end Shentu.C19H
