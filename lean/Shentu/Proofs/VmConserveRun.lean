import Shentu.Proofs.VmKeeps
/-
  Whole executions of the interpreter model conserve the sum of balances.

  `SafeW n` (keyed, `n` coins) is kept by the four places that write the accounts (`over_writes`) unless the frame is doomed,
  where the doomed frames are those in which SELFDESTRUCT may have lost coins: an error is in the sink and the cache held
  2^64 coins or more (`Over n`).  A frame that reports success is not doomed, so the frame, the nesting and the outermost
  call conserve whatever `n` is; the loop itself, which also runs in frames that fail, conserves for `n < 2^64`
  (`keeps_step`, `run_safe`).  `Keeps P m` is `KeepsD` of `VmKeeps.lean` with no frame counting as doomed.
-/
namespace Shentu.EVM

def Keeps (P : World → Prop) (m : M α) : Prop := ∀ s : Frame, P s.world → P (m s).val.2.world

theorem never_doom : Doom (fun _ => False) := ⟨fun _ h => h, fun h => h.elim⟩

theorem KeepsD.keeps {P : World → Prop} {m : M α} (h : KeepsD (fun _ => False) P m) : Keeps P m :=
  fun s hs => (h s (.inr hs)).resolve_left id

section prims
variable {P : World → Prop}

theorem keeps_getF : Keeps P getF := fun _ h => h
theorem keeps_setRemoved (r : List Nat) : Keeps P (setRemoved r) := fun _ h => h
theorem keeps_syncChild {w : World} (d : Bool) (r : List Nat) (h : P w) : Keeps P (syncChild w d r) := fun _ _ => h

end prims

/-- what a callee frame is trusted with: started on keyed accounts that hold `n` coins, it hands back such accounts when it
    reports success -/
def ChildKeeps (n : Nat) (child : ChildFn) : Prop :=
  ∀ (env : Env) (g : Nat) (w : World) (rm : List Nat), env.q.selfDestructSelfKeeps = true → SafeW n w →
    (child env g w rm).status = 0 → (child env g w rm).err = none → SafeW n (child env g w rm).world

/-- the frames in which SELFDESTRUCT may have lost coins: an error is in the sink and the cache held 2^64 coins or more -/
def Over (n : Nat) (s : Frame) : Prop := U64 ≤ n ∧ s.err.isSome = true

theorem over_doom (n : Nat) : Doom (Over n) := ⟨fun h hd => ⟨hd.1, h hd.2⟩, fun hd => hd.2⟩

theorem safe_create {n : Nat} {w : World} {a : Nat} (hw : SafeW n w) (h : w.get a = none) : SafeW n (w.put { addr := a }) :=
  hw.of_total_keyed (create_total_keyed hw.1 h)

theorem safe_sstore {n : Nat} {w : World} (a k v : Nat) (hw : SafeW n w) : SafeW n (w.sstore a k v) :=
  hw.of_total_keyed (sstore_total_keyed a k v hw.1)

/-- SELFDESTRUCT to another account: the credit adds to the sum what the deletion takes out -/
theorem safe_sd {n callee x : Nat} {w : World} {r : Account} (hne : x ≠ callee) (hw : SafeW n w) (hr : w.get x = some r) :
    SafeW n ((w.put { r with balance := r.balance + balOf w callee }).del callee) := by
  obtain rfl := get_addr hr
  have hk := keyed_put { r with balance := r.balance + balOf w callee } hw.1
  have h1 := total_put { r with balance := r.balance + balOf w callee } hw.1
  have h2 : balOf (w.put { r with balance := r.balance + balOf w callee }) callee = balOf w callee :=
    balOf_put_ne _ _ (Ne.symm hne)
  have h3 := balOf_of_get_some hr
  have h4 := total_del callee hk
  have h5 := hw.2
  dsimp only at h1
  exact ⟨keyed_del _ hk, by omega⟩

theorem over_selfdestruct {n : Nat} (env : Env) (hq : env.q.selfDestructSelfKeeps = true) :
    KeepsD (Over n) (SafeW n) (selfdestruct env) :=
  keeps_selfdestruct (over_doom n) safe_create
    (fun hne hw hr _ _ he => ⟨by
      -- the credit would not fit 64 bits: then neither do the coins of the cache, and the error pushed dooms the frame
      have h1 := balOf_add_le_total hw.1 (hne hq)
      have h2 := hw.2
      have h3 := balOf_of_get_some hr
      omega, he⟩)
    (fun hne hw hr _ => safe_sd (hne hq) hw hr)

theorem safe_put_code {n : Nat} {w : World} {acc : Account} {a : Nat} (hw : SafeW n w) (h : w.get a = some acc) (c : ByteArray)
    (f : Option Nat) : SafeW n (w.put { acc with code := c, forebear := f }) :=
  hw.of_total_keyed (total_put_same hw.1 h rfl rfl)

theorem safe_initChildCode {n : Nat} {w : World} (hw : SafeW n w) (creator addr : Nat) (c : ByteArray) :
    SafeW n (initChildCode creator addr c w) := by
  unfold initChildCode
  split
  · exact hw
  · rename_i acc hacc
    exact safe_put_code hw hacc c _

theorem safe_settleCreate {n : Nat} (q : Quirks) (ro : Bool) (creator addr : Nat) (w : World) (d : Bool) (rm : List Nat) (r : CallRes)
    (hw : SafeW n w) (hr : r.err = none → SafeW n r.world) :
    SafeW n (settleCreate q ro creator addr w d rm r).world :=
  settleCreate_keeps q ro d rm (fun c _ h => safe_initChildCode h creator addr c) hw hr

theorem safe_openFrame {n : Nat} (env : Env) {w : World} (hw : SafeW n w) : SafeW n (openFrame env w).1 :=
  hw.of_total_keyed (openFrame_total_keyed env hw.1)

section run
variable {n : Nat} {child : ChildFn}

theorem safe_callFromSite {D : Frame → Prop} (hD : Doom D) (hc : ChildKeeps n child) (env : Env) (hq : env.q.selfDestructSelfKeeps = true)
    (op gasLimit target value : Nat) (input : ByteArray) :
    KeepsD D (SafeW n) (callFromSite child env op gasLimit target value input) :=
  keeps_callFromSite (G := fun e => e.q.selfDestructSelfKeeps = true) hD safe_create hc
    (fun _ _ hce _ => by rw [hce.1]; exact hq) gasLimit value input

theorem safe_createRun {D : Frame → Prop} (hD : Doom D) (hc : ChildKeeps n child) (env : Env) (hq : env.q.selfDestructSelfKeeps = true)
    (v addr : Nat) (input : ByteArray) : KeepsD D (SafeW n) (createRun child env v addr input) :=
  keeps_createRun (G := fun e => e.q.selfDestructSelfKeeps = true) hD safe_create (fun c _ hw => safe_initChildCode hw _ _ c) hc
    (fun _ => hq)

theorem keeps_createRest (hc : ChildKeeps n child) (env : Env) (hq : env.q.selfDestructSelfKeeps = true) (op v : Nat) :
    Keeps (SafeW n) (createRest child env op v) :=
  (KeepsD.createRest never_doom (safe_createRun never_doom hc env hq) op v).keeps

/-- the four writing places conserve unless SELFDESTRUCT overflowed: SSTORE and storing code change no balance, a created
    account is empty, SELFDESTRUCT moves the balance, and a callee's accounts are adopted only when it reported success -/
theorem over_writes (hc : ChildKeeps n child) (env : Env) (hq : env.q.selfDestructSelfKeeps = true) :
    Writes (Over n) (SafeW n) child env where
  doom := over_doom n
  call := safe_callFromSite (over_doom n) hc env hq
  create := safe_createRun (over_doom n) hc env hq
  sstore := fun k v hw => safe_sstore _ k v hw
  selfdestruct := over_selfdestruct env hq

/-- below 2^64 coins no frame is doomed -/
theorem keeps_step (hn : n < U64) (hc : ChildKeeps n child) (env : Env) (hq : env.q.selfDestructSelfKeeps = true) :
    Keeps (SafeW n) (step child env) :=
  fun s hs => ((over_writes hc env hq).step s (.inr hs)).resolve_left (fun h => by have := h.1; omega)

theorem run_safe (hn : n < U64) (hc : ChildKeeps n child) (env : Env) (hq : env.q.selfDestructSelfKeeps = true) (fuel : Nat)
    (s : Frame) (hs : SafeW n s.world) : SafeW n (run child env fuel s).2.world :=
  ((run_keeps (over_writes hc env hq).step fuel s (.inr hs)).1).resolve_left (fun h => by have := h.1; omega)

theorem runFrame_childKeeps (hc : ChildKeeps n child) : ChildKeeps n (runFrame child) :=
  fun env g _ rm hq hw hst he =>
    runFrame_keeps (over_doom n) (fun _ => (over_writes hc env hq).step) (safe_openFrame env hw) g rm hst he

theorem runDepth_childKeeps : ∀ d : Nat, ChildKeeps n (runDepth d) :=
  runDepth_spec (over_doom n) (fun env _ _ hw => safe_openFrame env hw) (fun _ env hc hq _ => (over_writes hc env hq).step)

/-- every execution conserves, whatever the number of coins: a frame in which SELFDESTRUCT lost some has failed, and the
    accounts of a failed frame are dropped -/
theorem execTop_safe (env : Env) (hq : env.q.selfDestructSelfKeeps = true) (gas : Nat) (pre : World) (depth : Nat)
    (hw : SafeW n pre) : SafeW n (execTop env gas pre depth).world :=
  execTop_keeps (over_doom n) (fun _ => (over_writes (runDepth_childKeeps depth) env hq).step) hw (safe_openFrame env hw) gas

end run
end Shentu.EVM
