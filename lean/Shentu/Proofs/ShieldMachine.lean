import Shentu.Model.Shield
import Shentu.Proofs.ShieldWrites
/-
  The shield model as a state machine, twice: the operations with the environment each runs in, one step (a failing
  operation leaves the state), a history.  `C03a` runs an operation as a partial function and recovers in `step`;
  `C03b` recovers inside each case (`orKeep`) and has the bare purchase path as an operation of its own.  The histories
  of C03a, C04H, C05H, C07, C07P, C20G run on the first machine, those of C03b and C08 on the second.
  Then what a step of the first machine leaves alone.  The histories with a ghost log (C04H, C05H, C07, C20G) each tie
  their log to one or two fields of the store that few operations write.  Which operations write them is a table; that
  the others do not is one case analysis over the machine, read off what each operation may have written (`X_writes`).
  The operations that write the collateral book and nothing else (`Op.onColl`) are each a chain of `CollWrite`
  (`step_chain`, on both machines), so a table over the operations has one branch for them, this one included.
-/
namespace Shentu.Props.C03a
open Shentu Shentu.Shield

/-- the model's operations, each with its own environment (block time, staking view) -/
inductive Op where
  | deposit (e : Env) (a : Addr) (coins : Coins)
  | withdraw (e : Env) (a : Addr) (coins : Coins)
  | stakingChanged (e : Env) (a : Addr)
  | purchase (e : Env) (poolID : Nat) (shield : Coins) (purchaser : Addr) (staking : Bool)
  | createPool (e : Env) (creator : Addr) (shield fees : Coins) (sponsor : String) (sponsorAddr : Addr) (limit : Int)
  | updatePool (e : Env) (updater : Addr) (poolID : Nat) (shield fees : Coins) (limit : Int)
  | pausePool (updater : Addr) (poolID : Nat) (active : Bool)
  | updateSponsor (updater : Addr) (poolID : Nat) (sponsor : String) (sponsorAddr : Addr)
  | unstake (e : Env) (poolID : Nat) (purchaser : Addr) (coins : Coins)
  | withdrawRewards (e : Env) (a : Addr)
  | withdrawReimbursement (e : Env) (pid : Nat) (a : Addr)
  | secureCollaterals (e : Env) (poolID : Nat) (purchaser : Addr) (purchaseID : Nat) (loss duration : Int)
  | claimEnds (e : Env) (pid poolID : Nat) (restoreTo beneficiary : Addr) (purchaseID : Nat) (loss : Int) (o : ClaimOutcome)
  | endBlock (e : Env)
  | fundBlockRewards (e : Env) (sender : Addr) (amount : Int)
  -- the keeper functions below the messages, callable on their own as well
  | withdrawCollateral (e : Env) (a : Addr) (amount : Int)
  | stakingHook (e : Env) (a : Addr) (staked : Int)
  | delayWithdraws (a : Addr) (amount t : Int)
  | secureFromProvider (e : Env) (p : Provider) (amount duration : Int)
  | createReimbursement (e : Env) (pid : Nat) (amount : Int) (beneficiary : Addr)
  | completeWithdrawals (e : Env)
  | expireAndDistribute (e : Env)
  | closePools
  | claimEnd (loss : Int)
  | restoreShield (poolID : Nat) (purchaser : Addr) (id : Nat) (loss : Int)

abbrev World := Ledger × State

/-- the operation as a partial function on (bank ledger, shield state) -/
def Op.apply : Op → World → Except Err World
  | .deposit e a c, (l, s) => (Shield.deposit e s a c).map (fun s' => (l, s'))
  | .withdraw e a c, (l, s) => (Shield.withdraw e s a c).map (fun s' => (l, s'))
  | .stakingChanged e a, (l, s) => (Shield.stakingChanged e s a).map (fun s' => (l, s'))
  | .purchase e poolID shield purchaser staking, (l, s) => Shield.purchase e l s poolID shield purchaser staking
  | .createPool e creator shield fees sponsor sponsorAddr limit, (l, s) => Shield.createPool e l s creator shield fees sponsor sponsorAddr limit
  | .updatePool e updater poolID shield fees limit, (l, s) => Shield.updatePool e l s updater poolID shield fees limit
  | .pausePool updater poolID active, (l, s) => (Shield.pausePool s updater poolID active).map (fun s' => (l, s'))
  | .updateSponsor updater poolID sponsor sponsorAddr, (l, s) => (Shield.updateSponsor s updater poolID sponsor sponsorAddr).map (fun s' => (l, s'))
  | .unstake e poolID purchaser coins, (l, s) => (Shield.unstake e s poolID purchaser coins).map (fun s' => (l, s'))
  | .withdrawRewards e a, (l, s) => Shield.withdrawRewards e l s a
  | .withdrawReimbursement e pid a, (l, s) => Shield.withdrawReimbursement e l s pid a
  | .secureCollaterals e poolID purchaser purchaseID loss duration, (l, s) =>
      (Shield.secureCollaterals e s poolID purchaser purchaseID loss duration).map (fun s' => (l, s'))
  | .claimEnds e pid poolID restoreTo beneficiary purchaseID loss o, (l, s) =>
      Shield.claimEnds e l s pid poolID restoreTo beneficiary purchaseID loss o
  | .endBlock e, (l, s) => (Shield.endBlock e s).map (fun s' => (l, s'))
  | .fundBlockRewards e sender amount, (l, s) => .ok (Shield.fundBlockRewards e l s sender amount)
  | .withdrawCollateral e a amount, (l, s) => (Shield.withdrawCollateral e s a amount).map (fun s' => (l, s'))
  | .stakingHook e a staked, (l, s) => (Shield.stakingHook e s a staked).map (fun s' => (l, s'))
  | .delayWithdraws a amount t, (l, s) => (Shield.delayWithdraws s a amount t).map (fun s' => (l, s'))
  | .secureFromProvider e p amount duration, (l, s) => (Shield.secureFromProvider e s p amount duration).map (fun s' => (l, s'))
  | .createReimbursement e pid amount beneficiary, (l, s) => Shield.createReimbursement e l s pid amount beneficiary
  | .completeWithdrawals e, (l, s) => (Shield.completeWithdrawals e s).map (fun s' => (l, s'))
  | .expireAndDistribute e, (l, s) => (Shield.expireAndDistribute e s).map (fun s' => (l, s'))
  | .closePools, (l, s) => .ok (l, Shield.closePools s)
  | .claimEnd loss, (l, s) => .ok (l, Shield.claimEnd s loss)
  | .restoreShield poolID purchaser id loss, (l, s) => .ok (l, Shield.restoreShield s poolID purchaser id loss)

/-- a failing step (rejected transaction, recovered panic) leaves the state unchanged -/
def step (op : Op) (w : World) : World :=
  match op.apply w with
  | .ok w' => w'
  | .error _ => w

def run (ops : List Op) (w : World) : World := ops.foldl (fun w op => step op w) w

theorem step_ok {op : Op} {w w' : World} (h : op.apply w = .ok w') : step op w = w' := by unfold step; rw [h]
theorem step_error {op : Op} {w : World} {x : Err} (h : op.apply w = .error x) : step op w = w := by unfold step; rw [h]

theorem step_ind {P : World → Prop} (op : Op) (w : World) (keep : P w) (ok : ∀ w', op.apply w = .ok w' → P w') :
    P (step op w) := by
  cases h : op.apply w with
  | error x => rw [step_error h]; exact keep
  | ok w' => rw [step_ok h]; exact ok w' h

/-- The inputs under which the preservation theorems hold.  Only three operations carry a condition:
    the payout amount of a claim is non-negative and, when it is paid, `totalShield` is non-negative
    (clause `nonneg` of `BooksInv`, in the half of the books that `PoolInv` of `Props/C03b` keeps); a bare `withdrawCollateral` gets a non-negative amount. -/
def Op.admissible : Op → State → Prop
  | .claimEnds _ _ _ _ _ _ loss o, s => o = .paid → 0 ≤ loss ∧ 0 ≤ s.totalShield
  | .createReimbursement _ _ amount _, s => 0 ≤ amount ∧ 0 ≤ s.totalShield
  | .withdrawCollateral _ _ amount, _ => 0 ≤ amount
  | _, _ => True

/-- every step of the history meets `Op.admissible` in the state it is run in -/
def Admissible : List Op → World → Prop
  | [], _ => True
  | op :: ops, w => op.admissible w.2 ∧ Admissible ops (step op w)

end Shentu.Props.C03a

namespace Shentu.Props.C03b
open Shentu Shentu.Shield

/-- the operations of the model (all but `depositMsg`, which is a `stakingChanged` and a `deposit`, and the bare
    `secureFromProvider`), each with the environment (block time, hook inputs) of its own step -/
inductive Op where
  | deposit (e : Env) (a : Addr) (c : Coins)
  | withdraw (e : Env) (a : Addr) (c : Coins)
  | withdrawCollateral (e : Env) (a : Addr) (amt : Int)
  | stakingHook (e : Env) (a : Addr) (staked : Int)
  | stakingChanged (e : Env) (a : Addr)
  | purchaseCore (e : Env) (poolID : Nat) (shield : Coins) (purchaser : Addr) (fees staking : Coins)
  | purchase (e : Env) (poolID : Nat) (shield : Coins) (purchaser : Addr) (staking : Bool)
  | createPool (e : Env) (creator : Addr) (shield fees : Coins) (sponsor : String) (sponsorAddr : Addr) (limit : Int)
  | updatePool (e : Env) (updater : Addr) (poolID : Nat) (shield fees : Coins) (limit : Int)
  | pausePool (updater : Addr) (poolID : Nat) (active : Bool)
  | updateSponsor (updater : Addr) (poolID : Nat) (sponsor : String) (sponsorAddr : Addr)
  | unstake (e : Env) (poolID : Nat) (purchaser : Addr) (c : Coins)
  | withdrawRewards (e : Env) (a : Addr)
  | withdrawReimbursement (e : Env) (pid : Nat) (a : Addr)
  | delayWithdraws (a : Addr) (amt until_ : Int)
  | secureCollaterals (e : Env) (poolID : Nat) (purchaser : Addr) (purchaseID : Nat) (loss dur : Int)
  | claimEnd (loss : Int)
  | restoreShield (poolID : Nat) (purchaser : Addr) (id : Nat) (loss : Int)
  | createReimbursement (e : Env) (pid : Nat) (amount : Int) (beneficiary : Addr)
  | claimEnds (e : Env) (pid poolID : Nat) (restoreTo beneficiary : Addr) (purchaseID : Nat) (loss : Int) (o : ClaimOutcome)
  | expireAndDistribute (e : Env)
  | completeWithdrawals (e : Env)
  | closePools
  | endBlock (e : Env)
  | fundBlockRewards (e : Env) (sender : Addr) (amt : Int)

/-- a failing operation leaves ledger and store unchanged (the transaction is rolled back) -/
def orKeep (ls : Ledger × State) (r : Except Err (Ledger × State)) : Ledger × State :=
  match r with
  | .ok x => x
  | .error _ => ls

/-- the same for operations that do not touch the bank -/
def orKeepS (ls : Ledger × State) (r : Except Err State) : Ledger × State :=
  match r with
  | .ok s' => (ls.1, s')
  | .error _ => ls

def step (ls : Ledger × State) : Op → Ledger × State
  | .deposit e a c => orKeepS ls (Shield.deposit e ls.2 a c)
  | .withdraw e a c => orKeepS ls (Shield.withdraw e ls.2 a c)
  | .withdrawCollateral e a amt => orKeepS ls (Shield.withdrawCollateral e ls.2 a amt)
  | .stakingHook e a b => orKeepS ls (Shield.stakingHook e ls.2 a b)
  | .stakingChanged e a => orKeepS ls (Shield.stakingChanged e ls.2 a)
  | .purchaseCore e p sh a f st => orKeep ls (Shield.purchaseCore e ls.1 ls.2 p sh a f st)
  | .purchase e p sh a st => orKeep ls (Shield.purchase e ls.1 ls.2 p sh a st)
  | .createPool e c sh f sp spa lim => orKeep ls (Shield.createPool e ls.1 ls.2 c sh f sp spa lim)
  | .updatePool e u p sh f lim => orKeep ls (Shield.updatePool e ls.1 ls.2 u p sh f lim)
  | .pausePool u p act => orKeepS ls (Shield.pausePool ls.2 u p act)
  | .updateSponsor u p sp spa => orKeepS ls (Shield.updateSponsor ls.2 u p sp spa)
  | .unstake e p a c => orKeepS ls (Shield.unstake e ls.2 p a c)
  | .withdrawRewards e a => orKeep ls (Shield.withdrawRewards e ls.1 ls.2 a)
  | .withdrawReimbursement e pid a => orKeep ls (Shield.withdrawReimbursement e ls.1 ls.2 pid a)
  | .delayWithdraws a amt u => orKeepS ls (Shield.delayWithdraws ls.2 a amt u)
  | .secureCollaterals e p a id loss dur => orKeepS ls (Shield.secureCollaterals e ls.2 p a id loss dur)
  | .claimEnd loss => (ls.1, Shield.claimEnd ls.2 loss)
  | .restoreShield p a id loss => (ls.1, Shield.restoreShield ls.2 p a id loss)
  | .createReimbursement e pid amt b => orKeep ls (Shield.createReimbursement e ls.1 ls.2 pid amt b)
  | .claimEnds e pid p r b id loss o => orKeep ls (Shield.claimEnds e ls.1 ls.2 pid p r b id loss o)
  | .expireAndDistribute e => orKeepS ls (Shield.expireAndDistribute e ls.2)
  | .completeWithdrawals e => orKeepS ls (Shield.completeWithdrawals e ls.2)
  | .closePools => (ls.1, Shield.closePools ls.2)
  | .endBlock e => orKeepS ls (Shield.endBlock e ls.2)
  | .fundBlockRewards e a amt => Shield.fundBlockRewards e ls.1 ls.2 a amt

theorem orKeep_pred {P : State → Prop} {ls : Ledger × State} {r : Except Err (Ledger × State)} (hinv : P ls.2)
    (h : ∀ l' s', r = .ok (l', s') → P s') : P (orKeep ls r).2 := by
  unfold orKeep
  split
  · rename_i x; exact h x.1 x.2 rfl
  · exact hinv

theorem orKeepS_pred {P : State → Prop} {ls : Ledger × State} {r : Except Err State} (hinv : P ls.2)
    (h : ∀ s', r = .ok s' → P s') : P (orKeepS ls r).2 := by
  unfold orKeepS
  split
  · rename_i s'; exact h s' rfl
  · exact hinv

/-- the operation of `C03a` that an operation of `C03b` is (the bare purchase path has none) -/
def toA : Op → Option C03a.Op
  | .deposit e a c => some (.deposit e a c)
  | .withdraw e a c => some (.withdraw e a c)
  | .withdrawCollateral e a amt => some (.withdrawCollateral e a amt)
  | .stakingHook e a b => some (.stakingHook e a b)
  | .stakingChanged e a => some (.stakingChanged e a)
  | .purchaseCore .. => none
  | .purchase e p sh a st => some (.purchase e p sh a st)
  | .createPool e c sh f sp spa lim => some (.createPool e c sh f sp spa lim)
  | .updatePool e u p sh f lim => some (.updatePool e u p sh f lim)
  | .pausePool u p act => some (.pausePool u p act)
  | .updateSponsor u p sp spa => some (.updateSponsor u p sp spa)
  | .unstake e p a c => some (.unstake e p a c)
  | .withdrawRewards e a => some (.withdrawRewards e a)
  | .withdrawReimbursement e pid a => some (.withdrawReimbursement e pid a)
  | .delayWithdraws a amt u => some (.delayWithdraws a amt u)
  | .secureCollaterals e p a id loss dur => some (.secureCollaterals e p a id loss dur)
  | .claimEnd loss => some (.claimEnd loss)
  | .restoreShield p a id loss => some (.restoreShield p a id loss)
  | .createReimbursement e pid amt b => some (.createReimbursement e pid amt b)
  | .claimEnds e pid p r b id loss o => some (.claimEnds e pid p r b id loss o)
  | .expireAndDistribute e => some (.expireAndDistribute e)
  | .completeWithdrawals e => some (.completeWithdrawals e)
  | .closePools => some .closePools
  | .endBlock e => some (.endBlock e)
  | .fundBlockRewards e a amt => some (.fundBlockRewards e a amt)

theorem toA_none {op : Op} (h : toA op = none) : ∃ e p sh a f st, op = .purchaseCore e p sh a f st := by
  cases op <;> first | exact ⟨_, _, _, _, _, _, rfl⟩ | cases h

theorem orKeepS_map (l : Ledger) (s : State) (r : Except Err State) :
    orKeepS (l, s) r = orKeep (l, s) (r.map (fun s' => (l, s'))) := by
  cases r <;> rfl

theorem orKeep_ok (ls x : Ledger × State) : orKeep ls (.ok x) = x := rfl

theorem stepA_eq (op : C03a.Op) (w : C03a.World) : C03a.step op w = orKeep w (op.apply w) := rfl

theorem step_toA {op : Op} {op' : C03a.Op} (h : toA op = some op') (ls : Ledger × State) :
    step ls op = C03a.step op' ls := by
  obtain ⟨l, s⟩ := ls
  rw [stepA_eq]
  -- Everything is opened by name before the two sides are compared: left to `rfl` or to the unifier, an equation
  -- between `orKeep ls r` and a `match` on `r` evaluates the guards of `r`, which is slow.
  unfold step
  cases op <;> cases h <;> dsimp only [C03a.Op.apply, orKeep_ok] <;> exact orKeepS_map l s _

end Shentu.Props.C03b

namespace Shentu.Props.C03a
open Shentu Shentu.Shield

def Op.writesReimbs : Op → Bool
  | .withdrawReimbursement .. | .claimEnds .. | .createReimbursement .. => true
  | _ => false

def Op.writesClaimed : Op → Bool
  | .secureCollaterals .. | .claimEnds .. | .claimEnd .. | .createReimbursement .. => true
  | _ => false

/-- the operations that write the collateral book: provider records, the withdrawal queue, their two totals -/
def Op.writesColl : Op → Bool
  | .pausePool .. | .updateSponsor .. | .unstake .. | .purchase .. | .createPool .. | .updatePool ..
  | .withdrawReimbursement .. | .fundBlockRewards .. | .closePools | .claimEnd .. | .restoreShield .. => false
  | _ => true

/-- the operations that set the fee clock `lastUpdate`: the purchases start it, the end-blocker moves it -/
def Op.movesClock : Op → Bool
  | .purchase .. | .createPool .. | .updatePool .. | .endBlock .. | .expireAndDistribute .. => true
  | _ => false

/-- no operation writes the parameters; the reimbursement store and the amount locked for claims are left alone by all
    but the operations of the claim flow, the collateral book by the operations on pools and purchases, the fee clock
    by all but the purchases and the end-blocker -/
structure Untouched (op : Op) (s s' : State) : Prop where
  params : s'.params = s.params
  reimbs : op.writesReimbs = false → s'.reimbs = s.reimbs
  claimed : op.writesClaimed = false → s'.totalClaimed = s.totalClaimed
  coll : op.writesColl = false → s'.providers = s.providers ∧ s'.withdraws = s.withdraws ∧
    s'.totalCollateral = s.totalCollateral ∧ s'.totalWithdrawing = s.totalWithdrawing
  clock : op.movesClock = false → s'.lastUpdate = s.lastUpdate

theorem Untouched.refl (op : Op) (s : State) : Untouched op s s :=
  ⟨rfl, fun _ => rfl, fun _ => rfl, fun _ => ⟨rfl, rfl, rfl, rfl⟩, fun _ => rfl⟩

/-- the operations that write the collateral book and nothing else -/
def Op.onColl : Op → Bool
  | .deposit .. | .withdraw .. | .stakingChanged .. | .withdrawCollateral .. | .stakingHook .. | .delayWithdraws ..
  | .secureFromProvider .. | .completeWithdrawals .. => true
  | _ => false

theorem apply_chain (op : Op) (w w' : World) (hc : op.onColl = true) (h : op.apply w = .ok w') : Star CollWrite w.2 w'.2 := by
  obtain ⟨l, s⟩ := w
  obtain ⟨l', s'⟩ := w'
  cases op <;> cases hc <;> simp only [Op.apply] at h <;> have hx := (Except.map_pair_ok h).2
  case deposit => exact deposit_chain hx
  case withdraw => exact withdraw_chain hx
  case stakingChanged => exact stakingChanged_chain hx
  case withdrawCollateral => exact withdrawCollateral_chain hx
  case stakingHook => exact stakingHook_chain hx
  case delayWithdraws => exact delayWithdraws_chain hx
  case secureFromProvider => exact secureFromProvider_chain hx
  case completeWithdrawals => exact completeWithdrawals_chain hx

theorem apply_untouched (op : Op) (w w' : World) (h : op.apply w = .ok w') : Untouched op w.2 w'.2 := by
  cases hc : op.onColl with
  | true =>
    -- on the collateral book alone: whatever the chain of `CollWrite` wrote, it wrote there
    rw [chain_writes (apply_chain op w w' hc h)]
    cases op <;> cases hc <;> exact ⟨rfl, fun _ => rfl, fun _ => rfl, nofun, fun _ => rfl⟩
  | false =>
  obtain ⟨l, s⟩ := w
  obtain ⟨l', s'⟩ := w'
  cases op <;> simp only [Op.apply] at h
  case purchase => rw [purchase_writes h]; exact ⟨rfl, fun _ => rfl, fun _ => rfl, fun _ => ⟨rfl, rfl, rfl, rfl⟩, nofun⟩
  case createPool => rw [createPool_writes h]; exact ⟨rfl, fun _ => rfl, fun _ => rfl, fun _ => ⟨rfl, rfl, rfl, rfl⟩, nofun⟩
  case updatePool => rw [updatePool_writes h]; exact ⟨rfl, fun _ => rfl, fun _ => rfl, fun _ => ⟨rfl, rfl, rfl, rfl⟩, nofun⟩
  case pausePool => rw [pausePool_writes (Except.map_pair_ok h).2]; exact ⟨rfl, fun _ => rfl, fun _ => rfl, fun _ => ⟨rfl, rfl, rfl, rfl⟩, fun _ => rfl⟩
  case updateSponsor => rw [updateSponsor_writes (Except.map_pair_ok h).2]; exact ⟨rfl, fun _ => rfl, fun _ => rfl, fun _ => ⟨rfl, rfl, rfl, rfl⟩, fun _ => rfl⟩
  case unstake => rw [unstake_writes (Except.map_pair_ok h).2]; exact ⟨rfl, fun _ => rfl, fun _ => rfl, fun _ => ⟨rfl, rfl, rfl, rfl⟩, fun _ => rfl⟩
  case withdrawRewards => rw [withdrawRewards_writes h]; exact ⟨rfl, fun _ => rfl, fun _ => rfl, nofun, fun _ => rfl⟩
  case withdrawReimbursement => rw [withdrawReimbursement_writes h]; exact ⟨rfl, nofun, fun _ => rfl, fun _ => ⟨rfl, rfl, rfl, rfl⟩, fun _ => rfl⟩
  case secureCollaterals => rw [secureCollaterals_writes (Except.map_pair_ok h).2]; exact ⟨rfl, fun _ => rfl, nofun, nofun, fun _ => rfl⟩
  case claimEnds => rw [claimEnds_writes h]; exact ⟨rfl, nofun, nofun, nofun, fun _ => rfl⟩
  case endBlock => rw [endBlock_writes (Except.map_pair_ok h).2]; exact ⟨rfl, fun _ => rfl, fun _ => rfl, nofun, nofun⟩
  case fundBlockRewards => cases h; exact ⟨rfl, fun _ => rfl, fun _ => rfl, fun _ => ⟨rfl, rfl, rfl, rfl⟩, fun _ => rfl⟩
  case createReimbursement => rw [createReimbursement_writes h]; exact ⟨rfl, nofun, nofun, nofun, fun _ => rfl⟩
  case expireAndDistribute => rw [expireAndDistribute_writes (Except.map_pair_ok h).2]; exact ⟨rfl, fun _ => rfl, fun _ => rfl, nofun, nofun⟩
  case closePools => cases h; exact ⟨rfl, fun _ => rfl, fun _ => rfl, fun _ => ⟨rfl, rfl, rfl, rfl⟩, fun _ => rfl⟩
  case claimEnd => cases h; exact ⟨rfl, fun _ => rfl, nofun, fun _ => ⟨rfl, rfl, rfl, rfl⟩, fun _ => rfl⟩
  case restoreShield => cases h; rw [restoreShield_writes]; exact ⟨rfl, fun _ => rfl, fun _ => rfl, fun _ => ⟨rfl, rfl, rfl, rfl⟩, fun _ => rfl⟩
  all_goals cases hc

theorem step_untouched (op : Op) (w : World) : Untouched op w.2 (step op w).2 :=
  step_ind (P := fun x => Untouched op w.2 x.2) op w (.refl op _) (apply_untouched op w)

theorem step_chain (op : Op) (w : World) (hc : op.onColl = true) : Star CollWrite w.2 (step op w).2 :=
  step_ind (P := fun x => Star CollWrite w.2 x.2) op w (.refl _) (fun w' => apply_chain op w w' hc)

end Shentu.Props.C03a

namespace Shentu.Props.C03b
open Shentu Shentu.Shield

/-- the same table on the second machine, read through the bridge -/
def Op.onColl (op : Op) : Bool := (toA op).any C03a.Op.onColl

theorem step_chain (ls : Ledger × State) (op : Op) (hc : op.onColl = true) : Star CollWrite ls.2 (step ls op).2 := by
  cases h : toA op with
  | none => rw [Op.onColl, h] at hc; cases hc
  | some op' => rw [step_toA h]; exact C03a.step_chain op' ls (by rw [Op.onColl, h] at hc; exact hc)

theorem step_untouched {op : Op} {op' : C03a.Op} (h : toA op = some op') (ls : Ledger × State) :
    C03a.Untouched op' ls.2 (step ls op).2 := by
  rw [step_toA h]; exact C03a.step_untouched op' ls

end Shentu.Props.C03b

namespace Shentu.Shield

theorem createReimbursement_claimed {e : Env} {l l' : Ledger} {s s' : State} {pid : Nat} {amount : Int} {b : Addr}
    (h : createReimbursement e l s pid amount b = .ok (l', s')) : s'.totalClaimed = s.totalClaimed - amount := by
  obtain ⟨left, s1, _, hloop, _, rfl⟩ := createReimbursement_ok _ _ _ _ _ _ _ _ h
  have hw : ReqWrites s s1 := reimburseLoop_writes hloop
  have : s1.totalClaimed = s.totalClaimed := by rw [hw]
  show s1.totalClaimed - amount = _
  omega

end Shentu.Shield
