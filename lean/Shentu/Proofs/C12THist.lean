import Shentu.Props.C12
import Shentu.Proofs.GovStep
import Shentu.Proofs.Keys
import Shentu.Proofs.Lists
/-
  Histories of submit / deposit / vote / end-block steps of the governance model: the proposal store has distinct ids
  below `nextId` and every step advances it ("status only moves forward", the handler's effect at most once).
-/
namespace Shentu.C12TH
open Shentu Shentu.Gov Shentu.Props.C12

/-- the proposal store: ids are distinct and below the next id -/
def GovWF (g : State) : Prop := (g.proposals.map (·.id)).Nodup ∧ ∀ p ∈ g.proposals, p.id < g.nextId

/-- from `g` to `g'` every stored proposal either advances (its rank does not decrease; once final, the whole record is
    unchanged) or — only in the deposit period — is dropped -/
def Fwd (g g' : State) : Prop :=
  ∀ id p, findP g id = some p →
    match findP g' id with
    | some p' => rank p.status ≤ rank p'.status ∧ (rank p.status = 4 → p' = p)
    | none => p.status = 1

/-- a move that touches at most the proposal `id0` -/
structure Upd (g g' : State) (id0 : Nat) : Prop where
  wf : GovWF g → GovWF g'
  fwd : Fwd g g'
  others : ∀ id, id ≠ id0 → findP g' id = findP g id
  next : g'.nextId = g.nextId

theorem rank_ge_one (s : Nat) : 1 ≤ rank s := by unfold rank; split <;> omega
theorem rank_le_four (s : Nat) : rank s ≤ 4 := by unfold rank; split <;> omega
theorem rank_le_one {s : Nat} (h : rank s ≤ 1) : s = 1 := by unfold rank at h; split at h <;> omega

theorem fwd_iff {g g' : State} : Fwd g g' ↔ ∀ id p, findP g id = some p →
    (∀ p', findP g' id = some p' → rank p.status ≤ rank p'.status ∧ (rank p.status = 4 → p' = p)) ∧
      (findP g' id = none → p.status = 1) := by
  constructor
  · intro h id p hp
    have := h id p hp
    exact ⟨fun p' hp' => by rw [hp'] at this; exact this, fun hn => by rw [hn] at this; exact this⟩
  · intro h id p hp
    cases hq : findP g' id with
    | none => exact (h id p hp).2 hq
    | some q => exact (h id p hp).1 q hq

theorem Fwd.stored {g g' : State} (h : Fwd g g') {id : Nat} {p p' : Proposal} (hp : findP g id = some p)
    (hp' : findP g' id = some p') : rank p.status ≤ rank p'.status ∧ (rank p.status = 4 → p' = p) :=
  (fwd_iff.mp h id p hp).1 p' hp'

theorem Fwd.dropped {g g' : State} (h : Fwd g g') {id : Nat} {p : Proposal} (hp : findP g id = some p)
    (hn : findP g' id = none) : p.status = 1 :=
  (fwd_iff.mp h id p hp).2 hn

theorem Fwd.final {g g' : State} (h : Fwd g g') {id : Nat} {p : Proposal} (hp : findP g id = some p)
    (hr : rank p.status = 4) : findP g' id = some p := by
  cases h' : findP g' id with
  | none => rw [h.dropped hp h'] at hr; cases hr
  | some q => rw [(h.stored hp h').2 hr]

theorem Fwd.refl (g : State) : Fwd g g := by
  intro id p h; rw [h]; exact ⟨Nat.le_refl _, fun _ => rfl⟩

/-- through a middle state in which the record is gone, only a record in its deposit period passes -/
theorem Fwd.trans {g₁ g₂ g₃ : State} (h12 : Fwd g₁ g₂) (h23 : Fwd g₂ g₃) : Fwd g₁ g₃ := by
  refine fwd_iff.mpr fun id p h => ?_
  cases h2 : findP g₂ id with
  | none =>
    have hs := h12.dropped h h2
    exact ⟨fun p3 _ => ⟨by rw [hs]; exact rank_ge_one _, fun h4 => by rw [hs] at h4; cases h4⟩, fun _ => hs⟩
  | some p2 =>
    have a := h12.stored h h2
    refine ⟨fun p3 h3 => ?_, fun h3 => rank_le_one (by have := a.1; rwa [h23.dropped h2 h3] at this)⟩
    have b := h23.stored h2 h3
    exact ⟨Nat.le_trans a.1 b.1, fun h4 => by have e2 := a.2 h4; subst e2; exact b.2 h4⟩

theorem GovWF.congr {g g' : State} (h : g'.proposals = g.proposals) (hn : g'.nextId = g.nextId) (wf : GovWF g) :
    GovWF g' := by
  unfold GovWF; rw [h, hn]; exact wf

theorem Upd.of_eq {g g' : State} (h : g'.proposals = g.proposals) (hn : g'.nextId = g.nextId) (id0 : Nat) : Upd g g' id0 :=
  ⟨GovWF.congr h hn, by intro id p hp; rw [findP_congr h, hp]; exact ⟨Nat.le_refl _, fun _ => rfl⟩,
   fun id _ => findP_congr h id, hn⟩

theorem Upd.trans {g₁ g₂ g₃ : State} {id0 : Nat} (h12 : Upd g₁ g₂ id0) (h23 : Upd g₂ g₃ id0) : Upd g₁ g₃ id0 :=
  ⟨fun w => h23.wf (h12.wf w), h12.fwd.trans h23.fwd, fun id hid => (h23.others id hid).trans (h12.others id hid),
   h23.next.trans h12.next⟩

theorem findP_of_mem {g : State} (wf : GovWF g) {p : Proposal} (hp : p ∈ g.proposals) : findP g p.id = some p :=
  find_of_key wf.1 hp

/-- storing a proposal keeps the store well formed, also when the next id goes up at the same time -/
theorem GovWF.setP {g g' : State} (wf : GovWF g) {p : Proposal} (hg : g'.proposals = (setP g p).proposals)
    (hp : p.id < g'.nextId) (hn : g.nextId ≤ g'.nextId) : GovWF g' := by
  unfold GovWF
  rw [hg, setP_proposals]
  refine ⟨Keyed.keys_upsert_nodup (·.id) p wf.1, fun x hx => ?_⟩
  rcases Keyed.mem_upsert _ hx with rfl | hx
  · exact hp
  · exact Nat.lt_of_lt_of_le (wf.2 x hx) hn

theorem upd_setP (g : State) (p q : Proposal) (hf : findP g q.id = some p) (hr : rank p.status ≤ rank q.status)
    (hfin : rank p.status = 4 → q = p) : Upd g (setP g q) q.id := by
  refine ⟨fun wf => wf.setP rfl ?_ (Nat.le_of_eq (setP_nextId ..).symm), ?_, ?_, by simp⟩
  · rw [setP_nextId, ← findP_id hf]; exact wf.2 p (List.mem_of_find?_eq_some hf)
  · intro id p0 h0
    by_cases hid : id = q.id
    · subst hid
      rw [hf] at h0; cases h0
      rw [findP_setP_self]
      exact ⟨hr, hfin⟩
    · rw [findP_setP_ne _ hid, h0]; exact ⟨Nat.le_refl _, fun _ => rfl⟩
  · exact fun id hid => findP_setP_ne _ hid

theorem upd_delP (g : State) (id0 : Nat) (h1 : ∀ p, findP g id0 = some p → p.status = 1) : Upd g (delP g id0) id0 := by
  refine ⟨?_, ?_, ?_, rfl⟩
  · intro wf
    unfold GovWF delP
    simp only []
    constructor
    · exact Keyed.keys_remove_nodup Proposal.id _ wf.1
    · intro p hp; exact wf.2 p (List.mem_filter.mp hp).1
  · intro id p hp
    rw [findP_delP]
    by_cases hid : id0 = id
    · subst hid; rw [beq_self_eq_true, if_pos rfl]; exact h1 p hp
    · rw [if_neg (by simpa using hid), hp]; exact ⟨Nat.le_refl _, fun _ => rfl⟩
  · intro id hid
    rw [findP_delP, if_neg (by simpa using Ne.symm hid)]

theorem upd_activate (e : Env) (g : State) (p : Proposal) (hf : findP g p.id = some p) (hst : p.status = 2) :
    Upd g (activateVotingPeriod e g p) p.id := by
  have h := activate_status e g p (Or.inr hst)
  have hid := activated_id e g p
  unfold activateVotingPeriod
  rw [← hid]
  apply upd_setP g p
  · rw [hid]; exact hf
  · exact Nat.le_of_lt h.2.1
  · intro h4; rw [hst] at h4; cases h4

/-- the certifier state (the only thing a modelled proposal handler changes) is unchanged, or some proposal that was not
    final before is now passed -/
def NewPass (w w' : World) : Prop :=
  w'.c = w.c ∨ ∃ id p', findP w'.g id = some p' ∧ p'.status = 4 ∧ ∀ p, findP w.g id = some p → rank p.status < 4

structure WAdv (w w' : World) : Prop where
  wf : GovWF w.g → GovWF w'.g
  fwd : Fwd w.g w'.g
  cert : NewPass w w'

theorem WAdv.of_upd {w w' : World} {id0 : Nat} (u : Upd w.g w'.g id0) (c : NewPass w w') : WAdv w w' := ⟨u.wf, u.fwd, c⟩

theorem WAdv.of_eq {w w' : World} (h : w'.g.proposals = w.g.proposals) (hn : w'.g.nextId = w.g.nextId) (hc : w'.c = w.c) :
    WAdv w w' := .of_upd (Upd.of_eq h hn 0) (Or.inl hc)

theorem WAdv.refl (w : World) : WAdv w w := ⟨id, Fwd.refl _, Or.inl rfl⟩

theorem NewPass.trans {w₁ w₂ w₃ : World} (f12 : Fwd w₁.g w₂.g) (f23 : Fwd w₂.g w₃.g) (h12 : NewPass w₁ w₂)
    (h23 : NewPass w₂ w₃) : NewPass w₁ w₃ := by
  rcases h23 with h23 | ⟨id, p3, hp3, hs3, hn3⟩
  · rcases h12 with h12 | ⟨id, p2, hp2, hs2, hn2⟩
    · exact Or.inl (h23.trans h12)
    · -- passed on the way to `w₂`: the record is final, so `w₃` still has it
      exact Or.inr ⟨id, p2, f23.final hp2 (by rw [hs2]; rfl), hs2, hn2⟩
  · -- passed after `w₂`: a record that is final in `w₁` would be the same in `w₂`, where it is not final
    refine Or.inr ⟨id, p3, hp3, hs3, fun p hp => ?_⟩
    have h4 := rank_le_four p.status
    by_cases hr : rank p.status = 4
    · have := hn3 p (f12.final hp hr); omega
    · omega

theorem WAdv.trans {w₁ w₂ w₃ : World} (h12 : WAdv w₁ w₂) (h23 : WAdv w₂ w₃) : WAdv w₁ w₃ :=
  ⟨fun w => h23.wf (h12.wf w), h12.fwd.trans h23.fwd, NewPass.trans h12.fwd h23.fwd h12.cert h23.cert⟩

theorem finish_adv (w : World) (p : Proposal) (pass : Bool) (t : Tally) (hf : findP w.g p.id = some p)
    (hr : rank p.status < 4) : WAdv w (finish w p pass t) := by
  obtain ⟨c', s, heq, hs⟩ := finish_shape w p pass t
  rw [heq]
  have hs4 : rank s = 4 := by rcases hs with ⟨rfl, _⟩ | ⟨rfl | rfl, _⟩ <;> rfl
  refine .of_upd (upd_setP w.g p { p with status := s, tally := t } hf (by show rank p.status ≤ rank s; omega)
    (fun h4 => by omega)) ?_
  rcases hs with ⟨rfl, _⟩ | ⟨_, rfl, _⟩
  · refine Or.inr ⟨p.id, { p with status := 4, tally := t }, ?_, rfl, ?_⟩
    · show findP (setP w.g _) p.id = _
      rw [findP_setP]; simp
    · intro p0 hp0
      rw [hf] at hp0; cases hp0; exact hr
  · exact Or.inl rfl

theorem endStep_adv {e : Env} {w w' : World} {p : Proposal} (h : EndStep e w p w') (hf : findP w.g p.id = some p)
    (hr : rank p.status < 4) : WAdv w w' := by
  cases h with
  | nextRound h2 _ =>
    have u1 : Upd w.g { w.g with votes := w.g.votes.filter (fun v => !(v.pid == p.id)) } p.id := .of_eq (by rfl) (by rfl) p.id
    exact .of_upd (u1.trans (upd_activate e _ p hf h2)) (Or.inl rfl)
  | @settle b pass l' t _ _ =>
    exact WAdv.trans (w₂ := paidOut w p.id l' (votesAfter w p)) (.of_eq (by rfl) (by rfl) (by rfl)) (finish_adv _ p pass t hf hr)

theorem dropInactive_adv (e : Env) (w w' : World) (p : Proposal) (hf : findP w.g p.id = some p) (hst : p.status = 1)
    (h : refundDeposits e { w with g := delP w.g p.id } p.id = .ok w') : WAdv w w' := by
  have u0 : WAdv w { w with g := delP w.g p.id } :=
    .of_upd (upd_delP w.g p.id (fun q hq => by rw [hf] at hq; cases hq; exact hst)) (Or.inl rfl)
  obtain ⟨_, _, rfl⟩ := refundDeposits_ok h
  exact u0.trans (.of_eq (by rfl) (by rfl) (by rfl))

theorem insByKey_perm (k : Proposal → Int) (p : Proposal) (l : List Proposal) : (insByKey k p l).Perm (p :: l) :=
  insert_perm (insByKey k) (c := fun x p => ¬ (k p < k x || (k p == k x && p.id ≤ x.id)) = true) (fun _ => rfl)
    (fun _ _ _ => (ite_not ..).symm) p l

theorem sortByKey_perm (k : Proposal → Int) (l : List Proposal) : (sortByKey k l).Perm l :=
  foldr_insert_perm (insByKey k) (insByKey_perm k) l

theorem selIds_spec (g : State) (wf : GovWF g) (k : Proposal → Int) (q : Proposal → Bool) :
    (selIds k q g).Nodup ∧ ∀ id ∈ selIds k q g, ∀ p, findP g id = some p → q p = true := by
  unfold selIds
  constructor
  · rw [List.Perm.nodup_iff ((sortByKey_perm k _).map _)]
    exact Keyed.keys_remove_nodup Proposal.id _ wf.1
  · intro id hid p hp
    obtain ⟨x, hx, hxid⟩ := List.mem_map.mp hid
    have hx' := (sortByKey_perm k _).mem_iff.mp hx
    obtain ⟨hx1, hx2⟩ := List.mem_filter.mp hx'
    have := findP_of_mem wf hx1
    rw [hxid, hp] at this
    cases this
    exact hx2

/-- One loop of the end blocker: a fold of moves that each touch their own proposal only, over the stored proposals that
    pass `q`, in the order of `k`.  When its turn comes a proposal is still as it was selected. -/
theorem foldIds_sel {R : World → World → Prop} (refl : ∀ w, R w w) (trans : ∀ {a b c}, R a b → R b c → R a c)
    {f : World → Proposal → Except Err World} (k : Proposal → Int) (q : Proposal → Bool)
    (hf : ∀ w p w', GovWF w.g → findP w.g p.id = some p → q p = true → f w p = .ok w' →
      R w w' ∧ (GovWF w'.g ∧ ∀ id, id ≠ p.id → findP w'.g id = findP w.g id))
    {w w' : World} (wf : GovWF w.g)
    (h : foldIds f (selIds k q w.g) w = .ok w') : R w w' ∧ GovWF w'.g := by
  have ⟨hn, hg⟩ := selIds_spec w.g wf k q
  have key := foldIds_ind
    (fun ids w1 => ids.Nodup ∧ R w w1 ∧ GovWF w1.g ∧ ∀ id ∈ ids, ∀ p, findP w1.g id = some p → q p = true) f
    (fun id ids w1 _ ⟨hn, r, wf, hg⟩ =>
      ⟨(List.nodup_cons.mp hn).2, r, wf, fun i hi => hg i (List.mem_cons_of_mem _ hi)⟩)
    (fun id ids w1 p w2 ⟨hn, r, wf, hg⟩ hp hfp => by
      have hid := findP_id hp
      obtain ⟨r', wf', hoth⟩ := hf w1 p w2 wf (by rw [hid]; exact hp) (hg id List.mem_cons_self p hp) hfp
      refine ⟨(List.nodup_cons.mp hn).2, trans r r', wf', fun i hi q hq => ?_⟩
      -- the ids still to come differ from `id`, so their proposals are as they were
      have hne : i ≠ p.id := by rw [hid]; intro hh; exact (List.nodup_cons.mp hn).1 (hh ▸ hi)
      rw [hoth i hne] at hq
      exact hg i (List.mem_cons_of_mem _ hi) q hq)
    _ w w' ⟨hn, refl w, wf, hg⟩ h
  exact ⟨key.2.1, key.2.2.1⟩

/-- To prove a transitive relation of the end blocker on a well-formed store, prove it of the drop of a proposal in its
    deposit period and of an end step of a proposal in a voting period. -/
theorem endBlock_sel {R : World → World → Prop} (refl : ∀ w, R w w) (trans : ∀ {a b c}, R a b → R b c → R a c) {e : Env}
    (hdrop : ∀ w p w', GovWF w.g → findP w.g p.id = some p → p.status = 1 →
      refundDeposits e { w with g := delP w.g p.id } p.id = .ok w' → R w w')
    (hstep : ∀ w p w', GovWF w.g → findP w.g p.id = some p → (p.status = 2 ∨ p.status = 3) → EndStep e w p w' → R w w')
    {w w' : World} (wf : GovWF w.g) (h : endBlock e w = .ok w') : R w w' ∧ GovWF w'.g := by
  obtain ⟨w1, w2, hw1, hw2, h⟩ := endBlock_ok_iff.mp h
  have hend : ∀ w p w', GovWF w.g → findP w.g p.id = some p → (p.status = 2 ∨ p.status = 3) → EndStep e w p w' →
      R w w' ∧ GovWF w'.g ∧ ∀ id, id ≠ p.id → findP w'.g id = findP w.g id := fun w p w' wf hf hs st =>
    ⟨hstep w p w' wf hf hs st, (endStep_adv st hf (by rcases hs with h | h <;> rw [h] <;> decide)).wf wf, st.others.1⟩
  obtain ⟨r1, wf1⟩ := foldIds_sel refl trans _ _ (fun w p w' wf hf hq hh =>
    have hs : p.status = 1 := by simp at hq; exact hq.1
    ⟨hdrop w p w' wf hf hs hh, (dropInactive_adv e w w' p hf hs hh).wf wf, (drop_others hh).1⟩) wf hw1
  obtain ⟨r2, wf2⟩ := foldIds_sel refl trans _ _ (fun w p w' wf hf hq hh =>
    hend w p w' wf hf (by simp at hq; exact hq.1) (processActive_endStep hh)) wf1 hw2
  obtain ⟨r3, wf3⟩ := foldIds_sel refl trans _ _ (fun w p w' wf hf hq hh => by
    rcases processSecurityVote_endStep hh with ⟨rfl, _⟩ | ⟨_, _, st⟩
    · exact ⟨refl _, wf, fun _ _ => rfl⟩
    · exact hend w p w' wf hf (by simpa using hq) st) wf2 h
  exact ⟨trans r1 (trans r2 r3), wf3⟩

theorem endBlock_adv (e : Env) (w w' : World) (wf : GovWF w.g) (h : endBlock e w = .ok w') : WAdv w w' :=
  (endBlock_sel WAdv.refl WAdv.trans (fun w p w' _ hf hs hh => dropInactive_adv e w w' p hf hs hh)
    (fun w p w' _ hf hs st => endStep_adv st hf (by rcases hs with h | h <;> rw [h] <;> decide)) wf h).1

/-- the operations of the governance model; every operation comes with the environment (time, staking view) it runs in -/
inductive Op where
  | submit (e : Env) (proposer : Addr) (p0 : Proposal) (deposit : Coins)
  | deposit (e : Env) (pid : Nat) (depositor : Addr) (amt : Coins)
  | vote (pid : Nat) (voter : Addr) (option : Nat)
  | endBlock (e : Env)

def step (w : World) : Op → Except Err World
  | .submit e a p0 d => submit e w a p0 d
  | .deposit e pid a amt => addDeposit e w pid a amt
  | .vote pid a o => vote w pid a o
  | .endBlock e => endBlock e w

/-- a failing message is reverted (a failing end-blocker halts the chain): the state stays -/
def apply (w : World) (op : Op) : World :=
  match step w op with
  | .ok w' => w'
  | .error _ => w

def run (w : World) (ops : List Op) : World := ops.foldl apply w

theorem apply_ind {P : World → Prop} (w : World) (op : Op) (h0 : P w) (h1 : ∀ w', step w op = .ok w' → P w') :
    P (apply w op) := by
  unfold apply
  cases h : step w op with
  | ok w' => exact h1 w' h
  | error _ => exact h0

set_option linter.unusedVariables false in
theorem find_append_new (l : List Proposal) (p : Proposal) (id : Nat) (h : ∀ x ∈ l, x.id ≠ p.id) :
    (l ++ [p]).find? (·.id == id) = if p.id == id then (match l.find? (·.id == id) with | some x => some x | none => some p)
      else l.find? (·.id == id) := by
  rw [List.find?_append]
  cases hf : l.find? (·.id == id) with
  | some x => by_cases hp : (p.id == id) = true <;> simp [hp]
  | none => by_cases hp : (p.id == id) = true <;> simp [hp]

theorem submit_store (g : State) (wf : GovWF g) (p : Proposal) (hp : p.id = g.nextId) :
    GovWF { (setP g p) with nextId := g.nextId + 1 } ∧ Fwd g { (setP g p) with nextId := g.nextId + 1 } := by
  refine ⟨wf.setP rfl (Nat.lt_succ_of_le (Nat.le_of_eq hp)) (Nat.le_succ _), ?_⟩
  intro id q hq
  show match findP (setP g p) id with | some p' => _ | none => _
  rw [findP_setP]
  have := wf.2 q (List.mem_of_find?_eq_some hq)
  rw [findP_id hq] at this
  have hne : (p.id == id) = false := by
    have : p.id ≠ id := by omega
    simpa using this
  rw [hne]; simp only [Bool.false_eq_true, if_false]
  rw [hq]; exact ⟨Nat.le_refl _, fun _ => rfl⟩

theorem atom_adv {e : Env} {a : Addr} {w w' : World} (h : Atom e a w w') (wf : GovWF w.g) : WAdv w w' := by
  cases h with
  | «open» p hid _ => have ⟨s1, s2⟩ := submit_store w.g wf p hid; exact ⟨fun _ => s1, s2, Or.inl rfl⟩
  | @edit p q hp hs _ =>
    exact .of_upd (upd_setP w.g p q hp (by rw [hs]; exact rank_ge_one _) (fun h4 => by rw [hs] at h4; cases h4))
      (Or.inl rfl)
  | escrowIn pid amt _ _ _ => exact .of_eq rfl rfl rfl
  | vote pid o _ _ => exact .of_eq rfl rfl rfl

theorem atoms_adv {e : Env} {a : Addr} {w w' : World} (s : Star (Atom e a) w w') : GovWF w.g → WAdv w w' :=
  s.lift (R := fun w w' => GovWF w.g → WAdv w w') (fun w _ => WAdv.refl w)
    (fun {w1 w2 w3} (f : GovWF w1.g → WAdv w1 w2) (g : GovWF w2.g → WAdv w2 w3) wf => (f wf).trans (g ((f wf).wf wf)))
    (fun h => atom_adv h)

theorem step_adv (w w' : World) (op : Op) (wf : GovWF w.g) (h : step w op = .ok w') : WAdv w w' := by
  cases op with
  | submit e a p0 d => exact atoms_adv (submit_atoms h) wf
  | deposit e pid a amt => exact atoms_adv (addDeposit_atoms h) wf
  -- a vote reads no environment: any will do
  | vote pid a o => exact atoms_adv (vote_atoms (e := ⟨0, "", "", default⟩) h) wf
  | endBlock e => exact endBlock_adv e w w' wf h

theorem run_adv (ops : List Op) (w : World) (wf : GovWF w.g) : WAdv w (run w ops) :=
  (List.foldlRecOn (motive := fun w' => WAdv w w' ∧ GovWF w'.g) ops apply ⟨WAdv.refl w, wf⟩
    (fun w1 h op _ =>
      have a := apply_ind (P := WAdv w1) w1 op (WAdv.refl w1) fun w' => step_adv w1 w' op h.2
      ⟨h.1.trans a, a.wf h.2⟩)).1

theorem run_append (w : World) (ops₁ ops₂ : List Op) : run w (ops₁ ++ ops₂) = run (run w ops₁) ops₂ := by
  simp [run, List.foldl_append]

end Shentu.C12TH
