import Shentu.Proofs.ShieldOps
import Shentu.Proofs.ShieldPurchase
import Shentu.Proofs.ShieldExpiry
import Shentu.Proofs.ShieldLoops
/-
  What the operations of x/shield write, below every invariant.  For every operation of the model (but `depositMsg`, a
  `stakingChanged` followed by a `deposit`, which only `Props/C06` opens): the fields it may have written, as an equation
  between records (`X_writes`); whatever else a proof wants to know about the state after the call it reads off that
  equation.  The collateral book as a relation: `CollWrite`, its eight writes, of which every operation
  on that book is a chain (`X_chain`), and what such a write is to the other books (`CollWrite.kinds`).  An accepted
  claim lock as one record: `shifted` of `ShieldOps` with the delayed queue and the amount locked (`secureCollaterals_ok`).
  The provider store by position (`Fund.UpdAt`, `X_at`): the payout and the hooks rewrite the record at the position
  of their provider only, which is how the payout loop is followed through the store, record by record.
-/
namespace Shentu.Shield

/-! ## what each operation may have written -/

/-- at most the collateral book is written: provider records, the withdrawal queue, their two totals -/
abbrev CollWrites (s s' : State) : Prop :=
  s' = { s with providers := s'.providers, withdraws := s'.withdraws,
                totalCollateral := s'.totalCollateral, totalWithdrawing := s'.totalWithdrawing }

/-- at most provider records, the queue and the total being withdrawn are written (requests, hooks, delays, payouts) -/
abbrev ReqWrites (s s' : State) : Prop :=
  s' = { s with providers := s'.providers, withdraws := s'.withdraws, totalWithdrawing := s'.totalWithdrawing }

theorem CollWrites.trans {a b c : State} (h1 : CollWrites a b) (h2 : CollWrites b c) : CollWrites a c := by
  rw [CollWrites, h2, h1]
theorem ReqWrites.trans {a b c : State} (h1 : ReqWrites a b) (h2 : ReqWrites b c) : ReqWrites a c := by
  rw [ReqWrites, h2, h1]
theorem withdrawCollateral_writes {e : Env} {s s' : State} {a : Addr} {amount : Int}
    (h : withdrawCollateral e s a amount = .ok s') : ReqWrites s s' := by
  obtain ⟨_, rfl⟩ | ⟨_, p, _, _, rfl⟩ := withdrawCollateral_ok h <;> rfl

theorem withdraw_writes {e : Env} {s s' : State} {a : Addr} {c : Coins} (h : withdraw e s a c = .ok s') : ReqWrites s s' :=
  withdrawCollateral_writes (withdraw_ok h).2

theorem stakingHook_writes {e : Env} {s s' : State} {a : Addr} {staked : Int} (h : stakingHook e s a staked = .ok s') :
    ReqWrites s s' := by
  obtain ⟨_, rfl⟩ | ⟨p, _, ⟨_, rfl⟩ | ⟨_, h⟩⟩ := stakingHook_ok h
  · rfl
  · rfl
  · exact .trans (b := rebonded s p staked) rfl (withdrawCollateral_writes h)

theorem stakingChanged_writes {e : Env} {s s' : State} {a : Addr} (h : stakingChanged e s a = .ok s') : ReqWrites s s' := by
  obtain rfl | ⟨_, h⟩ := stakingChanged_ok h
  · rfl
  · exact stakingHook_writes h

theorem deposit_writes {e : Env} {s s' : State} {a : Addr} {c : Coins} (h : deposit e s a c = .ok s') :
    s' = { s with providers := s'.providers, totalCollateral := s'.totalCollateral } := by
  obtain ⟨_, ⟨p, _, _, rfl⟩ | ⟨_, _, rfl⟩⟩ := deposit_ok h <;> rfl

theorem updateProviderForPayout_writes {s s' : State} {a : Addr} {pur pay : Int}
    (h : updateProviderForPayout s a pur pay = .ok s') : ReqWrites s s' := by
  obtain ⟨p, q, _, _, rfl⟩ := updateProviderForPayout_ok _ _ _ _ _ h; rfl

theorem delayWithdraws_writes {s s' : State} {a : Addr} {amt u : Int} (h : delayWithdraws s a amt u = .ok s') :
    s' = { s with withdraws := s'.withdraws } := by
  obtain ⟨q, _, rfl⟩ := delayWithdraws_ok h; rfl

theorem secureFromProvider_writes {e : Env} {s s' : State} {p : Provider} {amt dur : Int}
    (h : secureFromProvider e s p amt dur = .ok s') : s' = { s with withdraws := s'.withdraws } := by
  obtain rfl | ⟨_, h⟩ := secureFromProvider_ok h
  · rfl
  · exact delayWithdraws_writes h

theorem pausePool_writes {s s' : State} {u : Addr} {poolID : Nat} {active : Bool}
    (h : pausePool s u poolID active = .ok s') : s' = { s with pools := s'.pools } := by
  obtain ⟨_, _, rfl⟩ := Limit.pausePool_ok h; rfl

theorem updateSponsor_writes {s s' : State} {u : Addr} {poolID : Nat} {sp : String} {spa : Addr}
    (h : updateSponsor s u poolID sp spa = .ok s') : s' = { s with pools := s'.pools } := by
  obtain ⟨_, _, rfl⟩ := Limit.updateSponsor_ok h; rfl

theorem unstake_writes {e : Env} {s s' : State} {poolID : Nat} {purchaser : Addr} {c : Coins}
    (h : unstake e s poolID purchaser c = .ok s') : s' = { s with stakes := s'.stakes } := by
  obtain ⟨_, _, rfl⟩ := Limit.unstake_ok h; rw [PoolLm.setStake_eq]

theorem withdrawRewards_writes {e : Env} {l l' : Ledger} {s s' : State} {a : Addr}
    (h : withdrawRewards e l s a = .ok (l', s')) : s' = { s with providers := s'.providers, remaining := s'.remaining } := by
  obtain ⟨p, _, ⟨_, rfl⟩ | ⟨_, _, rfl⟩⟩ := Limit.withdrawRewards_ok h <;> rfl

theorem withdrawReimbursement_writes {e : Env} {l l' : Ledger} {s s' : State} {pid : Nat} {a : Addr}
    (h : withdrawReimbursement e l s pid a = .ok (l', s')) : s' = { s with reimbs := s'.reimbs } := by
  obtain ⟨_, _, _, _, _, rfl⟩ := Fund.withdrawReimbursement_iff.mp h; rfl

theorem restoreShield_writes (s : State) (poolID : Nat) (purchaser : Addr) (id : Nat) (loss : Int) :
    restoreShield s poolID purchaser id loss =
      { s with pools := (restoreShield s poolID purchaser id loss).pools, lists := (restoreShield s poolID purchaser id loss).lists,
               totalShield := (restoreShield s poolID purchaser id loss).totalShield } := by
  rw [restoreShield_eq]
  split
  · split <;> rfl
  · rfl

/-- `s'` differs from `s` at most in what a purchase writes: the pool and list stores with their id counters, the stake
    books, the fee pots, the total shield and the fee clock -/
abbrev PurchaseWrites (s s' : State) : Prop :=
  s' = { s with pools := s'.pools, lists := s'.lists, stakes := s'.stakes, origStakings := s'.origStakings,
                totalShield := s'.totalShield, serviceFees := s'.serviceFees, remaining := s'.remaining,
                stakingPool := s'.stakingPool, lastUpdate := s'.lastUpdate, nextPool := s'.nextPool,
                nextPurchase := s'.nextPurchase }

theorem purchaseCore_writes {e : Env} {l l' : Ledger} {s s' : State} {poolID : Nat} {shield : Coins} {purchaser : Addr}
    {fees staking : Coins} (h : purchaseCore e l s poolID shield purchaser fees staking = .ok (l', s')) :
    PurchaseWrites s s' := by
  obtain ⟨pool, s1, _, _, _, hpaid, rfl⟩ := PoolLm.purchaseCore_ok h
  rw [PurchaseWrites, PoolLm.pcFinish_paid hpaid]

theorem purchase_writes {e : Env} {l l' : Ledger} {s s' : State} {poolID : Nat} {shield : Coins} {purchaser : Addr}
    {staking : Bool} (h : purchase e l s poolID shield purchaser staking = .ok (l', s')) : PurchaseWrites s s' :=
  purchaseCore_writes (PoolLm.purchase_ok h).2.2

theorem createPool_writes {e : Env} {l l' : Ledger} {s s' : State} {creator : Addr} {shield fees : Coins} {sponsor : String}
    {sponsorAddr : Addr} {limit : Int} (h : createPool e l s creator shield fees sponsor sponsorAddr limit = .ok (l', s')) :
    PurchaseWrites s s' :=
  (purchaseCore_writes (PoolLm.createPool_ok h).2.2 :)

theorem updatePool_writes {e : Env} {l l' : Ledger} {s s' : State} {updater : Addr} {poolID : Nat} {shield fees : Coins}
    {limit : Int} (h : updatePool e l s updater poolID shield fees limit = .ok (l', s')) : PurchaseWrites s s' := by
  obtain ⟨_, _, pool, _, _, rfl, h | ⟨_, ⟨_, rfl⟩ | ⟨_, rfl⟩⟩⟩ := PoolLm.updatePool_ok h
  · exact (purchaseCore_writes h :)
  · rfl
  · rfl

theorem expireAndDistribute_writes {e : Env} {s s' : State} (h : expireAndDistribute e s = .ok s') :
    s' = { s with pools := s'.pools, lists := s'.lists, providers := s'.providers, totalShield := s'.totalShield,
                  serviceFees := s'.serviceFees, remaining := s'.remaining, blockFees := s'.blockFees,
                  lastUpdate := s'.lastUpdate } := by
  obtain rfl | ⟨acc, hloop, hd⟩ := PoolLm.expireAndDistribute_steps h
  · rfl
  · obtain ⟨_, provs, rem, _, rfl⟩ := PoolLm.distributeFees_ok hd
    rw [PoolLm.expireLoop_writes _ _ _ _ hloop]

theorem secureLoop_writes {e : Env} {ratio : Dec} {dur : Int} {ps : List Provider} {rem : Int} {s s' : State}
    (h : secureLoop e ratio dur ps rem s = .ok s') : s' = { s with withdraws := s'.withdraws } :=
  (secureLoop_star h).lift (R := fun s s' => s' = { s with withdraws := s'.withdraws }) (fun _ => rfl)
    (fun h1 h2 => by rw [h2, h1]) (fun ⟨_, _, h⟩ => secureFromProvider_writes h)

theorem secureCollaterals_writes {e : Env} {s s' : State} {poolID : Nat} {purchaser : Addr} {purchaseID : Nat} {loss dur : Int}
    (h : secureCollaterals e s poolID purchaser purchaseID loss dur = .ok s') :
    s' = { s with withdraws := s'.withdraws, lists := s'.lists, pools := s'.pools, totalShield := s'.totalShield,
                  totalClaimed := s'.totalClaimed } := by
  obtain ⟨pool, lst, pu, s1, _, _, _, _, _, _, hloop, rfl⟩ := PoolLm.secureCollaterals_steps h
  rw [secureLoop_writes hloop]

theorem completeLoop_writes {ws : List Withdraw} {s s' : State} (h : completeLoop ws s = .ok s') :
    s' = { s with providers := s'.providers, totalCollateral := s'.totalCollateral, totalWithdrawing := s'.totalWithdrawing } :=
  (completeLoop_star h).lift
    (R := fun a b => b.2 = { a.2 with providers := b.2.providers, totalCollateral := b.2.totalCollateral,
                                      totalWithdrawing := b.2.totalWithdrawing })
    (fun _ => rfl) (fun h1 h2 => by rw [h2, h1]) (fun r => by cases r; rfl)

theorem completeWithdrawals_writes {e : Env} {s s' : State} (h : completeWithdrawals e s = .ok s') : CollWrites s s' := by
  rw [CollWrites, completeLoop_writes h]

theorem reimburseLoop_writes {e : Env} {pr yr : Dec} {ps : List Provider} {tp ty : Int} {l : Ledger} {s : State}
    {r : Int × Ledger × State} (h : reimburseLoop e pr yr ps tp ty l s = .ok r) : ReqWrites s r.2.2 := by
  obtain ⟨_, _, hs, _⟩ := reimburseLoop_star h
  exact hs.lift (R := fun a b => ReqWrites a.2.2.2.2 b.2.2.2.2) (fun _ => rfl) ReqWrites.trans
    (fun r => by cases r with | mk _ _ _ _ _ _ _ _ _ h1 h2 => exact (updateProviderForPayout_writes h1).trans (stakingChanged_writes h2))

theorem createReimbursement_writes {e : Env} {l l' : Ledger} {s s' : State} {pid : Nat} {amount : Int} {b : Addr}
    (h : createReimbursement e l s pid amount b = .ok (l', s')) :
    s' = { s with providers := s'.providers, withdraws := s'.withdraws, reimbs := s'.reimbs,
                  totalCollateral := s'.totalCollateral, totalWithdrawing := s'.totalWithdrawing,
                  totalClaimed := s'.totalClaimed } := by
  obtain ⟨left, s1, _, hloop, _, rfl⟩ := createReimbursement_ok _ _ _ _ _ _ _ _ h
  have hw : ReqWrites s s1 := reimburseLoop_writes hloop
  rw [hw]

theorem endBlock_writes {e : Env} {s s' : State} (h : endBlock e s = .ok s') :
    s' = { s with pools := s'.pools, lists := s'.lists, providers := s'.providers, withdraws := s'.withdraws,
                  totalCollateral := s'.totalCollateral, totalWithdrawing := s'.totalWithdrawing, totalShield := s'.totalShield,
                  serviceFees := s'.serviceFees, remaining := s'.remaining, blockFees := s'.blockFees,
                  lastUpdate := s'.lastUpdate } := by
  obtain ⟨s1, s2, h1, h2, rfl⟩ := PoolLm.endBlock_ok h
  rw [(completeWithdrawals_writes h2 : CollWrites s1 s2), expireAndDistribute_writes h1]
  rfl

theorem claimEnds_writes {e : Env} {l l' : Ledger} {s s' : State} {pid poolID : Nat} {restoreTo beneficiary : Addr}
    {purchaseID : Nat} {loss : Int} {o : ClaimOutcome}
    (h : claimEnds e l s pid poolID restoreTo beneficiary purchaseID loss o = .ok (l', s')) :
    s' = { s with pools := s'.pools, lists := s'.lists, providers := s'.providers, withdraws := s'.withdraws,
                  reimbs := s'.reimbs, totalCollateral := s'.totalCollateral, totalWithdrawing := s'.totalWithdrawing,
                  totalShield := s'.totalShield, totalClaimed := s'.totalClaimed } := by
  cases o with
  | paid => rw [createReimbursement_writes (show createReimbursement e l s pid loss beneficiary = .ok (l', s') from h)]
  | vetoed => cases h; rfl
  | rejected => cases h; rw [claimEnd, restoreShield_writes]
  | failed => cases h; rfl

/-! ## the collateral book as a relation

  Every operation on the collateral book is a chain of the eight writes of `CollWrite`.  The provider store is shared:
  collateral, withdrawing and bonded stake belong to the collateral book, the rewards to the fee book; as the other books
  see it (`CollWrite.kinds`) a write rewrites one record found by its address, keeping address and rewards, or adds a
  record without rewards, or leaves the store alone, and besides changes at most the queue and the two totals. -/

/-- one write to the collateral book -/
inductive CollWrite : State → State → Prop
  | requested (e : Env) {s : State} {a : Addr} {amount : Int} {p : Provider} : findProvider s a = some p → amount ≠ 0 →
      amount ≤ p.collateral - p.withdrawing → CollWrite s (requested e s a amount p)
  | rebonded {s : State} {a : Addr} {p : Provider} (staked : Int) : findProvider s a = some p → CollWrite s (rebonded s p staked)
  | deposited {s : State} {a : Addr} {p : Provider} (amount : Int) : findProvider s a = some p → CollWrite s (deposited s p amount)
  | fresh (e : Env) {s : State} {a : Addr} : findProvider s a = none → CollWrite s (withFresh e s a)
  | paidOut {s : State} {a : Addr} {p : Provider} (payout : Int) {u fw : Int} {q : List Withdraw} : findProvider s a = some p →
      payoutWithdrawLoop (s.withdraws.filter (·.addr == a)).reverse u fw s.withdraws = .ok q → CollWrite s (paidOut s p payout fw q)
  | released {s : State} {w : Withdraw} {p : Provider} : findProvider s w.addr = some p → CollWrite s (released s p w)
  | delayed {s : State} {a : Addr} {u amt : Int} {q : List Withdraw} :
      delayLoop a u (s.withdraws.filter (fun w => w.time ≤ u && w.addr == a)).reverse amt s.withdraws = .ok q →
      CollWrite s { s with withdraws := q }
  | dequeued (t : Int) (s : State) : CollWrite s { s with withdraws := s.withdraws.filter (fun w => !(w.time ≤ t)) }

theorem CollWrite.kinds {R : State → State → Prop}
    (upd : ∀ {s s' : State} {a : Addr} {p p' : Provider}, findProvider s a = some p → p'.addr = p.addr → p'.rewards = p.rewards →
      s'.providers = (setProvider s p').providers → CollWrites s s' → R s s')
    (fresh : ∀ (e : Env) {s : State} {a : Addr}, findProvider s a = none → R s (withFresh e s a))
    (queue : ∀ {s s' : State}, s'.providers = s.providers → CollWrites s s' → R s s') {s s' : State} (h : CollWrite s s') :
    R s s' := by
  cases h with
  | @requested e s a amount p hf _ _ => exact upd (p' := { p with withdrawing := p.withdrawing + amount }) hf rfl rfl rfl rfl
  | @rebonded s a p staked hf => exact upd (p' := { p with bonded := staked }) hf rfl rfl rfl rfl
  | @deposited s a p amount hf => exact upd (p' := { p with collateral := p.collateral + amount }) hf rfl rfl rfl rfl
  | fresh e hf => exact fresh e hf
  | @paidOut s a p payout u fw q hf _ =>
    exact upd (p' := { p with collateral := p.collateral - payout, withdrawing := p.withdrawing - fw }) hf rfl rfl rfl rfl
  | @released s w p hf =>
    exact upd (p' := { p with collateral := p.collateral - w.amount, withdrawing := p.withdrawing - w.amount }) hf rfl rfl rfl rfl
  | delayed _ => exact queue rfl rfl
  | dequeued _ _ => exact queue rfl rfl

theorem CollWrite.writes {s s' : State} (h : CollWrite s s') : CollWrites s s' := by
  cases h <;> rfl

theorem chain_writes {s s' : State} (h : Star CollWrite s s') : CollWrites s s' :=
  h.lift (R := CollWrites) (fun _ => rfl) CollWrites.trans CollWrite.writes

theorem withdrawCollateral_chain {e : Env} {s s' : State} {a : Addr} {amount : Int}
    (h : withdrawCollateral e s a amount = .ok s') : Star CollWrite s s' := by
  obtain ⟨_, rfl⟩ | ⟨h0, p, hf, hle, rfl⟩ := withdrawCollateral_ok h
  · exact .refl _
  · exact .single (.requested e hf h0 hle)

theorem withdraw_chain {e : Env} {s s' : State} {a : Addr} {c : Coins} (h : withdraw e s a c = .ok s') : Star CollWrite s s' :=
  withdrawCollateral_chain (withdraw_ok h).2

theorem stakingHook_chain {e : Env} {s s' : State} {a : Addr} {staked : Int} (h : stakingHook e s a staked = .ok s') :
    Star CollWrite s s' := by
  obtain ⟨_, rfl⟩ | ⟨p, hf, ⟨_, rfl⟩ | ⟨_, h⟩⟩ := stakingHook_ok h
  · exact .refl _
  · exact .single (.rebonded staked hf)
  · exact .head (.rebonded staked hf) (withdrawCollateral_chain h)

theorem stakingChanged_chain {e : Env} {s s' : State} {a : Addr} (h : stakingChanged e s a = .ok s') : Star CollWrite s s' := by
  obtain rfl | ⟨_, h⟩ := stakingChanged_ok h
  · exact .refl _
  · exact stakingHook_chain h

theorem deposit_chain {e : Env} {s s' : State} {a : Addr} {c : Coins} (h : deposit e s a c = .ok s') : Star CollWrite s s' := by
  obtain ⟨_, ⟨p, hf, _, rfl⟩ | ⟨hf, _, rfl⟩⟩ := deposit_ok h
  · exact .single (.deposited _ hf)
  · exact .head (.fresh e hf) (.single (.deposited (a := a) _ (find_insertProvider_self (freshProvider e a) _ hf)))

theorem updateProviderForPayout_chain {s s' : State} {a : Addr} {pur pay : Int}
    (h : updateProviderForPayout s a pur pay = .ok s') : Star CollWrite s s' := by
  obtain ⟨p, q, hf, hq, rfl⟩ := updateProviderForPayout_ok _ _ _ _ _ h
  exact .single (.paidOut pay hf hq)

theorem reimburseLoop_chain {e : Env} {pr yr : Dec} {ps : List Provider} {tp ty : Int} {l : Ledger} {s : State}
    {r : Int × Ledger × State} (h : reimburseLoop e pr yr ps tp ty l s = .ok r) : Star CollWrite s r.2.2 := by
  obtain ⟨_, _, hs, _⟩ := reimburseLoop_star h
  exact hs.lift (R := fun a b => Star CollWrite a.2.2.2.2 b.2.2.2.2) (fun _ => .refl _) Star.trans
    (fun r => by cases r with | mk _ _ _ _ _ _ _ _ _ h1 h2 => exact (updateProviderForPayout_chain h1).trans (stakingChanged_chain h2))

theorem completeWithdrawals_chain {e : Env} {s s' : State} (h : completeWithdrawals e s = .ok s') : Star CollWrite s s' :=
  .head (.dequeued e.t s) ((completeLoop_star h).lift (R := fun a b => Star CollWrite a.2 b.2) (fun _ => .refl _) Star.trans
    (fun r => by cases r with | mk _ _ _ _ hf => exact .single (.released hf)))

theorem delayWithdraws_chain {s s' : State} {a : Addr} {amt u : Int} (h : delayWithdraws s a amt u = .ok s') :
    Star CollWrite s s' := by
  obtain ⟨q, hq, rfl⟩ := delayWithdraws_ok h; exact .single (.delayed hq)

theorem secureFromProvider_chain {e : Env} {s s' : State} {p : Provider} {amt dur : Int}
    (h : secureFromProvider e s p amt dur = .ok s') : Star CollWrite s s' := by
  obtain rfl | ⟨_, h⟩ := secureFromProvider_ok h
  · exact .refl _
  · exact delayWithdraws_chain h

theorem secureLoop_chain {e : Env} {ratio : Dec} {dur : Int} {ps : List Provider} {rem : Int} {s s' : State}
    (h : secureLoop e ratio dur ps rem s = .ok s') : Star CollWrite s s' :=
  (secureLoop_star h).lift (fun _ => .refl _) Star.trans (fun ⟨_, _, h⟩ => secureFromProvider_chain h)

namespace PoolLm

theorem secureCollaterals_ok {e : Env} {s s' : State} {poolID : Nat} {purchaser : Addr} {purchaseID : Nat} {loss dur : Int}
    (h : secureCollaterals e s poolID purchaser purchaseID loss dur = .ok s') :
    ∃ pool lst pu q, findPool s poolID = some pool ∧ loss ≤ pool.shield ∧ s.totalClaimed + loss ≤ s.totalCollateral ∧
      findList s poolID purchaser = some lst ∧ lockTarget lst purchaseID = some pu ∧ loss ≤ pu.shield ∧
      s' = { shifted s pool lst pu.id (fun _ => lockedEntry e pu loss dur) (-loss) with
             withdraws := q, totalClaimed := s.totalClaimed + loss } := by
  obtain ⟨pool, lst, pu, s1, hpool, hls, hcl, hlst, hpu, hlp, hloop, rfl⟩ := secureCollaterals_steps h
  have hq := secureLoop_writes hloop
  refine ⟨pool, lst, pu, s1.withdraws, hpool, hls, hcl, hlst, hpu, hlp, ?_⟩
  rw [setList_lists_congr (s := s) (s' := s1) (by rw [hq]), hq]
  rfl

end PoolLm

/-! ## the provider store by position: a write to the record of `c` changes the position of `c` only -/

namespace Fund

theorem setProvider_at (s : State) (pre post : List Provider) (c p' : Provider)
    (hs : s.providers = pre ++ c :: post) (hn : (s.providers.map (·.addr)).Nodup) (ha : p'.addr = c.addr) :
    findProvider s c.addr = some c ∧ (setProvider s p').providers = pre ++ p' :: post := by
  rw [hs] at hn
  obtain ⟨hf, hu⟩ := Keyed.update_at Provider.addr (fun _ => p') hn
  refine ⟨by unfold findProvider; rw [hs]; exact hf, ?_⟩
  show s.providers.map (fun x => if x.addr == p'.addr then p' else x) = _
  rw [hs, ha]; exact hu

theorem setProvider_updAt (s s1 : State) (pre post : List Provider) (c p' : Provider)
    (hs : s.providers = pre ++ c :: post) (hn : (s.providers.map (·.addr)).Nodup)
    (h1 : s1.providers = s.providers) (ha : p'.addr = c.addr) :
    (setProvider s1 p').providers = pre ++ p' :: post :=
  (setProvider_at s1 pre post c p' (h1.trans hs) (by rw [h1]; exact hn) ha).2

/-- the step rewrites the record at one position, keeping its address -/
structure UpdAt (pre post : List Provider) (c c' : Provider) (s' : State) : Prop where
  after : s'.providers = pre ++ c' :: post
  addr : c'.addr = c.addr

theorem withdrawCollateral_at (e : Env) (s s' : State) (amount : Int) (pre post : List Provider) (c : Provider)
    (hs : s.providers = pre ++ c :: post) (hn : (s.providers.map (·.addr)).Nodup)
    (h : withdrawCollateral e s c.addr amount = .ok s') :
    ∃ c', UpdAt pre post c c' s' ∧ c'.collateral = c.collateral := by
  obtain ⟨_, rfl⟩ | ⟨_, p, hp, _, rfl⟩ := withdrawCollateral_ok h
  · exact ⟨c, ⟨hs, rfl⟩, rfl⟩
  · obtain ⟨hf, hset⟩ := setProvider_at s pre post c { c with withdrawing := c.withdrawing + amount } hs hn rfl
    obtain rfl : c = p := Option.some.inj (hf.symm.trans hp)
    exact ⟨_, ⟨hset, rfl⟩, rfl⟩

theorem stakingHook_at (e : Env) (s s' : State) (staked : Int) (pre post : List Provider) (c : Provider)
    (hs : s.providers = pre ++ c :: post) (hn : (s.providers.map (·.addr)).Nodup)
    (h : stakingHook e s c.addr staked = .ok s') :
    ∃ c', UpdAt pre post c c' s' ∧ c'.collateral = c.collateral := by
  obtain ⟨hf, hset⟩ := setProvider_at s pre post c { c with bonded := staked } hs hn rfl
  obtain ⟨hp, _⟩ | ⟨p, hp, h⟩ := stakingHook_ok h
  · rw [hf] at hp; cases hp
  obtain rfl : c = p := Option.some.inj (hf.symm.trans hp)
  rcases h with ⟨_, rfl⟩ | ⟨_, hw⟩
  · exact ⟨_, ⟨hset, rfl⟩, rfl⟩
  · have hn1 : ((setProvider s { c with bonded := staked }).providers.map (·.addr)).Nodup := by
      rw [show (setProvider s { c with bonded := staked }).providers.map (·.addr) = _ from Coll.updP_addrs _ _]; exact hn
    obtain ⟨c', hu, hc⟩ := withdrawCollateral_at e _ s' _ pre post { c with bonded := staked } hset hn1 hw
    exact ⟨c', ⟨hu.after, hu.addr⟩, hc⟩

theorem stakingChanged_at (e : Env) (s s' : State) (pre post : List Provider) (c : Provider)
    (hs : s.providers = pre ++ c :: post) (hn : (s.providers.map (·.addr)).Nodup)
    (h : stakingChanged e s c.addr = .ok s') :
    ∃ c', UpdAt pre post c c' s' ∧ c'.collateral = c.collateral := by
  obtain rfl | ⟨_, h⟩ := stakingChanged_ok h
  · exact ⟨c, ⟨hs, rfl⟩, rfl⟩
  · exact stakingHook_at e s s' _ pre post c hs hn h

theorem updateProviderForPayout_at (s s' : State) (purchased payout : Int) (pre post : List Provider) (c : Provider)
    (hs : s.providers = pre ++ c :: post) (hn : (s.providers.map (·.addr)).Nodup)
    (h : updateProviderForPayout s c.addr purchased payout = .ok s') :
    ∃ c', UpdAt pre post c c' s' ∧ c'.collateral = c.collateral - payout := by
  obtain ⟨p, q, hp, _, rfl⟩ := updateProviderForPayout_ok _ _ _ _ _ h
  obtain rfl : c = p := Option.some.inj ((find_of_key hn (hs ▸ List.mem_append_right pre List.mem_cons_self)).symm.trans hp)
  exact ⟨_, ⟨setProvider_updAt s _ pre post c _ hs hn rfl rfl, rfl⟩, rfl⟩

end Fund

end Shentu.Shield
