import Shentu.Proofs.VestingLemmas
/-
  What an execution of the contract library (`Cvm.runKind`) can do to the balance of an address that holds no code.
  Nothing: it can only receive.
-/
namespace Shentu.C19H
open Shentu Shentu.Vesting

theorem cfind_cons (x : Cvm.Contract) (xs : List Cvm.Contract) (a : Addr) :
    Cvm.find { contracts := x :: xs } a = if x.addr = a then some x else Cvm.find { contracts := xs } a := by
  unfold Cvm.find; by_cases h : x.addr = a <;> simp [h]

theorem cfind_none_iff (s : Cvm.State) (a : Addr) : Cvm.find s a = none ↔ ∀ c ∈ s.contracts, c.addr ≠ a :=
  Keyed.find_none_iff Cvm.Contract.addr (l := s.contracts)

theorem cfind_remove_none (s : Cvm.State) (x a : Addr) (h : Cvm.find s a = none) : Cvm.find (Cvm.remove s x) a = none := by
  rw [cfind_none_iff] at *
  intro c hc
  unfold Cvm.remove at hc
  exact h c (List.mem_filter.mp hc).1

theorem cfind_setStorage_none (s : Cvm.State) (x : Addr) (sl v : String) (z : Bool) (a : Addr) (h : Cvm.find s a = none) :
    Cvm.find (Cvm.setStorage s x sl v z) a = none := by
  rw [cfind_none_iff] at *
  intro c hc
  unfold Cvm.setStorage at hc
  simp only [List.mem_map] at hc
  obtain ⟨c0, hc0, e⟩ := hc
  have := h c0 hc0
  split at e
  · subst e; exact this
  · subst e; exact this

theorem cfind_append_none (s : Cvm.State) (c : Cvm.Contract) (a : Addr) (h : Cvm.find s a = none) (hne : c.addr ≠ a) :
    Cvm.find { contracts := s.contracts ++ [c] } a = none := by
  rw [cfind_none_iff] at *
  intro x hx
  simp only [List.mem_append, List.mem_singleton] at hx
  rcases hx with hx | hx
  · exact h x hx
  · subst hx; exact hne

theorem kindAt_of_none (s : Cvm.State) (a : Addr) (h : Cvm.find s a = none) : Cvm.kindAt s a = "none" := by
  unfold Cvm.kindAt; rw [h]; rfl

def FrameOK (l l' : Ledger) (s s' : Cvm.State) : Prop :=
  Ledger.NonNeg l' ∧ (∀ a, Cvm.find s a = none → ∀ d, l.balOf a d ≤ l'.balOf a d) ∧ (∀ a, Cvm.find s a = none → Cvm.find s' a = none)

theorem FrameOK.refl (l : Ledger) (s : Cvm.State) (h : Ledger.NonNeg l) : FrameOK l l s s :=
  ⟨h, fun _ _ _ => Int.le_refl _, fun _ h => h⟩

theorem frame_suicide (bond : Denom) (l : Ledger) (s : Cvm.State) (callee dst : Addr) (hl : Ledger.NonNeg l)
    (hc : Cvm.find s callee ≠ none) :
    FrameOK l (l.move callee dst [(bond, l.balOf callee bond)]) s (Cvm.remove s callee) := by
  refine ⟨Ledger.nonneg_move1 _ _ hl (hl _ _) (Int.le_refl _), ?_, ?_⟩
  · intro a ha d
    have hne : callee ≠ a := by intro e; subst e; exact hc ha
    exact Ledger.mono_move1 l _ _ _ (hl _ _) hne d
  · intro a ha; exact cfind_remove_none s callee a ha

/-- **Frame lemma for the contract library.**  Started on a ledger without negative balances, with the value already with the
    callee, an execution that succeeds leaves no negative balance, takes nothing from an address that holds no code, and gives
    code to no address. -/
theorem runKind_frame (bond : Denom) : ∀ (depth : Nat) (kind : String) (l l' : Ledger) (s s' : Cvm.State) (caller callee : Addr)
    (v : Int) (d0 : String) (z : Bool) (t : Addr),
    Ledger.NonNeg l → 0 ≤ v → v ≤ l.balOf callee bond → (Cvm.find s callee = none → kind = "none") →
    Cvm.runKind bond kind l s caller callee v d0 z t depth = .ok (l', s') → FrameOK l l' s s' := by
  intro depth
  induction depth using Nat.strongRecOn with
  | _ depth ih =>
    intro kind l l' s s' caller callee v d0 z t hl hv hc hk h
    -- a callee that runs a program holds code
    have hcode : kind ≠ "none" → Cvm.find s callee ≠ none := fun hne e => hne (hk e)
    rcases Cvm.runKind_ok h with ⟨rfl, rfl | rfl⟩ | ⟨hne, dst, rfl, rfl⟩ | ⟨hne, n, rfl, hr⟩ | ⟨n, l2, s2, rfl, hr, rfl, rfl⟩
    · exact FrameOK.refl _ _ hl
    · exact ⟨hl, fun _ _ _ => Int.le_refl _, fun a ha => cfind_setStorage_none _ _ _ _ _ a ha⟩
    · exact frame_suicide bond l s callee dst hl (hcode hne)
    · -- forward: the value goes on to the target, which is then entered
      have hl1 : Ledger.NonNeg (l.move callee t [(bond, v)]) := Ledger.nonneg_move1 _ _ hl hv hc
      have hv1 : v ≤ (l.move callee t [(bond, v)]).balOf t bond := by
        rw [Ledger.balOf_move1]
        have := hl t bond
        by_cases e : callee = t
        · subst e; simp; omega
        · simp [e]; omega
      have := ih n (Nat.lt_succ_self n) _ _ _ _ _ _ _ _ _ _ _ hl1 hv hv1 (kindAt_of_none s t) hr
      refine ⟨this.1, ?_, this.2.2⟩
      intro a ha d
      have hne' : callee ≠ a := by intro e; subst e; exact hcode hne ha
      exact Int.le_trans (Ledger.mono_move1 l _ _ _ hv hne' d) (this.2.1 a ha d)
    · -- innerCall: the child's frame (or nothing, when it reverted), then the completion slot
      have hin : FrameOK l l' s s2 := by
        rcases hr with hr | hr
        · cases hr; exact FrameOK.refl _ _ hl
        · exact ih n (Nat.lt_succ_self n) _ _ _ _ _ _ _ _ _ _ _ hl (Int.le_refl 0) (hl _ _) (kindAt_of_none s t) hr
      exact ⟨hin.1, hin.2.1, fun a ha => cfind_setStorage_none _ _ _ _ _ a (hin.2.2 a ha)⟩

end Shentu.C19H
