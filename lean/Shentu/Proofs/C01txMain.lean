import Shentu.Proofs.C01txLists
import Shentu.Proofs.VmConserveRun
import Shentu.Props.C01
/-
  From the chain-level transaction (`CvmTx.tx`) to the interpreter.  In a well-formed chain state (`WF`) the bank's bond
  balances before and after a successful transaction are the balances of the interpreter's cache (`tx_bridge`), and the
  write-back keeps the well-formedness and the bank's invariant (`wf_writeBack`, `writeBack_inv`); a call to an account
  without code is the value transfer and nothing else, that is, the bank's send (`tx_plain_is_move`).
-/
namespace Shentu.CvmTxH
open Shentu Shentu.EVM Shentu.CvmTx

theorem setBalances_eq (bond : Denom) : ∀ (ups : List (Addr × Int)) (l : Ledger),
    setBalances bond l ups = Props.C01.writeBack bond l ups
  | [], _ => rfl
  | (_, _) :: rest, _ => setBalances_eq bond rest _

theorem setBalances_keeps (bond : Denom) (Q : Ledger → Prop) : ∀ (ups : List (Addr × Int)) (l : Ledger),
    (∀ u ∈ ups, ∀ l v, Q l → Q (l.credit u.1 [(bond, v)])) → Q l → Q (setBalances bond l ups)
  | [], _, _, h => h
  | (a, v) :: rest, l, hq, h =>
    setBalances_keeps bond Q rest _ (fun u hu => hq u (List.mem_cons_of_mem _ hu)) (hq (a, v) List.mem_cons_self l _ h)

theorem setBalances_balOf_notin (bond : Denom) (ups : List (Addr × Int)) (l : Ledger) (a : Addr) (d : Denom)
    (hn : ∀ u ∈ ups, u.1 ≠ a) : (setBalances bond l ups).balOf a d = l.balOf a d :=
  setBalances_keeps bond (fun l' => l'.balOf a d = l.balOf a d) ups l
    (fun u hu l' v h => by
      have : (u.1 == a) = false := by simpa using hn u hu
      rw [Ledger.balOf_credit, h]; simp [this]) rfl

theorem setBalances_other_denoms (bond : Denom) (ups : List (Addr × Int)) (l : Ledger) (a : Addr) (d : Denom) (hd : d ≠ bond) :
    (setBalances bond l ups).balOf a d = l.balOf a d :=
  setBalances_keeps bond (fun l' => l'.balOf a d = l.balOf a d) ups l
    (fun u _ l' v h => by
      have : (bond == d) = false := by simpa using Ne.symm hd
      rw [Ledger.balOf_credit, h]; split <;> simp [this]) rfl

theorem setBalances_supply (bond : Denom) (ups : List (Addr × Int)) (l : Ledger) : (setBalances bond l ups).supply = l.supply :=
  setBalances_keeps bond (fun l' => l'.supply = l.supply) ups l (fun _ _ _ _ h => h) rfl

theorem setBalances_balOf_mem (bond : Denom) : ∀ (ups : List (Addr × Int)) (l : Ledger) (a : Addr) (v : Int),
    (ups.map (·.1)).Nodup → (a, v) ∈ ups → (setBalances bond l ups).balOf a bond = v := by
  intro ups
  induction ups with
  | nil => intro l a v _ h; simp at h
  | cons u rest ih =>
    intro l a v hnd hm
    obtain ⟨b, vb⟩ := u
    simp only [List.map_cons, List.nodup_cons] at hnd
    simp only [setBalances]
    rcases List.mem_cons.mp hm with h | h
    · injection h with h1 h2
      subst h1; subst h2
      rw [setBalances_balOf_notin bond rest _ a bond]
      · rw [Ledger.balOf_credit]
        simp only [beq_self_eq_true, if_true, Coins.amountOf_cons, Coins.amountOf_nil]
        omega
      · intro u hu e
        exact hnd.1 (List.mem_map.mpr ⟨u, hu, e⟩)
    · exact ih _ a v hnd.2 h

/-- **Well-formed chain state** (as far as x/cvm reads it): the store has one entry per address; no account holds a negative
    amount of the bond denomination; the accounts together hold fewer than 2^64 bond coins (so every single balance fits the
    VM's uint64); an address without an account holds no bond coins (the bank creates the account with the first coin). -/
structure WF (c : Cfg) (l : Ledger) (st : Store) : Prop where
  keyed : Keyed st
  nonneg : ∀ a ∈ st, 0 ≤ l.balOf (c.nm a.addr) c.bond
  fits : total (loadWorld c l st) < U64
  held : ∀ x, World.get st x = none → l.balOf (c.nm x) c.bond = 0

theorem wf_empty (c : Cfg) : WF c { posts := [], supply := [] } [] := by
  refine ⟨keyed_nil, ?_, ?_, ?_⟩
  · intro a ha; cases ha
  · show total [] < U64
    rw [total_nil]; decide
  · intro x _; rfl

theorem tx_ok_parts {c : Cfg} {l : Ledger} {vs : Vesting.Accounts} {st : Store} {m : Msg} {l' : Ledger} {st' : Store}
    (h : tx c l vs st m = .ok (l', st')) :
    ∃ w, spendCheck c l vs m = .ok () ∧ (m.deploy = true → World.get st m.callee = none) ∧
      (!m.deploy && (codeOf st m).size == 0 && m.data.size != 0) = false ∧
      (vmRun c l st m).status = 0 ∧ (vmRun c l st m).err = none ∧ installCode m (vmRun c l st m) = some w ∧
      blockedRaise c l (preStore st m) w = false ∧ l' = writeBack c l (preStore st m) w ∧ st' = storeAfter (preStore st m) w := by
  unfold tx at h
  split at h; · cases h
  rename_i u hsp
  split at h; · cases h
  rename_i hdup
  split at h; · cases h
  rename_i hnc
  dsimp only at h
  split at h; · cases h
  rename_i hstat
  split at h; · cases h
  rename_i herr
  split at h; · cases h
  rename_i w hw
  split at h; · cases h
  rename_i hbl
  injection h with h
  injection h with h1 h2
  refine ⟨w, hsp, ?_, by simpa using hnc, by simpa using hstat, herr, hw, by simpa using hbl, h1.symm, h2.symm⟩
  intro hd
  simp only [hd, Bool.true_and, Bool.not_eq_true, Option.isSome_eq_false_iff, Option.isNone_iff_eq_none] at hdup
  exact hdup

/-- `UpdateAccount` refuses nothing: no visited blocked address would end above what the bank holds for it -/
theorem blockedRaise_eq_false {c : Cfg} {l : Ledger} {st : Store} {w : World} : blockedRaise c l st w = false ↔
    ∀ x, (World.get st x ≠ none ∨ World.get w x ≠ none) → c.blocked (c.nm x) = true →
      (cacheBal w x : Int) ≤ l.balOf (c.nm x) c.bond := by
  simp only [blockedRaise, List.any_eq_false, mem_touched, Bool.and_eq_true, decide_eq_true_eq, not_and, Int.not_lt]

theorem wf_preStore {c : Cfg} {l : Ledger} {st : Store} (m : Msg) (hwf : WF c l st)
    (hnew : m.deploy = true → World.get st m.callee = none) : WF c l (preStore st m) := by
  unfold preStore
  by_cases hd : m.deploy = true
  · rw [if_pos hd]
    have hnone := hnew hd
    have h0 : l.balOf (c.nm m.callee) c.bond = 0 := hwf.held _ hnone
    refine ⟨?_, ?_, ?_, ?_⟩
    · rw [keyed_cons]
      exact ⟨get_none_iff.mp hnone, hwf.keyed⟩
    · intro a ha
      rcases List.mem_cons.mp ha with e | e
      · subst e; show 0 ≤ l.balOf (c.nm m.callee) c.bond; omega
      · exact hwf.nonneg a e
    · have : loadWorld c l ({ addr := m.callee } :: st) =
          { addr := m.callee, balance := (l.balOf (c.nm m.callee) c.bond).toNat } :: loadWorld c l st := rfl
      rw [this, total_cons]
      show (l.balOf (c.nm m.callee) c.bond).toNat + total (loadWorld c l st) < U64
      rw [h0]
      have := hwf.fits
      simpa using this
    · intro x hx
      rw [get_cons] at hx
      split at hx
      · cases hx
      · exact hwf.held x hx
  · rw [if_neg hd]; exact hwf

theorem safe_installCode {n : Nat} {m : Msg} {r : CallRes} {w : World} (hs : SafeW n r.world) (h : installCode m r = some w) :
    SafeW n w := by
  unfold installCode at h
  split at h
  · split at h
    · rename_i acc hacc
      injection h with h
      subst h
      exact safe_put_code hs hacc r.ret acc.forebear
    · cases h
  · injection h with h; subst h; exact hs

theorem safe_vmRun {c : Cfg} {l : Ledger} {st : Store} (m : Msg) (hwf : WF c l (preStore st m)) :
    SafeW (total (loadWorld c l (preStore st m))) (vmRun c l st m).world := by
  unfold vmRun
  exact execTop_safe (envOf st m) rfl m.gas _ m.depth ⟨keyed_loadWorld c l hwf.keyed, rfl⟩

theorem loaded_bal {c : Cfg} {l : Ledger} {st : Store} (hwf : WF c l st) (x : Nat) :
    ((balOf (loadWorld c l st) x : Nat) : Int) = l.balOf (c.nm x) c.bond := by
  cases hg : World.get st x with
  | none =>
    rw [hwf.held x hg]
    have : World.get (loadWorld c l st) x = none := by rw [get_loadWorld, hg]; rfl
    rw [balOf_of_get_none this]; rfl
  | some a =>
    have : balOf (loadWorld c l st) x = (l.balOf (c.nm x) c.bond).toNat := by
      unfold balOf; rw [get_loadWorld, hg]; cases get_addr hg; rfl
    rw [this]
    have hm : a ∈ st := by
      unfold World.get at hg
      exact List.mem_of_find?_eq_some hg
    have := hwf.nonneg a hm
    rw [get_addr hg] at this
    omega

theorem nm_eq_iff {c : Cfg} (h : c.Inj) {a b : Nat} : c.nm a = c.nm b ↔ a = b := ⟨h a b, congrArg _⟩

section wb
variable {c : Cfg} {l : Ledger} {st : Store} {w : World}

theorem names_nodup (hinj : c.Inj) (hwf : WF c l st) (hw : Keyed w) : ((updates c st w).map (·.1)).Nodup := by
  unfold updates
  rw [List.map_map]
  exact List.Pairwise.map c.nm (fun _ _ hab e => hab (hinj _ _ e)) (touched_nodup hwf.keyed hw)

theorem updates_sum_cache (hw : SafeW n w) (hwf : WF c l st) : ((updates c st w).map (·.2)).sum = (n : Int) := by
  unfold updates
  rw [List.map_map]
  -- what the composition left by `List.map_map` computes, so that the lemmas on sums apply
  have : ((fun (u : Addr × Int) => u.2) ∘ fun x => (c.nm x, (cacheBal w x : Int))) = fun x => ((balOf w x : Nat) : Int) := rfl
  rw [this, ← cast_sum, sum_balOf_cover _ w hw.1 (touched_nodup hwf.keyed hw.1) (touched_cover st w), hw.2]

theorem updates_sum_bank (hwf : WF c l st) (hw : Keyed w) :
    ((updates c st w).map (fun u => l.balOf u.1 c.bond)).sum = (total (loadWorld c l st) : Int) := by
  unfold updates
  rw [List.map_map, ← sum_balOf_cover _ _ (keyed_loadWorld c l hwf.keyed) (touched_nodup hwf.keyed hw) ?cover, cast_sum]
  · congr 1
    exact List.map_congr_left (fun x _ => (loaded_bal hwf x).symm)
  · intro a ha
    obtain ⟨b, hb, rfl⟩ := List.mem_map.mp ha
    exact List.mem_append_left _ (List.mem_map_of_mem (f := (·.addr)) hb)

theorem writeBack_balOf_touched (hinj : c.Inj) (hwf : WF c l st) (hw : Keyed w) {x : Nat} (hx : x ∈ touched st w) :
    (writeBack c l st w).balOf (c.nm x) c.bond = (cacheBal w x : Int) := by
  unfold writeBack
  apply setBalances_balOf_mem c.bond _ l _ _ (names_nodup hinj hwf hw)
  unfold updates
  exact List.mem_map.mpr ⟨x, hx, rfl⟩

theorem writeBack_balOf_untouched (a : Addr) (d : Denom) (ha : ∀ x ∈ touched st w, c.nm x ≠ a) :
    (writeBack c l st w).balOf a d = l.balOf a d := by
  unfold writeBack
  apply setBalances_balOf_notin
  intro u hu
  unfold updates at hu
  obtain ⟨x, hx, e⟩ := List.mem_map.mp hu
  subst e
  exact ha x hx

theorem writeBack_balOf_all (hinj : c.Inj) (hwf : WF c l st) (hw : Keyed w) (x : Nat) :
    (writeBack c l st w).balOf (c.nm x) c.bond = ((balOf w x : Nat) : Int) := by
  by_cases hx : x ∈ touched st w
  · exact writeBack_balOf_touched hinj hwf hw hx
  · rw [writeBack_balOf_untouched]
    · obtain ⟨h1, h2⟩ := not_mem_touched hx
      rw [hwf.held x h1, balOf_of_get_none h2]; rfl
    · intro y hy e
      have := hinj _ _ e
      subst this
      exact hx hy

theorem writeBack_inv (hinj : c.Inj) (hwf : WF c l st) (hw : SafeW (total (loadWorld c l st)) w) (hi : l.Inv) :
    (writeBack c l st w).Inv := by
  unfold writeBack
  rw [setBalances_eq]
  apply Props.C01.writeBack_inv c.bond l _ (names_nodup hinj hwf hw.1) _ hi
  rw [updates_sum_cache hw hwf, updates_sum_bank hwf hw.1]

theorem storeAfter_addrs : (storeAfter st w).map (·.addr) = touched st w := by
  unfold storeAfter
  rw [List.map_map]
  conv => rhs; rw [← List.map_id (touched st w)]
  apply List.map_congr_left
  intro x _
  show (match World.get w x with | some a => ({ a with balance := 0 } : Account) | none => { addr := x }).addr = x
  split
  · rename_i a ha; exact get_addr (acc := a) ha
  · rfl

theorem get_storeAfter_none {x : Nat} : World.get (storeAfter st w) x = none ↔ x ∉ touched st w := by
  rw [← storeAfter_addrs, mem_addrs_iff]
  simp

theorem loadWorld_storeAfter_total (hinj : c.Inj) (hwf : WF c l st) (hw : Keyed w) :
    total (loadWorld c (writeBack c l st w) (storeAfter st w)) = total w := by
  rw [total_loadWorld]
  have h1 : (storeAfter st w).map (fun a => ((writeBack c l st w).balOf (c.nm a.addr) c.bond).toNat) =
      ((storeAfter st w).map (·.addr)).map (fun x => ((writeBack c l st w).balOf (c.nm x) c.bond).toNat) := by
    rw [List.map_map]; rfl
  rw [h1, storeAfter_addrs]
  have h2 : (touched st w).map (fun x => ((writeBack c l st w).balOf (c.nm x) c.bond).toNat) = (touched st w).map (balOf w) := by
    apply List.map_congr_left
    intro x hx
    rw [writeBack_balOf_touched hinj hwf hw hx]
    simp [cacheBal_eq]
  rw [h2]
  exact sum_balOf_cover _ w hw (touched_nodup hwf.keyed hw) (touched_cover st w)

theorem wf_writeBack (hinj : c.Inj) (hwf : WF c l st) (hw : SafeW (total (loadWorld c l st)) w) :
    WF c (writeBack c l st w) (storeAfter st w) := by
  refine ⟨?_, ?_, ?_, ?_⟩
  · show ((storeAfter st w).map (·.addr)).Nodup
    rw [storeAfter_addrs]
    exact touched_nodup hwf.keyed hw.1
  · intro a ha
    have hx : a.addr ∈ touched st w := by
      rw [← storeAfter_addrs]; exact List.mem_map.mpr ⟨a, ha, rfl⟩
    rw [writeBack_balOf_touched hinj hwf hw.1 hx]
    omega
  · rw [loadWorld_storeAfter_total hinj hwf hw.1, hw.2]
    exact hwf.fits
  · intro x hx
    rw [get_storeAfter_none] at hx
    rw [writeBack_balOf_untouched]
    · exact hwf.held x (not_mem_touched hx).1
    · intro y hy e
      have := hinj _ _ e
      subst this
      exact hx hy

end wb

/-- **the ledger and the interpreter's cache**: after a successful transaction the bank's bond balances before and after are
    the balances of the accounts `execTop` is started on and of those it hands back — so a statement about `balOf pre x` and
    `balOf (execTop env gas pre depth).world x` is one about the ledger -/
theorem tx_bridge {c : Cfg} {l l' : Ledger} {vs : Vesting.Accounts} {st st' : Store} {m : Msg}
    (hinj : c.Inj) (hwf : WF c l st) (h : tx c l vs st m = .ok (l', st')) :
    (vmRun c l st m).status = 0 ∧ (vmRun c l st m).err = none ∧
    SafeW (total (loadWorld c l (preStore st m))) (vmRun c l st m).world ∧
    (∀ x, l.balOf (c.nm x) c.bond = ((balOf (loadWorld c l (preStore st m)) x : Nat) : Int)) ∧
    (∀ x, l'.balOf (c.nm x) c.bond = ((balOf (vmRun c l st m).world x : Nat) : Int)) := by
  obtain ⟨w, _, h2, _, h4, h5, h6, _, h8, _⟩ := tx_ok_parts h
  have hwf' := wf_preStore m hwf h2
  have hs := safe_vmRun m hwf'
  refine ⟨h4, h5, hs, fun x => (loaded_bal hwf' x).symm, fun x => ?_⟩
  rw [h8, writeBack_balOf_all hinj hwf' (safe_installCode hs h6).1 x, installCode_balOf h6]


theorem execTop_nocode (env : Env) (gas : Nat) (pre : World) (depth : Nat) (hc : env.code.size = 0) (hct : env.callType = 0) :
    (execTop env gas pre depth).status = 0 ∧
    (∀ w', transfer pre env.caller env.callee env.value = .ok w' →
      (execTop env gas pre depth).err = none ∧ (execTop env gas pre depth).world = w') ∧
    (∀ e, transfer pre env.caller env.callee env.value = .error e → (execTop env gas pre depth).err = some e) := by
  have hfr : ∀ s0, frameRun (runDepth depth) env s0 = (Outcome.done .empty none, s0) := by
    intro s0; unfold frameRun; simp [hc]
  unfold execTop runFrame
  simp only [hfr]
  unfold openFrame
  simp only [hct, Nat.zero_le, if_true]
  cases ht : transfer pre env.caller env.callee env.value with
  | ok w' => simp [packRes]
  | error e => simp [packRes]

/-- every balance after a transfer, in one equation (`a = b` allowed: the credited account is read after the debit) -/
theorem transfer_balOf {w w' : World} {a b v : Nat} (h : transfer w a b v = .ok w') (x : Nat) :
    balOf w' x + (if a = x then v else 0) = balOf w x + (if b = x then v else 0) := by
  rcases transfer_ok h with ⟨rfl, rfl⟩ | ⟨f, t, hf, hbal, ht, rfl⟩
  · simp
  · obtain rfl : f.addr = a := get_addr hf
    obtain rfl : t.addr = b := get_addr ht
    have hf' : balOf w f.addr = f.balance := balOf_of_get_some hf
    have h1 : ∀ y, balOf (w.put { f with balance := f.balance - v }) y = if f.addr = y then f.balance - v else balOf w y := by
      intro y
      by_cases e : f.addr = y
      · subst e; rw [if_pos rfl]; exact balOf_put_self w _
      · rw [if_neg e]; exact balOf_put_ne w _ (Ne.symm e)
    have ht' : (if f.addr = t.addr then f.balance - v else balOf w t.addr) = t.balance := by
      rw [← h1]; exact balOf_of_get_some ht
    by_cases hx : t.addr = x
    · subst hx
      rw [show balOf _ t.addr = t.balance + v from balOf_put_self _ _, if_pos rfl, ← ht']
      by_cases e : f.addr = t.addr
      · rw [if_pos e, if_pos e, ← e, hf']; omega
      · rw [if_neg e, if_neg e]; omega
    · rw [balOf_put_ne _ _ (show x ≠ ({ t with balance := t.balance + v } : Account).addr from Ne.symm hx), h1, if_neg hx]
      by_cases e : f.addr = x
      · subst e; rw [if_pos rfl, if_pos rfl, hf']; omega
      · rw [if_neg e, if_neg e]

/-- **a call to an account without code is the bank's send of the value**: at every VM address and in every denomination
    the ledger after the transaction is the ledger after `Ledger.move` -/
theorem tx_plain_is_move {c : Cfg} {l l' : Ledger} {vs : Vesting.Accounts} {st st' : Store} {m : Msg}
    (hinj : c.Inj) (hwf : WF c l st) (hcode : (codeOf st m).size = 0) (h : tx c l vs st m = .ok (l', st')) (x : Nat) (d : Denom) :
    l'.balOf (c.nm x) d = (l.move (c.nm m.caller) (c.nm m.callee) [(c.bond, (m.value : Int))]).balOf (c.nm x) d := by
  rw [Ledger.balOf_move1]
  by_cases hd : c.bond = d
  · subst hd
    obtain ⟨_, h5, _, hb, ha⟩ := tx_bridge hinj hwf h
    obtain ⟨_, hok, herr⟩ := execTop_nocode (envOf st m) m.gas (loadWorld c l (preStore st m)) m.depth hcode rfl
    cases ht : transfer (loadWorld c l (preStore st m)) (envOf st m).caller (envOf st m).callee (envOf st m).value with
    | error e => have := herr e ht; rw [show execTop _ _ _ _ = vmRun c l st m from rfl, h5] at this; cases this
    | ok w' =>
      have hw : balOf w' x + (if m.caller = x then m.value else 0) = balOf _ x + (if m.callee = x then m.value else 0) :=
        transfer_balOf ht x
      rw [← show (vmRun c l st m).world = w' from (hok w' ht).2] at hw
      simp only [ha, hb, and_true, nm_eq_iff hinj]
      by_cases h1 : m.caller = x <;> by_cases h2 : m.callee = x <;> simp only [h1, h2, if_true, if_false] at hw ⊢ <;> omega
  · obtain ⟨w, _, _, _, _, _, _, _, rfl, _⟩ := tx_ok_parts h
    simp only [hd, and_false, if_false, Int.sub_zero, Int.add_zero]
    exact setBalances_other_denoms _ _ _ _ _ (Ne.symm hd)

end Shentu.CvmTxH
