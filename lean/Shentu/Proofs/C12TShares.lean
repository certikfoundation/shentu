import Shentu.Proofs.C12TTally
import Shentu.Proofs.DecRound
import Shentu.Proofs.Keys
import Mathlib.Tactic.Linarith
/-
  The share-level specification of the stake round, the counted shares per validator and option against it, and the
  rounding in the conversion of shares to voting power, `shares.Quo(validatorShares).MulInt(tokens)`, up to the total
  counted power against the bonded tokens.
-/
namespace Shentu.C12TH
open Shentu Shentu.Gov

/-- what is assumed of the staking view that governance reads: validators are distinct, hold a positive number of
    shares and no negative tokens; listed delegations are not negative; the delegations listed for a validator do not
    exceed its shares (the view may list only the delegations of the voters) -/
structure StakeWF (e : Env) : Prop where
  distinct : (e.stake.vals.map (·.1)).Nodup
  sharesPos : ∀ v ∈ e.stake.vals, 0 < v.2.2.raw
  tokensNonneg : ∀ v ∈ e.stake.vals, 0 ≤ v.2.1
  delNonneg : ∀ d ∈ e.stake.dels, 0 ≤ d.2.2.raw
  covered : ∀ v ∈ e.stake.vals, sumOn (e.stake.dels.filter (·.2.1 == v.1)) (fun d => d.2.2.raw) ≤ v.2.2.raw

/-- the stated rule: the delegator's own vote if it voted, else the vote of the validator's account, else none (0) -/
def choice (votes : List Vote) (d : Del) : Nat :=
  if hasVoted votes d.1 then voteAt votes d.1 else voteAt votes d.2.1

/-- the rule the chain applies: as `choice`, except that the vote of a bonded validator's operator address does not
    carry the operator's delegations -/
def choiceM (e : Env) (votes : List Vote) (d : Del) : Nat :=
  if delegatorVoted e votes d.1 then voteAt votes d.1 else voteAt votes d.2.1

/-- the shares of validator `a` in the listed delegations -/
def listed (e : Env) (a : Addr) : Int := sumOn (e.stake.dels.filter (·.2.1 == a)) (fun d => d.2.2.raw)

/-- specification: the shares of validator `v` counted for option `o` under the choice rule `ch` — the listed
    delegations to `v` whose choice is `o`, plus the shares of `v` not in any listed delegation (their holders did
    not vote), which follow the validator's vote -/
def specShares (ch : Del → Nat) (e : Env) (votes : List Vote) (v : Addr × Int × Dec) (o : Nat) : Int :=
  sumOn (e.stake.dels.filter (fun d => d.2.1 == v.1 && ch d == o)) (fun d => d.2.2.raw) +
    (if voteAt votes v.1 == o then v.2.2.raw - listed e v.1 else 0)

/-- the shares of validator `a` that the tally counts for option `o` -/
def countedShares (e : Env) (votes : List Vote) (a : Addr) (o : Nat) : Int :=
  sumOn ((pieces e votes).filter (fun p => p.val == a && p.option == o)) (fun p => p.shares.raw)

/-- the shares of validator `a` counted through voting delegators (any option) -/
def delCounted (e : Env) (votes : List Vote) (a : Addr) : Int :=
  sumOn ((delPieces e votes).filter (fun p => p.val == a)) (fun p => p.shares.raw)

/-- the shares of validator `a` counted through the validator's own vote -/
def valCounted (e : Env) (votes : List Vote) (a : Addr) : Int :=
  sumOn ((valPieces e votes).filter (fun p => p.val == a)) (fun p => p.shares.raw)

theorem look_isSome (e : Env) (a : Addr) (h : isValidator e a = true) :
    ∃ st, lookOf (vals0 e) a = some st := by
  rw [lookOf_vals0]
  obtain ⟨v, hv, hva⟩ := List.any_eq_true.mp h
  cases hf : e.stake.vals.find? (·.1 == a) with
  | none => exact absurd hva (by simpa using List.find?_eq_none.mp hf v hv)
  | some w => exact ⟨_, rfl⟩

theorem delPieces_sum (e : Env) (votes : List Vote) (hd : VotersDistinct votes) (a : Addr) (ha : isValidator e a = true)
    (h' : Nat → Dec → Int) :
    sumOn (delPieces e votes) (fun p => if p.val == a then h' p.option p.shares else 0) =
      sumOn (e.stake.dels.filter (fun d => delegatorVoted e votes d.1))
        (fun d => if d.2.1 == a then h' (voteAt votes d.1) d.2.2 else 0) := by
  obtain ⟨st, hst⟩ := look_isSome e a ha
  unfold delPieces
  rw [sumOn_filterMap]
  have hx := sum_exchange (isValidator e) e.stake.dels (fun o d => if d.2.1 == a then h' o d.2.2 else 0) votes hd
  unfold delegatorVoted
  rw [← hx]
  apply sumOn_congr
  intro od _
  by_cases hoa : od.2.2.1 = a
  · rw [hoa, hst]; simp
  · cases lookOf (vals0 e) od.2.2.1 with
    | none => simp [beq_false_of_ne hoa]
    | some s => simp [beq_false_of_ne hoa]

theorem valPieces_closed (e : Env) (votes : List Vote) (hd : VotersDistinct votes) :
    valPieces e votes = e.stake.vals.filterMap (fun v =>
      if voteAt votes v.1 == 0 then none
      else some ⟨v.1, voteAt votes v.1, ⟨v.2.2.raw - dedOf e votes v.1⟩, v.2.2, v.2.1⟩) := by
  unfold valPieces
  rw [finalVals_closed e votes hd, List.filterMap_map]
  rfl

theorem valPieces_sum (e : Env) (votes : List Vote) (hd : VotersDistinct votes) (hn : (e.stake.vals.map (·.1)).Nodup)
    (v : Addr × Int × Dec) (hv : v ∈ e.stake.vals) (h' : Nat → Dec → Int) :
    sumOn (valPieces e votes) (fun p => if p.val == v.1 then h' p.option p.shares else 0) =
      if voteAt votes v.1 == 0 then 0 else h' (voteAt votes v.1) ⟨v.2.2.raw - dedOf e votes v.1⟩ := by
  rw [valPieces_closed e votes hd, sumOn_filterMap]
  rw [← sumOn_unique (fun w : Addr × Int × Dec => w.1) e.stake.vals
    (fun w => if voteAt votes w.1 == 0 then 0 else h' (voteAt votes w.1) ⟨w.2.2.raw - dedOf e votes w.1⟩) hn v hv]
  apply sumOn_congr
  intro w _
  cases hw : (voteAt votes w.1 == 0) <;> cases hwv : (w.1 == v.1) <;> simp [hwv]

theorem dedOf_le_listed (e : Env) (wf : StakeWF e) (votes : List Vote) (a : Addr) : dedOf e votes a ≤ listed e a := by
  unfold dedOf listed
  have : (fun d : Del => d.2.1 == a && delegatorVoted e votes d.1) = (fun d => delegatorVoted e votes d.1 && d.2.1 == a) := by
    funext d; exact Bool.and_comm _ _
  rw [this, ← List.filter_filter]
  apply sumOn_filter_le
  intro d hd
  exact wf.delNonneg d (List.mem_filter.mp hd).1

theorem dedOf_nonneg (e : Env) (wf : StakeWF e) (votes : List Vote) (a : Addr) : 0 ≤ dedOf e votes a := by
  unfold dedOf
  apply sumOn_nonneg
  intro d hd
  exact wf.delNonneg d (List.mem_filter.mp hd).1

theorem delCounted_eq (e : Env) (votes : List Vote) (hd : VotersDistinct votes) (a : Addr) (ha : isValidator e a = true) :
    delCounted e votes a = dedOf e votes a := by
  unfold delCounted dedOf
  rw [sumOn_filter, delPieces_sum e votes hd a ha (fun _ s => s.raw), sumOn_filter_ite]

theorem valCounted_eq (e : Env) (votes : List Vote) (hd : VotersDistinct votes) (hn : (e.stake.vals.map (·.1)).Nodup)
    (v : Addr × Int × Dec) (hv : v ∈ e.stake.vals) :
    valCounted e votes v.1 = if voteAt votes v.1 == 0 then 0 else v.2.2.raw - dedOf e votes v.1 := by
  unfold valCounted
  rw [sumOn_filter, valPieces_sum e votes hd hn v hv (fun _ s => s.raw)]

theorem isValidator_of_mem (e : Env) (v : Addr × Int × Dec) (hv : v ∈ e.stake.vals) : isValidator e v.1 = true :=
  List.any_eq_true.mpr ⟨v, hv, beq_iff_eq.mpr rfl⟩

theorem countedShares_eq (e : Env) (votes : List Vote) (hd : VotersDistinct votes) (hn : (e.stake.vals.map (·.1)).Nodup)
    (v : Addr × Int × Dec) (hv : v ∈ e.stake.vals) (o : Nat) (ho : o ≠ 0) :
    countedShares e votes v.1 o =
      sumOn e.stake.dels (fun d => if d.2.1 == v.1 && delegatorVoted e votes d.1 && voteAt votes d.1 == o then d.2.2.raw else 0) +
        (if voteAt votes v.1 == o then v.2.2.raw - dedOf e votes v.1 else 0) := by
  unfold countedShares
  have hform : ∀ l : List Piece, sumOn (l.filter (fun p => p.val == v.1 && p.option == o)) (fun p => p.shares.raw) =
      sumOn l (fun p => if p.val == v.1 then (fun (o' : Nat) (s : Dec) => if o' == o then s.raw else 0) p.option p.shares else 0) := by
    intro l
    rw [sumOn_filter]
    apply sumOn_congr
    intro p _
    cases (p.val == v.1) <;> cases h2 : (p.option == o) <;> simp [h2]
  rw [hform, pieces, sumOn_append,
    delPieces_sum e votes hd v.1 (isValidator_of_mem e v hv) (fun (o' : Nat) (s : Dec) => if o' == o then s.raw else 0),
    valPieces_sum e votes hd hn v hv (fun (o' : Nat) (s : Dec) => if o' == o then s.raw else 0), sumOn_filter]
  congr 1
  · apply sumOn_congr
    intro d _
    cases (d.2.1 == v.1) <;> cases (delegatorVoted e votes d.1) <;> cases (voteAt votes d.1 == o) <;> rfl
  · -- a validator that did not vote stands at option 0, which is not `o`
    cases hz : (voteAt votes v.1 == 0) with
    | false => simp
    | true => simp [beq_iff_eq.mp hz, beq_false_of_ne (Ne.symm ho)]

theorem dedOf_ite (e : Env) (votes : List Vote) (a : Addr) :
    dedOf e votes a = sumOn e.stake.dels (fun d => if d.2.1 == a && delegatorVoted e votes d.1 then d.2.2.raw else 0) := by
  unfold dedOf; rw [sumOn_filter]

theorem listed_ite (e : Env) (a : Addr) :
    listed e a = sumOn e.stake.dels (fun d => if d.2.1 == a then d.2.2.raw else 0) := by
  unfold listed; rw [sumOn_filter]

theorem sum_choiceM (e : Env) (votes : List Vote) (a : Addr) (o : Nat) :
    sumOn (e.stake.dels.filter (fun d => d.2.1 == a && choiceM e votes d == o)) (fun d => d.2.2.raw) =
      sumOn e.stake.dels (fun d => if d.2.1 == a && delegatorVoted e votes d.1 && voteAt votes d.1 == o then d.2.2.raw else 0) +
        (if voteAt votes a == o then listed e a - dedOf e votes a else 0) := by
  rw [sumOn_filter, listed_ite, dedOf_ite]
  -- a delegation to `a` follows its holder's vote if the holder voted, and the vote of `a` otherwise
  have pt : ∀ d : Del, (d.2.1 == a && choiceM e votes d == o) =
      (d.2.1 == a && if delegatorVoted e votes d.1 then voteAt votes d.1 == o else voteAt votes a == o) := by
    intro d
    by_cases hda : d.2.1 = a
    · rw [choiceM, hda]; split <;> rfl
    · rw [beq_false_of_ne hda]; rfl
  simp only [pt]
  cases hvo : (voteAt votes a == o)
  · rw [if_neg (by decide), Int.add_zero]
    apply sumOn_congr
    intro d _
    cases (d.2.1 == a) <;> cases delegatorVoted e votes d.1 <;> rfl
  · rw [if_pos rfl]
    refine (fun x y z w h => by omega : ∀ x y z w : Int, x + w = y + z → x = y + (z - w)) _ _ _ _ ?_
    rw [← sumOn_add, ← sumOn_add]
    apply sumOn_congr
    intro d _
    cases (d.2.1 == a) <;> cases delegatorVoted e votes d.1 <;> simp

theorem choice_eq_choiceM (e : Env) (votes : List Vote) (d : Del)
    (h : isValidator e d.1 = true → hasVoted votes d.1 = true → d.2.1 = d.1) : choice votes d = choiceM e votes d := by
  unfold choice choiceM delegatorVoted
  cases hv : isValidator e d.1 with
  | false => simp
  | true =>
    cases hh : hasVoted votes d.1 with
    | false => simp
    | true => simp [h hv hh]

/-- **rounding of one piece**: the power (in units of 10⁻¹⁸ token) attributed to `s` shares of a validator with `vs`
    shares and `vt` tokens, against the exact `s·vt/vs` tokens (`= s·P·vt/vs` units): not above it by more than `vt/2`
    units, not below it by more than `vt·(1/2 + 1/P)` units -/
theorem pw_bounds (s vs : Dec) (vt : Int) (hs : 0 ≤ s.raw) (hvs : 0 < vs.raw) (hvt : 0 ≤ vt) :
    2 * ((pw s vs vt).raw * vs.raw) ≤ 2 * (s.raw * Dec.prec * vt) + vs.raw * vt ∧
    Dec.prec * (2 * (s.raw * Dec.prec * vt)) ≤ Dec.prec * (2 * ((pw s vs vt).raw * vs.raw)) + vs.raw * vt * (Dec.prec + 2) ∧
    0 ≤ (pw s vs vt).raw := by
  obtain ⟨h1, h2, h3⟩ := DecRound.quo_bounds s vs hs hvs
  have k1 := Int.mul_le_mul_of_nonneg_right h1 hvt
  have k2 := Int.mul_le_mul_of_nonneg_right h2.le hvt
  change 2 * ((Dec.quo s vs).raw * vt * vs.raw) ≤ _ ∧ _ ≤ Dec.prec * (2 * ((Dec.quo s vs).raw * vt * vs.raw)) + _ ∧
    0 ≤ (Dec.quo s vs).raw * vt
  exact ⟨by linarith, by linarith, Int.mul_nonneg h3 hvt⟩

theorem mem_votedDels (isV : Addr → Bool) (dels : List Del) (votes : List Vote) (od : Nat × Del)
    (h : od ∈ votedDels isV dels votes) : od.2 ∈ dels := by
  unfold votedDels at h
  obtain ⟨v, _, hv⟩ := List.mem_flatMap.mp h
  obtain ⟨d, hd, rfl⟩ := List.mem_map.mp hv
  exact (List.mem_filter.mp hd).1

theorem piece_of_validator (e : Env) (wf : StakeWF e) (votes : List Vote) (hd : VotersDistinct votes) (p : Piece)
    (hp : p ∈ pieces e votes) :
    ∃ v ∈ e.stake.vals, p.val = v.1 ∧ p.vshares = v.2.2 ∧ p.vtokens = v.2.1 ∧ 0 ≤ p.shares.raw := by
  unfold pieces at hp
  rcases List.mem_append.mp hp with h | h
  · unfold delPieces at h
    obtain ⟨od, hod, hf⟩ := List.mem_filterMap.mp h
    rw [lookOf_vals0] at hf
    cases hfind : e.stake.vals.find? (·.1 == od.2.2.1) with
    | none => rw [hfind] at hf; cases hf
    | some v =>
      rw [hfind] at hf
      simp only [Option.map_some, Option.some.injEq] at hf
      subst hf
      have hv := List.mem_of_find?_eq_some hfind
      have hva : v.1 = od.2.2.1 := by
        have := List.find?_some hfind
        exact beq_iff_eq.mp this
      exact ⟨v, hv, hva.symm, rfl, rfl, wf.delNonneg _ (mem_votedDels _ _ _ _ hod)⟩
  · rw [valPieces_closed e votes hd] at h
    obtain ⟨v, hv, hf⟩ := List.mem_filterMap.mp h
    cases hvote : (voteAt votes v.1 == 0) with
    | true => simp [hvote] at hf
    | false =>
      simp only [hvote, Bool.false_eq_true, if_false, Option.some.injEq] at hf
      subst hf
      refine ⟨v, hv, rfl, rfl, rfl, ?_⟩
      have h1 := dedOf_le_listed e wf votes v.1
      have h2 := wf.covered v hv
      unfold listed at h1
      show 0 ≤ v.2.2.raw - dedOf e votes v.1
      omega

theorem sumOn_group (vals : List (Addr × Int × Dec)) (hn : (vals.map (·.1)).Nodup) (g : Piece → Int)
    (L : List Piece) (h : ∀ p ∈ L, ∃ v ∈ vals, p.val = v.1) :
    sumOn L g = sumOn vals (fun v => sumOn (L.filter (fun p => p.val == v.1)) g) := by
  have hf : ∀ v ∈ vals, sumOn (L.filter (fun p => p.val == v.1)) g = sumOn L (fun p => if v.1 == p.val then g p else 0) := by
    intro v _
    rw [sumOn_filter]
    exact sumOn_congr _ _ _ fun p _ => by rw [BEq.comm]
  rw [sumOn_congr _ _ _ hf, sumOn_comm]
  refine sumOn_congr _ _ _ fun p hp => ?_
  obtain ⟨v, hv, hpv⟩ := h p hp
  rw [hpv]
  exact (sumOn_unique (fun w : Addr × Int × Dec => w.1) vals (fun _ => g p) hn v hv).symm

theorem pieces_shares_sum (e : Env) (votes : List Vote) (a : Addr) :
    sumOn ((pieces e votes).filter (fun p => p.val == a)) (fun p => p.shares.raw) =
      delCounted e votes a + valCounted e votes a := by
  unfold pieces delCounted valCounted
  rw [List.filter_append, sumOn_append]

theorem counted_le_shares (e : Env) (wf : StakeWF e) (votes : List Vote) (hd : VotersDistinct votes)
    (v : Addr × Int × Dec) (hv : v ∈ e.stake.vals) :
    delCounted e votes v.1 + valCounted e votes v.1 ≤ v.2.2.raw ∧
      (voteAt votes v.1 ≠ 0 → delCounted e votes v.1 + valCounted e votes v.1 = v.2.2.raw) := by
  rw [delCounted_eq e votes hd v.1 (isValidator_of_mem e v hv), valCounted_eq e votes hd wf.distinct v hv]
  have h1 := dedOf_le_listed e wf votes v.1
  have h2 := wf.covered v hv
  unfold listed at h1
  constructor
  · split <;> omega
  · intro hne
    rw [beq_false_of_ne hne]; simp

/-- **any pieces of one validator against the exact value of their shares**: the power the chain gives the pieces in
    `L`, times the validator's shares, is at most the exact value `shares·10¹⁸·tokens` of their shares plus
    `validatorShares·tokens/2` per piece, and at least that value minus `validatorShares·tokens·(1/2 + 10⁻¹⁸)` per piece -/
theorem validator_pieces_bounds (e : Env) (wf : StakeWF e) (votes : List Vote) (hd : VotersDistinct votes)
    (v : Addr × Int × Dec) (hv : v ∈ e.stake.vals) (L : List Piece) (hL : ∀ p ∈ L, p ∈ pieces e votes ∧ p.val = v.1) :
    2 * (sumOn L (fun p => p.power.raw) * v.2.2.raw) ≤
      2 * (sumOn L (fun p => p.shares.raw) * Dec.prec * v.2.1) + L.length * (v.2.2.raw * v.2.1) ∧
    Dec.prec * (2 * (sumOn L (fun p => p.shares.raw) * Dec.prec * v.2.1)) ≤
      Dec.prec * (2 * (sumOn L (fun p => p.power.raw) * v.2.2.raw)) + L.length * (v.2.2.raw * v.2.1 * (Dec.prec + 2)) := by
  -- every piece of `L` is converted with the shares and tokens of `v`, so `pw_bounds` speaks of it
  have hb : ∀ p ∈ L,
      2 * (p.power.raw * v.2.2.raw) ≤ 2 * (p.shares.raw * Dec.prec * v.2.1) + v.2.2.raw * v.2.1 ∧
      Dec.prec * (2 * (p.shares.raw * Dec.prec * v.2.1)) ≤
        Dec.prec * (2 * (p.power.raw * v.2.2.raw)) + v.2.2.raw * v.2.1 * (Dec.prec + 2) := by
    intro p hp
    obtain ⟨w, hw, h1, h2, h3, h4⟩ := piece_of_validator e wf votes hd p (hL p hp).1
    have : w = v := eq_of_key_eq wf.distinct hw hv (h1.symm.trans (hL p hp).2)
    subst this
    rw [Piece.power, h2, h3]
    have := pw_bounds p.shares w.2.2 w.2.1 h4 (wf.sharesPos w hv) (wf.tokensNonneg w hv)
    exact ⟨this.1, this.2.1⟩
  have h1 := sumOn_le_slack L _ _ _ fun p hp => (hb p hp).1
  have h2 := sumOn_le_slack L _ _ _ fun p hp => (hb p hp).2
  simp only [sumOn_mul_left, sumOn_mul_right] at h1 h2
  exact ⟨h1, h2⟩

theorem validator_power_bound (e : Env) (wf : StakeWF e) (votes : List Vote) (hd : VotersDistinct votes)
    (v : Addr × Int × Dec) (hv : v ∈ e.stake.vals) :
    2 * sumOn ((pieces e votes).filter (fun p => p.val == v.1)) (fun p => p.power.raw) ≤
      (2 * Dec.prec + ((pieces e votes).filter (fun p => p.val == v.1)).length) * v.2.1 := by
  have hb := (validator_pieces_bounds e wf votes hd v hv ((pieces e votes).filter (fun p => p.val == v.1))
    (fun p hp => ⟨(List.mem_filter.mp hp).1, beq_iff_eq.mp (List.mem_filter.mp hp).2⟩)).1
  have hsum := (counted_le_shares e wf votes hd v hv).1
  rw [← pieces_shares_sum] at hsum
  generalize (pieces e votes).filter (fun p => p.val == v.1) = L at *
  -- the shares of the pieces are at most the validator's: 2·Σpower·shares ≤ shares·(2·P + n)·tokens; divide by the shares
  have k := Int.mul_le_mul_of_nonneg_right hsum (Int.mul_nonneg Dec.prec_pos.le (wf.tokensNonneg v hv))
  exact Int.le_of_mul_le_mul_left (a := v.2.2.raw) (by linarith) (wf.sharesPos v hv)

theorem total_eq (e : Env) (votes : List Vote) :
    (stakeResults e votes).total.raw = sumOn (pieces e votes) (fun p => p.power.raw) := by
  rw [results_are_pieces, addList_total, sumOn_map]
  exact Int.zero_add _

theorem total_bound (e : Env) (wf : StakeWF e) (votes : List Vote) (hd : VotersDistinct votes) :
    2 * (stakeResults e votes).total.raw ≤
      sumOn e.stake.vals (fun v => (2 * Dec.prec + ((pieces e votes).filter (fun p => p.val == v.1)).length) * v.2.1) := by
  rw [total_eq, sumOn_group e.stake.vals wf.distinct _ (pieces e votes)
    (fun p hp => by obtain ⟨v, hv, h, _⟩ := piece_of_validator e wf votes hd p hp; exact ⟨v, hv, h⟩),
    ← sumOn_mul_left]
  apply sumOn_le
  intro v hv
  exact validator_power_bound e wf votes hd v hv

end Shentu.C12TH
