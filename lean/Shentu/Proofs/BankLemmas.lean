import Shentu.Model.Bank
import Shentu.Proofs.Lists
/-
  Signs of amounts and membership in the sorted denominations of `Coins`; the bank ledger (`Model/Bank.lean`): balances and
  totals after `credit`, `debit`, `move`, `mint`, `burn`, what `send` accepts (`send_ok_iff`), the ledger invariant
  (balances add up to the supply) under them, ledgers without a negative balance (`NonNeg`), and paying a list of items
  out of one account (`paid`).
-/
namespace Shentu.Coins

theorem amountOf_of_not_mem_denoms (c : Coins) (d : Denom) (h : d ∉ denoms c) : amountOf c d = 0 := by
  unfold denoms at h
  rw [List.mem_eraseDups] at h
  unfold amountOf
  have : c.filter (fun e => e.1 == d) = [] := by
    apply List.filter_eq_nil_iff.mpr
    intro e he hed
    exact h (List.mem_map.mpr ⟨e, he, beq_iff_eq.mp hed⟩)
  simp [this]

theorem amountOf_eq_zero_of_notMem (c : Coins) (d : Denom) (h : d ∉ c.map (·.1)) : amountOf c d = 0 :=
  amountOf_of_not_mem_denoms c d (by unfold denoms; rwa [List.mem_eraseDups])

theorem amountOf_nonneg_of_not_anyNegative (c : Coins) (h : isAnyNegative c = false) (d : Denom) :
    0 ≤ amountOf c d := by
  by_cases hm : d ∈ denoms c
  · unfold isAnyNegative at h
    have := (List.any_eq_false.mp h) d hm
    simpa using this
  · rw [amountOf_of_not_mem_denoms c d hm]; omega

theorem isAnyNegative_eq_false_iff (c : Coins) : isAnyNegative c = false ↔ ∀ d, 0 ≤ amountOf c d :=
  ⟨amountOf_nonneg_of_not_anyNegative c, fun h => List.any_eq_false.mpr fun d _ => by simpa using h d⟩

theorem amountOf_single_cons (b d : Denom) (x : Int) : amountOf [(b, x)] d = if b = d then x else 0 := by
  by_cases h : b = d <;> simp [h]

theorem amountOf_nonneg_of_allPositive (c : Coins) (h : isAllPositive c = true) (d : Denom) :
    0 ≤ amountOf c d := by
  by_cases hm : d ∈ denoms c
  · unfold isAllPositive at h
    simp only [Bool.and_eq_true] at h
    have := (List.all_eq_true.mp h.2) d hm
    have : amountOf c d > 0 := by simpa using this
    omega
  · rw [amountOf_of_not_mem_denoms c d hm]; omega

theorem amountOf_ite_add (c : Coins) (d : Denom) (x : Int) (d' : Denom) :
    amountOf (if (x == 0) = true then c else add c [(d, x)]) d' = amountOf c d' + (if d = d' then x else 0) := by
  split
  · rename_i hx
    have : x = 0 := by simpa using hx
    subst this; split <;> omega
  · rw [amountOf_add, amountOf_single_cons]

theorem denoms_single (d : Denom) (x : Int) : denoms [(d, x)] = [d] := by simp [denoms, List.eraseDups_cons]

theorem mem_insertSorted (d y : Denom) : ∀ xs : List Denom, y ∈ insertSorted d xs ↔ y = d ∨ y ∈ xs
  | [] => by simp [insertSorted]
  | x :: xs => by
    unfold insertSorted
    split
    · simp
    · split
      · rename_i hx
        have : d = x := by simpa using hx
        subst this; simp
      · rw [List.mem_cons, mem_insertSorted d y xs, List.mem_cons]; exact or_left_comm

theorem mem_sortDenoms (y : Denom) : ∀ ds : List Denom, y ∈ sortDenoms ds ↔ y ∈ ds
  | [] => by simp [sortDenoms]
  | x :: xs => by
    rw [show sortDenoms (x :: xs) = insertSorted x (sortDenoms xs) from rfl, mem_insertSorted,
      mem_sortDenoms y xs, List.mem_cons]

theorem isZero_nil : isZero [] = true := rfl

theorem isZero_single (d : Denom) (x : Int) : isZero [(d, x)] = (x == 0) := by
  simp only [isZero, canon, denoms, sortDenoms, List.map, List.eraseDups_cons,
    List.filter_nil, List.eraseDups_nil, List.foldr, insertSorted, List.filterMap_cons, List.filterMap_nil,
    amountOf_cons, amountOf_nil, beq_self_eq_true, if_true, Int.add_zero]
  by_cases h : x = 0 <;> simp [h]

theorem isAllPositive_not_isZero (c : Coins) (h : isAllPositive c = true) : isZero c = false := by
  simp only [isAllPositive, Bool.and_eq_true, Bool.not_eq_true'] at h
  exact h.1

end Shentu.Coins

namespace Shentu.Ledger
open Shentu

theorem bal_credit (l : Ledger) (a : Addr) (c : Coins) (a' : Addr) :
    (l.credit a c).bal a' = l.bal a' ++ (if a == a' then c else []) := by
  simp only [bal, credit, List.filter_append, List.map_append]
  congr 1
  by_cases h : a == a'
  · simp only [h, if_true]
    induction c with
    | nil => simp
    | cons e es ih => simp [h, ih]
  · have h' : (a == a') = false := by simpa using h
    simp only [h', Bool.false_eq_true, if_false]
    induction c with
    | nil => simp
    | cons e es ih => simp [h', ih]

@[simp] theorem balOf_credit (l : Ledger) (a : Addr) (c : Coins) (a' : Addr) (d : Denom) :
    (l.credit a c).balOf a' d = l.balOf a' d + (if a == a' then Coins.amountOf c d else 0) := by
  simp only [balOf, bal_credit, Coins.amountOf_append]
  split <;> simp

@[simp] theorem balOf_debit (l : Ledger) (a : Addr) (c : Coins) (a' : Addr) (d : Denom) :
    (l.debit a c).balOf a' d = l.balOf a' d - (if a == a' then Coins.amountOf c d else 0) := by
  simp only [debit, balOf_credit, Coins.amountOf_neg]
  split <;> omega

@[simp] theorem balOf_move (l : Ledger) (src dst : Addr) (c : Coins) (a' : Addr) (d : Denom) :
    (l.move src dst c).balOf a' d =
      l.balOf a' d - (if src == a' then Coins.amountOf c d else 0) + (if dst == a' then Coins.amountOf c d else 0) := by
  simp [move]

@[simp] theorem supply_credit (l : Ledger) (a : Addr) (c : Coins) : (l.credit a c).supply = l.supply := rfl
@[simp] theorem supply_debit (l : Ledger) (a : Addr) (c : Coins) : (l.debit a c).supply = l.supply := rfl
@[simp] theorem supply_move (l : Ledger) (a b : Addr) (c : Coins) : (l.move a b c).supply = l.supply := rfl

theorem balOf_burn (l : Ledger) (a : Addr) (c : Coins) (a' : Addr) (d : Denom) :
    (l.burn a c).balOf a' d = l.balOf a' d - (if a == a' then Coins.amountOf c d else 0) := balOf_debit l a c a' d
theorem supply_burn (l : Ledger) (a : Addr) (c : Coins) : (l.burn a c).supply = Coins.sub l.supply c := rfl

theorem total_credit (l : Ledger) (a : Addr) (c : Coins) (d : Denom) :
    (l.credit a c).total d = l.total d + Coins.amountOf c d := by
  simp only [total, credit, List.map_append, Coins.amountOf_append, List.map_map]
  congr 1
  induction c with
  | nil => rfl
  | cons e es ih => simp [ih]

theorem total_debit (l : Ledger) (a : Addr) (c : Coins) (d : Denom) :
    (l.debit a c).total d = l.total d - Coins.amountOf c d := by
  simp only [debit, total_credit, Coins.amountOf_neg]; omega

@[simp] theorem total_move (l : Ledger) (a b : Addr) (c : Coins) (d : Denom) :
    (l.move a b c).total d = l.total d := by
  simp only [move, total_credit, total_debit]; omega

theorem covers_iff {l : Ledger} {a : Addr} {c : Coins} :
    Coins.covers (l.bal a) c = true ↔ ∀ d ∈ Coins.denoms c, Coins.amountOf c d ≤ l.balOf a d := by
  simp [Coins.covers, balOf]

theorem send_ok_iff (l l' : Ledger) (a b : Addr) (c : Coins) :
    l.send a b c = .ok l' ↔
      (∀ d, 0 ≤ Coins.amountOf c d) ∧ (∀ d ∈ Coins.denoms c, Coins.amountOf c d ≤ l.balOf a d) ∧ l' = l.move a b c := by
  unfold send
  rw [← Coins.isAnyNegative_eq_false_iff, ← covers_iff]
  cases Coins.isAnyNegative c <;> cases Coins.covers (l.bal a) c <;> simp [err, eq_comm]

theorem send_ok (l l' : Ledger) (src dst : Addr) (c : Coins) (h : l.send src dst c = .ok l') :
    l' = l.move src dst c := ((send_ok_iff ..).mp h).2.2

theorem inv_move (l : Ledger) (a b : Addr) (c : Coins) (h : l.Inv) : (l.move a b c).Inv := by
  intro d; simp [h d]
theorem inv_mint (l : Ledger) (a : Addr) (c : Coins) (h : l.Inv) : (l.mint a c).Inv := by
  intro d
  have h1 : (l.mint a c).total d = (l.credit a c).total d := rfl
  have h2 : (l.mint a c).supply = Coins.add l.supply c := rfl
  rw [h1, h2, total_credit, Coins.amountOf_add, h d]
theorem inv_burn (l : Ledger) (a : Addr) (c : Coins) (h : l.Inv) : (l.burn a c).Inv := by
  intro d
  have h1 : (l.burn a c).total d = (l.debit a c).total d := rfl
  have h2 : (l.burn a c).supply = Coins.sub l.supply c := rfl
  rw [h1, h2, total_debit, Coins.amountOf_sub, h d]
theorem inv_send (l l' : Ledger) (a b : Addr) (c : Coins) (h : l.Inv) (hs : l.send a b c = .ok l') : l'.Inv := by
  rw [send_ok l l' a b c hs]; exact inv_move l a b c h

theorem send_not_anyNegative {l l' : Ledger} {a b : Addr} {c : Coins} (h : l.send a b c = .ok l') :
    Coins.isAnyNegative c = false := (Coins.isAnyNegative_eq_false_iff c).mpr ((send_ok_iff ..).mp h).1

/-! Balances with the addresses compared by `=`, as the statements about histories have them. -/

theorem balOf_credit' (l : Ledger) (a : Addr) (c : Coins) (a' : Addr) (d : Denom) :
    (l.credit a c).balOf a' d = l.balOf a' d + (if a = a' then Coins.amountOf c d else 0) := by
  simp only [balOf_credit, beq_iff_eq]

theorem balOf_debit' (l : Ledger) (a : Addr) (c : Coins) (a' : Addr) (d : Denom) :
    (l.debit a c).balOf a' d = l.balOf a' d - (if a = a' then Coins.amountOf c d else 0) := by
  simp only [balOf_debit, beq_iff_eq]

theorem balOf_move' (l : Ledger) (src dst : Addr) (c : Coins) (a' : Addr) (d : Denom) :
    (l.move src dst c).balOf a' d =
      l.balOf a' d - (if src = a' then Coins.amountOf c d else 0) + (if dst = a' then Coins.amountOf c d else 0) := by
  simp only [balOf_move, beq_iff_eq]

theorem balOf_move1 (l : Ledger) (src dst : Addr) (b : Denom) (x : Int) (a : Addr) (d : Denom) :
    (l.move src dst [(b, x)]).balOf a d =
      l.balOf a d - (if src = a ∧ b = d then x else 0) + (if dst = a ∧ b = d then x else 0) := by
  rw [balOf_move', Coins.amountOf_single_cons]
  by_cases h1 : src = a <;> by_cases h2 : dst = a <;> by_cases h3 : b = d <;> simp [h1, h2, h3]

theorem mono_move1 (l : Ledger) (src dst : Addr) (b : Denom) {x : Int} (hx : 0 ≤ x) {a : Addr} (hne : src ≠ a) (d : Denom) :
    l.balOf a d ≤ (l.move src dst [(b, x)]).balOf a d := by
  rw [balOf_move1]
  by_cases h2 : dst = a <;> by_cases h3 : b = d <;> simp [hne, h2, h3] <;> omega

def NonNeg (l : Ledger) : Prop := ∀ a d, 0 ≤ l.balOf a d

theorem nonneg_move1 {l : Ledger} (src dst : Addr) {b : Denom} {x : Int} (hl : NonNeg l) (hx : 0 ≤ x)
    (hc : x ≤ l.balOf src b) : NonNeg (l.move src dst [(b, x)]) := by
  intro a d
  rw [balOf_move1]
  have := hl a d
  by_cases h1 : src = a <;> by_cases h2 : dst = a <;> by_cases h3 : b = d <;> simp [h1, h2, h3] <;> try omega
  all_goals (subst h1; subst h3; omega)

theorem credit_mono (l : Ledger) (a : Addr) (c : Coins) (hc : ∀ d, 0 ≤ Coins.amountOf c d) (a' : Addr) (d : Denom) :
    l.balOf a' d ≤ (l.credit a c).balOf a' d := by
  rw [balOf_credit']
  have := hc d
  split <;> omega

theorem foldl_credit_mono : ∀ (outs : List (Addr × Coins)) (l0 : Ledger), (∀ o ∈ outs, ∀ d, 0 ≤ Coins.amountOf o.2 d) →
    ∀ a d, l0.balOf a d ≤ (outs.foldl (fun l o => l.credit o.1 o.2) l0).balOf a d := by
  intro outs
  induction outs with
  | nil => intro l0 _ a d; exact Int.le_refl _
  | cons o os ih =>
    intro l0 hp a d
    exact Int.le_trans (credit_mono l0 o.1 o.2 (hp o List.mem_cons_self) a d)
      (ih (l0.credit o.1 o.2) (fun o' ho' => hp o' (List.mem_cons_of_mem _ ho')) a d)

theorem balOf_nonneg_of_posts (l : Ledger) (h : ∀ p ∈ l.posts, 0 ≤ p.2.2) (a : Addr) (d : Denom) : 0 ≤ l.balOf a d := by
  unfold balOf bal
  have key : ∀ ps : List Posting, (∀ p ∈ ps, 0 ≤ p.2.2) →
      0 ≤ Coins.amountOf ((ps.filter (fun p => p.1 == a)).map (·.2)) d := by
    intro ps
    induction ps with
    | nil => intro _; simp
    | cons p ps ih =>
      intro hp
      have h1 := hp p List.mem_cons_self
      have h2 := ih (fun q hq => hp q (List.mem_cons_of_mem _ hq))
      simp only [List.filter_cons]
      split
      · simp only [List.map_cons, Coins.amountOf_cons]
        split <;> omega
      · exact h2
  exact key l.posts h

/-! Paying a list of items out of one account (`Oracle.payWithdraws`, `Gov.refundDeposits.go`). -/
section pay
variable {ι : Type} (src : Addr) (to : ι → Addr) (amt : ι → Coins)

/-- the ledger after `src` has paid every item of `xs` to its recipient, one move each -/
def paid (l : Ledger) (xs : List ι) : Ledger := xs.foldl (fun l x => l.move src (to x) (amt x)) l

@[simp] theorem paid_nil (l : Ledger) : paid src to amt l [] = l := rfl
@[simp] theorem paid_cons (l : Ledger) (x : ι) (xs : List ι) :
    paid src to amt l (x :: xs) = paid src to amt (l.move src (to x) (amt x)) xs := rfl

theorem balOf_paid (a : Addr) (d : Denom) : ∀ (xs : List ι) (l : Ledger),
    (paid src to amt l xs).balOf a d =
      l.balOf a d - (if src == a then (xs.map fun x => Coins.amountOf (amt x) d).sum else 0) +
        ((xs.filter (to · == a)).map fun x => Coins.amountOf (amt x) d).sum
  | [], l => by simp
  | x :: xs, l => by
    rw [paid_cons, balOf_paid a d xs, balOf_move, List.filter_cons]
    by_cases hm : src == a <;> by_cases hx : to x == a <;> simp [hm, hx] <;> omega

theorem supply_paid : ∀ (xs : List ι) (l : Ledger), (paid src to amt l xs).supply = l.supply
  | [], _ => rfl
  | _ :: xs, _ => supply_paid xs _

theorem total_paid (d : Denom) : ∀ (xs : List ι) (l : Ledger), (paid src to amt l xs).total d = l.total d
  | [], _ => rfl
  | x :: xs, l => (total_paid d xs _).trans (total_move l src (to x) (amt x) d)

theorem inv_paid : ∀ (xs : List ι) (l : Ledger), l.Inv → (paid src to amt l xs).Inv
  | [], _, h => h
  | x :: xs, l, h => inv_paid xs _ (inv_move l src (to x) (amt x) h)

/-- an item addressed to `src` itself takes nothing out of it, hence an inequality -/
theorem balOf_paid_src_ge (d : Denom) (xs : List ι) (l : Ledger) (hnn : ∀ x ∈ xs, 0 ≤ Coins.amountOf (amt x) d) :
    l.balOf src d - (xs.map fun x => Coins.amountOf (amt x) d).sum ≤ (paid src to amt l xs).balOf src d := by
  have := sum_map_nonneg (fun x => Coins.amountOf (amt x) d) (l := xs.filter (to · == src))
    fun x hx => hnn x (List.mem_filter.mp hx).1
  rw [balOf_paid, beq_self_eq_true, if_pos rfl]; omega

variable {ε : Type} (go : List ι → Ledger → Except ε Ledger)

/-- `go` is a loop that sends item after item and gives up at the first refused send -/
theorem paid_of_ok (h0 : ∀ l l', go [] l = .ok l' → l' = l)
    (h1 : ∀ x xs l l', go (x :: xs) l = .ok l' → ∃ l1, l.send src (to x) (amt x) = .ok l1 ∧ go xs l1 = .ok l') :
    ∀ (xs : List ι) (l l' : Ledger), go xs l = .ok l' →
      l' = paid src to amt l xs ∧ ∀ x ∈ xs, ∀ d, 0 ≤ Coins.amountOf (amt x) d
  | [], l, l', h => ⟨h0 l l' h, fun _ hx => nomatch hx⟩
  | x :: xs, l, l', h => by
    obtain ⟨l1, hs, h2⟩ := h1 x xs l l' h
    obtain ⟨hnn, _, rfl⟩ := (send_ok_iff ..).mp hs
    obtain ⟨rfl, ih⟩ := paid_of_ok h0 h1 xs _ l' h2
    exact ⟨rfl, fun y hy => by rcases List.mem_cons.mp hy with rfl | hy; exact hnn; exact ih y hy⟩

theorem paid_total (h0 : ∀ l, go [] l = .ok l)
    (h1 : ∀ x xs l l1, l.send src (to x) (amt x) = .ok l1 → go (x :: xs) l = go xs l1) :
    ∀ (xs : List ι) (l : Ledger), (∀ x ∈ xs, ∀ d, 0 ≤ Coins.amountOf (amt x) d) →
      (∀ d, (xs.map fun x => Coins.amountOf (amt x) d).sum ≤ l.balOf src d) → go xs l = .ok (paid src to amt l xs)
  | [], l, _, _ => h0 l
  | x :: xs, l, hnn, hc => by
    have hx := hnn x List.mem_cons_self
    have hxs : ∀ y ∈ xs, ∀ d, 0 ≤ Coins.amountOf (amt y) d := fun y hy => hnn y (List.mem_cons_of_mem _ hy)
    have hs : l.send src (to x) (amt x) = .ok (l.move src (to x) (amt x)) :=
      (send_ok_iff ..).mpr ⟨hx, fun d _ => by
        have := hc d; have := sum_map_nonneg (fun y => Coins.amountOf (amt y) d) fun y hy => hxs y hy d
        rw [List.map_cons, List.sum_cons] at *; omega, rfl⟩
    rw [h1 x xs l _ hs, paid_cons]
    refine paid_total h0 h1 xs _ hxs fun d => ?_
    have := hc d; have := hx d
    rw [List.map_cons, List.sum_cons] at *
    rw [balOf_move, beq_self_eq_true, if_pos rfl]; split <;> omega

/-- An escrow pays out part of what it holds: when `src` covers the items `xs`, the loop over those that pass `p` returns and
    `src` still covers the others. -/
theorem paid_filter_total (h0 : ∀ l, go [] l = .ok l)
    (h1 : ∀ x xs l l1, l.send src (to x) (amt x) = .ok l1 → go (x :: xs) l = go xs l1) (p : ι → Bool) (xs : List ι) (l : Ledger)
    (hnn : ∀ x ∈ xs, ∀ d, 0 ≤ Coins.amountOf (amt x) d)
    (hc : ∀ d, (xs.map fun x => Coins.amountOf (amt x) d).sum ≤ l.balOf src d) :
    ∃ l', go (xs.filter p) l = .ok l' ∧
      ∀ d, ((xs.filter fun x => !p x).map fun x => Coins.amountOf (amt x) d).sum ≤ l'.balOf src d := by
  have hcov := fun d => sum_filter_covered p (fun x => Coins.amountOf (amt x) d) (fun x hx => hnn x hx d) (hc d)
  have hnn' : ∀ x ∈ xs.filter p, ∀ d, 0 ≤ Coins.amountOf (amt x) d := fun x hx => hnn x (List.mem_filter.mp hx).1
  exact ⟨_, paid_total src to amt go h0 h1 _ l hnn' fun d => (hcov d).1,
    fun d => Int.le_trans (hcov d).2 (balOf_paid_src_ge src to amt d _ l fun x hx => hnn' x hx d)⟩

end pay

theorem send_single (l : Ledger) (src dst : Addr) (d : Denom) (x : Int) (h0 : 0 ≤ x) :
    l.send src dst [(d, x)] = if x ≤ l.balOf src d then .ok (l.move src dst [(d, x)]) else err "bank:insufficient-funds" := by
  unfold Ledger.send
  have h1 : Coins.isAnyNegative [(d, x)] = false := by
    simp [Coins.isAnyNegative, Coins.denoms_single]; omega
  have h2 : Coins.covers (l.bal src) [(d, x)] = decide (x ≤ l.balOf src d) := by
    simp [Coins.covers, Coins.denoms_single, Ledger.balOf]
    exact decide_eq_decide.mpr Iff.rfl
  rw [h1, h2]
  by_cases hx : x ≤ l.balOf src d <;> simp [hx]

theorem send_single_succeeds_iff (l : Ledger) (src dst : Addr) (d : Denom) (x : Int) :
    (∃ l', l.send src dst [(d, x)] = .ok l') ↔ 0 ≤ x ∧ x ≤ l.balOf src d := by
  simp only [Ledger.send_ok_iff, exists_and_left, exists_eq, and_true, Coins.denoms_single, List.mem_singleton, forall_eq,
    Coins.amountOf_single_cons]
  refine and_congr_left fun _ => ⟨fun h => by simpa using h d, fun h d' => ?_⟩
  split <;> omega

end Shentu.Ledger
