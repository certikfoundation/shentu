import Shentu.Proofs.C16mBytes
import Shentu.Proofs.VmLoop
/-
  What the model's memory functions (`ensureCap`, `memGrow`, `memWrite`, `memRead`) compute, in terms of plain byte-array
  operations (`grow`, `wr`) and of the byte view `byteAt`.
-/
namespace Shentu.C16mH
open Shentu.EVM Shentu.EVM.MemSpec

theorem memCap_val : memCap = 16777216 := rfl
theorem U64_val : U64 = 2 ^ 64 := rfl
theorem maxAlloc_val : maxAlloc = 2 ^ 48 := rfl
theorem maxInt32_val : maxInt32 = 2147483647 := rfl

theorem err_sticky {α : Type} {m : M α} {s s' : Frame} {o : Option α} (h : (m s).val = (o, s')) (he : s'.err = none) :
    s.err = none := by
  cases hs : s.err with
  | none => rfl
  | some e =>
    have := (inv_of h).2 (by rw [hs]; rfl)
    rw [he] at this
    cases this

/-- Burrow's `ensureCapacity`, when it succeeds: zero bytes appended up to `cap` -/
def grow (m : ByteArray) (cap : Nat) : ByteArray := if cap ≤ m.size then m else m ++ zeros (cap - m.size)

theorem grow_within (b : ByteArray) (cap : Nat) (h : cap ≤ b.size) : grow b cap = b := by
  unfold grow; rw [if_pos h]

/-- Burrow's `Memory.Write`, when it succeeds: grow, then overwrite `[o, o + v.size)` -/
def wr (m : ByteArray) (o : Nat) (v : ByteArray) : ByteArray := v.copySlice 0 (grow m (o + v.size)) o v.size

theorem ite_app {α : Type} {β : α → Type} (c : Prop) [Decidable c] (f g : (a : α) → β a) (s : α) :
    (if c then f else g) s = if c then f s else g s := by
  split <;> rfl

theorem ensureCap_ok (m : ByteArray) (cap : Nat) (h : cap ≤ memCap) : ensureCap m cap = some (grow m cap) := by
  unfold ensureCap grow
  have : ¬ cap > maxInt32 := by rw [memCap_val] at h; rw [maxInt32_val]; omega
  rw [if_neg this]
  split
  · rfl
  · rw [if_neg (by omega)]

theorem ensureCap_within (m : ByteArray) (cap : Nat) (h : cap ≤ m.size) (h2 : cap ≤ maxInt32) : ensureCap m cap = some m := by
  unfold ensureCap
  rw [if_neg (by omega), if_pos h]

theorem ensureCap_none (m : ByteArray) (cap : Nat) (h : memCap < cap) (h2 : m.size < cap) : ensureCap m cap = none := by
  unfold ensureCap
  split
  · rfl
  · rw [if_neg (by omega)]

theorem bl_grow (m : ByteArray) (cap : Nat) (h : cap < 2 ^ 65) :
    bl (grow m cap) = bl m ++ List.replicate (cap - m.size) 0 := by
  unfold grow
  split
  · next h1 =>
    have : cap - m.size = 0 := by omega
    simp [this]
  · rw [bl_append, bl_zeros _ (by omega)]

theorem size_grow (m : ByteArray) (cap : Nat) (h : cap < 2 ^ 65) : (grow m cap).size = max m.size cap := by
  rw [← bl_length, bl_grow m cap h, List.length_append, List.length_replicate, bl_length]
  omega

theorem byteAt_grow (m : ByteArray) (cap : Nat) (h : cap < 2 ^ 65) (i : Nat) : byteAt (grow m cap) i = byteAt m i := by
  unfold byteAt
  rw [bl_grow m cap h, List.getD_eq_getElem?_getD, List.getD_eq_getElem?_getD]
  by_cases hi : i < (bl m).length
  · rw [List.getElem?_append_left hi]
  · rw [List.getElem?_append_right (by omega), List.getElem?_eq_none (l := bl m) (by omega), List.getElem?_replicate]
    split <;> rfl

theorem bl_wr (m : ByteArray) (o : Nat) (v : ByteArray) :
    bl (wr m o v) = (bl (grow m (o + v.size))).take o ++ bl v ++ (bl (grow m (o + v.size))).drop (o + (bl v).length) := by
  unfold wr
  rw [bl_copySlice, Nat.zero_add, Nat.sub_zero, Nat.min_self, List.drop_zero, bl_length,
    List.take_of_length_le (Nat.le_of_eq (bl_length v))]

theorem size_wr (m : ByteArray) (o : Nat) (v : ByteArray) (h : o + v.size < 2 ^ 65) :
    (wr m o v).size = max m.size (o + v.size) := by
  have hg := size_grow m (o + v.size) h
  rw [← bl_length, bl_wr, length_splice _ _ _ (by rw [bl_length, bl_length, hg]; omega), bl_length, hg]

theorem byteAt_wr (m : ByteArray) (o : Nat) (v : ByteArray) (h : o + v.size < 2 ^ 65) (i : Nat) :
    byteAt (wr m o v) i = if o ≤ i ∧ i < o + v.size then (bl v).getD (i - o) 0 else byteAt m i := by
  have hg := size_grow m (o + v.size) h
  rw [← byteAt_grow m (o + v.size) h i]
  unfold byteAt
  rw [bl_wr, getD_splice _ _ _ _ _ (by rw [bl_length, bl_length, hg]; omega), bl_length]

theorem memWrite_ok (q : Quirks) (o : Nat) (v : ByteArray) (s : Frame)
    (hv : 0 < v.size ∨ q.zeroLenGrows = true) (hcap : o + v.size ≤ memCap) :
    (memWrite q o v s).val = (some (), { s with mem := wr s.mem o v }) := by
  have hc := memCap_val
  have hU := U64_val
  have h1 : (v.size == 0 && !q.zeroLenGrows) = false := by
    rcases hv with hv | hv
    · have : (v.size == 0) = false := by simp only [beq_eq_false_iff_ne]; omega
      simp [this]
    · simp [hv]
  have h2 : ¬ (o ≥ U64) := by omega
  have h3 : (o + v.size) % U64 = o + v.size := by rw [hU]; omega
  have h4 : ¬ (o > o + v.size) := by omega
  simp only [memWrite, bind, M.bind, pure, takeMem, setMem, h1, h2, h3, h4, if_false, Bool.false_eq_true,
    ensureCap_ok _ _ hcap, wr]

theorem memWrite_zero_spec (q : Quirks) (o : Nat) (v : ByteArray) (s : Frame) (hq : q.zeroLenGrows = false) (hv : v.size = 0) :
    (memWrite q o v s).val = (some (), s) := by
  simp only [memWrite, bind, pure, M.pure, hq, hv, BEq.rfl, Bool.not_false, Bool.and_self, if_true]

theorem memWrite_huge (q : Quirks) (o : Nat) (v : ByteArray) (s : Frame) (hv : 0 < v.size) (ho : U64 ≤ o) :
    (memWrite q o v s).val = (pushErr .generic s).val := by
  have h1 : (v.size == 0) = false := by simp only [beq_eq_false_iff_ne]; omega
  have h2 : (o ≥ U64) := ho
  simp only [memWrite, h1, h2, if_true, Bool.false_eq_true, Bool.false_and, if_false]

theorem memRead_ok (q : Quirks) (o l : Nat) (s : Frame) (hl : 0 < l ∨ q.zeroLenGrows = true) (hcap : o + l ≤ memCap) :
    (memRead q o l s).val = (some ((grow s.mem (o + l)).extract o (o + l)), { s with mem := grow s.mem (o + l) }) := by
  have hc := memCap_val
  have hU := U64_val
  have hA := maxAlloc_val
  have h1 : (l == 0 && !q.zeroLenGrows) = false := by
    rcases hl with hl | hl
    · have : (l == 0) = false := by simp only [beq_eq_false_iff_ne]; omega
      simp [this]
    · simp [hl]
  have h2 : ¬ (o ≥ U64 ∨ l ≥ U64) := by omega
  have h3 : (o + l) % U64 = o + l := by rw [hU]; omega
  have h4 : ¬ (o > o + l) := by omega
  have h5 : ¬ (l > maxAlloc) := by omega
  simp only [memRead, bind, M.bind, pure, M.pure, takeMem, setMem, h1, h2, h3, h4, h5, if_false, Bool.false_eq_true,
    ensureCap_ok _ _ hcap, Bool.or_eq_true, decide_eq_true_eq]

theorem memRead_within (q : Quirks) (o l : Nat) (s : Frame) (hl : 0 < l ∨ q.zeroLenGrows = true) (hcap : o + l ≤ memCap)
    (hsz : o + l ≤ s.mem.size) : (memRead q o l s).val = (some (s.mem.extract o (o + l)), s) := by
  rw [memRead_ok q o l s hl hcap, grow_within _ _ hsz]

theorem memRead_zero_spec (q : Quirks) (o : Nat) (s : Frame) (hq : q.zeroLenGrows = false) :
    (memRead q o 0 s).val = (some .empty, s) := by
  simp only [memRead, bind, pure, M.pure, hq, BEq.rfl, Bool.not_false, Bool.and_self, if_true]

/-- the memory need the cost lookup computes for an access at `(o, len)` (`calcMemSize64`, rounded up to words) -/
def memNeed (o len : Nat) : Nat := toWordSize (memSize64 o len).1 * 32

theorem memNeed_zero (o : Nat) : memNeed o 0 = 0 := by
  simp [memNeed, memSize64, memSize64U, toWordSize, U64_val]

theorem memNeed_pos (o len : Nat) (hl : 0 < len) (h : o + len ≤ memCap) : memNeed o len = 32 * ceil32 (o + len) := by
  have hc := memCap_val
  have hU := U64_val
  have hm : (memSize64 o len).1 = o + len := by
    unfold memSize64 memSize64U
    rw [if_neg (by omega), if_neg (by rw [beq_iff_eq]; omega), if_neg (by omega)]
    exact Nat.mod_eq_of_lt (by omega)
  unfold memNeed toWordSize ceil32
  rw [hm, if_neg (by omega), Nat.mul_comm]

theorem memNeed_le (o len : Nat) (hl : 0 < len) (h : o + len ≤ memCap) : memNeed o len ≤ memCap := by
  rw [memNeed_pos o len hl h, memCap_val]
  rw [memCap_val] at h
  unfold ceil32
  omega

theorem memNeed_ge (o len : Nat) (hl : 0 < len) (h : o + len ≤ memCap) : o + len ≤ memNeed o len := by
  rw [memNeed_pos o len hl h]
  unfold ceil32
  omega

theorem toWordSize_mono {a b : Nat} (h : a ≤ b) : toWordSize a ≤ toWordSize b := by
  have hU := U64_val
  unfold toWordSize
  split <;> split <;> omega

theorem toWordSize_max (a b : Nat) : toWordSize (max a b) * 32 = max (toWordSize a * 32) (toWordSize b * 32) := by
  rcases Nat.le_total a b with h | h
  · have := toWordSize_mono h
    rw [Nat.max_eq_right h]; omega
  · have := toWordSize_mono h
    rw [Nat.max_eq_left h]; omega

theorem memGrow_ok (t : Nat) (s : Frame) (h : t ≤ memCap) :
    (memGrow t s).val =
      (some (), { s with
                    mem := grow s.mem t
                    bigAlloc := if t ≤ s.mem.size then s.bigAlloc else max s.bigAlloc (t - s.mem.size) }) := by
  have hc := memCap_val
  have hA := maxAlloc_val
  by_cases h1 : t ≤ s.mem.size
  · simp only [memGrow, bind, M.bind, takeMem, setMem, h1, if_true, grow]
  · have h2 : ¬ (t - s.mem.size > maxAlloc) := by omega
    simp only [memGrow, bind, M.bind, takeMem, setMem, noteAlloc, h1, h2, if_false, ensureCap_ok _ _ h]

theorem expandMemory_ok (t : Nat) (s : Frame) (he : s.err = none) : expandMemory t s = memGrow t s := by
  simp only [expandMemory, bind, M.bind, getF, he, Option.isSome_none, Bool.false_eq_true, if_false]

end Shentu.C16mH
