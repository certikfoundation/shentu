import Shentu.Proofs.HaltGov
/-
  C11 at the level of histories: the vocabulary (operations, step function, ghost logs, the escrow invariant),
  liveness of a proposal in the proposal store, and the case analysis of a step (`step_ind`).
-/
namespace Shentu.C11H
open Shentu Shentu.Gov
open Shentu.Halt.Gv (depSum)

/-- what a block or a transaction sees of its surroundings; every step of a history brings its own -/
structure Ctx where
  t : Int
  bond : Denom
  stake : StakeView

/-- the environment of the governance model: the step's surroundings plus the (fixed) module account -/
def env (m : Addr) (x : Ctx) : Env := { t := x.t, bond := x.bond, modAddr := m, stake := x.stake }

inductive Op where
  /-- `MsgSubmitProposal` with its initial deposit -/
  | submit (x : Ctx) (proposer : Addr) (p0 : Proposal) (deposit : Coins)
  /-- `MsgDeposit` -/
  | deposit (x : Ctx) (pid : Nat) (depositor : Addr) (amt : Coins)
  /-- `MsgVote` -/
  | vote (pid : Nat) (voter : Addr) (option : Nat)
  | endBlock (x : Ctx)
  | transfer (src dst : Addr) (amt : Coins)

/-- One step on the world.  A failed transaction leaves the world unchanged.  The module account `m` has no key: it
    signs no transaction, and it is a blocked recipient of bank transfers; such operations are failed transactions.
    A halting end blocker also leaves the world unchanged here; `endBlock_never_halts` shows that it does not happen. -/
def stepW (m : Addr) (w : World) : Op → World
  | .submit x pr p0 dep =>
    if pr == m then w else match submit (env m x) w pr p0 dep with | .ok w' => w' | .error _ => w
  | .deposit x pid a amt =>
    if a == m then w else match addDeposit (env m x) w pid a amt with | .ok w' => w' | .error _ => w
  | .vote pid v o => match vote w pid v o with | .ok w' => w' | .error _ => w
  | .endBlock x => match endBlock (env m x) w with | .ok w' => w' | .error _ => w
  | .transfer s d amt =>
    if s == m || d == m then w else match w.l.send s d amt with | .ok l' => { w with l := l' } | .error _ => w

def runW (m : Addr) (w : World) (ops : List Op) : World := ops.foldl (stepW m) w

/-- a deposit that was accepted: proposal, depositor, amount -/
structure DepEv where
  pid : Nat
  depositor : Addr
  amount : Coins

/-- a payment out of the escrow: the deposit of `to` for proposal `pid` is refunded to `to`, or burned -/
structure Pay where
  pid : Nat
  to : Addr
  amount : Coins
  burned : Bool

/-- what settling proposal `pid` pays: one entry per deposit record of the proposal -/
def payOf (burned : Bool) (ds : List Deposit) (pid : Nat) : List Pay :=
  (ds.filter (·.pid == pid)).map (fun x => { pid := pid, to := x.depositor, amount := x.amount, burned := burned })

/-- total deposited by `a` for `pid` according to the deposit log -/
def depTot (L : List DepEv) (pid : Nat) (a : Addr) (d : Denom) : Int :=
  ((L.filter (fun x => x.pid == pid && x.depositor == a)).map (fun x => Coins.amountOf x.amount d)).sum
/-- total refunded to `a` or burned on `a`'s account for `pid` according to the payment log -/
def paidTot (L : List Pay) (pid : Nat) (a : Addr) (d : Denom) : Int :=
  ((L.filter (fun x => x.pid == pid && x.to == a)).map (fun x => Coins.amountOf x.amount d)).sum
/-- total refunded to account `a` (all proposals) -/
def refundedTo (L : List Pay) (a : Addr) (d : Denom) : Int :=
  ((L.filter (fun x => !x.burned && x.to == a)).map (fun x => Coins.amountOf x.amount d)).sum
/-- total burned (all proposals) -/
def burnedSum (L : List Pay) (d : Denom) : Int :=
  ((L.filter (·.burned)).map (fun x => Coins.amountOf x.amount d)).sum

/-- the payments of the dropped proposals (deposit period over) -/
def dropLog (w : World) (p : Proposal) : List Pay := payOf false w.g.deposits p.id

/-- the payments `processActive` makes, from the outcome it computes: nothing when the certifier round hands over to
    the validator round, a burn when the stake tally says veto, a refund otherwise -/
def activeLog (e : Env) (w : World) (p : Proposal) : List Pay :=
  if p.status == 2 then
    if !(securityTally w.g w.c p).2.1 then [] else payOf false w.g.deposits p.id
  else payOf (stakeTally e w.g p 0).2.1 w.g.deposits p.id

/-- the payments of the early decision of the certifier round -/
def secLog (w : World) (p : Proposal) : List Pay :=
  if p.status != 2 then []
  else if !(securityTally w.g w.c p).1 then []
  else if (securityTally w.g w.c p).2.1 then (if Gen.Gov.earlyPassRefunds then payOf false w.g.deposits p.id else [])
  else []

/-- the log of a fold over proposal identifiers, along `foldIds` -/
def foldLog (f : World → Proposal → Except Err World) (lg : World → Proposal → List Pay) : List Nat → World → List Pay
  | [], _ => []
  | id :: ids, w => match findP w.g id with
    | none => foldLog f lg ids w
    | some p => match f w p with
      | .error _ => []
      | .ok w' => lg w p ++ foldLog f lg ids w'

/-- the payments of one end blocker, along `endBlock` -/
def endBlockLog (e : Env) (w : World) : List Pay :=
  let f1 := fun (w : World) (p : Proposal) => refundDeposits e { w with g := delP w.g p.id } p.id
  let inactive := (sortByKey (·.depositEnd) (w.g.proposals.filter (fun p => p.status == 1 && p.depositEnd ≤ e.t))).map (·.id)
  match foldIds f1 inactive w with
  | .error _ => []
  | .ok w1 =>
    let active := (sortByKey (·.votingEnd) (w1.g.proposals.filter (fun p => (p.status == 2 || p.status == 3) && p.votingEnd ≤ e.t))).map (·.id)
    match foldIds (processActive e) active w1 with
    | .error _ => []
    | .ok w2 =>
      let all := (sortByKey (·.votingEnd) (w2.g.proposals.filter (fun p => p.status == 2 || p.status == 3))).map (·.id)
      foldLog f1 dropLog inactive w ++ (foldLog (processActive e) (activeLog e) active w1 ++
        foldLog (processSecurityVote e) secLog all w2)

/-- the deposits a step accepts -/
def depLog (m : Addr) (w : World) : Op → List DepEv
  | .submit x pr p0 dep =>
    if pr == m then [] else match submit (env m x) w pr p0 dep with
      | .ok _ => if isCouncil (env m x) w.c pr then [] else [{ pid := w.g.nextId, depositor := pr, amount := dep }]
      | .error _ => []
  | .deposit x pid a amt =>
    if a == m then [] else match addDeposit (env m x) w pid a amt with
      | .ok _ => [{ pid := pid, depositor := a, amount := amt }]
      | .error _ => []
  | _ => []

/-- the payments a step makes -/
def payLog (m : Addr) (w : World) : Op → List Pay
  | .endBlock x => match endBlock (env m x) w with
    | .ok _ => endBlockLog (env m x) w
    | .error _ => []
  | _ => []

/-- the world together with the two ghost logs -/
structure G where
  w : World
  deps : List DepEv
  pays : List Pay

def stepG (m : Addr) (g : G) (op : Op) : G :=
  { w := stepW m g.w op, deps := g.deps ++ depLog m g.w op, pays := g.pays ++ payLog m g.w op }

def runG (m : Addr) (g : G) (ops : List Op) : G := ops.foldl (stepG m) g

theorem runG_w (m : Addr) (ops : List Op) (g : G) : (runG m g ops).w = runW m g.w ops :=
  (List.foldl_hom G.w (fun _ _ => rfl)).symm

/-- proposal `pid` exists and is in its deposit period (1), certifier voting period (2) or validator voting period (3) -/
def Live (g : State) (pid : Nat) : Prop := ∃ p, findP g pid = some p ∧ (p.status = 1 ∨ p.status = 2 ∨ p.status = 3)

structure EscrowInv (m : Addr) (w : World) : Prop where
  /-- the module account holds exactly the sum of all deposit records, in every denomination -/
  held : ∀ d, w.l.balOf m d = depSum w.g.deposits d
  /-- every deposit record belongs to a proposal that exists and is in its deposit or a voting period -/
  live : ∀ x ∈ w.g.deposits, Live w.g x.pid
  valid : ∀ x ∈ w.g.deposits, ∀ d, 0 ≤ Coins.amountOf x.amount d
  foreign : ∀ x ∈ w.g.deposits, x.depositor ≠ m

/-- an initial state: no proposal, no record, nothing in the module account (anything else is arbitrary) -/
structure Init (m : Addr) (w : World) : Prop where
  noProposal : w.g.proposals = []
  noDeposit : w.g.deposits = []
  empty : ∀ d, w.l.balOf m d = 0

theorem EscrowInv.init {m : Addr} {w : World} (h : Init m w) : EscrowInv m w := by
  have hnone : ∀ x ∈ w.g.deposits, False := by rw [h.noDeposit]; exact fun _ hx => List.not_mem_nil hx
  refine ⟨fun d => ?_, fun x hx => (hnone x hx).elim, fun x hx => (hnone x hx).elim, fun x hx => (hnone x hx).elim⟩
  rw [h.empty, h.noDeposit]; rfl

theorem EscrowInv.toEscrow {e : Env} {w : World} (h : EscrowInv e.modAddr w) : Shentu.Halt.Gv.Escrow e w :=
  ⟨fun x hx => (Coins.isAnyNegative_eq_false_iff _).mpr (h.valid x hx), fun d => by rw [h.held d]; exact Int.le_refl _⟩

theorem live_setP_self {g : State} {q : Proposal} (hq : q.status = 1 ∨ q.status = 2 ∨ q.status = 3) : Live (setP g q) q.id :=
  ⟨q, findP_setP_self g q, hq⟩

theorem live_setP_ne {g : State} {q : Proposal} {id : Nat} (hne : id ≠ q.id) (h : Live g id) : Live (setP g q) id := by
  unfold Live; rw [findP_setP_ne g hne]; exact h

theorem live_setP {g : State} {q : Proposal} (hq : q.status = 1 ∨ q.status = 2 ∨ q.status = 3) {id : Nat} (h : Live g id) :
    Live (setP g q) id := by
  by_cases hc : id = q.id
  · exact hc ▸ live_setP_self hq
  · exact live_setP_ne hc h

theorem live_activate {e : Env} {g : State} {p : Proposal} {id : Nat} (h : Live g id) :
    Live (activateVotingPeriod e g p) id := live_setP (Or.inr (activated_status e g p)) h

theorem live_congr {g g' : State} (h : g'.proposals = g.proposals) {id : Nat} (hl : Live g id) : Live g' id := by
  unfold Live; rw [findP_congr h]; exact hl

/-- A step with its two log entries is nothing at all (a failed transaction), or a successful call of one operation
    by somebody other than the module account.  To prove something of every step, prove it of these six. -/
theorem step_ind {motive : Op → World → List DepEv → List Pay → Prop} (m : Addr) (w : World)
    (hidle : ∀ op, motive op w [] [])
    (hsubmit : ∀ x pr p0 dep w', pr ≠ m → submit (env m x) w pr p0 dep = .ok w' →
      motive (.submit x pr p0 dep) w'
        (if isCouncil (env m x) w.c pr then [] else [{ pid := w.g.nextId, depositor := pr, amount := dep }]) [])
    (hdeposit : ∀ x pid a amt w', a ≠ m → addDeposit (env m x) w pid a amt = .ok w' →
      motive (.deposit x pid a amt) w' [{ pid := pid, depositor := a, amount := amt }] [])
    (hvote : ∀ pid v o w', vote w pid v o = .ok w' → motive (.vote pid v o) w' [] [])
    (hblock : ∀ x w', endBlock (env m x) w = .ok w' → motive (.endBlock x) w' [] (endBlockLog (env m x) w))
    (htransfer : ∀ s d amt l', s ≠ m → d ≠ m → w.l.send s d amt = .ok l' →
      motive (.transfer s d amt) { w with l := l' } [] []) :
    ∀ op, motive op (stepW m w op) (depLog m w op) (payLog m w op) := by
  intro op
  cases op with
  | submit x pr p0 dep =>
    simp only [stepW, depLog, payLog]
    split
    · exact hidle _
    · rename_i hne
      cases hs : submit (env m x) w pr p0 dep with
      | error _ => exact hidle _
      | ok w' => exact hsubmit x pr p0 dep w' (by simpa using hne) hs
  | deposit x pid a amt =>
    simp only [stepW, depLog, payLog]
    split
    · exact hidle _
    · rename_i hne
      cases hs : addDeposit (env m x) w pid a amt with
      | error _ => exact hidle _
      | ok w' => exact hdeposit x pid a amt w' (by simpa using hne) hs
  | vote pid v o =>
    simp only [stepW, depLog, payLog]
    cases hs : vote w pid v o with
    | error _ => exact hidle _
    | ok w' => exact hvote pid v o w' hs
  | endBlock x =>
    simp only [stepW, depLog, payLog]
    cases hs : endBlock (env m x) w with
    | error _ => exact hidle _
    | ok w' => exact hblock x w' hs
  | transfer s d amt =>
    simp only [stepW, depLog, payLog]
    split
    · exact hidle _
    · rename_i hne
      simp only [Bool.or_eq_true, beq_iff_eq, not_or] at hne
      cases hs : w.l.send s d amt with
      | error _ => exact hidle _
      | ok l' => exact htransfer s d amt l' hne.1 hne.2 hs

end Shentu.C11H
