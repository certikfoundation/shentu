/-
  Facts about lists that several models need: a sum does not depend on the order, splits along a test and is
  non-negative with its summands; an insertion that walks past the elements passing a test permutes, and keeps an order
  when every element lies on its side of the new one; the write "change the first record hit, else append" (`upd`).
-/
namespace Shentu

theorem sum_map_perm {α} (f : α → Int) {l₁ l₂ : List α} (p : l₁.Perm l₂) : (l₁.map f).sum = (l₂.map f).sum := by
  induction p with
  | nil => rfl
  | cons x _ ih => simp only [List.map_cons, List.sum_cons, ih]
  | swap x y l => simp only [List.map_cons, List.sum_cons]; omega
  | trans _ _ ih1 ih2 => exact ih1.trans ih2

theorem sum_map_nonneg {α} (f : α → Int) {l : List α} (h : ∀ x ∈ l, 0 ≤ f x) : 0 ≤ (l.map f).sum := by
  induction l with
  | nil => exact Int.le_refl 0
  | cons x xs ih =>
    have := h x List.mem_cons_self
    have := ih fun y hy => h y (List.mem_cons_of_mem _ hy)
    rw [List.map_cons, List.sum_cons]; omega

theorem sum_filter_split {α} (p : α → Bool) (g : α → Int) : ∀ l : List α,
    (l.map g).sum = ((l.filter p).map g).sum + ((l.filter (fun x => !(p x))).map g).sum
  | [] => rfl
  | x :: xs => by
    have ih := sum_filter_split p g xs
    rw [List.filter_cons, List.filter_cons]
    cases p x <;> simp only [Bool.not_false, Bool.not_true, if_true, Bool.false_eq_true, if_false, List.map_cons, List.sum_cons] <;> omega

theorem sum_filter_covered {α : Type} (p : α → Bool) (g : α → Int) {l : List α} (hg : ∀ x ∈ l, 0 ≤ g x) {b : Int}
    (h : (l.map g).sum ≤ b) :
    ((l.filter p).map g).sum ≤ b ∧ ((l.filter (fun x => !(p x))).map g).sum ≤ b - ((l.filter p).map g).sum := by
  have := sum_filter_split p g l
  have := sum_map_nonneg g (l := l.filter (fun x => !(p x))) fun x hx => hg x (List.mem_filter.mp hx).1
  omega

/-- the sorted insertions of the models (`insertWithdraw`, `insertProvider`, `insByKey`, `insertSlice`, …) have this shape:
    walk past the elements that pass a test against the new one, put it in front of the first that fails.  Whatever the
    test, that permutes. -/
theorem insert_perm {α : Type} (ins : α → List α → List α) {c : α → α → Prop} [∀ y x, Decidable (c y x)]
    (h0 : ∀ x, ins x [] = [x]) (h1 : ∀ x y ys, ins x (y :: ys) = if c y x then y :: ins x ys else x :: y :: ys)
    (x : α) (l : List α) : (ins x l).Perm (x :: l) := by
  induction l with
  | nil => rw [h0]
  | cons y ys ih =>
    rw [h1]; split
    · exact (ih.cons y).trans (List.Perm.swap x y ys)
    · exact List.Perm.refl _

/-- a lookup after such an insertion (`insertSlice`, `insertUbd`), when the new element is the only one its test finds -/
theorem find_insert {α : Type} (ins : α → List α → List α) {c : α → α → Prop} [∀ y x, Decidable (c y x)]
    (h0 : ∀ x, ins x [] = [x]) (h1 : ∀ x y ys, ins x (y :: ys) = if c y x then y :: ins x ys else x :: y :: ys)
    (P : α → Bool) (x : α) (l : List α) (hl : P x = true → ∀ y ∈ l, P y = false) :
    (ins x l).find? P = if P x then some x else l.find? P := by
  induction l with
  | nil => rw [h0]; cases hx : P x <;> simp [hx]
  | cons y ys ih =>
    have ih' := ih (fun hx z hz => hl hx z (List.mem_cons_of_mem _ hz))
    rw [h1]; split
    · rw [List.find?_cons, List.find?_cons (as := ys), ih']
      cases hy : P y
      · rfl
      · cases hx : P x
        · rfl
        · rw [hl hx y (List.mem_cons_self ..)] at hy; cases hy
    · rw [List.find?_cons]; cases hx : P x <;> rfl

/-- hence sorting by insertion (`sortVotes`, `sortByKey`, `ranked`, `sortedUnbondings`) permutes -/
theorem foldr_insert_perm {α : Type} (ins : α → List α → List α) (h : ∀ x l, (ins x l).Perm (x :: l)) :
    ∀ l : List α, (l.foldr ins []).Perm l
  | [] => .refl _
  | x :: xs => (h x _).trans ((foldr_insert_perm ins h xs).cons x)

theorem insert_pairwise {α : Type} (ins : α → List α → List α) {c : α → α → Prop} [∀ y x, Decidable (c y x)]
    {R : α → α → Prop} (h0 : ∀ x, ins x [] = [x])
    (h1 : ∀ x y ys, ins x (y :: ys) = if c y x then y :: ins x ys else x :: y :: ys)
    (ht : ∀ {a b d}, R a b → R b d → R a d) (x : α) (l : List α)
    (hside : ∀ y ∈ l, if c y x then R y x else R x y) (hl : l.Pairwise R) : (ins x l).Pairwise R := by
  induction l with
  | nil => rw [h0]; exact List.pairwise_singleton _ _
  | cons y ys ih =>
    have hy := hside y List.mem_cons_self
    have hp := List.pairwise_cons.mp hl
    rw [h1]; split
    · next hc =>
      rw [if_pos hc] at hy
      refine List.pairwise_cons.mpr ⟨fun z hz => ?_, ih (fun z hz => hside z (List.mem_cons_of_mem _ hz)) hp.2⟩
      rcases List.mem_cons.mp ((insert_perm ins h0 h1 x ys).mem_iff.mp hz) with rfl | hz
      · exact hy
      · exact hp.1 z hz
    · next hc =>
      rw [if_neg hc] at hy
      refine List.pairwise_cons.mpr ⟨fun z hz => ?_, hl⟩
      rcases List.mem_cons.mp hz with rfl | hz
      · exact hy
      · exact ht hy (hp.1 z hz)

/-- The keyed writes of the models (`Gov.upsertDeposit`, `Gov.setVote`, `Oracle.upsertWd`) have one shape: the first record
    that is hit is changed, else a new one is appended. -/
def upd {α : Type} (hit : α → Bool) (f : α → α) (new : α) : List α → List α
  | [] => [new]
  | x :: xs => if hit x then f x :: xs else x :: upd hit f new xs


section Upd
variable {α : Type} {hit : α → Bool} {f : α → α} {new : α}

theorem upd_cons (x : α) (xs : List α) :
    upd hit f new (x :: xs) = if hit x then f x :: xs else x :: upd hit f new xs := rfl

theorem mem_upd : ∀ (l : List α) (x : α), x ∈ upd hit f new l → x ∈ l ∨ (∃ y ∈ l, hit y = true ∧ x = f y) ∨ x = new := by
  intro l
  induction l with
  | nil => intro x hx; exact Or.inr (Or.inr (List.mem_singleton.mp hx))
  | cons y ys ih =>
    intro x hx
    unfold upd at hx
    split at hx
    · rename_i hy
      rcases List.mem_cons.mp hx with h | h
      · exact Or.inr (Or.inl ⟨y, List.mem_cons_self, hy, h⟩)
      · exact Or.inl (List.mem_cons_of_mem _ h)
    · rcases List.mem_cons.mp hx with h | h
      · exact Or.inl (h ▸ List.mem_cons_self)
      · rcases ih x h with h' | ⟨z, hz, h'⟩ | h'
        · exact Or.inl (List.mem_cons_of_mem _ h')
        · exact Or.inr (Or.inl ⟨z, List.mem_cons_of_mem _ hz, h'⟩)
        · exact Or.inr (Or.inr h')

/-- what holds of every record, of the changed copy of a record that is hit, and of the new record holds after `upd` -/
theorem forall_upd {P : α → Prop} {l : List α} (h : ∀ x ∈ l, P x) (hf : ∀ y ∈ l, hit y = true → P (f y)) (hn : P new) :
    ∀ x ∈ upd hit f new l, P x := by
  intro x hx
  rcases mem_upd l x hx with h1 | ⟨y, hy, hh, rfl⟩ | rfl
  · exact h x h1
  · exact hf y hy hh
  · exact hn

theorem pairwise_upd {R : α → α → Prop} (hf : ∀ y z, (R (f y) z ↔ R y z) ∧ (R z (f y) ↔ R z y))
    (hnew : ∀ y, hit y = false → R y new) : ∀ (l : List α), l.Pairwise R → (upd hit f new l).Pairwise R := by
  intro l
  induction l with
  | nil => intro _; exact List.pairwise_singleton _ _
  | cons y ys ih =>
    intro h
    rw [List.pairwise_cons] at h
    unfold upd
    split
    · exact List.pairwise_cons.mpr ⟨fun x hx => (hf y x).1.mpr (h.1 x hx), h.2⟩
    · rename_i hy
      refine List.pairwise_cons.mpr ⟨fun x hx => ?_, ih h.2⟩
      rcases mem_upd ys x hx with h' | ⟨z, hz, _, rfl⟩ | rfl
      · exact h.1 x h'
      · exact (hf z y).2.mpr (h.1 z hz)
      · exact hnew y (by simpa using hy)

theorem filter_upd (p : α → Bool) (hf : ∀ y, p (f y) = p y) (hh : ∀ y, hit y = true → p y = p new) : ∀ (l : List α),
    (upd hit f new l).filter p = if p new then upd hit f new (l.filter p) else l.filter p := by
  intro l
  induction l with
  | nil => cases hn : p new <;> simp [upd, hn]
  | cons x xs ih =>
    rw [upd_cons, List.filter_cons (x := x)]
    by_cases hx : hit x = true
    · -- `x` is the record hit: `f x` passes the filter iff `x` does iff `new` does
      rw [if_pos hx, List.filter_cons, hf x, hh x hx]
      cases p new
      · rfl
      · simp only [↓reduceIte, upd_cons, if_pos hx]
    · -- `x` is passed over, before and after filtering
      rw [if_neg hx, List.filter_cons, ih]
      cases p x
      · rfl
      · cases p new
        · rfl
        · simp only [↓reduceIte, upd_cons, if_neg hx]

theorem filter_upd_congr (p : α → Bool) (hf : ∀ y, p (f y) = p y) (hh : ∀ y, hit y = true → p y = p new) {l l' : List α}
    (h : l.filter p = l'.filter p) : (upd hit f new l).filter p = (upd hit f new l').filter p := by
  rw [filter_upd p hf hh, filter_upd p hf hh, h]


theorem sum_filter_upd (p : α → Bool) (g : α → Int) (δ : Int) (hp : ∀ y, hit y = true → p (f y) = p new ∧ p y = p new)
    (hg : ∀ y, hit y = true → g (f y) = g y + δ) (hn : g new = δ) : ∀ l : List α,
    (((upd hit f new l).filter p).map g).sum = ((l.filter p).map g).sum + if p new then δ else 0
  | [] => by cases h : p new <;> simp [upd, h, hn]
  | x :: xs => by
    rw [upd_cons]
    by_cases hx : hit x = true
    · rw [if_pos hx, List.filter_cons, List.filter_cons, (hp x hx).1, (hp x hx).2]
      cases p new
      · simp
      · simp only [if_true, List.map_cons, List.sum_cons, hg x hx]; omega
    · rw [if_neg hx, List.filter_cons, List.filter_cons]
      have ih := sum_filter_upd p g δ hp hg hn xs
      cases p x
      · simpa using ih
      · simp only [if_true, List.map_cons, List.sum_cons, ih]; omega

theorem sum_upd (g : α → Int) (δ : Int) (hg : ∀ y, hit y = true → g (f y) = g y + δ) (hn : g new = δ) (l : List α) :
    ((upd hit f new l).map g).sum = (l.map g).sum + δ := by
  have := sum_filter_upd (hit := hit) (f := f) (new := new) (fun _ => true) g δ (fun _ _ => ⟨rfl, rfl⟩) hg hn l
  rwa [List.filter_eq_self.mpr fun _ _ => rfl, List.filter_eq_self.mpr fun _ _ => rfl, if_pos rfl] at this

end Upd

end Shentu
