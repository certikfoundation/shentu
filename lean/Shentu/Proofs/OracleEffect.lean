import Shentu.Proofs.OracleLemmas
/-
  Handling the task with store key `k` in the end-blocker is described as an *effect* `app k f incs` on the state: every task
  with key `k` is replaced through `f`, and the reward increments `incs` are credited to the operators one after the other
  (`credit`: what `setOp s { o with rew := Coins.add o.rew c }` does for the operator `o` found at that address).  The effect (or the
  panic) is the same for every state that has the same parameters, the same collateral per address and the same task under
  `k` (`Agree`): `endOne_eq`.  A task that was handled is replaced by a finished copy of itself (`Fin`, `endOneE_cases`).
  Where paying a bounty has a value, the increments and the responses it leaves are functions of the responses: one share
  `amount · weight / total` per response that counts (`wt`, `shares`, `marks`; `payCoinE_closed`, `payAllE_shares`).
-/
namespace Shentu.Oracle
open Shentu

/-- what `setOp s { o with rew := Coins.add o.rew c }` does to the operator list, for `o` the operator found at `a` -/
def credit (a : Addr) (c : Coins) (ops : List Operator) : List Operator :=
  match ops.find? (·.addr == a) with
  | none => ops
  | some o => ops.map (fun x => if x.addr == a then { o with rew := Coins.add o.rew c } else x)

def credits (incs : List (Addr × Coins)) (ops : List Operator) : List Operator :=
  incs.foldl (fun l i => credit i.1 i.2 l) ops

@[simp] theorem credits_nil (ops : List Operator) : credits [] ops = ops := rfl
@[simp] theorem credits_cons (i : Addr × Coins) (incs : List (Addr × Coins)) (ops : List Operator) :
    credits (i :: incs) ops = credits incs (credit i.1 i.2 ops) := rfl
theorem credits_append (l1 l2 : List (Addr × Coins)) (ops : List Operator) :
    credits (l1 ++ l2) ops = credits l2 (credits l1 ops) := by
  simp [credits, List.foldl_append]

theorem credit_none {a : Addr} {c : Coins} {l : List Operator} (h : l.find? (·.addr == a) = none) : credit a c l = l := by
  simp [credit, h]

theorem credit_some {a : Addr} {c : Coins} {l : List Operator} {o : Operator} (h : l.find? (·.addr == a) = some o) :
    credit a c l = l.map (fun x => if x.addr == a then { o with rew := Coins.add o.rew c } else x) := by
  simp [credit, h]

theorem find_credit_some {a : Addr} (c : Coins) {l : List Operator} {o : Operator} (h : l.find? (·.addr == a) = some o) (b : Addr) :
    (credit a c l).find? (·.addr == b) = if a == b then some { o with rew := Coins.add o.rew c } else l.find? (·.addr == b) := by
  rw [credit_some h, Keyed.find_update Operator.addr (F := fun _ => { o with rew := Coins.add o.rew c }) (fun _ _ => (find_addr h : o.addr = a)), h]
  simp only [beq_iff_eq]; rfl

theorem find_credit_coll (a : Addr) (c : Coins) (l : List Operator) (b : Addr) :
    ((credit a c l).find? (·.addr == b)).map (·.coll) = (l.find? (·.addr == b)).map (·.coll) := by
  cases h : l.find? (·.addr == a) with
  | none => rw [credit_none h]
  | some o =>
    rw [find_credit_some c h]
    by_cases hab : a == b
    · have : a = b := by simpa using hab
      subst this
      simp [h]
    · simp [hab]

theorem find_credits_coll (incs : List (Addr × Coins)) : ∀ (l : List Operator) (b : Addr),
    ((credits incs l).find? (·.addr == b)).map (·.coll) = (l.find? (·.addr == b)).map (·.coll) := by
  induction incs with
  | nil => intro l b; rfl
  | cons i incs ih => intro l b; rw [credits_cons, ih, find_credit_coll]

def collOf (s : State) (a : Addr) : Option Coins := (findOp s a).map (·.coll)

/-- what handling a task reads of the operators: the parameters and the collateral per address -/
def View (s u : State) : Prop := s.params = u.params ∧ ∀ a, collOf s a = collOf u a

theorem View.refl (s : State) : View s s := ⟨rfl, fun _ => rfl⟩
theorem View.symm {s u : State} (h : View s u) : View u s := ⟨h.1.symm, fun a => (h.2 a).symm⟩
theorem View.trans {s u v : State} (h1 : View s u) (h2 : View u v) : View s v := ⟨h1.1.trans h2.1, fun a => (h1.2 a).trans (h2.2 a)⟩

theorem collOf_credits {u u' : State} {incs : List (Addr × Coins)} (h : u'.ops = credits incs u.ops) (a : Addr) :
    collOf u' a = collOf u a := by
  simp only [collOf, findOp, h]; exact find_credits_coll incs u.ops a

theorem View.of_ops {u u' : State} {incs : List (Addr × Coins)} (ho : u'.ops = credits incs u.ops)
    (hp : u'.params = u.params) : View u u' :=
  ⟨hp.symm, fun a => (collOf_credits ho a).symm⟩

theorem SameColl.of_ops {u u' : State} {incs : List (Addr × Coins)} (ho : u'.ops = credits incs u.ops)
    (hw : u'.wds = u.wds) : SameColl u u' :=
  ⟨hw, collOf_credits ho⟩

theorem View.findOp_none {s u : State} (h : View s u) {a : Addr} (hf : findOp s a = none) : findOp u a = none := by
  rcases map_eq_cases (h.2 a) with ⟨_, h2⟩ | ⟨o, _, h1, _⟩
  · exact h2
  · rw [hf] at h1; cases h1

theorem View.findOp_some {s u : State} (h : View s u) {a : Addr} {o : Operator} (hf : findOp s a = some o) :
    ∃ o', findOp u a = some o' := by
  rcases map_eq_cases (h.2 a) with ⟨h1, _⟩ | ⟨_, o', _, h2, _⟩
  · rw [hf] at h1; cases h1
  · exact ⟨o', h2⟩

theorem View.collateralAmount {s u : State} (h : View s u) (bond : Denom) (a : Addr) :
    collateralAmount bond s a = collateralAmount bond u a := by
  unfold Oracle.collateralAmount
  rcases map_eq_cases (h.2 a) with ⟨h1, h2⟩ | ⟨o, o', h1, h2, hc⟩ <;> rw [h1, h2]
  dsimp only; rw [hc]

theorem View.respWeight {s u : State} (h : View s u) (bond : Denom) (b : Nat) (r : Response) :
    respWeight bond s b r = respWeight bond u b r := by
  unfold Oracle.respWeight; rw [h.collateralAmount, h.1]

theorem View.eligible {s u : State} (h : View s u) (b : Nat) (r : Response) : eligible s b r = eligible u b r := by
  unfold Oracle.eligible; rw [h.1]

theorem View.totalValid {s u : State} (h : View s u) (bond : Denom) (b : Nat) :
    ∀ (rs : List Response) (acc : Int), totalValid bond s b rs acc = totalValid bond u b rs acc := by
  intro rs
  induction rs with
  | nil => intro acc; simp [Oracle.totalValid]
  | cons r rest ih =>
    intro acc
    rw [Oracle.totalValid, Oracle.totalValid, h.eligible, h.respWeight]
    simp only [ih]

theorem View.branch {s u : State} (h : View s u) (t : Task) : branch s t = branch u t := by
  unfold Oracle.branch; rw [h.1]
theorem View.branchDB {s u : State} (h : View s u) (t : Task) : branchDB s t = branchDB u t := by
  unfold Oracle.branchDB; rw [h.1]
theorem View.eligibleDB {s u : State} (h : View s u) (b : Nat) (r : Response) : eligibleDB s b r = eligibleDB u b r := by
  unfold Oracle.eligibleDB; rw [h.1]
theorem View.payAmount {s u : State} (h : View s u) (bond : Denom) (b : Nat) (amount tv : Int) (r : Response) :
    payAmount bond s b amount tv r = payAmount bond u b amount tv r := by
  unfold Oracle.payAmount; rw [h.collateralAmount, h.1]

theorem View.aggFold {s u : State} (h : View s u) (bond : Denom) :
    ∀ (rs : List Response) (a : Agg), aggFold bond s rs a = aggFold bond u rs a := by
  intro rs
  induction rs with
  | nil => intro a; simp [Oracle.aggFold]
  | cons r rest ih =>
    intro a
    rw [Oracle.aggFold, Oracle.aggFold, h.collateralAmount]
    simp only [ih]

/-- the effect `app` below without a task: the reward increments are credited in order -/
def withCredits (incs : List (Addr × Coins)) (u : State) : State := { u with ops := credits incs u.ops }

@[simp] theorem withCredits_nil (u : State) : withCredits [] u = u := rfl
theorem withCredits_withCredits (l1 l2 : List (Addr × Coins)) (u : State) :
    withCredits l2 (withCredits l1 u) = withCredits (l1 ++ l2) u := by
  simp [withCredits, credits_append]

theorem view_withCredits (incs : List (Addr × Coins)) (u : State) : View u (withCredits incs u) := .of_ops rfl rfl

theorem setOp_credit {u : State} {a : Addr} {o : Operator} (c : Coins) (h : findOp u a = some o) :
    setOp u { o with rew := Coins.add o.rew c } = withCredits [(a, c)] u := by
  have ha : o.addr = a := find_addr h
  have hi : isOp u o.addr = true := by simp [isOp, ha, h]
  unfold setOp
  simp only [hi, if_true, withCredits, credits_cons, credits_nil]
  rw [credit_some (show u.ops.find? (·.addr == a) = some o from h), ha]

/-- the three payout formulas of `DistributeBounty` are the amount times the weight that `TotalValidTaskCollateral`
    summed, over the total, rounded down -/
theorem payAmount_eq (bond : Denom) (s : State) (b : Nat) (amount tv : Int) (r : Response) :
    payAmount bond s b amount tv r = match respWeight bond s b r with
      | .error x => .error x
      | .ok none => .ok none
      | .ok (some w) => .ok (some (Int.tdiv (amount * w) tv)) := by
  unfold payAmount respWeight collateralAmount
  cases findOp s r.op with
  | none => rfl
  | some o =>
    rcases b with _ | _ | b <;> dsimp only
    · rfl
    · by_cases hz : (r.score + s.params.eps1 == 0) = true
      · rw [if_pos hz, if_pos hz]; rfl
      · rw [if_neg hz, if_neg hz]; rfl
    · by_cases hz : (100 - r.score + s.params.eps2 == 0) = true
      · rw [if_pos hz, if_pos hz]; rfl
      · rw [if_neg hz, if_neg hz]; rfl

/-- `payCoin` with the state it reads held fixed: the increments instead of the new state -/
def payCoinE (bond : Denom) (b : Nat) (denom : Denom) (amount tv : Int) (s : State) :
    List Response → List Response → Except Err (List (Addr × Coins) × List Response)
  | [], done => .ok ([], done)
  | r :: rest, done =>
    if eligibleDB s b r then
      match payAmount bond s b amount tv r with
      | .error x => .error x
      | .ok none => payCoinE bond b denom amount tv s rest (done ++ [r])
      | .ok (some amt) =>
        if amt < 0 then panicE "oracle:negative-coin"
        else
          let reward : Coins := if amt == 0 then [] else [(denom, amt)]
          match findOp s r.op with
          | none => payCoinE bond b denom amount tv s rest (done ++ [r])
          | some _ =>
            match payCoinE bond b denom amount tv s rest (done ++ [{ r with reward := reward }]) with
            | .error x => .error x
            | .ok (incs, d) => .ok ((r.op, reward) :: incs, d)
    else payCoinE bond b denom amount tv s rest (done ++ [r])

/-- the result of a payment written with increments, read back as the state `u` with the increments credited -/
def applyCredits {α : Type} (u : State) : Except Err (List (Addr × Coins) × α) → Except Err (State × α)
  | .error x => .error x
  | .ok (incs, d) => .ok (withCredits incs u, d)

theorem payCoin_eq (bond : Denom) (b : Nat) (denom : Denom) (amount tv : Int) (s : State) :
    ∀ (rs : List Response) (u : State) (done : List Response), View s u →
      payCoin bond b denom amount tv u rs done = applyCredits u (payCoinE bond b denom amount tv s rs done) := by
  intro rs
  induction rs with
  | nil => intro u done _; simp [payCoin, payCoinE, applyCredits]
  | cons r rest ih =>
    intro u done hu
    rw [payCoin, payCoinE, ← hu.eligibleDB, ← hu.payAmount]
    by_cases hel : eligibleDB s b r = true
    · simp only [hel, if_true]
      cases hpa : payAmount bond s b amount tv r with
      | error x => rfl
      | ok oa =>
        cases oa with
        | none => exact ih u _ hu
        | some amt =>
          dsimp only
          by_cases hneg : amt < 0
          · simp only [hneg, if_true]; rfl
          · simp only [hneg, if_false]
            cases hfs : findOp s r.op with
            | none => rw [hu.findOp_none hfs]; exact ih u _ hu
            | some o =>
              obtain ⟨o', ho'⟩ := hu.findOp_some hfs
              rw [ho']
              dsimp only
              rw [setOp_credit _ ho', ih _ _ (hu.trans (view_withCredits _ u))]
              cases payCoinE bond b denom amount tv s rest
                  (done ++ [{ r with reward := if (amt == 0) = true then [] else [(denom, amt)] }]) with
              | error x => rfl
              | ok p => simp only [applyCredits, withCredits_withCredits]; rfl
    · simp only [hel]
      exact ih u _ hu

def payAllE (bond : Denom) (b : Nat) (tv : Int) (s : State) :
    List (Denom × Int) → List Response → Except Err (List (Addr × Coins) × List Response)
  | [], rs => .ok ([], rs)
  | c :: cs, rs =>
    match payCoinE bond b c.1 c.2 tv s rs [] with
    | .error x => .error x
    | .ok (incs, rs') =>
      match payAllE bond b tv s cs rs' with
      | .error x => .error x
      | .ok (incs', d) => .ok (incs ++ incs', d)

theorem payAll_eq (bond : Denom) (b : Nat) (tv : Int) (s : State) :
    ∀ (cs : List (Denom × Int)) (u : State) (rs : List Response), View s u →
      payAll bond b tv cs u rs = applyCredits u (payAllE bond b tv s cs rs) := by
  intro cs
  induction cs with
  | nil => intro u rs _; simp [payAll, payAllE, applyCredits]
  | cons c cs ih =>
    intro u rs hu
    rw [payAll, payAllE, payCoin_eq bond b c.1 c.2 tv s rs u [] hu]
    cases payCoinE bond b c.1 c.2 tv s rs [] with
    | error x => rfl
    | ok p =>
      obtain ⟨incs, rs'⟩ := p
      simp only [applyCredits]
      rw [ih _ _ (hu.trans (view_withCredits _ u))]
      cases payAllE bond b tv s cs rs' with
      | error x => rfl
      | ok q => simp only [applyCredits, withCredits_withCredits]

/-- `distributeBounty`: the increments and the new value of the task -/
def distributeBountyE (bond : Denom) (s : State) (t : Task) : Except Err (List (Addr × Coins) × Task) :=
  match totalValid bond s (branch s t) t.responses 0 with
  | .error x => .error x
  | .ok tv =>
    if Gen.Oracle.dbNoValid tv then err "oracle:task-failed"
    else match payAllE bond (branchDB s t) tv s (Coins.canon t.bounty) t.responses with
    | .error x => .error x
    | .ok (incs, rs) => .ok (incs, { t with responses := rs })

theorem distributeBounty_eq (bond : Denom) (s u : State) (t : Task) (hu : View s u) :
    distributeBounty bond u t =
      match distributeBountyE bond s t with
      | .error x => .error x
      | .ok (incs, t') => .ok (setTask (withCredits incs u) t') := by
  unfold distributeBounty distributeBountyE
  rw [← hu.branch, ← hu.branchDB, ← hu.totalValid]
  cases totalValid bond s (branch s t) t.responses 0 with
  | error x => rfl
  | ok tv =>
    dsimp only
    by_cases hnv : Gen.Oracle.dbNoValid tv = true
    · simp only [hnv, if_true]; rfl
    · simp only [hnv]
      rw [payAll_eq bond _ tv s _ u _ hu]
      cases payAllE bond (branchDB s t) tv s (Coins.canon t.bounty) t.responses with
      | error x => rfl
      | ok p => rfl

/-- `aggregate`: the new value of the task -/
def aggregateE (bond : Denom) (s : State) (key : String) : Except Err Task :=
  match findTask s key with
  | none => err "oracle:no-task"
  | some t =>
    if Gen.Oracle.aggPending t.status then err "oracle:task-closed"
    else .ok (finishTask s t (aggPure bond s t.responses (aggStart s)))

theorem aggregate_eq (bond : Denom) (u : State) (key : String) :
    aggregate bond u key = match aggregateE bond u key with
      | .error x => .error x
      | .ok t' => .ok (setTask u t') := by
  rw [aggregate_eq_pure]
  unfold aggregateE
  cases findTask u key with
  | none => rfl
  | some t => dsimp only; split <;> rfl

theorem View.aggPure {s u : State} (h : View s u) (bond : Denom) (rs : List Response) (a : Agg) :
    aggPure bond s rs a = aggPure bond u rs a :=
  Except.ok.inj ((aggFold_eq bond s rs a).symm.trans ((h.aggFold bond rs a).trans (aggFold_eq bond u rs a)))

theorem aggregateE_agree (bond : Denom) {s u : State} {key : String} (hv : View s u) (hf : findTask s key = findTask u key) :
    aggregateE bond s key = aggregateE bond u key := by
  unfold aggregateE finishTask aggStart
  rw [hf]
  cases findTask u key with
  | none => rfl
  | some t => dsimp only; rw [hv.aggPure, hv.1]

/-- tasks under key `k` go through `f`; the increments are credited in order -/
def app (k : String) (f : Task → Task) (incs : List (Addr × Coins)) (u : State) : State :=
  { u with tasks := u.tasks.map (fun x => if x.key == k then f x else x), ops := credits incs u.ops }

theorem app_id (k : String) (u : State) : app k id [] u = u := by
  have : u.tasks.map (fun x => if x.key == k then id x else x) = u.tasks := by
    conv => rhs; rw [← List.map_id u.tasks]
    apply List.map_congr_left; intro x _; split <;> rfl
  simp only [app, this, credits_nil]

theorem setTask_eq_app {u : State} {t : Task} (h : (findTask u t.key).isSome = true) : setTask u t = app t.key (fun _ => t) [] u := by
  unfold setTask; simp only [h, if_true, app, credits_nil]

theorem view_setTask (u : State) (t : Task) : View u (setTask u t) := by
  unfold setTask; split <;> exact ⟨rfl, fun _ => rfl⟩

theorem view_app (k : String) (f : Task → Task) (incs : List (Addr × Coins)) (u : State) : View u (app k f incs u) :=
  .of_ops rfl rfl

theorem setTask_setTask {u : State} {t1 t2 : Task} {key : String} (incs : List (Addr × Coins))
    (h1 : t1.key = key) (h2 : t2.key = key) (hs : (findTask u key).isSome = true) :
    setTask (withCredits incs (setTask u t1)) t2 = app key (fun _ => t2) incs u := by
  have hs1 : (findTask (withCredits incs (setTask u t1)) t2.key).isSome = true := by
    show (findTask (setTask u t1) t2.key).isSome = true
    rw [findTask_setTask, if_pos (h1.trans h2.symm)]; rfl
  rw [setTask_eq_app hs1, setTask_eq_app (by rw [h1]; exact hs), h1, h2]
  simp only [app, withCredits, credits_nil, List.map_map]
  congr 1
  apply List.map_congr_left
  intro x _
  by_cases hx : x.key == key
  · simp [Function.comp, hx, h1]
  · have hx' : (x.key == key) = false := by simpa using hx
    simp [Function.comp, hx']

/-- `s` and `u` look the same to the handling of the task under `k` -/
def Agree (k : String) (s u : State) : Prop := View s u ∧ findTask s k = findTask u k

theorem Agree.refl (k : String) (s : State) : Agree k s s := ⟨View.refl s, rfl⟩

/-- `endOne`: how the tasks under the key change, and the reward increments; or the panic -/
def endOneE (bond : Denom) (s : State) (key : String) : Except Err ((Task → Task) × List (Addr × Coins)) :=
  match aggregateE bond s key with
  | .error x => if x.isPanic then .error x else .ok (id, [])
  | .ok t1 =>
    match distributeBountyE bond s t1 with
    | .error x => if x.isPanic then .error x else .ok (fun _ => t1, [])
    | .ok (incs, t2) => .ok (fun _ => t2, incs)

end Shentu.Oracle

namespace Shentu.C15HH
open Shentu Shentu.Oracle

/-- what a response says: who, and which score -/
def rsig (r : Response) : Addr × Int := (r.op, r.score)

/-- `t'` is `t` after the end-blocker handled it: succeeded or failed, the same task data, the same responders and scores -/
structure Fin (t t' : Task) : Prop where
  status : t'.status = 2 ∨ t'.status = 3
  contract : t'.contract = t.contract
  function : t'.function = t.function
  begin : t'.begin = t.begin
  bounty : t'.bounty = t.bounty
  expiration : t'.expiration = t.expiration
  creator : t'.creator = t.creator
  closing : t'.closing = t.closing
  resp : t'.responses.map rsig = t.responses.map rsig

theorem Fin.not_pending {t t' : Task} (h : Fin t t') : t'.status ≠ 1 := by
  rcases h.status with h | h <;> omega

theorem Fin.key {t t' : Task} (h : Fin t t') : t'.key = t.key := by
  unfold Task.key; rw [h.contract, h.function]

theorem aggPure_rsig (bond : Denom) (s : State) : ∀ (rs : List Response) (a : Agg),
    (aggPure bond s rs a).rs.map rsig = a.rs.map rsig ++ rs.map rsig
  | [], a => by simp [aggPure]
  | r :: rest, a => by
    unfold aggPure
    cases findOp s r.op <;> dsimp only <;> rw [aggPure_rsig bond s rest] <;> simp [rsig]

theorem finishTask_fin (s : State) (t : Task) (a : Agg) (hr : a.rs.map rsig = t.responses.map rsig) : Fin t (finishTask s t a) := by
  unfold finishTask
  split
  · split
    · refine ⟨Or.inl rfl, rfl, rfl, rfl, rfl, rfl, rfl, rfl, ?_⟩
      rw [← hr, List.map_map]
      exact List.map_congr_left fun r _ => by simp only [Function.comp]; split <;> rfl
    · exact ⟨Or.inl rfl, rfl, rfl, rfl, rfl, rfl, rfl, rfl, hr⟩
  · exact ⟨Or.inr rfl, rfl, rfl, rfl, rfl, rfl, rfl, rfl, hr⟩

theorem aggregateE_fin {bond : Denom} {s : State} {key : String} {t1 : Task} (h : aggregateE bond s key = .ok t1) :
    ∃ t, findTask s key = some t ∧ t.status = 1 ∧ Fin t t1 := by
  unfold aggregateE at h
  cases hf : findTask s key with
  | none => rw [hf] at h; cases h
  | some t =>
    rw [hf] at h; dsimp only at h
    obtain ⟨hp, h⟩ := of_guard h
    cases h
    refine ⟨t, rfl, ?_, finishTask_fin s t _ (by rw [aggPure_rsig]; rfl)⟩
    rw [Gen.Oracle.aggPending_iff] at hp; omega

theorem scores_of_rsig {rs rs' : List Response} (h : rs'.map rsig = rs.map rsig) (hrs : ∀ r ∈ rs, 0 ≤ r.score ∧ r.score ≤ 100) :
    ∀ r ∈ rs', 0 ≤ r.score ∧ r.score ≤ 100 := by
  intro r hr
  have : rsig r ∈ rs.map rsig := by rw [← h]; exact List.mem_map_of_mem hr
  obtain ⟨r0, hr0, he⟩ := List.mem_map.mp this
  have : r0.score = r.score := congrArg Prod.snd he
  rw [← this]; exact hrs r0 hr0

/-- the weight with which a response counts in a bounty distribution, if it counts: it is eligible, its responder is still
    an operator, and the weight formula has a value -/
def wt (bond : Denom) (s : State) (b : Nat) (r : Response) : Option Int :=
  if eligible s b r then (match respWeight bond s b r with | .ok (some w) => some w | _ => none) else none

def weights (bond : Denom) (s : State) (b : Nat) (rs : List Response) : List Int := rs.filterMap (wt bond s b)

/-- the coins credited for a share of `amt`: nothing is recorded for a zero share -/
def rewardOf (dn : Denom) (amt : Int) : Coins := if amt == 0 then [] else [(dn, amt)]

/-- the increments of one bounty coin: each response that counts gets `amount · weight / tv`, rounded down -/
def shares (bond : Denom) (s : State) (b : Nat) (dn : Denom) (amount tv : Int) (rs : List Response) : List (Addr × Coins) :=
  rs.filterMap fun r => (wt bond s b r).map fun w => (r.op, rewardOf dn (Int.tdiv (amount * w) tv))

/-- the responses after one bounty coin: those that count carry their share -/
def marks (bond : Denom) (s : State) (b : Nat) (dn : Denom) (amount tv : Int) (rs : List Response) : List Response :=
  rs.map fun r => match wt bond s b r with
    | some w => { r with reward := rewardOf dn (Int.tdiv (amount * w) tv) }
    | none => r

theorem wt_none_of {bond : Denom} {s : State} {b : Nat} {r : Response}
    (h : eligible s b r = true → respWeight bond s b r = .ok none) : wt bond s b r = none := by
  unfold wt
  by_cases he : eligible s b r = true
  · rw [if_pos he, h he]
  · rw [if_neg he]

theorem wt_some_of {bond : Denom} {s : State} {b : Nat} {r : Response} {w : Int} (he : eligible s b r = true)
    (h : respWeight bond s b r = .ok (some w)) : wt bond s b r = some w := by
  unfold wt; rw [if_pos he, h]

theorem wt_some {bond : Denom} {s : State} {b : Nat} {r : Response} {w : Int} (h : wt bond s b r = some w) :
    respWeight bond s b r = .ok (some w) := by
  unfold wt at h
  split at h
  · split at h
    · cases h; assumption
    · cases h
  · cases h

theorem isOp_of_respWeight {bond : Denom} {s : State} {b : Nat} {r : Response} {w : Int}
    (h : respWeight bond s b r = .ok (some w)) : isOp s r.op = true := by
  unfold respWeight collateralAmount at h
  unfold isOp
  cases hf : findOp s r.op with
  | none => rw [hf] at h; cases h
  | some o => rfl

theorem shares_marks (bond : Denom) (s : State) (b : Nat) (dn dn' : Denom) (amount amount' tv tv' : Int) (rs : List Response) :
    shares bond s b dn amount tv (marks bond s b dn' amount' tv' rs) = shares bond s b dn amount tv rs := by
  unfold shares marks; rw [List.filterMap_map]
  exact congrArg (List.filterMap · rs) (funext fun r => by simp only [Function.comp]; split <;> rfl)

theorem marks_rsig (bond : Denom) (s : State) (b : Nat) (dn : Denom) (amount tv : Int) (rs : List Response) :
    (marks bond s b dn amount tv rs).map rsig = rs.map rsig := by
  unfold marks; rw [List.map_map]
  exact List.map_congr_left fun r _ => by simp only [Function.comp]; split <;> rfl

theorem payCoinE_closed {bond : Denom} {s : State} {b : Nat} {dn : Denom} {amount tv : Int} :
    ∀ (rs done : List Response) (incs : List (Addr × Coins)) (out : List Response),
      payCoinE bond b dn amount tv s rs done = .ok (incs, out) →
      incs = shares bond s b dn amount tv rs ∧ out = done ++ marks bond s b dn amount tv rs := by
  intro rs
  induction rs with
  | nil => intro done incs out h; unfold payCoinE at h; cases h; exact ⟨rfl, (List.append_nil _).symm⟩
  | cons r rest ih =>
    intro done incs out h
    unfold payCoinE at h
    rw [eligibleDB_eq, payAmount_eq] at h
    unfold shares marks; rw [List.filterMap_cons, List.map_cons]
    by_cases he : eligible s b r = true
    · rw [if_pos he] at h
      cases hx : respWeight bond s b r with
      | error e => rw [hx] at h; cases h
      | ok ow =>
        rw [hx] at h
        cases ow with
        | none => rw [wt_none_of (fun _ => hx)]; exact (ih _ _ _ h).imp id (·.trans (List.append_assoc _ _ _))
        | some w =>
          rw [wt_some_of he hx]
          dsimp only at h
          obtain ⟨_, h⟩ := of_guard h
          cases ho : findOp s r.op with
          | none => have := isOp_of_respWeight hx; rw [isOp, ho] at this; cases this
          | some o =>
            rw [ho] at h
            dsimp only at h
            generalize hrec : payCoinE bond b dn amount tv s rest _ = res at h
            cases res with
            | error e => cases h
            | ok p =>
              cases h
              obtain ⟨i1, i2⟩ := ih _ _ _ hrec
              rw [i1, i2]; exact ⟨rfl, List.append_assoc _ _ _⟩
    · rw [if_neg he] at h
      rw [wt_none_of (fun h' => absurd h' he)]; exact (ih _ _ _ h).imp id (·.trans (List.append_assoc _ _ _))

theorem payCoinE_rsig (bond : Denom) (b : Nat) (dn : Denom) (amount tv : Int) (s : State) :
    ∀ (rs done : List Response) (incs : List (Addr × Coins)) (out : List Response),
      payCoinE bond b dn amount tv s rs done = .ok (incs, out) → out.map rsig = done.map rsig ++ rs.map rsig := by
  intro rs done incs out h
  rw [(payCoinE_closed _ _ _ _ h).2, List.map_append, marks_rsig]

theorem payAllE_rsig (bond : Denom) (b : Nat) (tv : Int) (s : State) :
    ∀ (cs : List (Denom × Int)) (rs : List Response) (incs : List (Addr × Coins)) (out : List Response),
      payAllE bond b tv s cs rs = .ok (incs, out) → out.map rsig = rs.map rsig := by
  intro cs
  induction cs with
  | nil => intro rs incs out h; unfold payAllE at h; cases h; rfl
  | cons c cs ih =>
    intro rs incs out h
    unfold payAllE at h
    split at h; · cases h
    rename_i incs1 rs1 h1
    split at h; · cases h
    rename_i incs2 d h2
    cases h
    rw [ih _ _ _ h2, payCoinE_rsig _ _ _ _ _ _ _ _ _ _ h1]; simp

theorem payAllE_shares {bond : Denom} {s : State} {b : Nat} {tv : Int} :
    ∀ (cs : List (Denom × Int)) (rs : List Response) (incs : List (Addr × Coins)) (out : List Response),
      payAllE bond b tv s cs rs = .ok (incs, out) → incs = cs.flatMap fun c => shares bond s b c.1 c.2 tv rs := by
  intro cs
  induction cs with
  | nil => intro rs incs out h; unfold payAllE at h; cases h; rfl
  | cons c cs ih =>
    intro rs incs out h
    unfold payAllE at h
    cases h1 : payCoinE bond b c.1 c.2 tv s rs [] with
    | error e => rw [h1] at h; cases h
    | ok p1 =>
      obtain ⟨incs1, rs1⟩ := p1
      rw [h1] at h; dsimp only at h
      cases h2 : payAllE bond b tv s cs rs1 with
      | error e => rw [h2] at h; cases h
      | ok p2 =>
        rw [h2] at h; cases h
        obtain ⟨rfl, rfl⟩ := payCoinE_closed _ _ _ _ h1
        rw [List.flatMap_cons, ih _ _ _ h2, List.nil_append]
        simp only [shares_marks]

theorem distributeBountyE_fin {bond : Denom} {s : State} {t t1 t2 : Task} {incs : List (Addr × Coins)}
    (h : distributeBountyE bond s t1 = .ok (incs, t2)) (hfin : Fin t t1) : Fin t t2 := by
  unfold distributeBountyE at h
  split at h; · cases h
  split at h; · cases h
  split at h; · cases h
  rename_i incs' rs hp
  cases h
  exact { hfin with resp := (payAllE_rsig _ _ _ _ _ _ _ _ hp).trans hfin.resp }

/-- what handling the task under `key` amounts to: nothing; or the pending task `t` stored there is replaced by a finished copy
    `t'` of itself — the aggregated task with nothing credited (the distribution was refused), or what the distribution made
    of the aggregated task `t1`, with its increments -/
theorem endOneE_cases {bond : Denom} {s : State} {key : String} {f : Task → Task} {incs : List (Addr × Coins)}
    (h : endOneE bond s key = .ok (f, incs)) :
    (f = id ∧ incs = []) ∨
    ∃ t t', findTask s key = some t ∧ t.status = 1 ∧ Fin t t' ∧ f = (fun _ => t') ∧
      (incs = [] ∨ ∃ t1, Fin t t1 ∧ distributeBountyE bond s t1 = .ok (incs, t')) := by
  unfold endOneE at h
  cases hagg : aggregateE bond s key with
  | error x =>
    rw [hagg] at h; dsimp only at h
    split at h
    · cases h
    · cases h; exact Or.inl ⟨rfl, rfl⟩
  | ok t1 =>
    rw [hagg] at h; dsimp only at h
    obtain ⟨t, hf, hst, hfin⟩ := aggregateE_fin hagg
    cases hd : distributeBountyE bond s t1 with
    | error x =>
      rw [hd] at h; dsimp only at h
      split at h
      · cases h
      · cases h; exact Or.inr ⟨t, t1, hf, hst, hfin, rfl, Or.inl rfl⟩
    | ok p =>
      obtain ⟨incs', t2⟩ := p
      rw [hd] at h; dsimp only at h
      cases h
      exact Or.inr ⟨t, t2, hf, hst, distributeBountyE_fin hd hfin, rfl, Or.inr ⟨t1, hfin, hd⟩⟩

end Shentu.C15HH

namespace Shentu.Oracle
open Shentu Shentu.C15HH

theorem aggregateE_ok {bond : Denom} {s : State} {key : String} {t1 : Task} (h : aggregateE bond s key = .ok t1) :
    t1.key = key ∧ (findTask s key).isSome = true := by
  obtain ⟨t, hf, _, hfin⟩ := aggregateE_fin h
  exact ⟨hfin.key.trans (findTask_mem hf).2, by rw [hf]; rfl⟩

theorem aggregate_ok {bond : Denom} {s s' : State} {key : String} (h : aggregate bond s key = .ok s') :
    ∃ t t', findTask s key = some t ∧ t.status = 1 ∧ Fin t t' ∧ s' = setTask s t' := by
  rw [aggregate_eq] at h
  cases ha : aggregateE bond s key with
  | error x => rw [ha] at h; cases h
  | ok t' =>
    rw [ha] at h; cases h
    obtain ⟨t, hf, hst, hfin⟩ := aggregateE_fin ha
    exact ⟨t, t', hf, hst, hfin, rfl⟩

theorem endOne_eq (bond : Denom) {s u : State} (id : String × String) (h : Agree (id.1 ++ id.2) s u) :
    endOne bond u id = match endOneE bond s (id.1 ++ id.2) with
      | .error x => .error x
      | .ok (f, incs) => .ok (app (id.1 ++ id.2) f incs u) := by
  unfold endOne endOneE
  dsimp only
  rw [aggregate_eq, ← aggregateE_agree bond h.1 h.2]
  cases hagg : aggregateE bond s (id.1 ++ id.2) with
  | error x =>
    dsimp only
    by_cases hp : x.isPanic = true
    · simp only [hp, if_true]
    · have hp' : x.isPanic = false := by simpa using hp
      simp only [hp', Bool.false_eq_true, if_false, app_id]
  | ok t1 =>
    dsimp only
    obtain ⟨t, hft, _, hfin⟩ := aggregateE_fin hagg
    have hk : t1.key = id.1 ++ id.2 := hfin.key.trans (findTask_mem hft).2
    have hsu : (findTask u (id.1 ++ id.2)).isSome = true := by rw [← h.2, hft]; rfl
    rw [findTask_setTask, if_pos hk]
    dsimp only
    rw [distributeBounty_eq bond s (setTask u t1) t1 (h.1.trans (view_setTask u t1))]
    cases hdb : distributeBountyE bond s t1 with
    | error x =>
      dsimp only
      by_cases hp : x.isPanic = true
      · simp only [hp, if_true]
      · have hp' : x.isPanic = false := by simpa using hp
        rw [setTask_eq_app (by rw [hk]; exact hsu), hk]
        simp only [hp', Bool.false_eq_true, if_false]
    | ok p =>
      obtain ⟨incs, t2⟩ := p
      dsimp only
      rw [setTask_setTask incs hk ((distributeBountyE_fin hdb hfin).key.trans (findTask_mem hft).2) hsu]

theorem endOne_app {bond : Denom} {s s' : State} {id : String × String} (h : endOne bond s id = .ok s') :
    ∃ f incs, endOneE bond s (id.1 ++ id.2) = .ok (f, incs) ∧ s' = app (id.1 ++ id.2) f incs s := by
  rw [endOne_eq bond id (Agree.refl _ s)] at h
  cases he : endOneE bond s (id.1 ++ id.2) with
  | error x => rw [he] at h; cases h
  | ok fi => rw [he] at h; cases h; exact ⟨fi.1, fi.2, rfl, rfl⟩

theorem endOneE_key {bond : Denom} {s : State} {key : String} {f : Task → Task} {incs : List (Addr × Coins)}
    (h : endOneE bond s key = .ok (f, incs)) : ∀ x : Task, x.key = key → (f x).key = key := by
  rcases endOneE_cases h with ⟨rfl, _⟩ | ⟨t, t', hf, _, hfin, rfl, _⟩
  · exact fun _ hx => hx
  · exact fun _ _ => hfin.key.trans (findTask_mem hf).2

theorem findTask_app {k : String} {f : Task → Task} (hf : ∀ x : Task, x.key = k → (f x).key = k)
    (incs : List (Addr × Coins)) (u : State) (k' : String) :
    findTask (app k f incs u) k' = if k = k' then (findTask u k).map f else findTask u k' :=
  Keyed.find_update Task.key hf k' u.tasks

theorem agree_app {k k' : String} (hne : k ≠ k') {f : Task → Task} (hf : ∀ x : Task, x.key = k → (f x).key = k)
    (incs : List (Addr × Coins)) (u : State) : Agree k' u (app k f incs u) :=
  ⟨view_app k f incs u, by rw [findTask_app hf, if_neg hne]⟩

end Shentu.Oracle
