import Shentu.Model.Shield
import Shentu.Proofs.Keys
import Shentu.Proofs.Lists
/-
  The lists the collateral books are made of (C03, C07): sums over a list (`sumI`) and over the part of the withdrawal queue
  a test selects (`wsum`); the queue primitives of the model, `insertWithdraw`, `removeLast`, `removeFirst`, `replaceFirst`,
  each characterised by where it edits the list; the provider store (`findProvider`, `setProvider` as `updP`,
  `insertProvider`) as an instance of `Keyed` at `Provider.addr`.
-/
namespace Shentu.Shield.Coll
open List

@[simp] theorem sumI_nil {α} (f : α → Int) : sumI f [] = 0 := rfl

@[simp] theorem sumI_cons {α} (f : α → Int) (x : α) (l : List α) : sumI f (x :: l) = f x + sumI f l := by
  simp [sumI]

theorem sumI_append {α} (f : α → Int) (l1 l2 : List α) : sumI f (l1 ++ l2) = sumI f l1 + sumI f l2 := by
  induction l1 with
  | nil => simp
  | cons x xs ih => simp only [List.cons_append, sumI_cons, ih]; omega

theorem sumI_perm {α} (f : α → Int) {l1 l2 : List α} (h : l1 ~ l2) : sumI f l1 = sumI f l2 := sum_map_perm f h

theorem sumI_reverse {α} (f : α → Int) (l : List α) : sumI f l.reverse = sumI f l :=
  sumI_perm f (List.reverse_perm l)

theorem sumI_nonneg {α} (f : α → Int) (l : List α) (h : ∀ x ∈ l, 0 ≤ f x) : 0 ≤ sumI f l := sum_map_nonneg f h

theorem sumI_map {α β} (f : β → Int) (g : α → β) (l : List α) : sumI f (l.map g) = sumI (fun x => f (g x)) l := by
  induction l with
  | nil => rfl
  | cons x xs ih => simp only [List.map_cons, sumI_cons, ih]

theorem sumI_congr {α} (f g : α → Int) (l : List α) (h : ∀ x ∈ l, f x = g x) : sumI f l = sumI g l := by
  induction l with
  | nil => rfl
  | cons x xs ih =>
    simp only [sumI_cons]
    rw [h x List.mem_cons_self, ih (fun y hy => h y (List.mem_cons_of_mem _ hy))]

/-- the total amount of the queue entries selected by `r` -/
def wsum (r : Withdraw → Bool) (q : List Withdraw) : Int := sumI (·.amount) (q.filter r)

@[simp] theorem wsum_nil (r : Withdraw → Bool) : wsum r [] = 0 := rfl

theorem wsum_cons (r : Withdraw → Bool) (x : Withdraw) (q : List Withdraw) :
    wsum r (x :: q) = (if r x then x.amount else 0) + wsum r q := by
  unfold wsum
  by_cases h : r x <;> simp [h]

theorem wsum_append (r : Withdraw → Bool) (q1 q2 : List Withdraw) : wsum r (q1 ++ q2) = wsum r q1 + wsum r q2 := by
  unfold wsum; rw [List.filter_append, sumI_append]

theorem wsum_perm (r : Withdraw → Bool) {q1 q2 : List Withdraw} (h : q1 ~ q2) : wsum r q1 = wsum r q2 :=
  sumI_perm _ (h.filter r)

/-- Every edit of the queue replaces some entries `l` by `l'`, as multisets (`q ~ l ++ rest`, `q' ~ l' ++ rest`); what the
    new queue sums to and what it holds is read off that shape here. -/
theorem wsum_edit (r : Withdraw → Bool) {q q' l l' rest : List Withdraw} (hq : q ~ l ++ rest) (hq' : q' ~ l' ++ rest) :
    wsum r q' = wsum r q - wsum r l + wsum r l' := by
  rw [wsum_perm r hq', wsum_perm r hq, wsum_append, wsum_append]; omega

theorem mem_edit {q q' l l' rest : List Withdraw} (hq : q ~ l ++ rest) (hq' : q' ~ l' ++ rest) {x : Withdraw} (hx : x ∈ q') :
    x ∈ l' ∨ x ∈ q :=
  (mem_append.mp (hq'.mem_iff.mp hx)).imp_right (fun h => hq.mem_iff.mpr (mem_append_right _ h))

theorem wsum_nonneg (r : Withdraw → Bool) (q : List Withdraw) (h : ∀ w ∈ q, 0 < w.amount) : 0 ≤ wsum r q := by
  apply sumI_nonneg
  intro x hx
  have := h x (List.mem_filter.mp hx).1
  omega

theorem wsum_congr (r r' : Withdraw → Bool) (q : List Withdraw) (h : ∀ w ∈ q, r w = r' w) : wsum r q = wsum r' q := by
  unfold wsum
  rw [List.filter_congr h]

theorem wsum_mono (r r' : Withdraw → Bool) (q : List Withdraw) (hp : ∀ w ∈ q, 0 < w.amount)
    (h : ∀ w ∈ q, r w = true → r' w = true) : wsum r q ≤ wsum r' q := by
  induction q with
  | nil => simp
  | cons x xs ih =>
    have h1 := ih (fun w hw => hp w (List.mem_cons_of_mem _ hw)) (fun w hw => h w (List.mem_cons_of_mem _ hw))
    have h2 := hp x List.mem_cons_self
    have h3 := h x List.mem_cons_self
    simp only [wsum_cons]
    by_cases hr : r x = true
    · simp only [hr, h3 hr, if_true]; omega
    · by_cases hr' : r' x = true
      · simp only [hr, hr', if_true]; omega
      · simp only [hr, hr']; omega

theorem wsum_filter_false (r : Withdraw → Bool) (q : List Withdraw) (h : ∀ w ∈ q, r w = false) : wsum r q = 0 := by
  unfold wsum
  have : q.filter r = [] := by
    apply List.filter_eq_nil_iff.mpr
    intro a ha; simp [h a ha]
  rw [this]; rfl

theorem insertWithdraw_cons (w x : Withdraw) (xs : List Withdraw) :
    insertWithdraw w (x :: xs) = if ¬ w.time < x.time then x :: insertWithdraw w xs else w :: x :: xs := by
  rw [insertWithdraw, ite_not]

theorem insertWithdraw_perm (w : Withdraw) (q : List Withdraw) : insertWithdraw w q ~ w :: q :=
  insert_perm insertWithdraw (fun _ => rfl) insertWithdraw_cons w q

theorem insertWithdraw_split (w : Withdraw) (q : List Withdraw) :
    ∃ l1 l2, q = l1 ++ l2 ∧ insertWithdraw w q = l1 ++ w :: l2 ∧ (∀ x ∈ l1, x.time ≤ w.time) ∧
      (∀ x, l2.head? = some x → w.time < x.time) := by
  induction q with
  | nil => exact ⟨[], [], rfl, rfl, by simp, by simp⟩
  | cons x xs ih =>
    unfold insertWithdraw
    split
    · rename_i hlt
      refine ⟨[], x :: xs, rfl, rfl, by simp, ?_⟩
      intro y hy; simp at hy; subst hy; exact hlt
    · rename_i hlt
      obtain ⟨l1, l2, h1, h2, h3, h4⟩ := ih
      refine ⟨x :: l1, l2, by simp [h1], by simp [h2], ?_, h4⟩
      intro y hy
      rcases List.mem_cons.mp hy with hy | hy
      · subst hy; omega
      · exact h3 y hy

theorem mem_insertWithdraw {w x : Withdraw} {q : List Withdraw} : x ∈ insertWithdraw w q ↔ x = w ∨ x ∈ q := by
  rw [(insertWithdraw_perm w q).mem_iff, List.mem_cons]

theorem wsum_insertWithdraw (r : Withdraw → Bool) (w : Withdraw) (q : List Withdraw) :
    wsum r (insertWithdraw w q) = (if r w then w.amount else 0) + wsum r q := by
  rw [wsum_perm r (insertWithdraw_perm w q), wsum_cons]

theorem filter_insertWithdraw_of_not (r : Withdraw → Bool) (w : Withdraw) (q : List Withdraw) (h : r w = false) :
    (insertWithdraw w q).filter r = q.filter r := by
  obtain ⟨l1, l2, rfl, e, _⟩ := insertWithdraw_split w q
  simp [e, h]

/-! `removeLast`, `removeFirst`, `replaceFirst` are each opened once, in `_cases`: nothing passes the test and the list is
    left alone, or it is edited at the last (first) element that passes.  That nothing happens without a hit (`_none`),
    what the edit is as a multiset (`_perm`) and that a filter dropping the edited element does not see it (`_filter`)
    are read off that. -/

theorem removeLast_cases {α} (p : α → Bool) (l : List α) :
    (l.any p = false ∧ removeLast p l = l) ∨
      ∃ l1 x l2, l = l1 ++ x :: l2 ∧ p x = true ∧ l2.any p = false ∧ removeLast p l = l1 ++ l2 := by
  induction l with
  | nil => exact .inl ⟨rfl, rfl⟩
  | cons y ys ih =>
    unfold removeLast
    rcases ih with ⟨ha, _⟩ | ⟨l1, x, l2, e, hx, h2, e'⟩
    · cases hy : p y with
      | true => exact .inr ⟨[], y, ys, rfl, hy, ha, by simp [ha]⟩
      | false => exact .inl ⟨by simp [ha, hy], by simp [ha]⟩
    · exact .inr ⟨y :: l1, x, l2, by rw [e]; rfl, hx, h2, by rw [if_pos (by simp [e, hx]), e']; rfl⟩

theorem removeLast_none {α} (p : α → Bool) (l : List α) (h : l.any p = false) : removeLast p l = l := by
  rcases removeLast_cases p l with ⟨_, e⟩ | ⟨l1, x, l2, rfl, hx, _⟩
  · exact e
  · simp [hx] at h

theorem removeLast_perm {α} (p : α → Bool) (l : List α) (h : l.any p = true) :
    ∃ x, p x = true ∧ x ∈ l ∧ l ~ x :: removeLast p l := by
  rcases removeLast_cases p l with ⟨ha, _⟩ | ⟨l1, x, l2, rfl, hx, _, e⟩
  · rw [ha] at h; cases h
  · exact ⟨x, hx, by simp, e ▸ perm_middle⟩

theorem removeLast_filter {α} (p r : α → Bool) (l : List α) (h : ∀ x, p x = true → r x = false) :
    (removeLast p l).filter r = l.filter r := by
  rcases removeLast_cases p l with ⟨_, e⟩ | ⟨l1, x, l2, rfl, hx, _, e⟩
  · rw [e]
  · simp [e, h x hx]

theorem removeFirst_cases {α} (p : α → Bool) (l : List α) :
    (l.any p = false ∧ removeFirst p l = l) ∨
      ∃ l1 x l2, l = l1 ++ x :: l2 ∧ p x = true ∧ l1.any p = false ∧ removeFirst p l = l1 ++ l2 := by
  induction l with
  | nil => exact .inl ⟨rfl, rfl⟩
  | cons y ys ih =>
    unfold removeFirst
    cases hy : p y with
    | true => exact .inr ⟨[], y, ys, rfl, hy, rfl, by simp⟩
    | false =>
      rcases ih with ⟨ha, e⟩ | ⟨l1, x, l2, e, hx, h1, e'⟩
      · exact .inl ⟨by simp [ha, hy], by simp [e]⟩
      · exact .inr ⟨y :: l1, x, l2, by rw [e]; rfl, hx, by simp [h1, hy], by simp [e']⟩

theorem removeFirst_none {α} (p : α → Bool) (l : List α) (h : l.any p = false) : removeFirst p l = l := by
  rcases removeFirst_cases p l with ⟨_, e⟩ | ⟨l1, x, l2, rfl, hx, _⟩
  · exact e
  · simp [hx] at h

theorem removeFirst_perm {α} (p : α → Bool) (l : List α) (h : l.any p = true) :
    ∃ x, p x = true ∧ x ∈ l ∧ l ~ x :: removeFirst p l := by
  rcases removeFirst_cases p l with ⟨ha, _⟩ | ⟨l1, x, l2, rfl, hx, _, e⟩
  · rw [ha] at h; cases h
  · exact ⟨x, hx, by simp, e ▸ perm_middle⟩

theorem removeFirst_filter {α} (p r : α → Bool) (l : List α) (h : ∀ x, p x = true → r x = false) :
    (removeFirst p l).filter r = l.filter r := by
  rcases removeFirst_cases p l with ⟨_, e⟩ | ⟨l1, x, l2, rfl, hx, _, e⟩
  · rw [e]
  · simp [e, h x hx]

theorem replaceFirst_cases {α} (p : α → Bool) (f : α → α) (l : List α) :
    (l.any p = false ∧ replaceFirst p f l = l) ∨
      ∃ l1 x l2, l = l1 ++ x :: l2 ∧ p x = true ∧ l1.any p = false ∧ replaceFirst p f l = l1 ++ f x :: l2 := by
  induction l with
  | nil => exact .inl ⟨rfl, rfl⟩
  | cons y ys ih =>
    unfold replaceFirst
    cases hy : p y with
    | true => exact .inr ⟨[], y, ys, rfl, hy, rfl, by simp⟩
    | false =>
      rcases ih with ⟨ha, e⟩ | ⟨l1, x, l2, e, hx, h1, e'⟩
      · exact .inl ⟨by simp [ha, hy], by simp [e]⟩
      · exact .inr ⟨y :: l1, x, l2, by rw [e]; rfl, hx, by simp [h1, hy], by simp [e']⟩

theorem replaceFirst_none {α} (p : α → Bool) (f : α → α) (l : List α) (h : l.any p = false) : replaceFirst p f l = l := by
  rcases replaceFirst_cases p f l with ⟨_, e⟩ | ⟨l1, x, l2, rfl, hx, _⟩
  · exact e
  · simp [hx] at h

theorem replaceFirst_perm {α} (p : α → Bool) (f : α → α) (l : List α) (h : l.any p = true) :
    ∃ x l0, p x = true ∧ x ∈ l ∧ l ~ x :: l0 ∧ replaceFirst p f l ~ f x :: l0 := by
  rcases replaceFirst_cases p f l with ⟨ha, _⟩ | ⟨l1, x, l2, rfl, hx, _, e⟩
  · rw [ha] at h; cases h
  · exact ⟨x, l1 ++ l2, hx, by simp, perm_middle, e ▸ perm_middle⟩

theorem replaceFirst_filter {α} (p r : α → Bool) (f : α → α) (l : List α)
    (h : ∀ x, p x = true → r x = false ∧ r (f x) = false) :
    (replaceFirst p f l).filter r = l.filter r := by
  rcases replaceFirst_cases p f l with ⟨_, e⟩ | ⟨l1, x, l2, rfl, hx, _, e⟩
  · rw [e]
  · simp [e, h x hx]

theorem Withdraw.ext' {x w : Withdraw} (h1 : x.time = w.time) (h2 : x.addr = w.addr) (h3 : x.amount = w.amount) : x = w := by
  cases x; cases w; simp_all

/-- the list update behind `setProvider` -/
def updP (p : Provider) (l : List Provider) : List Provider := l.map (fun x => if x.addr == p.addr then p else x)

theorem setProvider_providers (s : State) (p : Provider) : (setProvider s p).providers = updP p s.providers := rfl

theorem findProvider_some {s : State} {a : Addr} {p : Provider} (h : findProvider s a = some p) :
    p ∈ s.providers ∧ p.addr = a := Keyed.of_find Provider.addr h

theorem findProvider_none {s : State} {a : Addr} (h : findProvider s a = none) : ∀ p ∈ s.providers, p.addr ≠ a :=
  Keyed.not_mem_keys Provider.addr h

theorem findProvider_of_mem {s : State} (hn : (s.providers.map (·.addr)).Nodup) {p : Provider} (hp : p ∈ s.providers) :
    findProvider s p.addr = some p := find_of_key hn hp

theorem updP_addrs (p : Provider) (l : List Provider) : (updP p l).map (·.addr) = l.map (·.addr) :=
  Keyed.keys_update (fun x : Provider => x.addr) (F := fun _ => p) (fun _ _ => rfl) l

theorem sumI_updP (f : Provider → Int) (p p0 : Provider) (l : List Provider) (hn : (l.map (·.addr)).Nodup)
    (hm : p0 ∈ l) (ha : p.addr = p0.addr) : sumI f (updP p l) = sumI f l - f p0 + f p := by
  have hf := find_of_key hn hm
  rw [← ha] at hf
  exact Keyed.sum_update (fun x : Provider => x.addr) (fun _ => p) f hn hf

theorem mem_updP {p q : Provider} {l : List Provider} (h : q ∈ updP p l) : q = p ∨ (q ∈ l ∧ q.addr ≠ p.addr) :=
  Keyed.mem_update Provider.addr h

theorem find_updP (p : Provider) (l : List Provider) (a : Addr) :
    (updP p l).find? (·.addr == a) = if a = p.addr then (l.find? (·.addr == a)).map (fun _ => p) else l.find? (·.addr == a) :=
  Keyed.find_replace Provider.addr rfl a l

theorem findProvider_setProvider (s : State) (p : Provider) (a : Addr) :
    findProvider (setProvider s p) a = if a = p.addr then (findProvider s a).map (fun _ => p) else findProvider s a :=
  find_updP p s.providers a

theorem insertProvider_perm (p : Provider) (l : List Provider) : insertProvider p l ~ p :: l :=
  insert_perm insertProvider (c := fun x p : Provider => ¬ p.addr < x.addr) (fun _ => rfl)
    (fun p x xs => by rw [insertProvider, ite_not]) p l

end Shentu.Shield.Coll
