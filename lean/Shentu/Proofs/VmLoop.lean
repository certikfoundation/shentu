import Shentu.EVM.Impl
import Shentu.Proofs.MonadLemmas
/-
  The interpreter loop around the instructions: what the charge, one iteration, the loop and the outermost frame do, each
  said once.  Nothing here looks inside an instruction.
-/
namespace Shentu.EVM

/-- what a computation's type says about its result -/
theorem inv_of {α : Type} {m : M α} {s : Frame} {r : Option α} {s' : Frame} (h : (m s).val = (r, s')) : Inv s s' := by
  have := (m s).property
  rw [h] at this
  exact this

/-- the table entry by the function that defines it (where the kernel has to reduce the entry, `opInfo op` would make it
    build the whole array) -/
theorem opInfo_eq_infoOf (op : Nat) (h : op < 256) : opInfo op = infoOf op := by
  unfold opInfo
  simp [Array.getD, infoArr]
  intro h'
  omega

theorem chargeOrStop_val (c : Nat) (s : Frame) :
    (chargeOrStop c s).val = if c ≤ s.gas then (some true, { s with gas := s.gas - c }) else (some false, s) := by
  unfold chargeOrStop
  split <;> rfl

theorem gasLookUp_static_le {q : Quirks} {self : Nat} {info : Gen.Gas.OpInfo} {s s1 : Frame} {c : Nat × Nat}
    (h : (gasLookUp q self info s).val = (some c, s1)) : info.static ≤ c.1 := by
  unfold gasLookUp at h
  split at h
  · cases h
    exact Nat.le_refl _
  · obtain ⟨gm, s0, _, h2⟩ := bind_some h
    cases h2
    exact Nat.le_add_right _ _

/-- Stated for any entry `info`: were `opInfo op` in its place, the kernel, reducing
    `gasLookUp` to compare the two forms of the hypothesis, would build the whole array `infoArr`. -/
theorem lookup_static_le {q : Quirks} {self op : Nat} {info : Gen.Gas.OpInfo} {s s1 : Frame} {cm : Nat × Nat}
    (h : ((noteSeen op >>= fun _ => gasLookUp q self info) s).val = (some cm, s1)) : info.static ≤ cm.1 := by
  obtain ⟨_, s0, _, hl⟩ := bind_some h
  exact gasLookUp_static_le hl

theorem stepBody_of_lookup {child : ChildFn} {env : Env} {op : Nat} {s s1 : Frame} {cm : Nat × Nat}
    (h1 : ((noteSeen op >>= fun _ => gasLookUp env.q env.callee (opInfo op)) s).val = (some cm, s1)) :
    (stepBody child env op s).val =
      if cm.1 ≤ s1.gas then
        ((expandMemory cm.2 >>= fun _ => getF >>= fun s =>
            match s.err with
            | some e => pure (Step.done .empty (some e))
            | none => exec child env op >>= finish) { s1 with gas := s1.gas - cm.1 }).val
      else (some (.done .empty (some .insufficientGas)), s1) := by
  unfold stepBody
  rw [bind_val_some h1]
  split
  · rename_i hle
    exact bind_val_some (by rw [chargeOrStop_val, if_pos hle])
  · rename_i hlt
    exact bind_val_some (by rw [chargeOrStop_val, if_neg hlt])

theorem step_of_err (child : ChildFn) (env : Env) {s : Frame} {e : Err} (he : s.err = some e) :
    (step child env s).val = (some (.done .empty (some e)), s) := by
  unfold step
  simp only [he]

section run
variable {child : ChildFn} {env : Env}

/-- The induction over the fuel of the interpreter loop.  `I n s`: what holds of a frame that has `n` iterations left;
    `Q o s`: what holds of the outcome and the frame the loop ends in. -/
theorem run_induct {I : Nat → Frame → Prop} {Q : Outcome → Frame → Prop}
    (hfuel : ∀ s, I 0 s → Q .outOfFuel s)
    (hcont : ∀ n s s', I (n + 1) s → (step child env s).val = (some .cont, s') → I n s')
    (hpanic : ∀ n s s', I (n + 1) s → (step child env s).val = (none, s') → Q .panic s')
    (hdone : ∀ n s s' r e, I (n + 1) s → (step child env s).val = (some (.done r e), s') → Q (.done r e) s')
    (hunsup : ∀ n s s', I (n + 1) s → (step child env s).val = (some .unsupported, s') → Q .unsupported s') :
    ∀ fuel s, I fuel s → Q (run child env fuel s).1 (run child env fuel s).2 := by
  intro fuel
  induction fuel with
  | zero => intro s h; exact hfuel s h
  | succ n ih =>
    intro s h
    unfold run
    split
    · rename_i s' _ heq; exact hpanic n s s' h (by rw [heq])
    · rename_i s' _ heq; exact ih s' (hcont n s s' h (by rw [heq]))
    · rename_i r e s' _ heq; exact hdone n s s' r e h (by rw [heq])
    · rename_i s' _ heq; exact hunsup n s s' h (by rw [heq])

end run

/-- the loop is a computation of `M` in all but its type: it never increases the gas and never clears the error sink -/
theorem run_inv (child : ChildFn) (env : Env) (fuel : Nat) (s : Frame) : Inv s (run child env fuel s).2 :=
  run_induct (I := fun _ s' => Inv s s') (Q := fun _ s' => Inv s s') (fun _ h => h)
    (fun _ _ _ h hs => h.trans (inv_of hs)) (fun _ _ _ h hs => h.trans (inv_of hs))
    (fun _ _ _ _ _ h hs => h.trans (inv_of hs)) (fun _ _ _ h hs => h.trans (inv_of hs)) fuel s (Inv.refl s)

/-- `CVM.Execute`: the accounts before, or the result of an outermost frame that reported success -/
theorem execTop_cases (env : Env) (gas : Nat) (pre : World) (depth : Nat) :
    (execTop env gas pre depth).world = pre ∨
    (execTop env gas pre depth = runFrame (runDepth depth) env gas pre [] ∧
      (runFrame (runDepth depth) env gas pre []).status = 0 ∧ (runFrame (runDepth depth) env gas pre []).err = none) := by
  unfold execTop
  dsimp only
  split
  · rename_i h
    simp only [Bool.and_eq_true, beq_iff_eq, Option.isNone_iff_eq_none] at h
    exact .inr ⟨rfl, h⟩
  · exact .inl rfl

end Shentu.EVM
