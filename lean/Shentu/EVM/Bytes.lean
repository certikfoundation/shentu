/-
  Words, byte strings and Go's slice behaviour as the interpreter relies on it.
-/
namespace Shentu.EVM

def W : Nat := 2 ^ 256
def U64 : Nat := 2 ^ 64
def maxInt32 : Nat := 2147483647
/-- runtime.maxAlloc on linux/amd64: `make([]byte, n)` panics ("len out of range") above it -/
def maxAlloc : Nat := 2 ^ 48
/-- engine.NewDynamicMemory(0, 0x1000000, …) in vm.wrappedDDMP -/
def memCap : Nat := 0x1000000

@[inline] def u256 (n : Nat) : Nat := n % W
/-- two's complement reading of a word (binary.S256) -/
@[inline] def s256 (n : Nat) : Int := if n < 2 ^ 255 then (n : Int) else (n : Int) - (W : Int)
/-- binary.U256 of a possibly negative big.Int -/
@[inline] def ofInt (i : Int) : Nat := (i % (W : Int)).toNat

def zeros (n : Nat) : ByteArray := Id.run do
  if n == 0 then return .empty
  let mut z : ByteArray := (ByteArray.emptyWithCapacity n).push 0
  -- doubling; 64 iterations are enough for every `n` below 2^65
  for _ in [0:64] do
    if z.size * 2 ≤ n then z := z ++ z
  return z ++ z.extract 0 (n - z.size)

/-- big-endian value of a byte string -/
def beNat (b : ByteArray) : Nat := b.foldl (fun acc x => acc * 256 + x.toNat) 0

/-- `len` big-endian bytes of `n` (truncating on the left) -/
def natBE (n len : Nat) : ByteArray := Id.run do
  let mut out := zeros len
  let mut v := n
  for i in [0:len] do
    out := out.set! (len - 1 - i) (v % 256).toUInt8
    v := v / 256
  return out

/-- bytes `[off, off+len)` of `b`, zero padded on the right -/
def extractPad (b : ByteArray) (off len : Nat) : ByteArray :=
  if off ≥ b.size then zeros len else
  let part := b.extract off (off + len)
  if part.size == len then part else part ++ zeros (len - part.size)

/-- number of bytes of the minimal big-endian encoding (len(big.Int.Bytes())) -/
def byteLen (n : Nat) : Nat := (Nat.log2 n + (if n == 0 then 0 else 1) + 7) / 8

/-- result of vm.subslice: an error, a Go panic, or bytes -/
inductive Sub where
  | err | panic | ok (b : ByteArray)
  | big (len : Nat)   -- a zero-padded copy longer than the memory cap: Go allocates it, the model only keeps its length

/-- vm/contract.go subslice with uint64 wrap-around -/
def subslice (data : ByteArray) (offset length : Nat) : Sub :=
  let size := data.size
  if size < offset then .err
  else
    let e := (offset + length) % U64
    if size < e then
      (if length > maxAlloc then .panic else if length > memCap then .big length else .ok (extractPad data offset length))
    else if offset > e then .panic
    else .ok (data.extract offset e)

/-- evm.opcodeBitset: which code positions hold an instruction (the others are PUSH data) -/
def opcodeBits (code : ByteArray) : ByteArray := Id.run do
  let mut bits := zeros code.size
  let mut i := 0
  for _ in [0:code.size] do
    if i < code.size then
      bits := bits.set! i 1
      let b := (code.get! i).toNat
      if 0x60 ≤ b && b ≤ 0x7f then i := i + (b - 0x60 + 1)
      i := i + 1
  return bits

def modPow (b e m : Nat) : Nat := Id.run do
  let mut r := 1 % m
  let mut base := b % m
  let mut ex := e
  for _ in [0:Nat.log2 e + 1] do
    if ex % 2 == 1 then r := r * base % m
    base := base * base % m
    ex := ex / 2
  return r

/-- binary.SignExtend of the low `bits` bits, as a word -/
def signExtend (x bits : Nat) : Nat :=
  let m := 2 ^ (bits - 1)
  if (x / m) % 2 == 1 then u256 (W - m + x % m) else x % m

end Shentu.EVM
