import Shentu.EVM.MemSpec
import Shentu.Arith.Spec
import Shentu.Proofs.C16mRep
import Shentu.Proofs.C16mExec
/-
  C16 (machine instructions) — Contracts compute what the EVM specification says: memory, stack, data reads, jumps.

  `Shentu/EVM/MemSpec.lean` is an independent specification: memory as a total function from addresses to bytes plus a
  number of active words, the stack as a list with a size limit, byte strings read with zero padding, valid jump
  destinations by scanning the code from position 0.  This file proves that the interpreter model's functions
  (`Shentu/EVM/Impl.lean`: `memWrite`, `memRead`, `expandMemory`, `execRegular`, `execFree`, `jumpTo`, `step`) compute what
  that specification says, for all memories, offsets, values and lengths, and states the recorded deviations of the
  implementation (`Quirks.impl`) as theorems next to the specification-mode facts.

  How a model memory is related to a specification memory: `Rep b m` says that the byte array `b` has exactly
  `32 * m.words` bytes and holds `m.byte i` at every address `i` (zero beyond its end).  The fresh memory represents the
  empty specification memory (`rep_empty`) and every memory instruction preserves the relation (`*_refines`).
  An instruction is run as the interpreter runs it: `expandMemory need` (the growth the cost lookup asks for, `memNeed` =
  `calcMemSize64` rounded up to words) followed by the instruction body.

  Assumed in the statements (each one explicit): the access ends at or below the model's memory cap (`memCap` = 16 MiB;
  beyond it the model raises an error or, in specification mode, a cost no gas covers — `write_beyond_cap`); the frame has
  the gas for its stack operations (Burrow charges one unit per push / pop); no error is pending.
  Not covered here: the gas charged for memory growth (C17), and the path from `gasLookUp` to `memNeed` (the table rows
  of MLOAD / MSTORE / MSTORE8 / the copy instructions name the operands `memNeed` is applied to: `charged_size_*` in
  `Props/C16m2.lean`).
-/
namespace Shentu.Props.C16m
open Shentu Shentu.EVM Shentu.EVM.MemSpec Shentu.C16mH Shentu.C16mJ

/-- MSTORE's operand bytes are the 32 big-endian bytes of the word. -/
theorem natBE_is_wordBytes (v : Nat) : bl (natBE v 32) = wordBytes v := bl_natBE v 32 (by decide)

/-- Reading a byte string back as a word (`word`, what MLOAD / CALLDATALOAD / PUSH push) is its big-endian value. -/
theorem word_is_bytesWord (b : ByteArray) : word b = bytesWord (bl b) := word_eq b

/-- The model's zero-padded slice is the specification's zero-padded read, for every offset and every length below 2^65. -/
theorem extractPad_is_readPad (b : ByteArray) (off len : Nat) (hlen : len < 2 ^ 65) :
    bl (extractPad b off len) = readPad (bl b) off len := bl_extractPad b off len hlen

/-- Specification: MLOAD after MSTORE at the same offset returns the stored word. -/
theorem spec_mload_mstore (m : Mem) (o v : Nat) : ((m.mstore o v).mload o).1 = v % 2 ^ 256 := by
  have := read_write_same m o (wordBytes v)
  rw [length_wordBytes] at this
  simp only [Mem.mload, Mem.mstore, this, bytesWord_wordBytes]

/-- Specification: MLOAD of memory that was never written returns 0. -/
theorem spec_mload_empty (o : Nat) : (Mem.empty.mload o).1 = 0 := by
  simp only [Mem.mload, Mem.read, Mem.empty]
  exact bytesWord_zeros 32

/-- Specification: MSTORE at `o` leaves every byte outside `[o, o+32)` unchanged. -/
theorem spec_mstore_frame (m : Mem) (o v i : Nat) (h : i < o ∨ o + 32 ≤ i) : (m.mstore o v).byte i = m.byte i := by
  apply write_byte_out
  rw [length_wordBytes]; exact h

/-- Specification: MSTORE8 writes the low byte of the word at `o` and nothing else. -/
theorem spec_mstore8 (m : Mem) (o v : Nat) :
    (m.mstore8 o v).byte o = (v % 256).toUInt8 ∧ ∀ i, i ≠ o → (m.mstore8 o v).byte i = m.byte i := by
  constructor
  · rw [Mem.mstore8, write_byte_in m o _ o (Nat.le_refl _) (by simp)]; simp
  · intro i hi
    apply write_byte_out
    simp only [List.length_cons, List.length_nil]; omega

/-- Specification: two writes compose as on byte arrays — the later write wins where they overlap. -/
theorem spec_write_write (m : Mem) (o1 o2 : Nat) (b1 b2 : List Byte) (i : Nat) :
    ((m.write o1 b1).write o2 b2).byte i =
      if o2 ≤ i ∧ i < o2 + b2.length then b2.getD (i - o2) 0
      else if o1 ≤ i ∧ i < o1 + b1.length then b1.getD (i - o1) 0 else m.byte i := rfl

/-- Specification: after an access of positive length the size (MSIZE) is a multiple of 32, covers the old size and the
    end of the access, and is the smallest such number. -/
theorem spec_touch_least (m : Mem) (o len : Nat) (hl : 0 < len) :
    (m.touch o len).size = 32 * (m.touch o len).words ∧ m.size ≤ (m.touch o len).size ∧ o + len ≤ (m.touch o len).size ∧
      ∀ k, m.size ≤ 32 * k → o + len ≤ 32 * k → (m.touch o len).size ≤ 32 * k := by
  have h0 : ¬ len = 0 := by omega
  simp only [Mem.touch, h0, if_false, Mem.size, ceil32]
  refine ⟨trivial, by omega, by omega, ?_⟩
  intro k h1 h2
  omega

/-- Specification: an access of length 0 does not touch the memory. -/
theorem spec_touch_zero (m : Mem) (o : Nat) : m.touch o 0 = m := rfl

/-- The memory of a fresh frame represents the empty specification memory. -/
theorem rep_fresh : Rep ({ gas := 0 } : Frame).mem Mem.empty := rep_empty

/-- MSTORE (either mode): after the memory expansion the cost lookup asks for, the instruction pops offset and value,
    and the new memory represents the specification's `mstore`; no error is raised. -/
theorem mstore_refines (child : ChildFn) (env : Env) (s : Frame) (m : Mem) (o v : Nat) (r : List Nat)
    (hr : Rep s.mem m) (he : s.err = none) (hs : s.stack = o :: v :: r) (hg : 2 ≤ s.gas) (hcap : o + 32 ≤ memCap) :
    ∃ s', ((expandMemory (memNeed o 32) >>= fun _ => execRegular child env 0x52) s).val = (some Ctl.next, s') ∧
      Rep s'.mem (m.mstore o v) ∧ s'.stack = r ∧ s'.err = none :=
  write_access_refines env.q (execRegular child env 0x52) s m o 32 (wordBytes v) r hr he (length_wordBytes v) (by decide) hcap
    fun e h1 h2 _ => ⟨natBE v 32, _, natBE_is_wordBytes v, mstore_exec child env e o v r (h1.trans hs) (h2 ▸ hg), rfl, rfl, rfl⟩

/-- MSTORE8 (either mode): the new memory represents the specification's `mstore8`. -/
theorem mstore8_refines (child : ChildFn) (env : Env) (s : Frame) (m : Mem) (o v : Nat) (r : List Nat)
    (hr : Rep s.mem m) (he : s.err = none) (hs : s.stack = o :: v :: r) (hg : 2 ≤ s.gas) (hcap : o + 1 ≤ memCap) :
    ∃ s', ((expandMemory (memNeed o 1) >>= fun _ => execRegular child env 0x53) s).val = (some Ctl.next, s') ∧
      Rep s'.mem (m.mstore8 o v) ∧ s'.stack = r ∧ s'.err = none :=
  write_access_refines env.q (execRegular child env 0x53) s m o 1 [(v % 256).toUInt8] r hr he rfl (by decide) hcap
    fun e h1 h2 _ => ⟨natBE (v % 256) 1, _, (bl_natBE _ 1 (by decide)).trans (beBytes_one v),
      mstore8_exec child env e o v r (h1.trans hs) (h2 ▸ hg), rfl, rfl, rfl⟩

/-- MLOAD (either mode): the word pushed is the specification's, and the memory afterwards represents the
    specification's memory after the read (the active words may have grown). -/
theorem mload_refines (child : ChildFn) (env : Env) (s : Frame) (m : Mem) (o : Nat) (r : List Nat)
    (hr : Rep s.mem m) (he : s.err = none) (hs : s.stack = o :: r) (hg : 2 ≤ s.gas) (hcap : o + 32 ≤ memCap) :
    ∃ s', ((expandMemory (memNeed o 32) >>= fun _ => execRegular child env 0x51) s).val = (some Ctl.next, s') ∧
      s'.stack = (m.mload o).1 :: r ∧ Rep s'.mem (m.mload o).2 ∧ s'.err = none := by
  obtain ⟨b, e, hrun, hb, hrep, hst, herr, hgas⟩ := read_access_refines env.q (execRegular child env 0x51) _ s m o 32 1 r hr he
    (by decide) hcap fun e h1 h2 =>
      ⟨_, mload_exec child env e o r (h1.trans hs) (h2 ▸ Nat.le_of_succ_le hg), rfl, rfl, rfl, rfl⟩
  refine ⟨_, hrun.trans (bind_val_some (push_ok e _ (by omega))), ?_, hrep, herr⟩
  show word b :: e.stack = _
  rw [hst, word_eq, hb]
  rfl

/-- MSIZE pushes the capacity of the model memory, which under `Rep` is the specification's size. -/
theorem msize_refines (child : ChildFn) (env : Env) (s : Frame) (m : Mem) (hr : Rep s.mem m) (hg : 1 ≤ s.gas) :
    (execRegular child env 0x59 s).val = (some Ctl.next, { s with gas := s.gas - 1, stack := m.size :: s.stack }) := by
  show ((push s.mem.size >>= fun _ => pure Ctl.next) s).val = _
  rw [bind_val_some (push_ok s _ hg), hr.1]
  rfl

/-- A write that ends beyond the memory cap (no 64-bit wrap-around) raises an error and writes nothing, in either mode. -/
theorem write_beyond_cap (q : Quirks) (o : Nat) (v : ByteArray) (s : Frame) (hv : 0 < v.size)
    (h64 : o + v.size < U64) (hcap : memCap < o + v.size) (hsz : s.mem.size < o + v.size) :
    (memWrite q o v s).val = (pushErr .generic s).val := by
  have hU := U64_val
  have h1 : (v.size == 0) = false := by simp only [beq_eq_false_iff_ne]; omega
  have h2 : ¬ (o ≥ U64) := by omega
  have h3 : (o + v.size) % U64 = o + v.size := Nat.mod_eq_of_lt h64
  simp only [memWrite, bind, M.bind, pure, takeMem, setMem, h1, h2, h3, if_false, Bool.false_eq_true,
    Bool.false_and, ensureCap_none _ _ hcap hsz]

/-- Specification mode: a zero-length access needs no memory and `memWrite` leaves the memory as it is. -/
theorem zero_length_spec (o : Nat) (v : ByteArray) (s : Frame) (hv : v.size = 0) :
    memNeed o 0 = 0 ∧ ∃ s', (memWrite Quirks.spec o v s).val = (some (), s') ∧ s'.mem = s.mem ∧ s'.err = s.err := by
  refine ⟨memNeed_zero o, ?_⟩
  rw [memWrite_zero_spec Quirks.spec o v s rfl hv]
  exact ⟨_, rfl, rfl, rfl⟩

/-- The implementation BEFORE the repair (`Quirks.implBeforeZeroLenFix`; was the recorded deviation `zero_length_grows_memory`): a
    zero-length write at an offset beyond the capacity grew the memory to exactly that offset — MSIZE then reported `o`, which
    need not be a multiple of 32, and nothing had been paid for it. -/
theorem zero_length_grows_memory_before_fix (o : Nat) (v : ByteArray) (s : Frame) (hv : v.size = 0) (ho : s.mem.size < o)
    (hcap : o ≤ memCap) :
    ∃ s', (memWrite Quirks.implBeforeZeroLenFix o v s).val = (some (), s') ∧ s'.mem.size = o := by
  rw [memWrite_ok Quirks.implBeforeZeroLenFix o v s (Or.inr rfl) (by omega)]
  refine ⟨_, rfl, ?_⟩
  have hc := memCap_val
  simp only []
  rw [size_wr _ _ _ (by omega)]
  omega

/-- The implementation as it is now: a zero-length write touches nothing, as in the specification. -/
theorem zero_length_impl (o : Nat) (v : ByteArray) (s : Frame) (hv : v.size = 0) :
    ∃ s', (memWrite Quirks.impl o v s).val = (some (), s') ∧ s'.mem = s.mem ∧ s'.err = s.err := by
  rw [memWrite_zero_spec Quirks.impl o v s rfl hv]
  exact ⟨_, rfl, rfl, rfl⟩

/-- CALLDATALOAD, specification mode: the word pushed is the 32 bytes from the offset, zero padded beyond the end of
    the call data — for every offset, also those of 2^64 and more. -/
theorem calldataload_refines (child : ChildFn) (env : Env) (s : Frame) (off : Nat) (r : List Nat)
    (hq1 : env.q.readBeyondErr = false) (hq2 : env.q.dataOffsetU64 = false) (hs : s.stack = off :: r) (hg : 2 ≤ s.gas) :
    ∃ s', (execRegular child env 0x35 s).val = (some Ctl.next, s') ∧
      s'.stack = dataLoad (bl env.input) off :: r ∧ s'.err = s.err ∧ s'.mem = s.mem := by
  obtain ⟨d, ds, h1⟩ := calldataload_spec child env s off r hq1 hq2 hs hg
  refine ⟨_, h1, ?_, rfl, rfl⟩
  simp only [word_eq, bl_extractPad _ _ _ (by decide : 32 < 2 ^ 65), dataLoad]

/-- CALLDATALOAD as implemented (recorded deviation `read_beyond_data`): an offset beyond the call data raises
    InputOutOfBounds instead of pushing 0. -/
theorem calldataload_impl_fails (child : ChildFn) (env : Env) (s : Frame) (off : Nat) (r : List Nat)
    (hq1 : env.q.readBeyondErr = true) (hs : s.stack = off :: r) (hg : 2 ≤ s.gas) (he : s.err = none)
    (h64 : off < U64) (hoff : env.input.size < off) :
    (execRegular child env 0x35 s).val =
      (some Ctl.next, { s with gas := s.gas - 2, stack := 0 :: r, err := some .inputOutOfBounds }) := by
  rw [calldataload_impl child env s off r hq1 hs (by omega) h64, subslice_err _ _ _ hoff]
  exact (bind_val_some (pushErr_none _ { s with gas := s.gas - 1, stack := r } he)).trans
    (bind_val_some (push_ok _ 0 (Nat.le_sub_of_add_le hg)))

/-- CALLDATALOAD as implemented, offset within the call data (or at its end): the specification's zero-padded word. -/
theorem calldataload_impl_agrees (child : ChildFn) (env : Env) (s : Frame) (off : Nat) (r : List Nat)
    (hq1 : env.q.readBeyondErr = true) (hs : s.stack = off :: r) (hg : 2 ≤ s.gas)
    (hoff : off ≤ env.input.size) (hsz : env.input.size < 2 ^ 63) :
    (execRegular child env 0x35 s).val =
      (some Ctl.next, { s with gas := s.gas - 2, stack := dataLoad (bl env.input) off :: r }) := by
  obtain ⟨b, hb1, hb2⟩ := subslice_ok env.input off 32 hoff (by rw [U64_val]; omega) (by rw [memCap_val]; omega)
  rw [calldataload_impl child env s off r hq1 hs (by omega) (by rw [U64_val]; omega), hb1]
  refine (bind_val_some (push_ok _ _ (Nat.le_sub_of_add_le hg))).trans ?_
  rw [word_eq, hb2]
  rfl

/-- The implementation's slice function reports an error for every offset beyond the data (the root of the deviation
    for CALLDATACOPY / CODECOPY / EXTCODECOPY), and otherwise returns the specification's zero-padded bytes. -/
theorem subslice_behaviour (data : ByteArray) (off len : Nat) :
    (data.size < off → subslice data off len = .err) ∧
    (off ≤ data.size → off + len < U64 → len ≤ memCap → ∃ b, subslice data off len = .ok b ∧ bl b = readPad (bl data) off len) :=
  ⟨subslice_err data off len, subslice_ok data off len⟩

/-- CALLDATACOPY / CODECOPY body, specification mode: with a positive length inside the memory cap, the memory
    afterwards represents the specification's `copyIn` (bytes beyond the end of the data are zeros). -/
theorem copy_refines (q : Quirks) (src : ByteArray) (s : Frame) (m : Mem) (memOff off len : Nat) (r : List Nat)
    (hq1 : q.readBeyondErr = false) (hq2 : q.dataOffsetU64 = false) (hr : Rep s.mem m) (he : s.err = none)
    (hs : s.stack = memOff :: off :: len :: r) (hg : 3 ≤ s.gas) (hl : 0 < len) (hcap : memOff + len ≤ memCap) :
    ∃ s', ((expandMemory (memNeed memOff len) >>= fun _ => copyToMem q src) s).val = (some Ctl.next, s') ∧
      Rep s'.mem (m.copyIn memOff (bl src) off len) ∧ s'.stack = r ∧ s'.err = none :=
  copy_fetch_refines q src s m memOff off len r (Or.inl ⟨hq1, hq2⟩) hr he hs hg hl hcap

/-- CALLDATACOPY and CODECOPY run `copyToMem` on the call data and on the code. -/
theorem copy_instructions (child : ChildFn) (env : Env) :
    execRegular child env 0x37 = copyToMem env.q env.input ∧ execRegular child env 0x39 = copyToMem env.q env.code :=
  ⟨execRegular_calldatacopy child env, execRegular_codecopy child env⟩

/-- RETURNDATACOPY (both modes, EIP-211): reading beyond the end of the return data fails with ReturnDataOutOfBounds,
    exactly when the specification's `returnDataCopy` fails. -/
theorem returndatacopy_out_of_range (child : ChildFn) (env : Env) (s : Frame) (m : Mem) (memOff off len : Nat) (r : List Nat)
    (hs : s.stack = memOff :: off :: len :: r) (hg : 3 ≤ s.gas) (he : s.err = none) (h : s.retBuf.size < off + len) :
    m.returnDataCopy memOff (bl s.retBuf) off len = none ∧
    (execFree child env 0x3e s).val =
      (some Ctl.jumped, { s with gas := s.gas - 3, stack := r, err := some .returnDataOutOfBounds }) := by
  refine ⟨?_, returndatacopy_beyond child env s memOff off len r hs hg he (Or.inr h)⟩
  unfold Mem.returnDataCopy
  rw [if_neg (by rw [bl_length]; omega)]

/-- RETURNDATACOPY within the return data, positive length: the memory afterwards represents the specification's. -/
theorem returndatacopy_refines (child : ChildFn) (env : Env) (s : Frame) (m : Mem) (memOff off len : Nat) (r : List Nat)
    (hr : Rep s.mem m) (he : s.err = none) (hs : s.stack = memOff :: off :: len :: r) (hg : 3 ≤ s.gas) (hl : 0 < len)
    (hcap : memOff + len ≤ memCap) (h1 : off + len < U64) (h2 : off + len ≤ s.retBuf.size) :
    ∃ s', ((expandMemory (memNeed memOff len) >>= fun _ => execFree child env 0x3e) s).val = (some Ctl.next, s') ∧
      some s'.mem.size = (m.returnDataCopy memOff (bl s.retBuf) off len).map (·.size) ∧
      (∃ m', m.returnDataCopy memOff (bl s.retBuf) off len = some m' ∧ Rep s'.mem m') ∧ s'.stack = r ∧ s'.err = none := by
  have hc := memCap_val
  have hsz : (s.retBuf.extract off (off + len)).size = len := by rw [ByteArray.size_extract]; omega
  have hspec : m.returnDataCopy memOff (bl s.retBuf) off len = some (m.write memOff (readPad (bl s.retBuf) off len)) := by
    unfold Mem.returnDataCopy; rw [if_pos (by rw [bl_length]; exact h2)]
  obtain ⟨s', hrun, hrep, hst, herr⟩ := write_access_refines env.q (execFree child env 0x3e) s m memOff len
    (readPad (bl s.retBuf) off len) r hr he (length_readPad _ _ _) hl hcap fun e e1 e2 e3 =>
      ⟨e.retBuf.extract off (off + len), _, by rw [e3]; exact bl_extract_readPad _ _ _ h2,
        returndatacopy_within child env e memOff off len r (e1.trans hs) (e2 ▸ hg) h1 (e3 ▸ h2), rfl, rfl, rfl⟩
  refine ⟨s', hrun, ?_, ⟨_, hspec, hrep⟩, hst, herr⟩
  rw [hspec]
  simp only [Option.map_some, hrep.1, Mem.size]

/-- BYTE as the interpreter model computes it (`execRegular` 0x1a) is the specification's BYTE: the i-th most significant
    byte for i < 32, 0 otherwise.  (The Go case itself is covered by `C16.refines_BYTE`.) -/
theorem byte_model (i x : BitVec 256) :
    (if i.toNat < 32 then (x.toNat / 256 ^ (31 - i.toNat)) % 256 else 0) = (Arith.Spec.byte i x).toNat :=
  (Arith.Spec.byte_toNat i x).symm

/-- POP removes the top item, as the specification's `pop`. -/
theorem pop_refines (child : ChildFn) (env : Env) (s : Frame) (x : Nat) (r : List Nat) (hs : s.stack = x :: r) (hg : 1 ≤ s.gas) :
    Stack.pop s.stack = some (x, r) ∧
    (execRegular child env 0x50 s).val = (some Ctl.next, { s with gas := s.gas - 1, stack := r }) :=
  ⟨by rw [hs]; rfl, pop_bind (fun _ => pure Ctl.next) hs hg⟩

/-- DUPn (opcode 0x80 + n - 1) on a stack of at least n items, below the limit: the specification's `dup`. -/
theorem dup_refines (child : ChildFn) (env : Env) (s : Frame) (op limit : Nat) (h1 : 0x80 ≤ op) (h2 : op ≤ 0x8f)
    (hn : op - 0x80 + 1 ≤ s.stack.length) (hlim : s.stack.length < limit) (hg : 2 ≤ s.gas) :
    ∃ st', Stack.dup limit s.stack (op - 0x80 + 1) = some st' ∧
      (execRegular child env op s).val = (some Ctl.next, { s with gas := s.gas - 2, stack := st' }) := by
  rw [dup_exec child env s op h1 h2]
  rw [bind_val_some (dup_ok s _ hn hg)]
  have hlt : op - 0x80 + 1 - 1 < s.stack.length := by omega
  refine ⟨_, ?_, rfl⟩
  unfold Stack.dup Stack.push
  rw [List.getElem?_eq_getElem hlt]
  simp only [hlim, if_true, List.getD_eq_getElem?_getD, List.getElem?_eq_getElem hlt, Option.getD_some]

/-- DUPn on a stack of fewer than n items: the specification fails, the model raises DataStackUnderflow. -/
theorem dup_underflows (child : ChildFn) (env : Env) (s : Frame) (op limit : Nat) (h1 : 0x80 ≤ op) (h2 : op ≤ 0x8f)
    (hn : s.stack.length < op - 0x80 + 1) (hg : 1 ≤ s.gas) (he : s.err = none) :
    Stack.dup limit s.stack (op - 0x80 + 1) = none ∧
      (execRegular child env op s).val = (some Ctl.next, { s with gas := s.gas - 1, err := some .dataStackUnderflow }) := by
  constructor
  · unfold Stack.dup
    rw [List.getElem?_eq_none (by omega)]
  · rw [dup_exec child env s op h1 h2]
    rw [bind_val_some (dup_underflow s _ hn hg he)]
    rfl

/-- SWAPn (opcode 0x90 + n - 1) on a stack of at least n + 1 items: the specification's `swap`. -/
theorem swap_refines (child : ChildFn) (env : Env) (s : Frame) (op : Nat) (h1 : 0x90 ≤ op) (h2 : op ≤ 0x9f)
    (hn : op - 0x90 + 2 ≤ s.stack.length) (hg : 1 ≤ s.gas) :
    ∃ st', Stack.swap s.stack (op - 0x90 + 1) = some st' ∧
      (execRegular child env op s).val = (some Ctl.next, { s with gas := s.gas - 1, stack := st' }) := by
  rw [swap_exec child env s op h1 h2]
  rw [bind_val_some (swap_ok s _ hn hg)]
  have h0 : 0 < s.stack.length := by omega
  have hk : op - 0x90 + 1 < s.stack.length := by omega
  refine ⟨_, ?_, rfl⟩
  unfold Stack.swap
  rw [List.getElem?_eq_getElem h0, List.getElem?_eq_getElem hk]
  simp only [List.getD_eq_getElem?_getD, List.getElem?_eq_getElem h0, Option.getD_some,
    show op - 0x90 + 2 - 1 = op - 0x90 + 1 by omega, List.getElem?_eq_getElem hk]

/-- SWAPn on a stack that is too short: the specification fails, the model raises DataStackUnderflow. -/
theorem swap_underflows (child : ChildFn) (env : Env) (s : Frame) (op : Nat) (h1 : 0x90 ≤ op) (h2 : op ≤ 0x9f)
    (hn : s.stack.length < op - 0x90 + 2) (hg : 1 ≤ s.gas) (he : s.err = none) :
    Stack.swap s.stack (op - 0x90 + 1) = none ∧
      (execRegular child env op s).val = (some Ctl.next, { s with gas := s.gas - 1, err := some .dataStackUnderflow }) := by
  constructor
  · unfold Stack.swap
    rw [List.getElem?_eq_none (l := s.stack) (i := op - 0x90 + 1) (by omega)]
    split <;> simp_all
  · rw [swap_exec child env s op h1 h2]
    rw [bind_val_some (swap_underflow s _ hn hg he)]
    rfl

/-- PUSHn (opcode 0x60 + n - 1) at position `pc`: pushes the n bytes after the opcode as a big-endian word, zero padded
    where the code ends, and moves the program counter over them (the main loop then adds 1). -/
theorem push_refines (child : ChildFn) (env : Env) (s : Frame) (op limit : Nat) (h1 : 0x60 ≤ op) (h2 : op ≤ 0x7f)
    (hpc : s.pc < env.code.size) (hsz : env.code.size < 2 ^ 63) (hg : 1 ≤ s.gas) (hlim : s.stack.length < limit) :
    Stack.push limit s.stack (pushValue (bl env.code) s.pc (op - 0x60 + 1)) =
        some (pushValue (bl env.code) s.pc (op - 0x60 + 1) :: s.stack) ∧
    (execRegular child env op s).val =
      (some Ctl.next, { s with gas := s.gas - 1, stack := pushValue (bl env.code) s.pc (op - 0x60 + 1) :: s.stack,
                               pc := s.pc + (op - 0x60 + 1) }) := by
  refine ⟨by unfold Stack.push; rw [if_pos hlim], ?_⟩
  obtain ⟨b, hb1, hb2⟩ := subslice_ok env.code (s.pc + 1) (op - 0x60 + 1) (by omega) (by rw [U64_val]; omega)
    (by rw [memCap_val]; omega)
  rw [pushn_ok child env s op h1 h2 b hb1 hg, word_eq, hb2]
  rfl

/-- The 1024-item limit, specification mode: a frame whose stack has grown beyond 1024 items halts with
    DataStackOverflow before its next instruction (only the deviation markers of the frame change). -/
theorem stack_limit_spec (child : ChildFn) (env : Env) (s : Frame) (hq : env.q.noStackLimit = false) (he : s.err = none)
    (hm : outsideModel env s = false) (hl : 1024 < s.stack.length) :
    ∃ s', (step child env s).val = (some (.done .empty (some .dataStackOverflow)), s') ∧ SameButDev s' s := by
  unfold step
  simp only [he, hm, hq, Bool.false_eq_true, if_false, Bool.not_false, Bool.true_and, decide_eq_true_eq, hl, if_true,
    bind, M.bind, noteDev, pure, M.pure]
  refine ⟨_, rfl, ?_⟩
  exact ⟨rfl, he.symm, rfl, rfl, rfl, rfl⟩

/-- The implementation has no stack limit (recorded deviation `stack_limit`): whatever the depth, the next instruction runs. -/
theorem stack_limit_impl (child : ChildFn) (env : Env) (s : Frame) (hq : env.q.noStackLimit = true) (he : s.err = none)
    (hm : outsideModel env s = false) : step child env s = stepBody child env (opAt env s.pc) s := by
  unfold step
  simp only [he, hm, hq, Bool.false_eq_true, if_false, Bool.not_true, Bool.false_and]

/-- The model's jump-destination analysis (`opcodeBits`, Burrow's `opcodeBitset`) marks exactly the positions of
    instructions: those reached by scanning the code from 0 and skipping the immediate bytes of every PUSH. -/
theorem jumpdest_analysis (code : ByteArray) (hsz : code.size < 2 ^ 64) (p : Nat) (hp : p < code.size) :
    ((opcodeBits code).get! p = 1) ↔ IsInstr (bl code) p := opcodeBits_spec code hsz p hp

/-- A jump to a valid destination (a JUMPDEST byte at an instruction position) sets the program counter. -/
theorem jump_valid (child : ChildFn) (env : Env) (s : Frame) (to : Nat) (r : List Nat)
    (hob : env.opBits = opcodeBits env.code) (hsz : env.code.size < 2 ^ 64) (hs : s.stack = to :: r) (hg : 1 ≤ s.gas)
    (h64 : to < U64) (hv : ValidJump (bl env.code) to) :
    (execRegular child env 0x56 s).val = (some Ctl.jumped, { s with gas := s.gas - 1, stack := r, pc := to }) := by
  rw [jump_pop child env s to r hs hg, jumpWord_lt env to true h64]
  rw [bind_val_some (jumpTo_valid env _ to hob hsz hv)]
  rfl

/-- A jump to any other position (not a JUMPDEST, inside PUSH data, or beyond the code) raises InvalidJumpDest. -/
theorem jump_invalid (child : ChildFn) (env : Env) (s : Frame) (to : Nat) (r : List Nat)
    (hob : env.opBits = opcodeBits env.code) (hsz : env.code.size < 2 ^ 64) (hs : s.stack = to :: r) (hg : 1 ≤ s.gas)
    (h64 : to < U64) (he : s.err = none) (hv : ¬ ValidJump (bl env.code) to) :
    (execRegular child env 0x56 s).val =
      (some Ctl.jumped, { s with gas := s.gas - 1, stack := r, err := some .invalidJumpDest }) := by
  rw [jump_pop child env s to r hs hg, jumpWord_lt env to true h64]
  rw [bind_val_some ((jumpTo_invalid env { s with gas := s.gas - 1, stack := r } to hob hsz hv).trans (pushErr_none _ _ he))]
  rfl

/-- A destination of 2^64 or more, specification mode: an invalid destination like any other (the implementation raises
    IntegerOverflow instead: recorded deviation `data_offset_uint64`). -/
theorem jump_huge (child : ChildFn) (env : Env) (s : Frame) (to : Nat) (r : List Nat) (hs : s.stack = to :: r)
    (hg : 1 ≤ s.gas) (h64 : U64 ≤ to) (hq : env.q.dataOffsetU64 = false) (he : s.err = none) :
    ∃ s', (execRegular child env 0x56 s).val = (some Ctl.jumped, s') ∧
      SameButDev s' { s with gas := s.gas - 1, stack := r, err := some .invalidJumpDest } := by
  rw [jump_pop child env s to r hs hg]
  unfold jumpWord
  simp only [ge_iff_le, h64, if_true, hq, Bool.false_eq_true, if_false, Bool.and_false, bind, M.bind, noteDev, pushErr, he, pure,
    M.pure]
  exact ⟨_, rfl, rfl, rfl, rfl, rfl, rfl, rfl⟩

/-- JUMPI with condition 0 falls through: both operands are popped and the program counter is left to the main loop. -/
theorem jumpi_falls_through (child : ChildFn) (env : Env) (s : Frame) (to : Nat) (r : List Nat) (hs : s.stack = to :: 0 :: r)
    (hg : 2 ≤ s.gas) :
    (execRegular child env 0x57 s).val = (some Ctl.next, { s with gas := s.gas - 2, stack := r }) :=
  jumpi_pop child env s to 0 r hs hg

/-- JUMPI with a non-zero condition jumps exactly like JUMP. -/
theorem jumpi_jumps (child : ChildFn) (env : Env) (s : Frame) (to c : Nat) (r : List Nat) (hs : s.stack = to :: c :: r)
    (hg : 2 ≤ s.gas) (hc : c ≠ 0) (h64 : to < U64) :
    (execRegular child env 0x57 s).val =
      ((jumpTo env to >>= fun _ => pure Ctl.jumped) { s with gas := s.gas - 2, stack := r }).val := by
  rw [jumpi_pop child env s to c r hs hg, if_pos (by simpa using hc), jumpWord_lt env to false h64]

/-- PC pushes the program counter; JUMPDEST does nothing. -/
theorem pc_and_jumpdest (child : ChildFn) (env : Env) (s : Frame) (hg : 1 ≤ s.gas) :
    (execRegular child env 0x58 s).val = (some Ctl.next, { s with gas := s.gas - 1, stack := s.pc :: s.stack }) ∧
    (execRegular child env 0x5b s).val = (some Ctl.next, s) :=
  ⟨bind_val_some (f := fun _ => pure Ctl.next) (push_ok s s.pc hg), rfl⟩

/-- a frame with an empty memory, gas and two operands satisfies the hypotheses of `mstore_refines` / `mstore8_refines` -/
example : ∃ (s : Frame) (m : Mem), Rep s.mem m ∧ s.err = none ∧ s.stack = 64 :: 0xabcd :: [] ∧ 2 ≤ s.gas ∧ 64 + 32 ≤ memCap :=
  ⟨{ gas := 10, stack := [64, 0xabcd] }, Mem.empty, rep_empty, rfl, rfl, by decide, by decide⟩

/-- … and of `mload_refines` -/
example : ∃ (s : Frame) (m : Mem), Rep s.mem m ∧ s.err = none ∧ s.stack = 7 :: [] ∧ 2 ≤ s.gas ∧ 7 + 32 ≤ memCap :=
  ⟨{ gas := 10, stack := [7] }, Mem.empty, rep_empty, rfl, rfl, by decide, by decide⟩

/-- the hypotheses of `zero_length_grows_memory_before_fix`: an empty memory and the offset 5 -/
example : ∃ (s : Frame) (v : ByteArray), v.size = 0 ∧ s.mem.size < 5 ∧ 5 ≤ memCap :=
  ⟨{ gas := 0 }, .empty, rfl, by decide, by decide⟩

/-- the hypotheses of `calldataload_refines` hold in specification mode, those of `calldataload_impl_fails` in
    implementation mode (four bytes of call data, offset 9) -/
example : Quirks.spec.readBeyondErr = false ∧ Quirks.spec.dataOffsetU64 = false ∧ Quirks.impl.readBeyondErr = true ∧
    (⟨#[1, 2, 3, 4]⟩ : ByteArray).size < 9 ∧ 9 < U64 := by decide

/-- specification: CALLDATALOAD at offset 2 of the call data 01 02 03 04 is 0x0304 followed by 30 zero bytes -/
example : dataLoad [1, 2, 3, 4] 2 = 0x0304 * 256 ^ 30 := by decide

/-- the hypotheses of `jump_valid` / `jump_invalid`: in PUSH1 0x5b; JUMPDEST position 2 is valid and position 1 is not -/
example : ValidJump (bl exCode) 2 ∧ ¬ ValidJump (bl exCode) 1 := ⟨ex_valid_2, ex_invalid_1⟩

/-- the hypotheses of `stack_limit_spec` / `stack_limit_impl` about the mode -/
example : Quirks.spec.noStackLimit = false ∧ Quirks.impl.noStackLimit = true ∧ Quirks.spec.zeroLenGrows = false ∧
    Quirks.impl.zeroLenGrows = false ∧ Quirks.implBeforeZeroLenFix.zeroLenGrows = true := by decide

/-- specification sanity: DUP2, SWAP1 and a push at the limit -/
example : Stack.dup 1024 [1, 2, 3] 2 = some [2, 1, 2, 3] ∧ Stack.swap [1, 2, 3] 1 = some [2, 1, 3] ∧
    Stack.push 3 [1, 2, 3] 9 = none := by decide

end Shentu.Props.C16m

#print axioms Shentu.Props.C16m.natBE_is_wordBytes
#print axioms Shentu.Props.C16m.word_is_bytesWord
#print axioms Shentu.Props.C16m.extractPad_is_readPad
#print axioms Shentu.Props.C16m.spec_mload_mstore
#print axioms Shentu.Props.C16m.spec_mload_empty
#print axioms Shentu.Props.C16m.spec_mstore_frame
#print axioms Shentu.Props.C16m.spec_mstore8
#print axioms Shentu.Props.C16m.spec_write_write
#print axioms Shentu.Props.C16m.spec_touch_least
#print axioms Shentu.Props.C16m.spec_touch_zero
#print axioms Shentu.Props.C16m.rep_fresh
#print axioms Shentu.Props.C16m.mstore_refines
#print axioms Shentu.Props.C16m.mstore8_refines
#print axioms Shentu.Props.C16m.mload_refines
#print axioms Shentu.Props.C16m.msize_refines
#print axioms Shentu.Props.C16m.write_beyond_cap
#print axioms Shentu.Props.C16m.zero_length_spec
#print axioms Shentu.Props.C16m.zero_length_grows_memory_before_fix
#print axioms Shentu.Props.C16m.zero_length_impl
#print axioms Shentu.Props.C16m.calldataload_refines
#print axioms Shentu.Props.C16m.calldataload_impl_fails
#print axioms Shentu.Props.C16m.calldataload_impl_agrees
#print axioms Shentu.Props.C16m.subslice_behaviour
#print axioms Shentu.Props.C16m.copy_refines
#print axioms Shentu.Props.C16m.copy_instructions
#print axioms Shentu.Props.C16m.returndatacopy_out_of_range
#print axioms Shentu.Props.C16m.returndatacopy_refines
#print axioms Shentu.Props.C16m.byte_model
#print axioms Shentu.Props.C16m.pop_refines
#print axioms Shentu.Props.C16m.dup_refines
#print axioms Shentu.Props.C16m.dup_underflows
#print axioms Shentu.Props.C16m.swap_refines
#print axioms Shentu.Props.C16m.swap_underflows
#print axioms Shentu.Props.C16m.push_refines
#print axioms Shentu.Props.C16m.stack_limit_spec
#print axioms Shentu.Props.C16m.stack_limit_impl
#print axioms Shentu.Props.C16m.jumpdest_analysis
#print axioms Shentu.Props.C16m.jump_valid
#print axioms Shentu.Props.C16m.jump_invalid
#print axioms Shentu.Props.C16m.jump_huge
#print axioms Shentu.Props.C16m.jumpi_falls_through
#print axioms Shentu.Props.C16m.jumpi_jumps
#print axioms Shentu.Props.C16m.pc_and_jumpdest
