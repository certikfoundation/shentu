import Shentu.Proofs.C11HHistory
/-
  C11 at the level of histories — governance deposits are held in escrow and returned or burned exactly once.

  What is proved.  A history is an arbitrary list of operations applied to an initial world: proposal submissions (with
  initial deposit), deposits, votes, end blockers and bank transfers between accounts other than the governance
  module account.  Every operation brings its own surroundings (block time, bond denomination, staking view); only the
  address `m` of the module account is fixed.  There is no bound on the length of a history or on any size.

   * `reachable_escrow`: after every history the escrow invariant holds.  The module account holds exactly the sum of
     the deposit records in every denomination.  Every record belongs to a proposal that exists and is in its deposit
     period or one of its two voting periods (status 1, 2, 3).  No record has a negative amount or names the module
     account as its depositor.
   * `endBlock_never_halts`: after every history the end blocker succeeds, so "a halting end blocker" never occurs.
   * `never_overpaid`, `paid_exactly_once_ended`, `no_record_after_end`: two ghost logs record the accepted deposits
     and the payments out of the escrow (refunds and burns).  For every proposal and depositor the total paid never
     exceeds the total deposited.  The two are equal as soon as the proposal is not in a deposit or voting period.  At
     that point no record of the proposal is left.
   * `ended_stays_ended`, `frozen_after_end`: a proposal that has ended never becomes live again, and from then on
     nothing more is deposited, refunded or burned for it.
   * `endBlock_pays_as_logged`: the payment log is not arbitrary.  In every end blocker each account receives exactly
     the refunds logged for it, and the supply drops by exactly the logged burns.
   * `history_supply`: over a whole history the supply drops by exactly the logged burns.
   * `veto_burns`, `no_veto_refunds`, `certifier_round_end_refunds`, `certifier_round_continue_keeps`, `dropped_refunds`,
     `early_pass_refunds`: what the end blocker does to one proposal, in terms of the outcome it computed.

  What is assumed.  The module account signs no transaction and receives no bank transfer (`stepW` treats such
  operations as failed transactions).  Both guards are needed: `self_deposit_breaks_escrow` and
  `inbound_transfer_breaks_escrow` are the counterexamples.  The initial world has no proposal, no record and an empty
  module account (`Init`); everything else in it is arbitrary.
-/
namespace Shentu.Props.C11H
open Shentu Shentu.Gov Shentu.C11H
open Shentu.Halt.Gv (depSum)
open Shentu.Props.C11 (recOf recAll)

/-- The invariant holds in every initial world. -/
theorem init_escrow (m : Addr) (w : World) (h : Init m w) : EscrowInv m w := EscrowInv.init h

/-- Every step keeps the invariant.  This covers failed transactions, which change nothing. -/
theorem step_escrow (m : Addr) (w : World) (op : Op) (h : EscrowInv m w) : EscrowInv m (stepW m w op) :=
  stepW_inv m w op h

/-- **The escrow invariant holds after every history.**  The module account holds exactly the recorded deposits.
    Every record belongs to a live proposal.  No record is negative. -/
theorem reachable_escrow (m : Addr) (w : World) (h : Init m w) (ops : List Op) : EscrowInv m (runW m w ops) :=
  runW_inv m ops w (EscrowInv.init h)

/-- The balance clause of the invariant, spelled out.  At every point of every history the module account's balance
    in each denomination is the sum of the recorded deposits. -/
theorem reachable_balance (m : Addr) (w : World) (h : Init m w) (ops : List Op) (d : Denom) :
    (runW m w ops).l.balOf m d = ((runW m w ops).g.deposits.map (fun x => Coins.amountOf x.amount d)).sum :=
  (reachable_escrow m w h ops).held d

/-- **The end blocker never halts.**  After every history and in every surroundings it returns a world. -/
theorem endBlock_never_halts (m : Addr) (w : World) (h : Init m w) (ops : List Op) (x : Ctx) :
    ∃ w', endBlock (env m x) (runW m w ops) = .ok w' := by
  have hi : EscrowInv (env m x).modAddr (runW m w ops) := reachable_escrow m w h ops
  obtain ⟨w', hw', _⟩ := Shentu.Halt.Gv.endBlock_total (env m x) _ hi.toEscrow
  exact ⟨w', hw'⟩

/-- Deposited equals still recorded plus paid, for every proposal, depositor and denomination, after every history.
    This needs no assumption on the ledger: only that the history starts without records. -/
theorem reachable_acct (m : Addr) (w : World) (h : w.g.deposits = []) (ops : List Op) :
    Acct (runG m ⟨w, [], []⟩ ops) := by
  apply runG_acct
  intro pid a d
  show depTot [] pid a d = recOf w.g.deposits pid a d + paidTot [] pid a d
  rw [h]; rfl

/-- **Nothing is paid twice.**  Over a whole history the refunds and burns for (proposal, depositor) never exceed what
    that depositor deposited for that proposal. -/
theorem never_overpaid (m : Addr) (w : World) (h : Init m w) (ops : List Op) (pid : Nat) (a : Addr) (d : Denom) :
    paidTot (runG m ⟨w, [], []⟩ ops).pays pid a d ≤ depTot (runG m ⟨w, [], []⟩ ops).deps pid a d := by
  have hA := reachable_acct m w h.noDeposit ops pid a d
  have hI := reachable_escrow m w h ops
  rw [← runG_w m ops ⟨w, [], []⟩] at hI
  have := recOf_nonneg _ hI.valid pid a d
  omega

/-- **After the end no record remains.**  If after a history proposal `pid` is not in its deposit period or a voting
    period (it was dropped, decided, or never existed) then no deposit record names it. -/
theorem no_record_after_end (m : Addr) (w : World) (h : Init m w) (ops : List Op) (pid : Nat)
    (hend : ¬ Live (runW m w ops).g pid) : ∀ x ∈ (runW m w ops).g.deposits, x.pid ≠ pid := by
  intro x hx he
  exact hend (he ▸ (reachable_escrow m w h ops).live x hx)

/-- **Exactly once.**  Once the proposal has left the deposit and voting periods, every depositor has been paid
    (refunded, or burned on veto) exactly what they deposited for it: not less, not more. -/
theorem paid_exactly_once_ended (m : Addr) (w : World) (h : Init m w) (ops : List Op) (pid : Nat)
    (hend : ¬ Live (runG m ⟨w, [], []⟩ ops).w.g pid) (a : Addr) (d : Denom) :
    paidTot (runG m ⟨w, [], []⟩ ops).pays pid a d = depTot (runG m ⟨w, [], []⟩ ops).deps pid a d := by
  have hA := reachable_acct m w h.noDeposit ops pid a d
  rw [runG_w] at hend
  have hz := recOf_zero_of_no_record _ pid (no_record_after_end m w h ops pid hend) a d
  rw [← runG_w m ops ⟨w, [], []⟩] at hz
  omega

/-- **Ended is for ever.**  A proposal whose identifier was handed out and which is not in a deposit or voting period
    (dropped, passed, rejected, failed) never gets back into one, whatever happens next.  This holds from any world. -/
theorem ended_stays_ended (m : Addr) (w : World) (ops : List Op) (pid : Nat) (h : Ended w.g pid) :
    Ended (runW m w ops).g pid := (runW_grow m ops w).ended h

/-- **After the end the books of the proposal are closed.**  Once a proposal has ended, no later operation adds a
    deposit for it and no later operation refunds or burns anything for it. -/
theorem frozen_after_end (m : Addr) (w : World) (h : Init m w) (ops1 ops2 : List Op) (pid : Nat)
    (hend : Ended (runG m ⟨w, [], []⟩ ops1).w.g pid) (a : Addr) (d : Denom) :
    depTot (runG m ⟨w, [], []⟩ (ops1 ++ ops2)).deps pid a d = depTot (runG m ⟨w, [], []⟩ ops1).deps pid a d ∧
    paidTot (runG m ⟨w, [], []⟩ (ops1 ++ ops2)).pays pid a d = paidTot (runG m ⟨w, [], []⟩ ops1).pays pid a d := by
  have hd := runG_deps_frozen m pid a d ops2 _ hend
  have hend2 := (runW_grow m ops2 _).ended hend
  rw [← runG_w, ← runG_append] at hend2
  rw [← runG_append] at hd
  have p1 := paid_exactly_once_ended m w h ops1 pid hend.2 a d
  have p2 := paid_exactly_once_ended m w h (ops1 ++ ops2) pid hend2.2 a d
  exact ⟨hd, by omega⟩

/-- **Every end blocker pays as logged.**  Each account other than the module account receives exactly the refunds
    logged for it.  The supply drops by exactly the logged burns.  What leaves the records of (proposal, depositor)
    is what the log attributes to them. -/
theorem endBlock_pays_as_logged (m : Addr) (x : Ctx) (w w' : World) (h : endBlock (env m x) w = .ok w') :
    Moves m w (endBlockLog (env m x) w) w' := (endBlock_sub h).2

/-- **Over a whole history the supply drops by exactly the logged burns.**  Nothing else governance does, and no
    transfer, changes the supply. -/
theorem history_supply (m : Addr) (w : World) (ops : List Op) (d : Denom) :
    Coins.amountOf (runG m ⟨w, [], []⟩ ops).w.l.supply d =
      Coins.amountOf w.l.supply d - burnedSum (runG m ⟨w, [], []⟩ ops).pays d :=
  List.foldlRecOn (motive := fun g => Coins.amountOf g.w.l.supply d = Coins.amountOf w.l.supply d - burnedSum g.pays d)
    ops (stepG m) (Int.sub_zero _).symm (fun g hg op _ => by
      have h1 := (step_books m g.w op).2 d
      show Coins.amountOf (stepW m g.w op).l.supply d = _ - burnedSum (g.pays ++ _) d
      rw [burnedSum_append]; omega)

/-- **Veto ⇒ burned.**  The validator round of `p` is over and the stake tally says veto.  Then the supply drops by
    exactly the deposits recorded for `p`.  Nobody is paid.  No record of `p` remains and `p` is no longer live. -/
theorem veto_burns (e : Env) (w w' : World) (p : Proposal) (h : processActive e w p = .ok w') (hs : p.status ≠ 2)
    (hv : (stakeTally e w.g p 0).2.1 = true) :
    (∀ d, Coins.amountOf w'.l.supply d = Coins.amountOf w.l.supply d - recAll w.g.deposits p.id d) ∧
    (∀ a d, a ≠ e.modAddr → w'.l.balOf a d = w.l.balOf a d) ∧
    (∀ x ∈ w'.g.deposits, x.pid ≠ p.id) ∧ ¬ Live w'.g p.id := by
  rcases endStep_sub (processActive_endStep h) with ⟨h2, _⟩ | ⟨b, pass, hver, s⟩
  · exact absurd h2 hs
  · cases hver with
    | cert h2 _ => exact absurd h2 hs
    | stake _ => exact (hv ▸ s).burn_facts

/-- **No veto ⇒ refunded.**  The validator round of `p` is over and the stake tally does not say veto (the proposal
    passes, is rejected, or its handler fails).  Then the supply is unchanged.  Every depositor gets back exactly what
    is recorded for them.  No record of `p` remains and `p` is no longer live. -/
theorem no_veto_refunds (e : Env) (w w' : World) (p : Proposal) (h : processActive e w p = .ok w') (hs : p.status ≠ 2)
    (hv : (stakeTally e w.g p 0).2.1 = false) :
    (∀ d, Coins.amountOf w'.l.supply d = Coins.amountOf w.l.supply d) ∧
    (∀ a d, a ≠ e.modAddr → w'.l.balOf a d = w.l.balOf a d + recOf w.g.deposits p.id a d) ∧
    (∀ x ∈ w'.g.deposits, x.pid ≠ p.id) ∧ ¬ Live w'.g p.id := by
  rcases endStep_sub (processActive_endStep h) with ⟨h2, _⟩ | ⟨b, pass, hver, s⟩
  · exact absurd h2 hs
  · cases hver with
    | cert h2 _ => exact absurd h2 hs
    | stake _ => exact (hv ▸ s).refund_facts

/-- The certifier round of `p` is over and it ends the voting.  The deposits are refunded. -/
theorem certifier_round_end_refunds (e : Env) (w w' : World) (p : Proposal) (h : processActive e w p = .ok w')
    (hs : p.status = 2) (hv : (securityTally w.g w.c p).2.1 = true) :
    (∀ d, Coins.amountOf w'.l.supply d = Coins.amountOf w.l.supply d) ∧
    (∀ a d, a ≠ e.modAddr → w'.l.balOf a d = w.l.balOf a d + recOf w.g.deposits p.id a d) ∧
    (∀ x ∈ w'.g.deposits, x.pid ≠ p.id) ∧ ¬ Live w'.g p.id := by
  rcases endStep_sub (processActive_endStep h) with ⟨_, hv', _⟩ | ⟨b, pass, hver, s⟩
  · rw [hv] at hv'; cases hv'
  · cases hver with
    | cert _ _ => exact s.refund_facts
    | stake hn => exact absurd hs hn

/-- The certifier round of `p` is over and hands over to the validator round.  Nothing is paid: the ledger and the
    records are untouched, and every live proposal stays live. -/
theorem certifier_round_continue_keeps (e : Env) (w w' : World) (p : Proposal) (h : processActive e w p = .ok w')
    (hs : p.status = 2) (hv : (securityTally w.g w.c p).2.1 = false) :
    w'.l = w.l ∧ w'.g.deposits = w.g.deposits ∧ ∀ id, Live w.g id → Live w'.g id := by
  rcases endStep_sub (processActive_endStep h) with ⟨_, _, k⟩ | ⟨b, pass, hver, _⟩
  · exact ⟨k.l, k.deps, k.live⟩
  · cases hver with
    | cert _ hv' => rw [hv] at hv'; cases hv'
    | stake hn => exact absurd hs hn

/-- The deposit period of `p` ended below the minimum.  The proposal is deleted and the deposits are refunded. -/
theorem dropped_refunds (e : Env) (w w' : World) (p : Proposal)
    (h : refundDeposits e { w with g := delP w.g p.id } p.id = .ok w') :
    (∀ d, Coins.amountOf w'.l.supply d = Coins.amountOf w.l.supply d) ∧
    (∀ a d, a ≠ e.modAddr → w'.l.balOf a d = w.l.balOf a d + recOf w.g.deposits p.id a d) ∧
    (∀ x ∈ w'.g.deposits, x.pid ≠ p.id) ∧ ¬ Live w'.g p.id :=
  (drop_settled h).1.refund_facts

/-- The early decision of the certifier round never burns: the supply of every denomination stays.  (That it pays
    nothing or refunds one proposal is `C11H.processSecurityVote_sub`.) -/
theorem early_pass_refunds (e : Env) (w w' : World) (p : Proposal) (h : processSecurityVote e w p = .ok w') :
    ∀ d, Coins.amountOf w'.l.supply d = Coins.amountOf w.l.supply d := by
  rcases processSecurityVote_endStep h with ⟨rfl, _⟩ | ⟨h2, _, st⟩
  · exact fun _ => rfl
  · rcases endStep_sub st with ⟨_, _, k⟩ | ⟨b, pass, hv, s⟩
    · rw [k.l]; exact fun _ => rfl
    · cases hv with
      | cert _ _ => exact s.refund_facts.1
      | stake hn => exact absurd h2 hn

namespace Demo

def m : Addr := "gov"
def tp : TallyParams :=
  { quorum := ⟨334000000000000000⟩, threshold := ⟨500000000000000000⟩, veto := ⟨334000000000000000⟩ }
def params : Params :=
  { minInitial := [], minDeposit := [("uctk", 100)], depositPeriod := 10, votingPeriod := 10, «default» := tp,
    security := tp, certStake := tp }
/-- alice and bob hold 100uctk each; no proposal yet -/
def w0 : World :=
  { l := { posts := [("alice", "uctk", 100), ("bob", "uctk", 100)], supply := [("uctk", 200)] },
    g := { proposals := [], deposits := [], votes := [], nextId := 1, params := params },
    c := { certifiers := [], aliasIdx := [], certs := [], nextId := 1, platforms := [] } }
/-- one bonded validator with all the stake -/
def sv : StakeView := { vals := [("val1", 1000, Dec.ofInt 1000)], dels := [], totalBonded := 1000 }
def cx (t : Int) : Ctx := { t := t, bond := "uctk", stake := sv }
def p0 : Proposal :=
  { id := 0, kind := "text", status := 0, isCouncil := false, proposer := "", totalDeposit := [], submitTime := 0,
    depositEnd := 0, votingStart := 0, votingEnd := 0, tally := ⟨0, 0, 0, 0⟩ }

/-- Two proposals, deposits by two accounts.  Proposal 1 collects 60 < 100 and is dropped when its deposit period
    ends (block at t = 10).  Proposal 2 collects 110 ≥ 100, is voted no-with-veto by the only validator and is vetoed
    when its voting period ends (block at t = 12). -/
def hist : List Op :=
  [ .submit (cx 0) "alice" p0 [("uctk", 40)],
    .submit (cx 1) "bob" p0 [("uctk", 60)],
    .deposit (cx 2) 2 "alice" [("uctk", 50)],
    .deposit (cx 3) 1 "bob" [("uctk", 20)],
    .transfer "alice" "bob" [("uctk", 5)],
    .vote 2 "val1" 4,
    .endBlock (cx 10),
    .endBlock (cx 12) ]

def final : G := runG m ⟨w0, [], []⟩ hist
def beforeBlocks : G := runG m ⟨w0, [], []⟩ (hist.take 6)

theorem w0_init : Init m w0 := ⟨rfl, rfl, fun _ => rfl⟩

/-- the same history, except that the validator votes yes: proposal 2 passes -/
def histYes : List Op := (hist.take 5) ++ [.vote 2 "val1" 1, .endBlock (cx 10)]

/-- a world with one certifier, for the certifier round -/
def w0c : World := { w0 with c := { w0.c with certifiers := [{ addr := "cert1", alias := "", proposer := "" }] } }
/-- a software-upgrade proposal by alice reaches the minimum deposit at once and enters the certifier round; in
    `histCertYes` the certifier then votes yes -/
def histCert : List Op := [ .submit (cx 0) "alice" { p0 with kind := "upgrade" } [("uctk", 100)] ]
def histCertYes : List Op := histCert ++ [ .vote 1 "cert1" 1 ]

theorem exists_of_find {g : State} {id : Nat} {P : Proposal → Bool} (h : (findP g id).map P = some true) :
    ∃ p, findP g id = some p ∧ P p = true := by
  cases hf : findP g id with
  | none => rw [hf] at h; cases h
  | some p => rw [hf] at h; exact ⟨p, rfl, by simpa using h⟩

theorem ok_of_isSome {α : Type} {x : Except Err α} (h : x.toOption.isSome = true) : ∃ a, x = .ok a := by
  cases x with
  | error e => simp [Except.toOption] at h
  | ok a => exact ⟨a, rfl⟩

end Demo
open Demo

/-- non-vacuity of `Init` (hypothesis of all history theorems): the demo world is initial -/
example : Init m w0 := w0_init

set_option maxRecDepth 100000 in
/-- before the two blocks both proposals are live (1 in its deposit period, 2 in the validator round) and the module
    account holds the 170uctk recorded -/
example : beforeBlocks.w.g.proposals.map (fun p => (p.id, p.status)) = [(1, 1), (2, 3)] ∧
    beforeBlocks.w.l.balOf m "uctk" = 170 ∧
    beforeBlocks.w.g.deposits.map (fun x => (x.pid, x.depositor, Coins.amountOf x.amount "uctk")) =
      [(1, "alice", 40), (2, "bob", 60), (2, "alice", 50), (1, "bob", 20)] := by decide +kernel

set_option maxRecDepth 100000 in
/-- **the concrete history**: proposal 1 is dropped and refunded (40 to alice, 20 to bob), proposal 2 is vetoed and
    its 110uctk are burned; afterwards the escrow is empty, no record is left, the supply went from 200 to 90 -/
example : final.pays.map (fun x => (x.pid, x.to, x.amount, x.burned)) =
      [(1, "alice", [("uctk", 40)], false), (1, "bob", [("uctk", 20)], false),
       (2, "bob", [("uctk", 60)], true), (2, "alice", [("uctk", 50)], true)] ∧
    final.deps.map (fun x => (x.pid, x.depositor, x.amount)) =
      [(1, "alice", [("uctk", 40)]), (2, "bob", [("uctk", 60)]), (2, "alice", [("uctk", 50)]), (1, "bob", [("uctk", 20)])] ∧
    final.w.g.deposits.length = 0 ∧
    final.w.g.proposals.map (fun p => (p.id, p.status)) = [(2, 5)] ∧
    final.w.l.balOf m "uctk" = 0 ∧ final.w.l.balOf "alice" "uctk" = 45 ∧ final.w.l.balOf "bob" "uctk" = 45 ∧
    Coins.amountOf final.w.l.supply "uctk" = 90 := by
  refine ⟨by decide +kernel, by decide +kernel, by decide +kernel⟩

/-- non-vacuity of `paid_exactly_once_ended` and `no_record_after_end`: in the concrete history both proposals have
    ended (1 is gone, 2 is rejected) -/
theorem final_not_live : ¬ Live final.w.g 1 ∧ ¬ Live final.w.g 2 := by
  have h1 : findP final.w.g 1 = none := by decide +kernel
  have h2 : (findP final.w.g 2).map (·.status) = some 5 := by decide +kernel
  refine ⟨?_, ?_⟩
  · rintro ⟨p, hp, _⟩; rw [h1] at hp; cases hp
  · rintro ⟨p, hp, hs⟩; rw [hp] at h2; simp at h2; omega

set_option maxRecDepth 100000 in
/-- non-vacuity of `ended_stays_ended` and `frozen_after_end`: both identifiers were handed out (the counter is at 3) -/
example : Ended final.w.g 1 ∧ Ended final.w.g 2 := by
  have hn : final.w.g.nextId = 3 := by decide +kernel
  exact ⟨⟨by rw [hn]; decide, final_not_live.1⟩, ⟨by rw [hn]; decide, final_not_live.2⟩⟩

set_option maxRecDepth 100000 in
/-- non-vacuity of `veto_burns`: the second block of the concrete history runs `processActive` on proposal 2 with a
    stake tally that says veto -/
example : ∃ w p w', findP w.g 2 = some p ∧ processActive (env m (cx 12)) w p = .ok w' ∧ p.status ≠ 2 ∧
    (stakeTally (env m (cx 12)) w.g p 0).2.1 = true := by
  let w := (runG m ⟨w0, [], []⟩ (hist.take 7)).w
  obtain ⟨p, hp, hP⟩ := exists_of_find (g := w.g) (id := 2)
    (P := fun p => (processActive (env m (cx 12)) w p).toOption.isSome && p.status != 2 &&
      (stakeTally (env m (cx 12)) w.g p 0).2.1) (by decide +kernel)
  simp only [Bool.and_eq_true, bne_iff_ne, ne_eq] at hP
  obtain ⟨⟨hok, hst⟩, hv⟩ := hP
  obtain ⟨w', hw'⟩ := ok_of_isSome hok
  exact ⟨w, p, w', hp, hw', hst, hv⟩

set_option maxRecDepth 100000 in
/-- non-vacuity of `no_veto_refunds`: with a yes vote the stake tally of proposal 2 does not say veto -/
example : ∃ w p w', findP w.g 2 = some p ∧ processActive (env m (cx 12)) w p = .ok w' ∧ p.status ≠ 2 ∧
    (stakeTally (env m (cx 12)) w.g p 0).2.1 = false := by
  let w := runW m w0 histYes
  obtain ⟨p, hp, hP⟩ := exists_of_find (g := w.g) (id := 2)
    (P := fun p => (processActive (env m (cx 12)) w p).toOption.isSome && p.status != 2 &&
      !(stakeTally (env m (cx 12)) w.g p 0).2.1) (by decide +kernel)
  simp only [Bool.and_eq_true, bne_iff_ne, ne_eq, Bool.not_eq_true'] at hP
  obtain ⟨⟨hok, hst⟩, hv⟩ := hP
  obtain ⟨w', hw'⟩ := ok_of_isSome hok
  exact ⟨w, p, w', hp, hw', hst, hv⟩

set_option maxRecDepth 100000 in
/-- non-vacuity of `dropped_refunds`: the first block of the concrete history drops proposal 1 -/
example : ∃ (w : World) (p : Proposal) (w' : World), findP w.g 1 = some p ∧
    refundDeposits (env m (cx 10)) { w with g := delP w.g p.id } p.id = .ok w' := by
  let w := runW m w0 (hist.take 6)
  obtain ⟨p, hp, hP⟩ := exists_of_find (g := w.g) (id := 1)
    (P := fun p => (refundDeposits (env m (cx 10)) { w with g := delP w.g p.id } p.id).toOption.isSome) (by decide +kernel)
  obtain ⟨w', hw'⟩ := ok_of_isSome hP
  exact ⟨w, p, w', hp, hw'⟩

set_option maxRecDepth 100000 in
/-- non-vacuity of `certifier_round_end_refunds`: the certifier round of the upgrade proposal ends without a vote, the
    security tally fails and ends the voting -/
example : ∃ w p w', findP w.g 1 = some p ∧ processActive (env m (cx 10)) w p = .ok w' ∧ p.status = 2 ∧
    (securityTally w.g w.c p).2.1 = true := by
  let w := runW m w0c histCert
  obtain ⟨p, hp, hP⟩ := exists_of_find (g := w.g) (id := 1)
    (P := fun p => (processActive (env m (cx 10)) w p).toOption.isSome && p.status == 2 &&
      (securityTally w.g w.c p).2.1) (by decide +kernel)
  simp only [Bool.and_eq_true, beq_iff_eq] at hP
  obtain ⟨⟨hok, hst⟩, hv⟩ := hP
  obtain ⟨w', hw'⟩ := ok_of_isSome hok
  exact ⟨w, p, w', hp, hw', hst, hv⟩

set_option maxRecDepth 100000 in
/-- non-vacuity of `certifier_round_continue_keeps`: the certifier approved the upgrade proposal, the voting goes on
    with the validators -/
example : ∃ w p w', findP w.g 1 = some p ∧ processActive (env m (cx 10)) w p = .ok w' ∧ p.status = 2 ∧
    (securityTally w.g w.c p).2.1 = false := by
  let w := runW m w0c histCertYes
  obtain ⟨p, hp, hP⟩ := exists_of_find (g := w.g) (id := 1)
    (P := fun p => (processActive (env m (cx 10)) w p).toOption.isSome && p.status == 2 &&
      !(securityTally w.g w.c p).2.1) (by decide +kernel)
  simp only [Bool.and_eq_true, beq_iff_eq, Bool.not_eq_true'] at hP
  obtain ⟨⟨hok, hst⟩, hv⟩ := hP
  obtain ⟨w', hw'⟩ := ok_of_isSome hok
  exact ⟨w, p, w', hp, hw', hst, hv⟩

set_option maxRecDepth 100000 in
/-- non-vacuity of `early_pass_refunds` and `endBlock_pays_as_logged`: `processSecurityVote` and the whole end blocker
    succeed on the world in which the certifier approved -/
example : (∃ p w', findP (runW m w0c histCertYes).g 1 = some p ∧
      processSecurityVote (env m (cx 5)) (runW m w0c histCertYes) p = .ok w') ∧
    (∃ w', endBlock (env m (cx 5)) (runW m w0c histCertYes) = .ok w') := by
  refine ⟨?_, ok_of_isSome (by decide +kernel)⟩
  obtain ⟨p, hp, hP⟩ := exists_of_find (g := (runW m w0c histCertYes).g) (id := 1)
    (P := fun p => (processSecurityVote (env m (cx 5)) (runW m w0c histCertYes) p).toOption.isSome) (by decide +kernel)
  obtain ⟨w', hw'⟩ := ok_of_isSome hP
  exact ⟨p, w', hp, hw'⟩

/-- **The signer guard is needed.**  `AddDeposit` called with the module account itself as depositor succeeds in the
    model (the transfer is a self-transfer) and adds a record without adding coins.  In the chain the module account
    has no key, so no such message can be signed. -/
theorem self_deposit_breaks_escrow :
    ¬ (∀ (e : Env) (w w' : World) (pid : Nat) (a : Addr) (amt : Coins),
        EscrowInv e.modAddr w → addDeposit e w pid a amt = .ok w' → EscrowInv e.modAddr w') := by
  intro hall
  let w := runW m w0 (hist.take 1)
  have hi : EscrowInv (env m (cx 1)).modAddr w := reachable_escrow m w0 w0_init _
  have hev : ((addDeposit (env m (cx 1)) w 1 m [("uctk", 5)]).toOption.map
      (fun w' => decide (w'.l.balOf m "uctk" = depSum w'.g.deposits "uctk"))) = some false := by decide +kernel
  cases hadd : addDeposit (env m (cx 1)) w 1 m [("uctk", 5)] with
  | error x => rw [hadd] at hev; simp [Except.toOption] at hev
  | ok w' =>
    rw [hadd] at hev
    simp [Except.toOption] at hev
    exact hev ((hall _ _ _ _ _ _ hi hadd).held "uctk")

/-- **The blocked-recipient guard is needed.**  A bank transfer into the module account raises its balance above the
    recorded deposits.  In the chain every module account is a blocked recipient of bank transfers.  (The weaker
    inequality "holds at least the recorded deposits" of `Shentu.Halt.Gv.Escrow` survives such a transfer.) -/
theorem inbound_transfer_breaks_escrow :
    ¬ (∀ (m : Addr) (w : World) (s d : Addr) (amt : Coins) (l' : Ledger),
        EscrowInv m w → w.l.send s d amt = .ok l' → EscrowInv m { w with l := l' }) := by
  intro hall
  have hi : EscrowInv m w0 := init_escrow m w0 w0_init
  have hs : w0.l.send "alice" m [("uctk", 5)] = .ok (w0.l.move "alice" m [("uctk", 5)]) := by rfl
  have hbad := (hall _ _ _ _ _ _ hi hs).held "uctk"
  have : ¬ ((w0.l.move "alice" m [("uctk", 5)]).balOf m "uctk" = depSum w0.g.deposits "uctk") := by decide +kernel
  exact this hbad

end Shentu.Props.C11H

#print axioms Shentu.Props.C11H.init_escrow
#print axioms Shentu.Props.C11H.step_escrow
#print axioms Shentu.Props.C11H.reachable_escrow
#print axioms Shentu.Props.C11H.reachable_balance
#print axioms Shentu.Props.C11H.endBlock_never_halts
#print axioms Shentu.Props.C11H.reachable_acct
#print axioms Shentu.Props.C11H.never_overpaid
#print axioms Shentu.Props.C11H.no_record_after_end
#print axioms Shentu.Props.C11H.paid_exactly_once_ended
#print axioms Shentu.Props.C11H.ended_stays_ended
#print axioms Shentu.Props.C11H.frozen_after_end
#print axioms Shentu.Props.C11H.endBlock_pays_as_logged
#print axioms Shentu.Props.C11H.history_supply
#print axioms Shentu.Props.C11H.veto_burns
#print axioms Shentu.Props.C11H.no_veto_refunds
#print axioms Shentu.Props.C11H.certifier_round_end_refunds
#print axioms Shentu.Props.C11H.certifier_round_continue_keeps
#print axioms Shentu.Props.C11H.dropped_refunds
#print axioms Shentu.Props.C11H.early_pass_refunds
#print axioms Shentu.Props.C11H.self_deposit_breaks_escrow
#print axioms Shentu.Props.C11H.inbound_transfer_breaks_escrow
