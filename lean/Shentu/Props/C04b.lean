import Shentu.Proofs.PayoutLemmas
/-
  C04, "… (each provider by at most its own collateral, taken from its bonded or unbonding stake), and the coins arrive
  in the shield module account": the arithmetic of `MakePayoutByProviderDelegations` (`Model/Payout.lean`).

  `Props/C04.lean` proves the books of a payout over the shield model, in which the coins move in one step.  This file proves
  that the way the code actually takes them — split, pro-rata loop with rounding, shares rounded up and converted back by the
  validator, walk over the unbonding entries — moves exactly `payout`, for every population of delegations and unbonding
  entries, every exchange rate a slash can produce, and every amount, provided the stake the split uses is the sum of the
  delegations (what d75c287 establishes) and the provider's stake covers `purchased + payout` (C06's invariant).
  Property theorems only; helper lemmas are in `Shentu/Proofs/PayoutLemmas.lean`.
-/
namespace Shentu.Props.C04b
open Shentu Shentu.Payout

/-- a delegation to a validator that has tokens and whose shares are worth at most two tokens each (shares are issued one per token; a slash lowers the rate, rounding dust left in the validator can raise it by a hair); the delegation holds part of the validator's shares -/
def WF (d : Del) : Prop :=
  0 < d.vtokens ∧ d.vtokens * Dec.prec ≤ 2 * d.vshares.raw ∧ 0 ≤ d.shares.raw ∧ d.shares.raw ≤ d.vshares.raw

/-- the split: from delegations what exceeds `purchased`, at most `payout`; uncovered is what the delegations lack -/
theorem split_spec (bonded purchased payout : Int) (hq : 0 ≤ payout) :
    (split bonded purchased payout).1 = min payout (max (bonded - purchased) 0) ∧
    (split bonded purchased payout).2 = max (purchased - bonded) 0 :=
  split_core bonded purchased payout hq

/-- the pro-rata loop hands out exactly `p`, never more from a delegation than it is worth -/
theorem amounts_exact (p : Int) (ds : List Int) (hd : ∀ d ∈ ds, 0 ≤ d) (hp : 0 < p) (hpT : p ≤ sum ds)
    (hbig : sum ds < 2 * Dec.prec) :
    sum (amounts (Dec.quo (Dec.ofInt p) (Dec.ofInt (sum ds))) ds p) = p ∧
    List.Forall₂ (fun a d => 0 ≤ a ∧ a ≤ d) (amounts (Dec.quo (Dec.ofInt p) (Dec.ofInt (sum ds))) ds p)
      (ds.take (amounts (Dec.quo (Dec.ofInt p) (Dec.ofInt (sum ds))) ds p).length) :=
  amounts_exact_core p ds hd hp hpT hbig

/-- rounding the shares up makes the validator issue exactly the amount asked for, whatever the exchange rate -/
theorem shares_exact (d : Del) (hwf : WF d) (a : Int) (ha : 0 ≤ a) (had : a ≤ d.amount) :
    issued d (ubdShares d a) = a :=
  issued_ubdShares d (sound_of_two_tokens d hwf) a ha had

/-- the walk over the unbonding entries pays `min q (Σ balances − uncovered)`, never more from an entry than its balance -/
theorem ubdLoop_spec (bs : List Int) (hb : ∀ b ∈ bs, 0 ≤ b) (u q : Int) (hu : 0 ≤ u) (hq : 0 ≤ q) :
    sum (ubdLoop bs u q).1 + (ubdLoop bs u q).2 = q ∧
    (ubdLoop bs u q).2 = max (q - max (sum bs - u) 0) 0 ∧
    List.Forall₂ (fun t b => 0 ≤ t ∧ t ≤ b) (ubdLoop bs u q).1 (bs.take (ubdLoop bs u q).1.length) :=
  ubdLoop_core bs hb u q hu hq

/-- **the payout out of a provider's stake is exact**: with the stake up to date and covering `purchased + payout`, the
    code moves exactly `payout` coins, each delegation and each unbonding entry giving at most what it holds -/
theorem makePayout_exact (ds : List Del) (ubds : List Int) (purchased payout : Int)
    (hwf : ∀ d ∈ ds, WF d) (hu : ∀ b ∈ ubds, 0 ≤ b) (hp : 0 ≤ purchased) (hq : 0 < payout)
    (hback : purchased + payout ≤ bondedOf ds + sum ubds) (hbig : bondedOf ds < 2 * Dec.prec) :
    ∃ pd pu, makePayout (bondedOf ds) purchased payout ds ubds = .ok (pd, pu) ∧ sum pd + sum pu = payout ∧
      List.Forall₂ (fun a d => 0 ≤ a ∧ a ≤ Del.amount d) pd (ds.take pd.length) ∧
      List.Forall₂ (fun t b => 0 ≤ t ∧ t ≤ b) pu (ubds.take pu.length) :=
  makePayout_core ds ubds purchased payout (fun d hd => sound_of_two_tokens d (hwf d hd)) hu hp hq hback hbig

-- (`hwf` and `hp` are part of the statement but the proof does not need them: an uncovered payout panics whatever the
-- delegations look like)
set_option linter.unusedVariables false in
/-- … and when the stake does not cover it, the code panics rather than pay short (the gov end-blocker then fails the
    proposal: a47d31f, 102ee33) -/
theorem makePayout_uncovered_panics (ds : List Del) (ubds : List Int) (purchased payout : Int)
    (hwf : ∀ d ∈ ds, WF d) (hu : ∀ b ∈ ubds, 0 ≤ b) (hp : 0 ≤ purchased) (hq : 0 < payout)
    (hback : bondedOf ds + sum ubds < purchased + payout) :
    ∃ msg, makePayout (bondedOf ds) purchased payout ds ubds = .error msg :=
  ⟨_, (makePayout_eq ..).trans (if_neg fun h => Int.not_le.mpr hback ((ubdLoop_split_left _ _ _ _ hu hq).mp h))⟩

/-! ## why the hypotheses are there: the two repaired defects, as evaluations of the same model -/

/-- a validator slashed by 7 %: 100,000,000 shares for 93,000,000 tokens -/
def slashed (shares : Int) : Del := { shares := ⟨shares * Dec.prec⟩, vtokens := 93000000, vshares := ⟨100000000 * Dec.prec⟩ }
def whole (shares : Int) : Del := { shares := ⟨shares * Dec.prec⟩, vtokens := 100000000, vshares := ⟨100000000 * Dec.prec⟩ }

example : WF (slashed 5000000) ∧ WF (whole 3000000) := by
  simp [WF, slashed, whole, Dec.prec]

/-- d75c287: with a *stale* stake (recorded before the slash: 110 instead of 103) the last delegation is asked for more
    than it is worth and the payout arrives short -/
example : sum (payFromDelegation 110 [slashed 100, whole 10] 100) < 100 := by decide
/-- … with the stake up to date it is exact -/
example : sum (payFromDelegation (bondedOf [slashed 100, whole 10]) [slashed 100, whole 10] 100) = 100 := by decide

/-- 2c959f7: truncated shares make a slashed validator issue one unit less than asked -/
example : issued (slashed 5000000) (ubdSharesTruncated (slashed 5000000) 1000002) = 1000001 := by decide
example : issued (slashed 5000000) (ubdShares (slashed 5000000) 1000002) = 1000002 := by decide

end Shentu.Props.C04b
