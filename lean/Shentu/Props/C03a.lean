import Shentu.Proofs.ShieldCollSteps
import Shentu.Proofs.Runs
/-
  C03 (collateral / withdrawal-queue half) — "total collateral and total withdrawing equal the sums over
  providers, each provider's withdrawing amount equals the sum of their queued withdrawals ... No amount is
  negative and a provider never has more in withdrawal than they have in collateral."

  `CollInv` (Shentu/Proofs/ShieldCollInv.lean) is exactly the clauses `coll`, `wdr`, `wdrQ`, `wdrOwner`, `wdrPos`
  and the collateral part of `provNonneg` of `Shield.BooksInv`, plus: provider addresses are pairwise distinct.
  This file: every successful operation of the model preserves `CollInv`; hence every history does.
-/
namespace Shentu.Props.C03a
open Shentu Shentu.Shield Shentu.Shield.Coll

/-! ## `CollInv` gives the clauses of `BooksInv` (for assembling the two halves) -/

/-- C03 "total collateral ... equal[s] the sum over providers" -/
theorem books_coll {s : State} (h : CollInv s) : s.totalCollateral = sumI (·.collateral) s.providers := h.coll
/-- C03 "total withdrawing equal[s] the sum over providers" -/
theorem books_wdr {s : State} (h : CollInv s) : s.totalWithdrawing = sumI (·.withdrawing) s.providers := h.wdr
/-- C03 "each provider's withdrawing amount equals the sum of their queued withdrawals" -/
theorem books_wdrQ {s : State} (h : CollInv s) :
    ∀ p ∈ s.providers, p.withdrawing = sumI (·.amount) (s.withdraws.filter (·.addr == p.addr)) := h.wdrQ
/-- every queued withdrawal belongs to a provider (so the previous clause accounts for the whole queue) -/
theorem books_wdrOwner {s : State} (h : CollInv s) : ∀ w ∈ s.withdraws, ∃ p ∈ s.providers, p.addr = w.addr := h.wdrOwner
/-- C03 "No amount is negative": queued amounts are positive -/
theorem books_wdrPos {s : State} (h : CollInv s) : ∀ w ∈ s.withdraws, 0 < w.amount := h.wdrPos
/-- C03 "No amount is negative and a provider never has more in withdrawal than they have in collateral"
    (the `rewards` part of `provNonneg` belongs to the other half) -/
theorem books_provNonneg {s : State} (h : CollInv s) :
    ∀ p ∈ s.providers, 0 ≤ p.collateral ∧ 0 ≤ p.withdrawing ∧ p.withdrawing ≤ p.collateral := h.provNonneg
/-- the two totals of this half are non-negative (part of the clause `nonneg`) -/
theorem books_nonneg {s : State} (h : CollInv s) : 0 ≤ s.totalCollateral ∧ 0 ≤ s.totalWithdrawing := by
  rw [h.coll, h.wdr]
  exact ⟨sumI_nonneg _ _ (fun p hp => (h.provNonneg p hp).1), sumI_nonneg _ _ (fun p hp => (h.provNonneg p hp).2.1)⟩
/-- conversely, `BooksInv` and distinct provider addresses give `CollInv` -/
theorem collInv_of_books {s : State} (h : BooksInv s) (hn : (s.providers.map (·.addr)).Nodup) : CollInv s :=
  ⟨h.coll, h.wdr, h.wdrQ, h.wdrOwner, h.wdrPos,
    fun p hp => ⟨(h.provNonneg p hp).1, (h.provNonneg p hp).2.1, (h.provNonneg p hp).2.2.1⟩, hn⟩

/-- `MsgDepositCollateral` (both the existing-provider path and the new-provider path `insertProvider`) -/
theorem deposit_preserves (e : Env) (s s' : State) (a : Addr) (coins : Coins) (hi : CollInv s)
    (h : deposit e s a coins = .ok s') : CollInv s' := (deposit_sound h).inv hi

/-- `Keeper.WithdrawCollateral`.  Hypothesis `0 ≤ amount`: every caller passes a positive amount
    (`withdraw`: validated coins; `stakingHook`: `w > 0`); with a negative amount the model would
    enqueue a negative entry (clause `wdrPos`). -/
theorem withdrawCollateral_preserves (e : Env) (s s' : State) (a : Addr) (amount : Int) (hi : CollInv s)
    (hpos : 0 ≤ amount) (h : withdrawCollateral e s a amount = .ok s') : CollInv s' :=
  (withdrawCollateral_sound hpos h).inv hi

/-- `MsgWithdrawCollateral` -/
theorem withdraw_preserves (e : Env) (s s' : State) (a : Addr) (coins : Coins) (hi : CollInv s)
    (h : withdraw e s a coins = .ok s') : CollInv s' := (withdraw_sound h).inv hi

/-- the staking hooks (`updateProviderForDelegationChanges`), including the forced withdrawal -/
theorem stakingHook_preserves (e : Env) (s s' : State) (a : Addr) (staked : Int) (hi : CollInv s)
    (h : stakingHook e s a staked = .ok s') : CollInv s' := (stakingHook_sound h).inv hi

theorem stakingChanged_preserves (e : Env) (s s' : State) (a : Addr) (hi : CollInv s)
    (h : stakingChanged e s a = .ok s') : CollInv s' := (stakingChanged_sound h).inv hi

/-- `DelayWithdraws`: the queue is re-arranged, per-provider sums unchanged -/
theorem delayWithdraws_preserves (s s' : State) (a : Addr) (amount t : Int) (hi : CollInv s)
    (h : delayWithdraws s a amount t = .ok s') : CollInv s' := (delayWithdraws_delayLike h).sound.inv hi

/-- `DelayWithdraws` changes nobody's queued total (nor anything but the queue) -/
theorem delayWithdraws_sums (s s' : State) (a : Addr) (amount t : Int) (h : delayWithdraws s a amount t = .ok s') :
    (∀ b, qsum s' b = qsum s b) ∧ s'.providers = s.providers ∧ s'.totalCollateral = s.totalCollateral ∧
      s'.totalWithdrawing = s.totalWithdrawing := by
  have hd := delayWithdraws_delayLike h
  exact ⟨fun b => hd.queue.total _ (fun _ _ => rfl), hd.provs, hd.tc, hd.tw⟩

theorem secureFromProvider_preserves (e : Env) (s s' : State) (p : Provider) (amount duration : Int) (hi : CollInv s)
    (h : secureFromProvider e s p amount duration = .ok s') : CollInv s' :=
  (secureFromProvider_delayLike h).sound.inv hi

theorem secureLoop_preserves (e : Env) (ratio : Dec) (duration : Int) (ps : List Provider) (rem : Int) (s s' : State)
    (hi : CollInv s) (h : secureLoop e ratio duration ps rem s = .ok s') : CollInv s' :=
  (secureLoop_delayLike h).sound.inv hi

theorem secureCollaterals_preserves (e : Env) (s s' : State) (poolID : Nat) (purchaser : Addr) (purchaseID : Nat)
    (loss duration : Int) (hi : CollInv s)
    (h : secureCollaterals e s poolID purchaser purchaseID loss duration = .ok s') : CollInv s' :=
  (secureCollaterals_delayLike h).sound.inv hi

/-- `UpdateProviderCollateralForPayout` keeps every clause except `coll` (the total collateral is only lowered at
    the end of `CreateReimbursement`) and lowers the sum of the providers' collateral by exactly `payout`.
    Hypothesis `0 ≤ purchased`: with a negative `purchased` the record could end with `withdrawing > collateral`.
    No hypothesis `payout ≤ collateral` is needed: `0 ≤ collateral − payout` follows from the walk over the
    withdrawals not panicking. -/
theorem updateProviderForPayout_preserves (s s' : State) (a : Addr) (purchased payout : Int) (hr : CollRest s)
    (hpur : 0 ≤ purchased) (h : updateProviderForPayout s a purchased payout = .ok s') :
    CollRest s' ∧ sumI (·.collateral) s'.providers = sumI (·.collateral) s.providers - payout ∧
      s'.totalCollateral = s.totalCollateral := by
  have := updateProviderForPayout_payoutLike s s' a purchased payout hr hpur h
  exact ⟨this.rest, this.sumColl, this.tc⟩

/-- `payoutWithdrawLoop` reduces the provider's queue entries by exactly `fromWithdraw`
    (and `fromWithdraw ≥ 0`, no entry grows, amounts stay positive) -/
theorem payout_consumes_exactly (a : Addr) (u fw : Int) (q q' : List Withdraw) (hu : 0 ≤ u) (hpos : ∀ w ∈ q, 0 < w.amount)
    (h : payoutWithdrawLoop (q.filter (·.addr == a)).reverse u fw q = .ok q') :
    wsum (fun w => w.addr == a) q' = wsum (fun w => w.addr == a) q - fw ∧ 0 ≤ fw ∧ (∀ w ∈ q', 0 < w.amount) ∧
      (∀ b, b ≠ a → wsum (fun w => w.addr == b) q' = wsum (fun w => w.addr == b) q) := by
  obtain ⟨hp, hoth⟩ := payoutLoop_of_queue hu hpos h
  refine ⟨hp.mine, hp.nonneg, hp.pos, ?_⟩
  intro b hb
  unfold wsum
  rw [hoth (fun w => w.addr == b) (by intro w hw; simp only [beq_eq_false_iff_ne, ne_eq]; rw [hw]; exact fun h => hb h.symm)]

/-- `reimburseLoop`: all clauses but `coll` are kept, the providers' collateral drops by what was paid
    (`tpay − left`), `left ≥ 0`.  Hypotheses: the purchase ratio `pr`, the purchased total `tp` and the payout `tpay` are
    non-negative, and so are the (snapshot) collaterals — all consequences of `BooksInv` at the call in `createReimbursement`
    and of `0 ≤ amount`. -/
theorem reimburseLoop_preserves (e : Env) (pr payr : Dec) (hpr : 0 ≤ pr.raw) (ps : List Provider) (tp tpay : Int)
    (l : Ledger) (s : State) (left : Int) (l' : Ledger) (s' : State) (hps : ∀ p ∈ ps, 0 ≤ p.collateral) (htp : 0 ≤ tp)
    (htpay : 0 ≤ tpay) (hr : CollRest s) (h : reimburseLoop e pr payr ps tp tpay l s = .ok (left, l', s')) :
    CollRest s' ∧ 0 ≤ left ∧ sumI (·.collateral) s'.providers = sumI (·.collateral) s.providers - (tpay - left) ∧
      s'.totalCollateral = s.totalCollateral := by
  have := reimburseLoop_spec e pr payr hpr ps tp tpay l s left l' s' hps htp htpay hr h
  exact ⟨this.rest, this.left_nonneg, this.sumColl, this.tc⟩

/-- `CreateReimbursement`: the invariant is kept and the total collateral drops by exactly `amount`.
    Hypotheses: `0 ≤ amount` (a negative amount would *raise* `totalCollateral` without touching any provider —
    see the example below) and `0 ≤ totalShield` (clause `nonneg` of the other half of `BooksInv`; it makes the
    purchase ratio non-negative). -/
theorem createReimbursement_preserves (e : Env) (l l' : Ledger) (s s' : State) (pid : Nat) (amount : Int)
    (beneficiary : Addr) (hi : CollInv s) (hamt : 0 ≤ amount) (hsh : 0 ≤ s.totalShield)
    (h : createReimbursement e l s pid amount beneficiary = .ok (l', s')) :
    CollInv s' ∧ s'.totalCollateral = s.totalCollateral - amount := by
  have := createReimbursement_inv hi hamt hsh h
  exact ⟨this.1, this.2.1⟩

/-- what governance does at the end of a claim (`paid` = `CreateReimbursement`) -/
theorem claimEnds_preserves (e : Env) (l l' : Ledger) (s s' : State) (pid poolID : Nat) (restoreTo beneficiary : Addr)
    (purchaseID : Nat) (loss : Int) (o : ClaimOutcome) (hi : CollInv s)
    (hadm : o = .paid → 0 ≤ loss ∧ 0 ≤ s.totalShield)
    (h : claimEnds e l s pid poolID restoreTo beneficiary purchaseID loss o = .ok (l', s')) : CollInv s' :=
  claimEnds_inv hi hadm h

/-- `completeLoop`, started with the matured entries `ws` taken out of the queue: each provider's collateral and
    withdrawing drop by exactly its entries in `ws` -/
theorem completeLoop_preserves (ws : List Withdraw) (s s' : State)
    (hi : CollInv { s with withdraws := s.withdraws ++ ws }) (h : completeLoop ws s = .ok s') :
    CollInv s' ∧ s'.withdraws = s.withdraws ∧
      (∀ b, collOf s' b = collOf s b - wsum (fun w => w.addr == b) ws) ∧
      (∀ b, wdgOf s' b = wdgOf s b - wsum (fun w => w.addr == b) ws) := by
  have := completeLoop_spec ws s s' hi h
  exact ⟨this.1, this.2.1, this.2.2.2.1, this.2.2.2.2⟩

/-- `DequeueCompletedWithdrawQueue`: matured entries leave the queue; each provider's collateral and withdrawing drop
    by exactly its matured entries -/
theorem completeWithdrawals_preserves (e : Env) (s s' : State) (hi : CollInv s) (h : completeWithdrawals e s = .ok s') :
    CollInv s' ∧ s'.withdraws = s.withdraws.filter (fun w => !(decide (w.time ≤ e.t))) ∧
      (∀ b, collOf s' b = collOf s b - dueBy b e.t s.withdraws) ∧
      (∀ b, wdgOf s' b = wdgOf s b - dueBy b e.t s.withdraws) := by
  have := completeWithdrawals_spec hi h
  exact ⟨this.1, this.2.1, this.2.2.2.1, this.2.2.2.2⟩

/-- under the invariant `DequeueCompletedWithdrawQueue` cannot panic ("withdrawal without provider") -/
theorem completeWithdrawals_never_panics (e : Env) (s : State) (hi : CollInv s) : ∃ s', completeWithdrawals e s = .ok s' :=
  completeWithdrawals_total e s hi

theorem expireAndDistribute_preserves (e : Env) (s s' : State) (hi : CollInv s)
    (h : expireAndDistribute e s = .ok s') : CollInv s' := (expireAndDistribute_frame e s s' h).same.inv hi

theorem closePools_preserves (s : State) (hi : CollInv s) : CollInv (closePools s) := hi.congr rfl rfl rfl rfl

/-- the module's `EndBlocker` -/
theorem endBlock_preserves (e : Env) (s s' : State) (hi : CollInv s) (h : endBlock e s = .ok s') : CollInv s' :=
  (endBlock_spec e s s' hi h).1

theorem purchaseCore_preserves (e : Env) (l l' : Ledger) (s s' : State) (poolID : Nat) (shield : Coins) (purchaser : Addr)
    (fees staking : Coins) (hi : CollInv s) (h : purchaseCore e l s poolID shield purchaser fees staking = .ok (l', s')) :
    CollInv s' := by rw [purchaseCore_writes h]; exact hi.congr rfl rfl rfl rfl

theorem purchase_preserves (e : Env) (l l' : Ledger) (s s' : State) (poolID : Nat) (shield : Coins) (purchaser : Addr)
    (staking : Bool) (hi : CollInv s) (h : purchase e l s poolID shield purchaser staking = .ok (l', s')) : CollInv s' :=
  by rw [purchase_writes h]; exact hi.congr rfl rfl rfl rfl

theorem createPool_preserves (e : Env) (l l' : Ledger) (s s' : State) (creator : Addr) (shield fees : Coins)
    (sponsor : String) (sponsorAddr : Addr) (limit : Int) (hi : CollInv s)
    (h : createPool e l s creator shield fees sponsor sponsorAddr limit = .ok (l', s')) : CollInv s' :=
  by rw [createPool_writes h]; exact hi.congr rfl rfl rfl rfl

theorem updatePool_preserves (e : Env) (l l' : Ledger) (s s' : State) (updater : Addr) (poolID : Nat) (shield fees : Coins)
    (limit : Int) (hi : CollInv s) (h : updatePool e l s updater poolID shield fees limit = .ok (l', s')) : CollInv s' :=
  by rw [updatePool_writes h]; exact hi.congr rfl rfl rfl rfl

theorem pausePool_preserves (s s' : State) (updater : Addr) (poolID : Nat) (active : Bool) (hi : CollInv s)
    (h : pausePool s updater poolID active = .ok s') : CollInv s' := by
  rw [pausePool_writes h]; exact hi.congr rfl rfl rfl rfl

theorem updateSponsor_preserves (s s' : State) (updater : Addr) (poolID : Nat) (sponsor : String) (sponsorAddr : Addr)
    (hi : CollInv s) (h : updateSponsor s updater poolID sponsor sponsorAddr = .ok s') : CollInv s' :=
  by rw [updateSponsor_writes h]; exact hi.congr rfl rfl rfl rfl

theorem unstake_preserves (e : Env) (s s' : State) (poolID : Nat) (purchaser : Addr) (coins : Coins) (hi : CollInv s)
    (h : unstake e s poolID purchaser coins = .ok s') : CollInv s' := by
  rw [unstake_writes h]; exact hi.congr rfl rfl rfl rfl

/-- `MsgWithdrawRewards` only resets the provider's `rewards` -/
theorem withdrawRewards_preserves (e : Env) (l l' : Ledger) (s s' : State) (a : Addr) (hi : CollInv s)
    (h : withdrawRewards e l s a = .ok (l', s')) : CollInv s' := (withdrawRewards_frame e l l' s s' a hi.nodup h).same.inv hi

theorem withdrawReimbursement_preserves (e : Env) (l l' : Ledger) (s s' : State) (pid : Nat) (a : Addr) (hi : CollInv s)
    (h : withdrawReimbursement e l s pid a = .ok (l', s')) : CollInv s' :=
  by rw [withdrawReimbursement_writes h]; exact hi.congr rfl rfl rfl rfl

theorem restoreShield_preserves (s : State) (poolID : Nat) (purchaser : Addr) (id : Nat) (loss : Int) (hi : CollInv s) :
    CollInv (restoreShield s poolID purchaser id loss) := by
  rw [restoreShield_writes]; exact hi.congr rfl rfl rfl rfl

theorem claimEnd_preserves (s : State) (loss : Int) (hi : CollInv s) : CollInv (claimEnd s loss) :=
  hi.congr rfl rfl rfl rfl

theorem fundBlockRewards_preserves (e : Env) (l : Ledger) (s : State) (sender : Addr) (amount : Int) (hi : CollInv s) :
    CollInv (fundBlockRewards e l s sender amount).2 := hi.congr rfl rfl rfl rfl

theorem apply_collInv (op : Op) (w w' : World) (hi : CollInv w.2) (hadm : op.admissible w.2) (h : op.apply w = .ok w') :
    CollInv w'.2 :=
  (apply_step op w w' hi hadm h).1

theorem step_collInv (op : Op) (w : World) (hi : CollInv w.2) (hadm : op.admissible w.2) : CollInv (step op w).2 :=
  step_ind (P := fun x => CollInv x.2) op w hi (fun w' => apply_collInv op w w' hi hadm)

/-- C03 (this half), over histories: from a state with `CollInv`, after any list of steps — successful or failing,
    in any interleaving, each with its own block time and staking view — `CollInv` holds. -/
theorem reachable_collInv (ops : List Op) (w : World) (hi : CollInv w.2) (hadm : Admissible ops w) :
    CollInv (run ops w).2 :=
  (foldl_ind (fun ops w => CollInv w.2 ∧ Admissible ops w)
    (fun op _ w h => ⟨step_collInv op w h.1 h.2.1, h.2.2⟩) ops w ⟨hi, hadm⟩).1

/-- the same for any history in which the amounts of claims, bare reimbursements and bare `withdrawCollateral`s are
    non-negative, given that `totalShield` stays non-negative (the other half of C03) -/
theorem reachable_collInv' (ops : List Op) (w : World) (hi : CollInv w.2)
    (hloss : ∀ op ∈ ops, match op with
      | .claimEnds _ _ _ _ _ _ loss _ => 0 ≤ loss
      | .createReimbursement _ _ amount _ => 0 ≤ amount
      | .withdrawCollateral _ _ amount => 0 ≤ amount
      | _ => True)
    (hshield : ∀ k, 0 ≤ (run (ops.take k) w).2.totalShield) : CollInv (run ops w).2 := by
  apply reachable_collInv ops w hi
  clear hi
  induction ops generalizing w with
  | nil => trivial
  | cons op ops ih =>
    refine ⟨?_, ih (step op w) ?_ ?_⟩
    · have h0 := hshield 0
      have h1 := hloss op List.mem_cons_self
      simp only [List.take_zero, run, List.foldl_nil] at h0
      cases op <;> simp only [Op.admissible] <;> first | trivial | exact h1 | exact ⟨h1, h0⟩ | exact fun _ => ⟨h1, h0⟩
    · intro op' hop'; exact hloss op' (List.mem_cons_of_mem _ hop')
    · intro k
      have := hshield (k + 1)
      simpa [run, List.take_succ_cons, List.foldl_cons] using this

/-! ## non-vacuity: a concrete state, concrete steps -/

namespace Ex

def params : Params :=
  { protection := 1000, withdrawPeriod := 50, feesRate := Dec.zero, poolLimit := Dec.one, minPurchase := 1,
    stakingRate := Dec.one, payoutPeriod := 10 }

/-- two providers; "a" has two withdrawals queued (30 = 10 + 20), "b" none -/
def s0 : State :=
  { admin := "adm", pools := [], lists := [],
    providers := [{ addr := "a", collateral := 100, withdrawing := 30, bonded := 100, rewards := Dec.zero },
                  { addr := "b", collateral := 50, withdrawing := 0, bonded := 80, rewards := Dec.zero }],
    withdraws := [{ addr := "a", amount := 10, time := 40 }, { addr := "a", amount := 20, time := 70 }],
    stakes := [], origStakings := [], reimbs := [],
    totalCollateral := 150, totalWithdrawing := 30, totalShield := 0, totalClaimed := 0,
    serviceFees := Dec.zero, remaining := Dec.zero, blockFees := Dec.zero, stakingPool := 0,
    lastUpdate := zeroTime, nextPool := 1, nextPurchase := 1, params := params }

def l0 : Ledger := { posts := [], supply := [] }

/-- block time 60; the staking module reports 40 bonded for "a" and 200 for "c" -/
def e60 : Env :=
  { t := 60, bond := "uctk", modAddr := "mod", bondedAfter := fun x => if x == "a" then some 40 else if x == "c" then some 200 else none }

def isOk {α} : Except Err α → Bool
  | .ok _ => true
  | .error _ => false

def get (x : Except Err State) : State := match x with | .ok s => s | .error _ => s0
def get2 (x : Except Err (Ledger × State)) : State := match x with | .ok w => w.2 | .error _ => s0

/-- the hypothesis of every theorem above is satisfiable -/
example : CollInv s0 := by constructor <;> decide

/-- `deposit_preserves`: the existing-provider path and the new-provider path both succeed on `s0` -/
example : isOk (deposit e60 s0 "b" [("uctk", 5)]) = true ∧ isOk (deposit e60 s0 "c" [("uctk", 7)]) = true ∧
    (get (deposit e60 s0 "c" [("uctk", 7)])).providers.map (·.addr) = ["a", "b", "c"] ∧
    (get (deposit e60 s0 "c" [("uctk", 7)])).totalCollateral = 157 := by decide +kernel

/-- `withdraw_preserves` / `stakingChanged_preserves` (the hook forces a withdrawal of 100 − 30 − 40 = 30) -/
example : isOk (withdraw e60 s0 "a" [("uctk", 25)]) = true ∧ isOk (stakingChanged e60 s0 "a") = true ∧
    (get (stakingChanged e60 s0 "a")).totalWithdrawing = 60 ∧
    (get (stakingChanged e60 s0 "a")).withdraws.map (fun w => (w.amount, w.time)) = [(10, 40), (20, 70), (30, 110)] := by decide +kernel

/-- `delayWithdraws_preserves`: the entry maturing at 40 is pushed to 90 -/
example : isOk (delayWithdraws s0 "a" 5 90) = true ∧
    (get (delayWithdraws s0 "a" 5 90)).withdraws.map (fun w => (w.amount, w.time)) = [(10, 40), (20, 90)] := by decide +kernel

/-- `completeWithdrawals_preserves` / `endBlock_preserves`: at time 60 the entry of 10 is released -/
example : isOk (endBlock e60 s0) = true ∧ (get (endBlock e60 s0)).totalCollateral = 140 ∧
    (get (endBlock e60 s0)).withdraws.map (fun w => (w.amount, w.time)) = [(20, 70)] ∧
    collOf (get (endBlock e60 s0)) "a" = 90 := by decide +kernel

/-- `createReimbursement_preserves`: a payout of 90 succeeds ("a" pays 61, "b" 29: proportional, rounded up while
    something is left), the total collateral drops by exactly 90 -/
example : isOk (createReimbursement e60 l0 s0 7 90 "x") = true ∧
    (get2 (createReimbursement e60 l0 s0 7 90 "x")).totalCollateral = 60 ∧
    (get2 (createReimbursement e60 l0 s0 7 90 "x")).providers.map (fun p => (p.collateral, p.withdrawing)) = [(39, 30), (21, 0)] := by
  decide +kernel

/-- the hypothesis `0 ≤ amount` of `createReimbursement_preserves` is needed: a negative amount succeeds in the model
    and breaks the clause `coll` (not reachable: the claim proposal's loss is validated to be positive) -/
example : isOk (createReimbursement e60 l0 s0 7 (-5) "x") = true ∧
    (get2 (createReimbursement e60 l0 s0 7 (-5) "x")).totalCollateral ≠
      sumI (·.collateral) (get2 (createReimbursement e60 l0 s0 7 (-5) "x")).providers := by decide +kernel

/-- the hypothesis `0 ≤ amount` of `withdrawCollateral_preserves` is needed (the keeper function is only ever called
    with positive amounts) -/
example : isOk (withdrawCollateral e60 s0 "b" (-5)) = true ∧
    (get (withdrawCollateral e60 s0 "b" (-5))).withdraws.any (fun w => decide (w.amount < 0)) = true := by decide +kernel

/-- a history mixing successful and failing steps -/
def hist : List Op :=
  [.deposit e60 "c" [("uctk", 7)], .withdraw e60 "b" [("uctk", 500)] /- fails -/, .stakingChanged e60 "a",
   .claimEnds e60 7 1 "x" "x" 1 90 .paid, .endBlock e60, .withdraw e60 "b" [("uctk", 5)]]

example : Admissible hist (l0, s0) := by
  refine ⟨trivial, trivial, trivial, ?_, trivial, trivial, trivial⟩
  intro _; decide +kernel

/-- in this history the hook first forces "a" to withdraw 30 more (60 queued of 100), the payout of 90 then takes
    58 from "a" — 40 of its free collateral and 18 out of its queued withdrawals — and the end-blocker releases 10 -/
example : (run hist (l0, s0)).2.providers.map (fun p => (p.addr, p.collateral, p.withdrawing)) =
    [("a", 32, 32), ("b", 21, 5), ("c", 4, 0)] ∧ (run hist (l0, s0)).2.totalCollateral = 57 ∧
    (run hist (l0, s0)).2.withdraws.map (fun w => (w.addr, w.amount, w.time)) = [("a", 20, 70), ("a", 12, 110), ("b", 5, 110)] := by
  decide +kernel

end Ex

end Shentu.Props.C03a
