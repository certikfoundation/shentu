import Shentu.Model.Shield
import Shentu.Proofs.BankLemmas
import Shentu.Proofs.ShieldFundMoney
/-
  C01 for the shield engine: every operation of the shield model that touches the bank ledger does so by transfers only, so the
  sum of all balances keeps equal to the recorded supply (coins paid as fees, stakes, rewards, reimbursements and claim payouts
  are moved, never created or destroyed).  The other engines' steps are in Shentu/Props/C01.lean.
-/
namespace Shentu.Props.C01s
open Shentu Shentu.Shield Shentu.Ledger Shentu.Shield.Fund

theorem purchaseCore_pays (e : Env) (l l' : Ledger) (s s' : State) (poolID : Nat) (shield : Coins) (purchaser : Addr) (fees staking : Coins)
    (h : purchaseCore e l s poolID shield purchaser fees staking = .ok (l', s')) :
    l.send purchaser e.modAddr fees = .ok l' ∨ l.send purchaser e.modAddr [(e.bond, Coins.amountOf staking e.bond)] = .ok l' := by
  obtain ⟨_, _, _, _, _, hpaid, _⟩ := PoolLm.purchaseCore_ok h
  have hp := (PoolLm.pcPaid_ok_iff.mp hpaid).1
  split at hp
  · exact Or.inl hp
  · exact Or.inr hp

theorem purchaseCore_ledger_inv (e : Env) (l l' : Ledger) (s s' : State) (poolID : Nat) (shield : Coins) (purchaser : Addr) (fees staking : Coins)
    (hi : l.Inv) (h : purchaseCore e l s poolID shield purchaser fees staking = .ok (l', s')) : l'.Inv := by
  rcases purchaseCore_pays _ _ _ _ _ _ _ _ _ _ h with hs | hs <;> exact inv_send _ _ _ _ _ hi hs

theorem purchase_ledger_inv (e : Env) (l l' : Ledger) (s s' : State) (poolID : Nat) (shield : Coins) (purchaser : Addr) (staking : Bool)
    (hi : l.Inv) (h : purchase e l s poolID shield purchaser staking = .ok (l', s')) : l'.Inv :=
  purchaseCore_ledger_inv _ _ _ _ _ _ _ _ _ _ hi (PoolLm.purchase_ok h).2.2

theorem createPool_ledger_inv (e : Env) (l l' : Ledger) (s s' : State) (creator : Addr) (shield fees : Coins) (sponsor : String) (sa : Addr) (limit : Int)
    (hi : l.Inv) (h : createPool e l s creator shield fees sponsor sa limit = .ok (l', s')) : l'.Inv :=
  purchaseCore_ledger_inv _ _ _ _ _ _ _ _ _ _ hi (PoolLm.createPool_ok h).2.2

theorem updatePool_ledger_inv (e : Env) (l l' : Ledger) (s s' : State) (updater : Addr) (poolID : Nat) (shield fees : Coins) (limit : Int)
    (hi : l.Inv) (h : updatePool e l s updater poolID shield fees limit = .ok (l', s')) : l'.Inv := by
  obtain ⟨_, _, _, _, _, _, h | ⟨_, ⟨hs, _⟩ | ⟨rfl, _⟩⟩⟩ := PoolLm.updatePool_ok h
  · exact purchaseCore_ledger_inv _ _ _ _ _ _ _ _ _ _ hi h
  · exact inv_send _ _ _ _ _ hi hs
  · exact hi

theorem withdrawRewards_ledger_inv (e : Env) (l l' : Ledger) (s s' : State) (a : Addr)
    (hi : l.Inv) (h : withdrawRewards e l s a = .ok (l', s')) : l'.Inv := by
  obtain ⟨_, _, ⟨rfl, _⟩ | ⟨_, hs, _⟩⟩ := Limit.withdrawRewards_ok h
  · exact hi
  · exact inv_send _ _ _ _ _ hi hs

theorem withdrawReimbursement_ledger_inv (e : Env) (l l' : Ledger) (s s' : State) (pid : Nat) (a : Addr)
    (hi : l.Inv) (h : withdrawReimbursement e l s pid a = .ok (l', s')) : l'.Inv := by
  obtain ⟨_, _, _, _, hs, _⟩ := withdrawReimbursement_iff.mp h
  exact inv_send _ _ _ _ _ hi hs

theorem fundBlockRewards_ledger_inv (e : Env) (l : Ledger) (s : State) (sender : Addr) (amount : Int) (hi : l.Inv) :
    (fundBlockRewards e l s sender amount).1.Inv := inv_move _ _ _ _ hi

/-- the claim payout: coins move from the staking pool to the module account, provider by provider -/
theorem reimburseLoop_ledger_inv (e : Env) (pr yr : Dec) (ps : List Provider) :
    ∀ (tp ty : Int) (l : Ledger) (s : State) (left : Int) (l' : Ledger) (s' : State),
      l.Inv → reimburseLoop e pr yr ps tp ty l s = .ok (left, l', s') → l'.Inv := by
  intro tp ty l s left l' s' hi h
  exact reimburseLoop_rel e pr yr (fun x y => x.2.Inv → y.2.Inv) (fun _ => id) (fun h1 h2 h => h2 (h1 h))
    (fun _ _ _ _ hi => inv_move _ _ _ _ hi) h hi

theorem createReimbursement_ledger_inv (e : Env) (l l' : Ledger) (s s' : State) (pid : Nat) (amount : Int) (b : Addr)
    (hi : l.Inv) (h : createReimbursement e l s pid amount b = .ok (l', s')) : l'.Inv := by
  obtain ⟨_, _, _, hl, _⟩ := createReimbursement_ok e l l' s s' pid amount b h
  exact reimburseLoop_ledger_inv _ _ _ _ _ _ _ _ _ _ _ hi hl

theorem claimEnds_ledger_inv (e : Env) (l l' : Ledger) (s s' : State) (pid poolID : Nat) (r b : Addr) (purchaseID : Nat) (loss : Int) (o : ClaimOutcome)
    (hi : l.Inv) (h : claimEnds e l s pid poolID r b purchaseID loss o = .ok (l', s')) : l'.Inv := by
  cases o <;> simp only [claimEnds] at h
  · exact createReimbursement_ledger_inv _ _ _ _ _ _ _ _ hi h
  all_goals (injection h with h; injection h with h1 h2; rw [← h1]; exact hi)

end Shentu.Props.C01s
