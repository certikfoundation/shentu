import Shentu.Proofs.C12TShares
import Shentu.Proofs.C12THist
import Shentu.Proofs.C12TVotes
/-
  C12, the accumulation of the stake round ("… yes votes exceed the threshold share of non-abstaining power …"):
  `Props/C12.lean` states the decision rule on the accumulated `Results`; this file proves that the accumulation
  performed by `Gov.stakeTally` attributes the stake to the options correctly.

  What is proved, for ALL vote lists, validator sets and delegation lists:
  * `stake_tally_is_two_loops`, `results_are_pieces`, `results_by_option`: the tally is the vote loop followed by the
    validator loop, and its accumulators are exactly the sums of the powers of an explicit list of counted *pieces*
    (validator, option, shares): one piece per delegation of a voting delegator to a bonded validator, one piece per
    voting validator (its shares minus the deductions).
  * `deductions_exact`: a validator's deductions are the shares delegated to it by the delegators that voted themselves.
  * `operator_vote_only_records`, `operator_delegations_follow_target`: the vote of a bonded validator's operator address
    only records the option; the operator's delegations to OTHER validators are not counted for the operator's option,
    they follow the other validator's vote.  The stated rule "a delegator's own vote wins" is therefore false for these
    delegations (`share_level_refinement_fails`); it holds when no voting operator delegates to another validator
    (`share_level_refinement_stated`).
  * `no_share_counted_twice_partial`: per validator, shares counted through delegators plus shares counted through the
    validator never exceed the validator's shares, with equality when the validator voted (the "only when" is false:
    `no_share_counted_twice_fails`).
  * `share_level_refinement_partial`: per validator and option, the counted shares are the specification's.
  * `piece_rounding`, `option_power_refinement`, `validator_power_le_tokens_plus_slack`, `total_power_le_bonded_plus_slack`:
    the conversion of a piece to tokens deviates from the exact value by at most `tokens·(1/2 + 10⁻¹⁸)` units of 10⁻¹⁸
    token; per validator and option the counted power deviates from the exact value of the specified shares by at most that
    much per piece; the total counted power is at most the bonded tokens plus half a unit of 10⁻¹⁸ per piece and bonded token.
  * `tally_independent_of_vote_order` (and `results_…`, `counted_shares_independent_of_vote_order`): the outcome does not
    depend on the order in which the votes are stored.
  * `one_vote_per_voter_*`: the vote store keeps at most one vote per proposal and voter, initially and after every
    step of every history (`one_vote_per_voter_run`).
  * `status_only_moves_forward`, `finalised_never_changes`, `status_forward_between_any_two_points`: over every history of
    submit / deposit / vote / end-block steps (each with its own environment; a failing step leaves the state as it is),
    the rank of a stored proposal's status never decreases, a proposal is dropped only from the deposit period, and a
    passed / rejected / failed proposal's record never changes again.  Assumed: `GovWF` (ids distinct and below `nextId`),
    proved of the empty store and of every step (`store_wf_init`, `store_wf_run`).
  * `finish_applies_handler_only_on_pass`, `handler_effect_only_when_passed`, `handler_runs_at_most_once`: the result of a
    proposal's handler is kept only by the finalisation that writes status passed; a step changes the certifier state (the
    only thing the modelled handlers change) only if it turns a not-yet-final proposal into a passed one; that happens at
    most once per proposal.  (The dry run of the handler at submission is discarded by the model; a handler that fails at
    finalisation gives status failed and no effect.)

  What is assumed: `StakeWF` of the staking view that governance reads (an input of the model, not part of its state):
  validators distinct, with positive shares and non-negative tokens; listed delegations non-negative and, per validator,
  not exceeding the validator's shares (`≤`, not `=`: the view may list only the delegations of the voters; shares outside
  the listed delegations belong to holders that did not vote and follow the validator).  `VotersDistinct`/`VotesWF` is
  proved of the vote store, not assumed.  Helper lemmas: `Shentu/Proofs/C12T*.lean`.
-/
namespace Shentu.Props.C12T
open Shentu Shentu.Gov Shentu.C12TH

/-- The stake round sorts the proposal's votes by voter, runs the vote loop and the validator loop (`stakeResults`),
    applies the decision rule to the accumulated results, stores their truncation and deletes the votes. -/
theorem stake_tally_is_two_loops (e : Env) (g : State) (p : Proposal) (cd : Int) :
    stakeTally e g p cd =
      let r := stakeResults e (sortVotes (g.votes.filter (·.pid == p.id)))
      ((C12TH.decide e g p cd r).1, (C12TH.decide e g p cd r).2, r.tally,
        { g with votes := g.votes.filter (fun v => !(v.pid == p.id)) }) := rfl

/-- The accumulated results are the powers of the counted pieces, added in order. -/
theorem results_are_pieces (e : Env) (votes : List Vote) :
    stakeResults e votes = addList ({} : Results) ((pieces e votes).map (fun p => (p.option, p.power))) :=
  C12TH.results_are_pieces e votes

/-- Each option's accumulator is the sum of the powers of the pieces counted for that option.
    The total is the sum of the powers of all pieces. -/
theorem results_by_option (e : Env) (votes : List Vote) :
    (stakeResults e votes).yes.raw = sumOn ((pieces e votes).filter (fun p => p.option == 1)) (fun p => p.power.raw) ∧
    (stakeResults e votes).abstain.raw = sumOn ((pieces e votes).filter (fun p => p.option == 2)) (fun p => p.power.raw) ∧
    (stakeResults e votes).no.raw = sumOn ((pieces e votes).filter (fun p => p.option == 3)) (fun p => p.power.raw) ∧
    (stakeResults e votes).veto.raw = sumOn ((pieces e votes).filter (fun p => p.option == 4)) (fun p => p.power.raw) ∧
    (stakeResults e votes).total.raw = sumOn (pieces e votes) (fun p => p.power.raw) :=
  ⟨get_eq e votes 1 (by simp), get_eq e votes 2 (by simp), get_eq e votes 3 (by simp), get_eq e votes 4 (by simp),
   total_eq e votes⟩

/-- The empty vote store has at most one vote per proposal and voter. -/
theorem one_vote_per_voter_init : VotesWF [] := List.Pairwise.nil

/-- Casting a vote (`setVote`) keeps at most one vote per proposal and voter. -/
theorem one_vote_per_voter_vote (w w' : World) (pid : Nat) (voter : Addr) (o : Nat)
    (h : vote w pid voter o = .ok w') (hwf : VotesWF w.g.votes) : VotesWF w'.g.votes := by
  obtain ⟨_, _, _, _, _, _, rfl⟩ := vote_ok_iff.mp h
  exact votesWF_setVote pid voter o _ hwf

/-- The tally deletes the proposal's votes and keeps at most one vote per proposal and voter. -/
theorem one_vote_per_voter_tally (e : Env) (g : State) (p : Proposal) (cd : Int) (hwf : VotesWF g.votes) :
    VotesWF (stakeTally e g p cd).2.2.2.votes := by
  rw [stake_tally_is_two_loops]
  exact List.Pairwise.filter _ hwf

/-- The votes the tally reads for a proposal come from distinct voters. -/
theorem tally_votes_distinct (g : State) (p : Proposal) (hwf : VotesWF g.votes) :
    VotersDistinct (sortVotes (g.votes.filter (·.pid == p.id))) :=
  (votersDistinct_of_WF p.id g.votes hwf).perm (sortVotes_perm _).symm

/-- After the vote loop every validator record keeps its address, tokens and shares.
    Its vote is the option voted from its operator address.
    Its deductions are exactly the shares of the listed delegations to it whose delegator voted and is not itself the
    operator address of a bonded validator. -/
theorem deductions_exact (e : Env) (votes : List Vote) (hd : VotersDistinct votes) :
    (voteLoop e votes).1 = e.stake.vals.map (fun v =>
      { addr := v.1, tokens := v.2.1, shares := v.2.2, vote := voteAt votes v.1,
        deductions := ⟨sumOn (e.stake.dels.filter (fun d => d.2.1 == v.1 && (!isValidator e d.1 && hasVoted votes d.1)))
          (fun d => d.2.2.raw)⟩ }) := by
  rw [voteLoop_eq, finalVals_closed e votes hd]
  rfl

/-- A vote from the operator address of a bonded validator only records the option: it adds nothing to the results and
    changes no deductions — `delegatorVoting` is not run for it. -/
theorem operator_vote_only_records (e : Env) (acc : List ValInfo × Results) (v : Vote)
    (h : acc.1.any (·.addr == v.voter) = true) :
    (voteStep e acc v).2 = acc.2 ∧
    (voteStep e acc v).1.map (fun x => (x.addr, x.tokens, x.shares, x.deductions)) =
      acc.1.map (fun x => (x.addr, x.tokens, x.shares, x.deductions)) := by
  simp only [voteStep, h, if_true, List.map_map, true_and]
  apply List.map_congr_left
  intro x _
  simp only [Function.comp]
  split <;> rfl

/-- Hence a delegation held by a bonded validator's operator address is counted for the vote of the validator it is
    delegated to (its own validator for the self-delegation, ANOTHER validator's vote otherwise), whatever the operator
    voted — and not at all if that validator did not vote. -/
theorem operator_delegations_follow_target (e : Env) (votes : List Vote) (d : Del) (h : isValidator e d.1 = true) :
    choiceM e votes d = voteAt votes d.2.1 := by
  simp [choiceM, delegatorVoted, h]

/-- For every bonded validator: the shares counted through voting delegators are its deductions.
    The shares counted through its own vote are its shares minus the deductions if it voted, nothing otherwise.
    Together they never exceed the validator's shares.
    They equal the validator's shares if the validator voted.
    They equal the validator's shares exactly when the validator voted or all its shares are held by voting delegators. -/
theorem no_share_counted_twice_partial (e : Env) (wf : StakeWF e) (votes : List Vote) (hd : VotersDistinct votes)
    (v : Addr × Int × Dec) (hv : v ∈ e.stake.vals) :
    delCounted e votes v.1 = dedOf e votes v.1 ∧
    valCounted e votes v.1 = (if voteAt votes v.1 == 0 then 0 else v.2.2.raw - dedOf e votes v.1) ∧
    delCounted e votes v.1 + valCounted e votes v.1 ≤ v.2.2.raw ∧
    (voteAt votes v.1 ≠ 0 → delCounted e votes v.1 + valCounted e votes v.1 = v.2.2.raw) ∧
    (delCounted e votes v.1 + valCounted e votes v.1 = v.2.2.raw ↔ (voteAt votes v.1 ≠ 0 ∨ dedOf e votes v.1 = v.2.2.raw)) := by
  have h1 := delCounted_eq e votes hd v.1 (isValidator_of_mem e v hv)
  have h2 := valCounted_eq e votes hd wf.distinct v hv
  have h3 := counted_le_shares e wf votes hd v hv
  refine ⟨h1, h2, h3.1, h3.2, ?_⟩
  rw [h1, h2]
  by_cases h0 : voteAt votes v.1 = 0
  · simp [h0]
  · have : (voteAt votes v.1 == 0) = false := by simpa using h0
    simp [h0, this]

/-- counterexample environment: validator `vb`, all of whose 500 shares are held by `d2` -/
def cxAllDelegated : Env :=
  { t := 0, bond := "uctk", modAddr := "gov",
    stake := { vals := [("vb", 500, Dec.ofInt 500)], dels := [("d2", "vb", Dec.ofInt 500)], totalBonded := 500 } }

/-- "Equality only if the validator voted" is false: when a delegator holding all of a validator's shares votes, all
    the shares are counted although the validator did not vote. -/
theorem no_share_counted_twice_fails :
    ¬ (∀ (e : Env) (votes : List Vote) (v : Addr × Int × Dec), StakeWF e → VotersDistinct votes → v ∈ e.stake.vals →
        (delCounted e votes v.1 + valCounted e votes v.1 = v.2.2.raw ↔ voteAt votes v.1 ≠ 0)) := by
  intro h
  have := h cxAllDelegated [⟨7, "d2", 1⟩] ("vb", 500, Dec.ofInt 500)
    ⟨by decide +kernel, by decide +kernel, by decide +kernel, by decide +kernel, by decide +kernel⟩ (by unfold VotersDistinct; decide +kernel) (by decide +kernel)
  revert this
  decide +kernel

/-- In exact arithmetic the counted shares of a validator are worth at most its tokens: `counted·tokens ≤ shares·tokens`,
    that is `counted/shares·tokens ≤ tokens`; summing over the validators gives at most the sum of their bonded tokens. -/
theorem exact_power_le_tokens (e : Env) (wf : StakeWF e) (votes : List Vote) (hd : VotersDistinct votes)
    (v : Addr × Int × Dec) (hv : v ∈ e.stake.vals) :
    (delCounted e votes v.1 + valCounted e votes v.1) * v.2.1 ≤ v.2.2.raw * v.2.1 :=
  Int.mul_le_mul_of_nonneg_right (counted_le_shares e wf votes hd v hv).1 (wf.tokensNonneg v hv)

/-- For every bonded validator and every option, the shares the tally counts for the option are: the listed delegations
    to the validator whose choice (the chain's rule `choiceM`) is the option, plus — if the validator voted the option — the
    validator's shares outside the listed delegations.
    What is missing with respect to the stated rule (`choice`, see `share_level_refinement_fails`): a delegation held by the
    operator address of a bonded validator is not counted for the operator's own vote but for the vote of the validator it
    is delegated to; `choiceM` differs from `choice` on exactly these delegations. -/
theorem share_level_refinement_partial (e : Env) (wf : StakeWF e) (votes : List Vote) (hd : VotersDistinct votes)
    (v : Addr × Int × Dec) (hv : v ∈ e.stake.vals) (o : Nat) (ho : o ≠ 0) :
    countedShares e votes v.1 o = specShares (choiceM e votes) e votes v o := by
  rw [countedShares_eq e votes hd wf.distinct v hv o ho, specShares, sum_choiceM]
  split <;> omega

/-- counterexample environment: validator `va` holds 100 of the 500 shares of validator `vb` -/
def cxCross : Env :=
  { t := 0, bond := "uctk", modAddr := "gov",
    stake := { vals := [("va", 900, Dec.ofInt 900), ("vb", 500, Dec.ofInt 500)],
               dels := [("va", "va", Dec.ofInt 900), ("va", "vb", Dec.ofInt 100), ("d2", "vb", Dec.ofInt 400)],
               totalBonded := 1400 } }

/-- With the rule as stated ("the delegator's own vote if the delegator voted") the refinement is FALSE: validator `va`
    votes yes and holds 100 shares of validator `vb`, which votes no; the chain counts these 100 shares as no. -/
theorem share_level_refinement_fails :
    ¬ (∀ (e : Env) (votes : List Vote) (v : Addr × Int × Dec) (o : Nat), StakeWF e → VotersDistinct votes →
        v ∈ e.stake.vals → o ≠ 0 → countedShares e votes v.1 o = specShares (choice votes) e votes v o) := by
  intro h
  have := h cxCross [⟨7, "va", 1⟩, ⟨7, "vb", 3⟩] ("vb", 500, Dec.ofInt 500) 1
    ⟨by decide +kernel, by decide +kernel, by decide +kernel, by decide +kernel, by decide +kernel⟩ (by unfold VotersDistinct; decide +kernel) (by decide +kernel) (by decide +kernel)
  revert this
  decide +kernel

/-- The stated rule holds whenever no voting validator operator holds a delegation to another validator. -/
theorem share_level_refinement_stated (e : Env) (wf : StakeWF e) (votes : List Vote) (hd : VotersDistinct votes)
    (hcross : ∀ d ∈ e.stake.dels, isValidator e d.1 = true → hasVoted votes d.1 = true → d.2.1 = d.1)
    (v : Addr × Int × Dec) (hv : v ∈ e.stake.vals) (o : Nat) (ho : o ≠ 0) :
    countedShares e votes v.1 o = specShares (choice votes) e votes v o := by
  rw [share_level_refinement_partial e wf votes hd v hv o ho]
  unfold specShares
  congr 2
  apply List.filter_congr
  intro d hdm
  rw [choice_eq_choiceM e votes d (hcross d hdm)]

/-- Every counted piece belongs to a bonded validator and is converted with that validator's shares and tokens.
    Its power (units of 10⁻¹⁸ token), times the validator's shares, is at most the exact value `shares·10¹⁸·tokens` plus
    `validatorShares·tokens/2`: at most `tokens/2` units above the exact power.
    It is at least the exact value minus `validatorShares·tokens·(1/2 + 10⁻¹⁸)`: at most `tokens·(1/2 + 10⁻¹⁸)` units below. -/
theorem piece_rounding (e : Env) (wf : StakeWF e) (votes : List Vote) (hd : VotersDistinct votes) (p : Piece)
    (hp : p ∈ pieces e votes) :
    (∃ v ∈ e.stake.vals, p.val = v.1 ∧ p.vshares = v.2.2 ∧ p.vtokens = v.2.1) ∧
    2 * (p.power.raw * p.vshares.raw) ≤ 2 * (p.shares.raw * Dec.prec * p.vtokens) + p.vshares.raw * p.vtokens ∧
    Dec.prec * (2 * (p.shares.raw * Dec.prec * p.vtokens)) ≤
      Dec.prec * (2 * (p.power.raw * p.vshares.raw)) + p.vshares.raw * p.vtokens * (Dec.prec + 2) := by
  obtain ⟨v, hv, h1, h2, h3, h4⟩ := piece_of_validator e wf votes hd p hp
  have hb := pw_bounds p.shares p.vshares p.vtokens h4 (by rw [h2]; exact wf.sharesPos v hv)
    (by rw [h3]; exact wf.tokensNonneg v hv)
  exact ⟨⟨v, hv, h1, h2, h3⟩, hb.1, hb.2.1⟩

/-- The power counted for one validator is at most its tokens plus half a unit of 10⁻¹⁸ token per counted piece and token. -/
theorem validator_power_le_tokens_plus_slack (e : Env) (wf : StakeWF e) (votes : List Vote) (hd : VotersDistinct votes)
    (v : Addr × Int × Dec) (hv : v ∈ e.stake.vals) :
    2 * sumOn ((pieces e votes).filter (fun p => p.val == v.1)) (fun p => p.power.raw) ≤
      (2 * Dec.prec + ((pieces e votes).filter (fun p => p.val == v.1)).length) * v.2.1 :=
  validator_power_bound e wf votes hd v hv

/-- The total counted power (units of 10⁻¹⁸ token) is at most the validators' bonded tokens plus `N/2` units per bonded
    token, `N` the number of counted pieces: `total ≤ bonded·(1 + N/2·10⁻¹⁸)`. -/
theorem total_power_le_bonded_plus_slack (e : Env) (wf : StakeWF e) (votes : List Vote) (hd : VotersDistinct votes) :
    2 * (stakeResults e votes).total.raw ≤
      (2 * Dec.prec + (pieces e votes).length) * sumOn e.stake.vals (fun v => v.2.1) := by
  refine Int.le_trans (total_bound e wf votes hd) ?_
  rw [← sumOn_mul_left]
  apply sumOn_le
  intro v hv
  have h1 : ((pieces e votes).filter (fun p => p.val == v.1)).length ≤ (pieces e votes).length := List.length_filter_le _ _
  exact Int.mul_le_mul_of_nonneg_right (by omega) (wf.tokensNonneg v hv)

/-- Power against the specification, per validator and option: the power the chain counts for validator `v` and option `o`
    (units of 10⁻¹⁸ token), times the validator's shares, is at most the exact value of the specified shares
    `spec·10¹⁸·tokens` plus `n·shares·tokens/2`, and at least that exact value minus `n·shares·tokens·(1/2 + 10⁻¹⁸)`, `n`
    the number of pieces counted for `v` and `o`.
    Dividing by the validator's shares: `|power − spec/shares·tokens| ≤ n·tokens·(1/2 + 10⁻¹⁸)` units of 10⁻¹⁸ token. -/
theorem option_power_refinement (e : Env) (wf : StakeWF e) (votes : List Vote) (hd : VotersDistinct votes)
    (v : Addr × Int × Dec) (hv : v ∈ e.stake.vals) (o : Nat) (ho : o ≠ 0) :
    2 * (sumOn ((pieces e votes).filter (fun p => p.val == v.1 && p.option == o)) (fun p => p.power.raw) * v.2.2.raw) ≤
      2 * (specShares (choiceM e votes) e votes v o * Dec.prec * v.2.1) +
        ((pieces e votes).filter (fun p => p.val == v.1 && p.option == o)).length * (v.2.2.raw * v.2.1) ∧
    Dec.prec * (2 * (specShares (choiceM e votes) e votes v o * Dec.prec * v.2.1)) ≤
      Dec.prec * (2 * (sumOn ((pieces e votes).filter (fun p => p.val == v.1 && p.option == o)) (fun p => p.power.raw) * v.2.2.raw)) +
        ((pieces e votes).filter (fun p => p.val == v.1 && p.option == o)).length * (v.2.2.raw * v.2.1 * (Dec.prec + 2)) := by
  rw [← share_level_refinement_partial e wf votes hd v hv o ho]
  refine validator_pieces_bounds e wf votes hd v hv _ (fun p hp => ⟨(List.mem_filter.mp hp).1, ?_⟩)
  have := (List.mem_filter.mp hp).2
  rw [Bool.and_eq_true] at this
  exact beq_iff_eq.mp this.1

/-- The accumulated results do not depend on the order of the votes. -/
theorem results_independent_of_vote_order (e : Env) (votes votes' : List Vote) (hp : votes.Perm votes')
    (hd : VotersDistinct votes) : stakeResults e votes = stakeResults e votes' := stakeResults_perm e hp hd

/-- The counted shares do not depend on the order of the votes: what is proved above of any vote list holds of the
    sorted list the tally walks. -/
theorem counted_shares_independent_of_vote_order (e : Env) (votes votes' : List Vote) (hp : votes.Perm votes')
    (hd : VotersDistinct votes) (a : Addr) (o : Nat) : countedShares e votes a o = countedShares e votes' a o :=
  sumOn_perm ((pieces_perm e hp hd).filter _) _

/-- Two states that hold the same votes in different orders get the same outcome of the stake round: pass, veto and the
    stored tally are equal, and the same votes remain. -/
theorem tally_independent_of_vote_order (e : Env) (g : State) (p : Proposal) (cd : Int) (votes' : List Vote)
    (hp : g.votes.Perm votes') (hwf : VotesWF g.votes) :
    (stakeTally e g p cd).1 = (stakeTally e { g with votes := votes' } p cd).1 ∧
    (stakeTally e g p cd).2.1 = (stakeTally e { g with votes := votes' } p cd).2.1 ∧
    (stakeTally e g p cd).2.2.1 = (stakeTally e { g with votes := votes' } p cd).2.2.1 ∧
    (stakeTally e g p cd).2.2.2.votes.Perm (stakeTally e { g with votes := votes' } p cd).2.2.2.votes := by
  have hr : stakeResults e (sortVotes (g.votes.filter (·.pid == p.id))) =
      stakeResults e (sortVotes (votes'.filter (·.pid == p.id))) := by
    apply stakeResults_perm e _ (tally_votes_distinct g p hwf)
    exact (sortVotes_perm _).trans ((hp.filter _).trans (sortVotes_perm _).symm)
  rw [stake_tally_is_two_loops, stake_tally_is_two_loops]
  simp only []
  rw [hr]
  exact ⟨rfl, rfl, rfl, hp.filter _⟩

/-! ### non-vacuity: three validators, five delegations, four votes on proposal 7 (and one on proposal 8) -/

/-- `va` (1000 shares: 400 its own, 600 of `d1`), `vb` (500 shares, all of `d2`), `vc` (300 shares: 100 of `d1`, 200 of `d3`) -/
def exEnv : Env :=
  { t := 0, bond := "uctk", modAddr := "gov",
    stake := { vals := [("va", 1000, Dec.ofInt 1000), ("vb", 500, Dec.ofInt 500), ("vc", 300, Dec.ofInt 300)],
               dels := [("va", "va", Dec.ofInt 400), ("d1", "va", Dec.ofInt 600), ("d2", "vb", Dec.ofInt 500),
                        ("d1", "vc", Dec.ofInt 100), ("d3", "vc", Dec.ofInt 200)],
               totalBonded := 1800 } }

/-- `x9` (no delegations) votes yes, `vb` vetoes, `d1` votes no against its validator `va` which votes yes; `vc` and `d2`,
    `d3` do not vote on proposal 7 -/
def exVotes : List Vote := [⟨7, "x9", 1⟩, ⟨7, "vb", 4⟩, ⟨8, "d3", 1⟩, ⟨7, "d1", 3⟩, ⟨7, "va", 1⟩]
def exMine : List Vote := sortVotes (exVotes.filter (·.pid == 7))

example : StakeWF exEnv := ⟨by decide +kernel, by decide +kernel, by decide +kernel, by decide +kernel, by decide +kernel⟩
example : VotesWF exVotes := by unfold VotesWF; decide +kernel
example : VotersDistinct exMine := by unfold VotersDistinct; decide +kernel
example : exMine.map (·.voter) = ["d1", "va", "vb", "x9"] := by decide +kernel
/-- the deductions: 600 from `va` (`d1` overrides it), 100 from `vc`; `vb` none -/
example : (voteLoop exEnv exMine).1.map (fun x => (x.addr, x.vote, x.deductions.raw)) =
    [("va", 1, 600 * Dec.prec), ("vb", 4, 0), ("vc", 0, 100 * Dec.prec)] := by decide +kernel
/-- yes: the 400 remaining shares of `va`; no: 600 + 100 of `d1`; veto: all 500 of `vb` (`d2` did not vote); `d3`'s 200
    shares of `vc` are not counted; `x9` counts nothing -/
example : countedShares exEnv exMine "va" 1 = 400 * Dec.prec ∧ countedShares exEnv exMine "va" 3 = 600 * Dec.prec ∧
    countedShares exEnv exMine "vc" 3 = 100 * Dec.prec ∧ countedShares exEnv exMine "vb" 4 = 500 * Dec.prec ∧
    countedShares exEnv exMine "vc" 1 = 0 := by decide +kernel
example : (pieces exEnv exMine).length = 4 := by decide +kernel
/-- rounding at work: `100/300` of 300 tokens is 99.999…9, so "no" is stored as 699 and the total is 1600 − 10⁻¹⁶ -/
example : (stakeResults exEnv exMine).tally = ⟨400, 0, 699, 500⟩ ∧
    (stakeResults exEnv exMine).total.raw = 1600 * Dec.prec - 100 := by decide +kernel
/-- the rounding bound of `piece_rounding` is nearly attained: 100 of 300 shares of a validator with 300 tokens get
    100 tokens minus 100 units, the bound being 150 units -/
example : (pw (Dec.ofInt 100) (Dec.ofInt 300) 300).raw = 100 * Dec.prec - 100 := by decide +kernel
/-- the cross-delegation hypothesis of `share_level_refinement_stated` holds here: `va` only delegates to itself -/
example : ∀ d ∈ exEnv.stake.dels, isValidator exEnv d.1 = true → hasVoted exMine d.1 = true → d.2.1 = d.1 := by decide +kernel
/-- the order of the stored votes: reversing the store gives the same outcome -/
example : (stakeTally exEnv { (default : State) with votes := exVotes } { (default : Proposal) with id := 7 } 0).2.2.1 =
    (stakeTally exEnv { (default : State) with votes := exVotes.reverse } { (default : Proposal) with id := 7 } 0).2.2.1 := by
  decide +kernel

/-- Every step of the model keeps at most one stored vote per proposal and voter. -/
theorem one_vote_per_voter_step (w w' : World) (op : Op) (hwf : VotesWF w.g.votes) (h : step w op = .ok w') :
    VotesWF w'.g.votes := by
  cases op with
  | submit e a p0 d => exact (submit_atoms h).keep (fun t => atom_votesWF t) hwf
  | deposit e pid a amt => exact (addDeposit_atoms h).keep (fun t => atom_votesWF t) hwf
  | vote pid a o => exact one_vote_per_voter_vote w w' pid a o h hwf
  | endBlock e => exact List.Pairwise.sublist (endBlock_votes h) hwf

/-- After every history there is at most one stored vote per proposal and voter. -/
theorem one_vote_per_voter_run (w : World) (hwf : VotesWF w.g.votes) (ops : List Op) : VotesWF (run w ops).g.votes :=
  List.foldlRecOn (motive := fun w : World => VotesWF w.g.votes) ops apply hwf (fun w hwf op _ =>
    apply_ind w op hwf fun w' => one_vote_per_voter_step w w' op hwf)

/-- The empty proposal store is well formed, whatever the next id. -/
theorem store_wf_init (ds : List Deposit) (vs : List Vote) (n : Nat) (ps : Params) :
    GovWF { proposals := [], deposits := ds, votes := vs, nextId := n, params := ps } :=
  ⟨List.nodup_nil, fun _ h => by cases h⟩

/-- Every history keeps the proposal store well formed: ids distinct and below the next id. -/
theorem store_wf_run (w : World) (wf : GovWF w.g) (ops : List Op) : GovWF (run w ops).g := (run_adv ops w wf).wf wf

/-- Over every history, a stored proposal is either still stored with a status of the same or a higher rank — and with
    the very same record if it was passed, rejected or failed — or it has been dropped, which happens only to proposals in
    the deposit period. -/
theorem status_only_moves_forward (w : World) (wf : GovWF w.g) (ops : List Op) (id : Nat) (p : Proposal)
    (h : findP w.g id = some p) :
    match findP (run w ops).g id with
    | some p' => Props.C12.rank p.status ≤ Props.C12.rank p'.status ∧ (Props.C12.rank p.status = 4 → p' = p)
    | none => p.status = 1 := (run_adv ops w wf).fwd id p h

/-- A passed, rejected or failed proposal stays stored and unchanged for ever. -/
theorem finalised_never_changes (w : World) (wf : GovWF w.g) (ops : List Op) (id : Nat) (p : Proposal)
    (h : findP w.g id = some p) (hfin : p.status = 4 ∨ p.status = 5 ∨ p.status = 6) :
    findP (run w ops).g id = some p :=
  (run_adv ops w wf).fwd.final h (by rcases hfin with h1 | h1 | h1 <;> rw [h1] <;> rfl)

/-- The same between any two points of a history that starts in a well-formed state. -/
theorem status_forward_between_any_two_points (w : World) (wf : GovWF w.g) (ops₁ ops₂ : List Op) :
    Fwd (run w ops₁).g (run w (ops₁ ++ ops₂)).g := by
  rw [run_append]
  exact (run_adv ops₂ _ (store_wf_run w wf ops₁)).fwd

/-- The finalisation keeps the handler's result only when the votes passed the proposal and the handler succeeded,
    and then it writes status passed. -/
theorem finish_applies_handler_only_on_pass (w : World) (p : Proposal) (pass : Bool) (t : Tally)
    (hc : (finish w p pass t).c ≠ w.c ∨ (finish w p pass t).l ≠ w.l) :
    pass = true ∧ ∃ w', runHandler w p = .ok w' ∧ (finish w p pass t).c = w'.c ∧ (finish w p pass t).l = w'.l ∧
      findP (finish w p pass t).g p.id = some { p with status := 4, tally := t } := by
  obtain ⟨c', s, hf, ⟨rfl, hp, hh⟩ | ⟨_, rfl, _⟩⟩ := finish_shape w p pass t
  · rw [hf]; exact ⟨hp, _, hh, rfl, rfl, findP_setP_self ..⟩
  · rw [hf] at hc; exact (hc.elim (· rfl) (· rfl)).elim

/-- A step changes the certifier state — the only thing the modelled handlers change — only if it turns a proposal that
    was not final (or not stored) before the step into a passed one. -/
theorem handler_effect_only_when_passed (w w' : World) (op : Op) (wf : GovWF w.g) (h : step w op = .ok w')
    (hc : w'.c ≠ w.c) :
    ∃ id p', findP w'.g id = some p' ∧ p'.status = 4 ∧ ∀ p, findP w.g id = some p → Props.C12.rank p.status < 4 := by
  rcases (step_adv w w' op wf h).cert with h1 | h1
  · exact absurd h1 hc
  · exact h1

/-- Once a proposal is passed, no later step of any history turns it into a passed one again: the handler's effect is
    applied at most once per proposal. -/
theorem handler_runs_at_most_once (w : World) (wf : GovWF w.g) (id : Nat) (p : Proposal) (h : findP w.g id = some p)
    (h4 : p.status = 4) (ops : List Op) (op : Op) :
    ¬ ∃ p', findP (apply (run w ops) op).g id = some p' ∧ p'.status = 4 ∧
        ∀ q, findP (run w ops).g id = some q → Props.C12.rank q.status < 4 := by
  intro ⟨p', _, _, hq⟩
  have := hq p (finalised_never_changes w wf ops id p h (Or.inl h4))
  rw [h4] at this
  simp [Props.C12.rank] at this

/-! non-vacuity: validator `va` submits a text proposal (id 0, straight into the validator voting period), `va` votes
    yes and `d1` no, the end-blocker passes it; a second end-blocker and a late vote change nothing -/
def exOps : List Op :=
  [.submit exEnv "va" { (default : Proposal) with kind := "text" } [], .vote 0 "va" 1, .vote 0 "d1" 3,
   .endBlock exEnv, .endBlock exEnv, .vote 0 "va" 3]

example : GovWF (default : World).g := store_wf_init [] [] 0 default
example : VotesWF (default : World).g.votes := one_vote_per_voter_init
example : (List.range 7).map (fun n => ((findP (run default (exOps.take n)).g 0).map (·.status),
      (run default (exOps.take n)).g.votes.length)) =
    [(none, 0), (some 3, 0), (some 3, 1), (some 3, 2), (some 4, 0), (some 4, 0), (some 4, 0)] := by decide +kernel

/-! non-vacuity of `handler_effect_only_when_passed`: with certifier `c1` in the council, validator `va` proposes to add
    certifier `c2` (id 0, certifier round), `c1` votes yes; the end-blocker passes the proposal and the council changes
    in that step — and only in that step -/
def exCertWorld : World :=
  { (default : World) with c := { (default : Cert.State) with certifiers := [⟨"c1", "", ""⟩] } }
def exCertOps : List Op :=
  [.submit exEnv "va" { (default : Proposal) with kind := "certifierUpdate", cuCertifier := "c2", cuAdd := true } [],
   .vote 0 "c1" 1, .endBlock exEnv, .endBlock exEnv]

example : (List.range 5).map (fun n => ((findP (run exCertWorld (exCertOps.take n)).g 0).map (·.status),
      (run exCertWorld (exCertOps.take n)).c.certifiers.map (·.addr))) =
    [(none, ["c1"]), (some 2, ["c1"]), (some 2, ["c1"]), (some 4, ["c1", "c2"]), (some 4, ["c1", "c2"])] := by decide +kernel

end Shentu.Props.C12T

#print axioms Shentu.Props.C12T.stake_tally_is_two_loops
#print axioms Shentu.Props.C12T.results_are_pieces
#print axioms Shentu.Props.C12T.results_by_option
#print axioms Shentu.Props.C12T.one_vote_per_voter_init
#print axioms Shentu.Props.C12T.one_vote_per_voter_vote
#print axioms Shentu.Props.C12T.one_vote_per_voter_tally
#print axioms Shentu.Props.C12T.tally_votes_distinct
#print axioms Shentu.Props.C12T.deductions_exact
#print axioms Shentu.Props.C12T.operator_vote_only_records
#print axioms Shentu.Props.C12T.operator_delegations_follow_target
#print axioms Shentu.Props.C12T.no_share_counted_twice_partial
#print axioms Shentu.Props.C12T.no_share_counted_twice_fails
#print axioms Shentu.Props.C12T.exact_power_le_tokens
#print axioms Shentu.Props.C12T.share_level_refinement_partial
#print axioms Shentu.Props.C12T.share_level_refinement_fails
#print axioms Shentu.Props.C12T.share_level_refinement_stated
#print axioms Shentu.Props.C12T.piece_rounding
#print axioms Shentu.Props.C12T.validator_power_le_tokens_plus_slack
#print axioms Shentu.Props.C12T.total_power_le_bonded_plus_slack
#print axioms Shentu.Props.C12T.option_power_refinement
#print axioms Shentu.Props.C12T.counted_shares_independent_of_vote_order
#print axioms Shentu.Props.C12T.results_independent_of_vote_order
#print axioms Shentu.Props.C12T.tally_independent_of_vote_order
#print axioms Shentu.Props.C12T.one_vote_per_voter_step
#print axioms Shentu.Props.C12T.one_vote_per_voter_run
#print axioms Shentu.Props.C12T.store_wf_init
#print axioms Shentu.Props.C12T.store_wf_run
#print axioms Shentu.Props.C12T.status_only_moves_forward
#print axioms Shentu.Props.C12T.finalised_never_changes
#print axioms Shentu.Props.C12T.status_forward_between_any_two_points
#print axioms Shentu.Props.C12T.finish_applies_handler_only_on_pass
#print axioms Shentu.Props.C12T.handler_effect_only_when_passed
#print axioms Shentu.Props.C12T.handler_runs_at_most_once
