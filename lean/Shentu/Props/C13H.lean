import Shentu.Props.C13
import Shentu.Proofs.C13HLemmas
import Shentu.Proofs.C13HGov
/-!
  C13 at the level of whole histories, and its link to governance.

  `Props/C13.lean` speaks about one operation at a time.  Here the cert module is driven by an
  arbitrary list of operations (`Op`): certificate issue, certificate revocation and platform
  certification, each signed by an arbitrary address, and `govUpdate`, a passed certifier-update
  proposal (the model's `handleUpdate`).  A refused operation leaves the state unchanged (`step`).

  What is proved.

  1. The invariant `WF` holds at a genesis with at least one certifier, distinct addresses and distinct
     non-empty aliases, and every step keeps it.  `WF` says: the council is not empty; certifier addresses
     are pairwise distinct; non-empty aliases are pairwise distinct; the alias index is, as a list, exactly
     the non-empty aliases of the current certifiers with their addresses; certificate identifiers are
     pairwise distinct and below the counter.
  2. The certifier list after a history is the certifier list before it, transformed by exactly the
     accepted `govUpdate` operations in order.  Under `WF` the same list is a function of the certifier
     list and the operations alone (`councilStep`).
  3. With a ghost log of every step: every certificate present was issued by a step signed by a
     then-certifier; every certificate removed was removed by a revocation signed by a then-certifier;
     a certificate issued and not revoked is found by identifier, certifier and content at the end;
     identifiers are handed out in strictly increasing order, so none is used twice.
  4. In the governance model, `submit`, `addDeposit` and `vote` leave the `Cert.State` of the world
     unchanged.  `endBlock` changes it only by a sequence of `handleUpdate` calls, one for each
     proposal of kind "certifierUpdate" whose tally passed in that very block and which was stored as
     passed (`Path`: the actual execution, hop by hop).  The one-proposal-per-step wording (`SingleUpdate`)
     is false: two proposals can pass in one block (`gov_step_single_update_fails`).  Cert messages and
     governance steps interleaved in any order (`wrun`) move the council only by such finalised proposals.

  What is assumed: nothing beyond `WF` of the starting state where a theorem says so.  The genesis
  state is `C13H.genesis`: the alias store is written from the same list as the certifier store.
-/
namespace Shentu.Props.C13H
open Shentu Shentu.Cert Shentu.C13H

/-! ### 1. The invariant -/

/-- Every step keeps the invariant, whether the operation is accepted or refused. -/
theorem wf_step (s : State) (o : Op) (hw : WF s) : WF (step s o) := step_wf o hw

/-- The invariant holds after every history that starts in a state where it holds. -/
theorem wf_history (s : State) (ops : List Op) (hw : WF s) : WF (run s ops) := run_wf ops hw

/-- A genesis with at least one certifier, distinct addresses, distinct non-empty aliases and
    distinct certificate identifiers below the counter satisfies the invariant. -/
theorem wf_genesis (cs : List Certifier) (certs : List Certificate) (nextId : Nat)
    (h1 : cs ≠ []) (h2 : (cs.map (·.addr)).Nodup) (h3 : (aliasesOf cs).Nodup)
    (h4 : (certs.map (·.id)).Nodup) (h5 : ∀ c ∈ certs, c.id < nextId) : WF (genesis cs certs nextId) :=
  genesis_wf cs certs nextId h1 h2 h3 h4 h5

/-- The invariant implies the three per-operation invariants of `Props/C13.lean`.
    In particular the alias index has no stale entry and misses none, and no two certifiers share a non-empty alias. -/
theorem wf_implies_c13_invariants (s : State) (hw : WF s) :
    s.certifiers ≠ [] ∧ C13.AddrInv s ∧ C13.AliasInv s ∧ C13.IdInv s := by
  refine ⟨hw.nonempty, hw.addrs, ⟨?_, ?_⟩, ⟨hw.below, hw.ids⟩⟩
  · intro al ad
    rw [hw.index]
    simp only [aliasIndexOf, List.mem_map, List.mem_filter, bne_iff_ne, ne_eq, Prod.mk.injEq]
    constructor
    · rintro ⟨c, ⟨hc, hne⟩, rfl, rfl⟩; exact ⟨hne, c, hc, rfl, rfl⟩
    · rintro ⟨hne, c, hc, rfl, rfl⟩; exact ⟨c, ⟨hc, hne⟩, rfl, rfl⟩
  · intro c1 h1 c2 h2 hne heq
    rw [eq_of_alias_eq hw.aliases h1 h2 hne heq]

/-- After every history from a well-formed state the council is not empty, addresses are distinct,
    no non-empty alias is shared, and the alias index matches the council. -/
theorem council_always_sound (s : State) (ops : List Op) (hw : WF s) :
    (run s ops).certifiers ≠ [] ∧ C13.AddrInv (run s ops) ∧ C13.AliasInv (run s ops) ∧ C13.IdInv (run s ops) :=
  wf_implies_c13_invariants _ (run_wf ops hw)

/-! ### 2. The council changes only by governance -/

/-- The certifier list after a history is the list before it, transformed by exactly the accepted
    governance updates of the history, in order.  An accepted addition appends; an accepted removal filters. -/
theorem council_changes_only_by_governance (s : State) (ops : List Op) :
    (run s ops).certifiers = (passedUpdates s ops).foldl applyOp s.certifiers := by
  induction ops generalizing s with
  | nil => rfl
  | cons o os ih =>
    rw [run_cons, ih, passedUpdates, List.foldl_append, step_certifiers]
    cases h : (o.isGov && succeeds s o) <;> simp

/-- The accepted governance updates are `govUpdate` operations of the history. -/
theorem passed_updates_are_governance (s : State) (ops : List Op) :
    ∀ o ∈ passedUpdates s ops, o ∈ ops ∧ ∃ a al p add, o = .govUpdate a al p add := by
  intro o ho
  obtain ⟨h1, h2⟩ := mem_passedUpdates ho
  refine ⟨h1, ?_⟩
  cases o with
  | govUpdate a al p add => exact ⟨a, al, p, add, rfl⟩
  | _ => cases h2

/-- A history without a governance update leaves the council and the alias index as they were. -/
theorem no_governance_no_change (s : State) (ops : List Op) (h : ∀ o ∈ ops, o.isGov = false) :
    (run s ops).certifiers = s.certifiers ∧ (run s ops).aliasIdx = s.aliasIdx :=
  Prod.mk.inj (run_unchanged (fun s => (s.certifiers, s.aliasIdx)) (·.isGov = false)
    (fun hk he => by obtain ⟨_, hc, hidx, _⟩ := exec_fields he; rw [hc, applyOp_not_gov _ hk, hidx hk]) ops s h)

/-- From a well-formed state the council after a history is a function of the certifier list and the
    operations alone.  Certificates, the counter, platforms and signers have no influence on it. -/
theorem council_closed_form (s : State) (ops : List Op) (hw : WF s) :
    (run s ops).certifiers = ops.foldl councilStep s.certifiers :=
  (List.foldl_rel (r := fun s cs => WF s ∧ s.certifiers = cs) ⟨hw, rfl⟩
    (fun o _ _ _ h => ⟨step_wf o h.1, by rw [← h.2, step_councilStep h.1]⟩)).2

/-! ### 3. Certificates, with a ghost log -/

/-- The ghost log is faithful.  Carrying it along changes nothing in the state.
    Its lines are the operations of the history in order.
    Each line records the state reached by the operations before it. -/
theorem log_faithful (s : State) (ops : List Op) :
    (grun { s := s, log := [] } ops).s = run s ops ∧
    (grun { s := s, log := [] } ops).log = glog s ops ∧
    (glog s ops).map (·.op) = ops ∧
    ∀ e, e ∈ glog s ops ↔ ∃ before after, ops = before ++ e.op :: after ∧ e.pre = run s before := by
  refine ⟨by rw [grun_eq], by rw [grun_eq]; rfl, ?_, ?_⟩
  · induction ops generalizing s with
    | nil => rfl
    | cons o os ih => simp [glog, ih]
  · intro e
    constructor
    · intro he
      induction ops generalizing s with
      | nil => cases he
      | cons o os ih =>
        rcases List.mem_cons.mp he with rfl | h
        · exact ⟨[], os, rfl, rfl⟩
        · obtain ⟨b, a, h1, h2⟩ := ih _ h
          exact ⟨o :: b, a, by rw [h1]; rfl, h2⟩
    · rintro ⟨b, a, rfl, h2⟩
      rw [glog_append, glog, ← h2]
      exact List.mem_append_right _ List.mem_cons_self

/-- Every certificate present after a history was there at the start, or was created by an `issue`
    step of the history whose signer was a certifier in the state at that step.
    The certificate carries that signer, the kind and content of the message, and the counter value of that moment. -/
theorem present_was_issued (s : State) (ops : List Op) (c : Certificate) (hc : c ∈ (run s ops).certs) :
    c ∈ s.certs ∨ ∃ e ∈ glog s ops, ∃ a k ct, e.op = .issue a k ct ∧ isCertifier e.pre a = true ∧
      c = { id := e.pre.nextId, kind := k, content := ct, certifier := a } :=
  run_origin (M := fun s => c ∈ s.certs) (fun _ _ => step_certs_mem) ops s hc

/-- Every certificate that is gone after a history was removed by an accepted `revoke` step for its
    identifier, signed by an address that was a certifier at that step; the certificate was present just before. -/
theorem removed_was_revoked (s : State) (ops : List Op) (c : Certificate) (hc : c ∈ s.certs) (hg : c ∉ (run s ops).certs) :
    ∃ e ∈ glog s ops, ∃ r, e.op = .revoke r c.id ∧ isCertifier e.pre r = true ∧ e.ok = true ∧ c ∈ e.pre.certs := by
  refine (run_origin (M := fun s => c ∉ s.certs) (fun s o h1 => ?_) ops s hg).resolve_left (· hc)
  by_cases hc : c ∈ s.certs
  · obtain ⟨r, ho, hcert, hok⟩ := step_certs_gone hc h1
    exact .inr ⟨r, ho, hcert, hok, hc⟩
  · exact .inl hc

/-- Every platform certification present after a history was there at the start, or was written by a
    `certifyPlatform` step of the history whose signer was a certifier in the state at that step. -/
theorem platform_was_certified (s : State) (ops : List Op) (x : String × String) (hx : x ∈ (run s ops).platforms) :
    x ∈ s.platforms ∨ ∃ e ∈ glog s ops, ∃ a pk d, e.op = .certifyPlatform a pk d ∧ isCertifier e.pre a = true ∧ x = (pk, d) :=
  run_origin (M := fun s => x ∈ s.platforms) (fun _ _ => step_platforms_mem) ops s hx

/-- Messages are accepted exactly from certifiers: an issue or a platform certification succeeds iff the
    signer is a certifier in the state it is applied to, a revocation iff moreover the certificate exists. -/
theorem accepted_iff_signed_by_certifier (s : State) (a : Addr) (k ct pk d : String) (id : Nat) :
    succeeds s (.issue a k ct) = isCertifier s a ∧
    succeeds s (.certifyPlatform a pk d) = isCertifier s a ∧
    succeeds s (.revoke a id) = (s.certs.any (·.id == id) && isCertifier s a) := by
  refine ⟨succeeds_issue s a k ct, ?_, ?_⟩
  · cases h : isCertifier s a <;> simp [succeeds, exec, Cert.certifyPlatform, h, err]
  · cases h1 : s.certs.any (·.id == id) <;> cases h2 : isCertifier s a <;> simp [succeeds, exec, Cert.revoke, h1, h2, err]

/-- Retrievability.  Start well-formed, run `before`, let a then-certifier issue a certificate, run `after`.
    If no accepted revocation of its identifier occurs in `after`, the certificate is found by its identifier,
    unchanged, at the end.  It is also among the certificates of its certifier and among those with its content. -/
theorem issued_stays_retrievable (s0 : State) (hw : WF s0) (before after : List Op) (a : Addr) (k ct : String)
    (hcert : isCertifier (run s0 before) a = true)
    (hno : ∀ e ∈ glog (run s0 (before ++ [.issue a k ct])) after, ∀ r,
      e.op = .revoke r (run s0 before).nextId → e.ok = false) :
    (run s0 (before ++ .issue a k ct :: after)).certs.find? (·.id == (run s0 before).nextId) =
        some { id := (run s0 before).nextId, kind := k, content := ct, certifier := a } ∧
    ({ id := (run s0 before).nextId, kind := k, content := ct, certifier := a } : Certificate) ∈
        (run s0 (before ++ .issue a k ct :: after)).certs.filter (·.certifier == a) ∧
    ({ id := (run s0 before).nextId, kind := k, content := ct, certifier := a } : Certificate) ∈
        (run s0 (before ++ .issue a k ct :: after)).certs.filter (·.content == ct) := by
  have hstep : run s0 (before ++ [.issue a k ct]) = _ :=
    (run_append s0 before _).trans (step_of_ok (exec_issue_of_certifier k ct hcert))
  have hmem : ({ id := (run s0 before).nextId, kind := k, content := ct, certifier := a } : Certificate) ∈
      (run s0 (before ++ .issue a k ct :: after)).certs := by
    rw [List.append_cons, run_append]
    apply Classical.byContradiction; intro hg
    obtain ⟨e, he, r, ho, _, hok, _⟩ := removed_was_revoked _ after _ (by rw [hstep]; simp) hg
    rw [hno e he r ho] at hok; cases hok
  have hwf : WF (run s0 (before ++ .issue a k ct :: after)) := run_wf _ hw
  refine ⟨find_of_key hwf.ids hmem, ?_, ?_⟩
  · exact List.mem_filter.mpr ⟨hmem, by simp⟩
  · exact List.mem_filter.mpr ⟨hmem, by simp⟩

/-- Identifiers are never reused.  The identifiers handed out over a history are strictly increasing in
    the order of issue, hence pairwise different, also after revocations.
    Each lies at or above the counter at the start and below the counter at the end. -/
theorem ids_never_reused (s : State) (ops : List Op) :
    (issuedIds s ops).Pairwise (· < ·) ∧ (issuedIds s ops).Nodup ∧
    ∀ i ∈ issuedIds s ops, s.nextId ≤ i ∧ i < (run s ops).nextId := by
  have hinc : (issuedIds s ops).Pairwise (· < ·) := by rw [issuedIds_eq_range]; exact List.pairwise_lt_range'
  refine ⟨hinc, hinc.imp (fun h => Nat.ne_of_lt h), fun i hi => ?_⟩
  rw [issuedIds_eq_range, List.mem_range'_1] at hi
  have := run_nextId_le s ops
  omega

/-- From a well-formed state, no identifier handed out during the history equals the identifier of a
    certificate that existed at the start; and every certificate present at the end is an initial one or
    carries one of the identifiers handed out. -/
theorem new_ids_are_fresh (s : State) (ops : List Op) (hw : WF s) :
    (∀ i ∈ issuedIds s ops, ∀ c ∈ s.certs, c.id ≠ i) ∧
    (∀ c ∈ (run s ops).certs, c ∈ s.certs ∨ c.id ∈ issuedIds s ops) := by
  constructor
  · intro i hi c hc
    have h1 := ((ids_never_reused s ops).2.2 i hi).1
    have h2 := hw.below c hc
    omega
  · intro c hc
    rcases present_was_issued s ops c hc with h | ⟨e, he, a, k, ct, ho, hcert, rfl⟩
    · exact Or.inl h
    · refine Or.inr (List.mem_filterMap.mpr ⟨e, he, ?_⟩)
      unfold Entry.issuedId Entry.ok
      rw [ho, succeeds_issue, hcert]; rfl

/-! ### 4. The link to governance -/

open Shentu.Gov in
/-- Submitting a proposal, depositing and voting leave the council (the whole `Cert.State`) unchanged.
    `submit` runs the handler only as a dry run: the model discards the handler's result. -/
theorem gov_messages_leave_council (e : Env) (w w' : World) (a : Addr) (p0 : Proposal) (d : Coins) (pid o : Nat) :
    (submit e w a p0 d = .ok w' ∨ addDeposit e w pid a d = .ok w' ∨ vote w pid a o = .ok w') → w'.c = w.c := by
  rintro (h | h | h)
  · exact atoms_c (submit_atoms h)
  · exact atoms_c (addDeposit_atoms h)
  · exact atoms_c (vote_atoms (e := e) h)

open Shentu.Gov in
/-- the one-proposal wording of the link: the council after a governance step is the council before, or
    the result of `handleUpdate` for one certifier-update proposal -/
def SingleUpdate (w w' : World) : Prop :=
  w'.c = w.c ∨ ∃ p : Proposal, p.kind = "certifierUpdate" ∧ exec w.c (opOf p) = .ok w'.c

namespace Witness
open Shentu.Gov

def tp : TallyParams := ⟨Dec.zero, Dec.zero, Dec.zero⟩
/-- a certifier-update proposal in the certifier round whose voting period ends at time 5 -/
def prop (id : Nat) (a : Addr) (al : String) : Proposal :=
  { id := id, kind := "certifierUpdate", cuCertifier := a, cuAlias := al, cuAdd := true, cuProposer := "a", status := 2,
    isCouncil := true, proposer := "a", totalDeposit := [], submitTime := 0, depositEnd := 0, votingStart := 0,
    votingEnd := 5, tally := ⟨0, 0, 0, 0⟩ }
/-- two such proposals, both approved by the only certifier -/
def gov0 : Gov.State :=
  { proposals := [prop 1 "b" "bob", prop 2 "c" ""], deposits := [], votes := [⟨1, "a", 1⟩, ⟨2, "a", 1⟩], nextId := 3,
    params := Params.mk [] [] 10 10 tp tp tp }
def cert0 : Cert.State := genesis [⟨"a", "alice", "a"⟩] [] 1
def w0 : World := ⟨default, gov0, cert0⟩
def e0 : Env := { t := 10, bond := "uctk", modAddr := "gov", stake := { vals := [], dels := [], totalBonded := 0 } }
def councilAfter (r : Except Err World) : List Addr :=
  match r with
  | .ok w => w.c.certifiers.map Certifier.addr
  | .error x => [x.kind]

/-- in this block both proposals pass and both certifiers are added -/
theorem two_pass_in_one_block : councilAfter (endBlock e0 w0) = ["a", "b", "c"] := by decide +kernel

end Witness

open Shentu.Gov in
/-- The one-proposal wording is FALSE for `endBlock`: when two certifier-update proposals reach the end of
    their voting period in the same block and both pass, the council changes by two updates in one step. -/
theorem gov_step_single_update_fails : ¬ ∀ (e : Env) (w w' : World), endBlock e w = .ok w' → SingleUpdate w w' := by
  intro hall
  have h2 := Witness.two_pass_in_one_block
  cases hr : endBlock Witness.e0 Witness.w0 with
  | error x => rw [hr] at h2; cases (List.cons.inj h2).2
  | ok w' =>
    rw [hr] at h2
    simp only [Witness.councilAfter] at h2
    have hlen : w'.c.certifiers.length = 3 := by
      have := congrArg List.length h2
      simpa using this
    rcases hall _ _ _ hr with h | ⟨p, _, hex⟩
    · rw [h] at hlen; simp [Witness.w0, Witness.cert0, genesis] at hlen
    · have := (exec_fields hex).2.1
      rw [this] at hlen
      simp only [Witness.w0, Witness.cert0, genesis, opOf, applyOp] at hlen
      cases hadd : p.cuAdd
      · rw [hadd] at hlen; simp only at hlen
        have := List.length_filter_le (fun x : Certifier => !(x.addr == p.cuCertifier)) [⟨"a", "alice", "a"⟩]
        simp only [List.length_cons, List.length_nil] at this
        omega
      · rw [hadd] at hlen; simp at hlen

open Shentu.Gov in
/-- The true form of the link for the end of a block, on the actual execution.
    The end blocker is a path of worlds; every hop is one real call of one of its three loop bodies on a stored proposal.
    A hop keeps the `Cert.State`, or it finalises its proposal as passed (`FinalisedAt`): the kind is
    "certifierUpdate", the tally of the proposal's round computed on the world of that hop passed,
    `handleUpdate` applied to the council of that world accepted and gave the council of the next world,
    and the proposal is stored there with status 4.
    The council at the end is the council at the start after exactly those updates, in order, all accepted.
    What is missing with respect to the one-proposal wording: the list can be longer than one. -/
theorem end_block_council_partial (e : Env) (w w' : World) (h : endBlock e w = .ok w') :
    ∃ ps : List Proposal, Path e w ps w' ∧ (∀ p ∈ ps, p.kind = "certifierUpdate") ∧
      w'.c = run w.c (ps.map opOf) ∧ AllAccepted w.c (ps.map opOf) := by
  obtain ⟨ps, hp⟩ := endBlock_path h
  exact ⟨ps, hp, hp.chain.kinds, hp.chain.accepted.2, hp.chain.accepted.1⟩

open Shentu.Gov in
/-- The true form of the link, for every governance step (submit, deposit, vote, end of block).
    The `Cert.State` after the step is reached from the one before by a chain of `handleUpdate` calls.
    Each link of the chain belongs to a stored proposal of kind "certifierUpdate" whose tally (certifier
    round or stake round) passed at that moment, whose handler accepted, and which was stored with
    status 4 (passed).  For the three messages the chain is empty.
    What is missing with respect to the one-proposal wording: the chain can be longer than one. -/
theorem gov_step_council_partial (e : Env) (w w' : World) (o : GovOp) (h : govExec e w o = .ok w') :
    ∃ ps : List Proposal, Chain e w.c ps w'.c ∧ (o.isEndBlock = false → ps = []) ∧
      (∀ p ∈ ps, p.kind = "certifierUpdate" ∧ ∃ c1 c2, Finalised e c1 c2 p) ∧
      w'.c = run w.c (ps.map opOf) ∧ AllAccepted w.c (ps.map opOf) := by
  obtain ⟨ps, hch, hnil⟩ := govExec_chain h
  exact ⟨ps, hch, hnil, fun p hp => ⟨hch.kinds p hp, hch.finalised p hp⟩, hch.accepted.2, hch.accepted.1⟩

open Shentu.Gov in
/-- Over a whole governance history (any messages and blocks, any environments), the `Cert.State` of the
    world moves only by accepted `govUpdate` operations.  So parts 1 and 2 apply to it: the council
    stays well-formed, and it is the old council transformed by those updates in order. -/
theorem gov_history_council (w : World) (h : List (Env × GovOp)) :
    ∃ ups : List Op, AllAccepted w.c ups ∧ (govRun w h).c = run w.c ups ∧
      (govRun w h).c.certifiers = ups.foldl applyOp w.c.certifiers ∧
      (govRun w h).c.certs = w.c.certs ∧
      (WF w.c → WF (govRun w h).c) := by
  obtain ⟨ups, (hrun : (govRun w h).c = _), hp, hg⟩ := council_of_steps (f := fun w eo => govStep eo.1 w eo.2) (c := World.c)
    (Q := fun _ o => o.isGov = true)
    (fun w eo => by
      obtain ⟨ps, hch, _⟩ := govStep_chain eo.1 w eo.2
      obtain ⟨hacc, hrun⟩ := hch.accepted
      exact ⟨ps.map opOf, hrun, by rw [hacc.2, filter_isGov_map_opOf], hacc.1⟩) h w
  have hall : ∀ o ∈ ups, o.isGov = true := fun o ho => let ⟨_, _, q⟩ := hg o ho; q
  have hacc : AllAccepted w.c ups := ⟨hall, by rw [hp, List.filter_eq_self.mpr hall]⟩
  refine ⟨ups, hacc, hrun, ?_, ?_, ?_⟩
  · rw [hrun, council_changes_only_by_governance, hacc.2]
  · rw [hrun, run_unchanged (·.certs) (·.isGov = true) (fun {_ _ o} hk he => by obtain ⟨_, _, _, hc, _⟩ := exec_fields he; cases o <;> first | exact hc | cases hk) ups _ hacc.1]
  · intro hw; rw [hrun]; exact run_wf ups hw

open Shentu.Gov in
/-- The whole chain: cert messages (signed by anyone) and governance steps (in any environments) interleaved
    in any order.  The `Cert.State` of the world after the history is the run of a list of cert operations.
    Every `govUpdate` in that list was accepted, and each one is the update of a proposal of kind
    "certifierUpdate" that an end-of-block step of this history finalised as passed.
    Hence the council after the history is the council before, transformed by those updates in order,
    and a well-formed council stays well-formed (never empty, no shared alias, exact alias index). -/
theorem world_history_council (w : World) (h : List WOp) :
    ∃ ops : List Op, (wrun w h).c = run w.c ops ∧ passedUpdates w.c ops = ops.filter Op.isGov ∧
      (∀ o ∈ ops, o.isGov = true → ∃ e p c1 c2, WOp.gov e .endBlock ∈ h ∧ o = opOf p ∧ Finalised e c1 c2 p) ∧
      (wrun w h).c.certifiers = (ops.filter Op.isGov).foldl applyOp w.c.certifiers ∧
      (WF w.c → WF (wrun w h).c) := by
  obtain ⟨ops, (h1 : (wrun w h).c = _), h2, h3⟩ := council_of_steps (f := wstep) (c := World.c)
    (Q := fun x o => o.isGov = true → ∃ e p c1 c2, x = .gov e .endBlock ∧ o = opOf p ∧ Finalised e c1 c2 p)
    (fun w x => by
      cases x with
      | cert m =>
        refine ⟨[m.toOp], rfl, by simp [passedUpdates, Msg.toOp_not_gov], fun o ho hg => ?_⟩
        rw [List.mem_singleton.mp ho, Msg.toOp_not_gov] at hg; cases hg
      | gov e o =>
        obtain ⟨ps, hch, hnil⟩ := govStep_chain e w o
        obtain ⟨hacc, hrun⟩ := hch.accepted
        refine ⟨ps.map opOf, hrun, by rw [hacc.2, filter_isGov_map_opOf], fun o' ho' _ => ?_⟩
        obtain ⟨p, hp, rfl⟩ := List.mem_map.mp ho'
        obtain ⟨c1, c2, hfin⟩ := hch.finalised p hp
        -- only the end of a block has a chain that is not empty
        cases o with
        | endBlock => exact ⟨e, p, c1, c2, rfl, rfl, hfin⟩
        | _ => rw [hnil rfl] at hp; cases hp) h w
  refine ⟨ops, h1, h2, fun o ho hg => ?_, ?_, ?_⟩
  · obtain ⟨x, hx, hq⟩ := h3 o ho
    obtain ⟨e, p, c1, c2, rfl, hp⟩ := hq hg
    exact ⟨e, p, c1, c2, hx, hp⟩
  · rw [h1, council_changes_only_by_governance, h2]
  · intro hw; rw [h1]; exact run_wf ops hw

open Shentu.Gov in
/-- A history in which no block ends leaves the council and the alias index exactly as they were, whatever
    cert messages, proposals, deposits and votes it contains. -/
theorem no_block_end_no_council_change (w : World) (h : List WOp) (hno : ∀ e, WOp.gov e .endBlock ∉ h) :
    (wrun w h).c.certifiers = w.c.certifiers ∧ (wrun w h).c.aliasIdx = w.c.aliasIdx := by
  obtain ⟨ops, h1, _, h3, _⟩ := world_history_council w h
  have hng : ∀ o ∈ ops, o.isGov = false := by
    intro o ho
    cases hg : o.isGov with
    | false => rfl
    | true =>
      obtain ⟨e, _, _, _, hm, _⟩ := h3 o ho hg
      exact absurd hm (hno e)
  rw [h1]
  exact no_governance_no_change w.c ops hng

namespace Demo

/-- a council of one: `a`, known as "alice" -/
def g0 : State := genesis [⟨"a", "alice", "a"⟩] [] 1

/-- add `b` as "bob"; `b` issues a certificate; remove `a`; try to remove `b`, the last one; try to add `c`
    under the used alias "bob"; a stranger tries to issue; `b` revokes its certificate; `b` issues another one -/
def history : List Op :=
  [.govUpdate "b" "bob" "a" true, .issue "b" "audit" "0xc0de", .govUpdate "a" "" "b" false,
   .govUpdate "b" "" "b" false, .govUpdate "c" "bob" "b" true, .issue "z" "audit" "x", .revoke "b" 1,
   .issue "b" "audit" "0xbeef"]

example : WF g0 :=
  wf_genesis _ _ _ (by decide) (by decide) (by decide) (by decide) (by simp)

/-- the new certifier is in, the old one is out -/
example : (run g0 history).certifiers = [⟨"b", "bob", "a"⟩] := by decide +kernel
/-- the alias index follows: the entry of the removed certifier is gone -/
example : (run g0 history).aliasIdx = [("bob", "b")] := by decide +kernel
/-- the removal of the last certifier, the duplicate alias and the stranger are refused; the rest is accepted -/
example : (glog g0 history).map (·.ok) = [true, true, true, false, false, false, true, true] := by decide +kernel
/-- exactly two governance updates took effect -/
example : passedUpdates g0 history = [.govUpdate "b" "bob" "a" true, .govUpdate "a" "" "b" false] := by decide +kernel
/-- the identifier of the revoked certificate is not handed out again -/
example : issuedIds g0 history = [1, 2] := by decide +kernel
example : (run g0 history).certs = [⟨2, "audit", "0xbeef", "b"⟩] := by decide +kernel
/-- the closed form gives the same council -/
example : history.foldl councilStep g0.certifiers = [⟨"b", "bob", "a"⟩] := by decide +kernel

/-- the hypotheses of `issued_stays_retrievable` are met: `b` is a certifier after the first operation, and the
    three operations after its issue contain no accepted revocation of identifier 1 -/
example : isCertifier (run g0 (history.take 1)) "b" = true ∧
    (∀ e ∈ glog (run g0 (history.take 1 ++ [.issue "b" "audit" "0xc0de"])) ((history.drop 2).take 3), ∀ r,
      e.op = .revoke r (run g0 (history.take 1)).nextId → e.ok = false) := by
  refine ⟨by decide +kernel, ?_⟩
  intro e he r hr
  simp only [history, List.take, List.drop, glog, List.mem_cons, List.not_mem_nil, or_false] at he
  rcases he with rfl | rfl | rfl <;> cases hr

/-- the hypotheses of `removed_was_revoked` are met: certificate 1 is present after two operations and gone at the end -/
example : (⟨1, "audit", "0xc0de", "b"⟩ : Certificate) ∈ (run g0 (history.take 2)).certs ∧
    (⟨1, "audit", "0xc0de", "b"⟩ : Certificate) ∉ (run (run g0 (history.take 2)) (history.drop 2)).certs := by decide +kernel

/-- the hypothesis of `gov_step_council_partial` is met by the block end of `Witness.two_pass_in_one_block`,
    which changes the council -/
example : ∃ w', Gov.endBlock Witness.e0 Witness.w0 = .ok w' := by
  cases h : Gov.endBlock Witness.e0 Witness.w0 with
  | ok w' => exact ⟨w', rfl⟩
  | error x =>
    have := Witness.two_pass_in_one_block
    rw [h] at this
    cases (List.cons.inj this).2

/-- a chain history: the block ends and two proposals pass, the new certifier `b` issues a certificate, a stranger
    is refused, a vote is cast; the council is the two updates applied to the old one -/
example : (wrun Witness.w0 [.gov Witness.e0 .endBlock, .cert (.issue "b" "audit" "0xc0de"), .cert (.issue "z" "audit" "x"),
      .gov Witness.e0 (.vote 1 "a" 1)]).c.certifiers.map Certifier.addr = ["a", "b", "c"] := by decide +kernel
example : (wrun Witness.w0 [.gov Witness.e0 .endBlock, .cert (.issue "b" "audit" "0xc0de"), .cert (.issue "z" "audit" "x"),
      .gov Witness.e0 (.vote 1 "a" 1)]).c.certs = [⟨1, "audit", "0xc0de", "b"⟩] := by decide +kernel

/-- the path of that block is not trivial: at least one hop finalises a proposal -/
example : ∃ w' ps, Path Witness.e0 Witness.w0 ps w' ∧ ps ≠ [] := by
  cases h : Gov.endBlock Witness.e0 Witness.w0 with
  | error x =>
    have := Witness.two_pass_in_one_block
    rw [h] at this
    cases (List.cons.inj this).2
  | ok w' =>
    obtain ⟨ps, hp, _, hrun, _⟩ := end_block_council_partial _ _ _ h
    refine ⟨w', ps, hp, ?_⟩
    rintro rfl
    have h2 := Witness.two_pass_in_one_block
    rw [h] at h2
    simp only [Witness.councilAfter] at h2
    rw [hrun] at h2
    exact absurd (congrArg List.length h2) (by simp [Witness.w0, Witness.cert0, genesis])

/-- the hypothesis of `no_governance_no_change` is met by a history of messages -/
example : ∀ o ∈ [Op.issue "a" "audit" "x", .revoke "a" 1, .certifyPlatform "a" "pk" "d"], o.isGov = false := by decide +kernel

/-- the hypothesis of `platform_was_certified` is met -/
example : (run g0 [.certifyPlatform "z" "pk0" "no", .certifyPlatform "a" "pk" "d"]).platforms = [("pk", "d")] := by decide +kernel

/-- the hypothesis of `gov_messages_leave_council` is met: the certifier's vote is accepted -/
example : (match Gov.vote Witness.w0 1 "a" 1 with | .ok _ => true | .error _ => false) = true := by decide +kernel

/-- the hypothesis of `no_block_end_no_council_change` is met by a history of messages and votes -/
example : ∀ e, WOp.gov e .endBlock ∉ [WOp.cert (.issue "a" "audit" "x"), .gov Witness.e0 (.vote 1 "a" 1)] := by
  intro e h
  simp at h

/-- the starting council of the governance witness is well-formed -/
example : WF Witness.w0.c := wf_genesis _ _ _ (by decide) (by decide) (by decide) (by decide) (by simp)

end Demo

end Shentu.Props.C13H

#print axioms Shentu.Props.C13H.wf_step
#print axioms Shentu.Props.C13H.wf_history
#print axioms Shentu.Props.C13H.wf_genesis
#print axioms Shentu.Props.C13H.wf_implies_c13_invariants
#print axioms Shentu.Props.C13H.council_always_sound
#print axioms Shentu.Props.C13H.council_changes_only_by_governance
#print axioms Shentu.Props.C13H.passed_updates_are_governance
#print axioms Shentu.Props.C13H.no_governance_no_change
#print axioms Shentu.Props.C13H.council_closed_form
#print axioms Shentu.Props.C13H.log_faithful
#print axioms Shentu.Props.C13H.present_was_issued
#print axioms Shentu.Props.C13H.removed_was_revoked
#print axioms Shentu.Props.C13H.platform_was_certified
#print axioms Shentu.Props.C13H.accepted_iff_signed_by_certifier
#print axioms Shentu.Props.C13H.issued_stays_retrievable
#print axioms Shentu.Props.C13H.ids_never_reused
#print axioms Shentu.Props.C13H.new_ids_are_fresh
#print axioms Shentu.Props.C13H.gov_messages_leave_council
#print axioms Shentu.Props.C13H.Witness.two_pass_in_one_block
#print axioms Shentu.Props.C13H.gov_step_single_update_fails
#print axioms Shentu.Props.C13H.end_block_council_partial
#print axioms Shentu.Props.C13H.gov_step_council_partial
#print axioms Shentu.Props.C13H.gov_history_council
#print axioms Shentu.Props.C13H.world_history_council
#print axioms Shentu.Props.C13H.no_block_end_no_council_change
