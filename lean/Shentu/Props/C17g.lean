import Shentu.Model.CvmGas
/-
  C17 — "the gas consumed by the VM is charged to the enclosing transaction's gas meter", the keeper's side.

  `CvmGas.getOriginalGas` / `CvmGas.charge` are x/cvm/keeper's arithmetic, regenerated from the source on every run
  (`Gen.CvmGas`, tie theorems below). Proved for all meter readings, gas rates and executions:
   * `allowance_within_what_is_left`   on a finite meter the VM never gets more than what is left on it times the gas rate, nor
                                       more than the cap — with nothing left it gets nothing;
   * `charge_covers_the_work`          a failed execution is charged ⌈used / rate⌉: at least the work done, in units of the rate;
   * `charge_within_what_was_left`     … and never more than was left on the meter;
   * `refund_at_most_half`             a successful execution is charged for at least half of what it used;
   * what an infinite meter (limit 0: queries, genesis) gets is recorded by the `example`s at the end.
-/
namespace Shentu.Props.C17g
open Shentu Shentu.CvmGas

/-- every site of the keeper's gas arithmetic was recognised, `getOriginalGas` has no further branch, the cap is 5,000,000, and
    the refund is granted only when the execution did not fail -/
theorem tie_sites : Gen.CvmGas.allFound = true ∧ Gen.CvmGas.getOriginalGasStatements = 5 ∧
    Gen.CvmGas.transactionGasLimit = 5000000 ∧ Gen.CvmGas.refundOnlyIf = "err == nil" := ⟨rfl, rfl, rfl, rfl⟩

/-- the regenerated arithmetic, spelled out -/
theorem tie_arithmetic (limit consumed gc rate og tl gl rf fee : Int) :
    Gen.CvmGas.gasCurrent limit consumed = limit - consumed ∧ Gen.CvmGas.allowanceRaw gc rate = gc * rate ∧
    Gen.CvmGas.allowanceOverflowed og gc = decide (og < gc) ∧ Gen.CvmGas.allowanceCapped og tl = min og tl ∧
    Gen.CvmGas.afterRefund gl og rf = gl + min (Int.tdiv (og - gl) 2) rf ∧ Gen.CvmGas.fee og gl = og - gl ∧
    Gen.CvmGas.charged fee rate = Int.tdiv (fee + rate - 1) rate := ⟨rfl, rfl, rfl, rfl, rfl, rfl, rfl⟩

theorem u64_of_range (x : Int) (h0 : 0 ≤ x) (h1 : x < two64) : u64 x = x := by
  unfold u64; exact Int.emod_eq_of_lt h0 h1

theorem u64_range (x : Int) : 0 ≤ u64 x ∧ u64 x < two64 := by
  unfold u64 two64; constructor
  · exact Int.emod_nonneg _ (by decide)
  · exact Int.emod_lt_of_pos _ (by decide)

/-- **The allowance is within what is left.** On a finite meter that is not overdrawn (`consumed ≤ limit < 2^64`), whatever the
    gas rate: the VM's allowance is at most `(limit − consumed) · rate` and at most the cap. -/
theorem allowance_within_what_is_left (limit consumed rate og : Int) (hc : 0 ≤ consumed) (hl : consumed ≤ limit) (hlim : limit < two64)
    (hr : 0 ≤ rate) (h : getOriginalGas limit consumed rate = .ok og) :
    0 ≤ og ∧ og ≤ (limit - consumed) * rate ∧ og ≤ Gen.CvmGas.transactionGasLimit := by
  unfold getOriginalGas at h
  have hgc : u64 (Gen.CvmGas.gasCurrent limit consumed) = limit - consumed :=
    u64_of_range _ (by show 0 ≤ limit - consumed; omega) (by show limit - consumed < two64; omega)
  simp only [hgc, Gen.CvmGas.allowanceRaw, Gen.CvmGas.allowanceOverflowed, Gen.CvmGas.allowanceCapped, err] at h
  split at h; · cases h
  injection h with h; subst h
  have hr0 := (u64_range ((limit - consumed) * rate)).1
  have hle : u64 ((limit - consumed) * rate) ≤ (limit - consumed) * rate := by
    unfold u64
    have hx : 0 ≤ (limit - consumed) * rate := Int.mul_nonneg (by omega) hr
    have hpos : (0 : Int) < two64 := by decide
    have hd := Int.emod_add_mul_ediv ((limit - consumed) * rate) two64
    have hq : 0 ≤ (limit - consumed) * rate / two64 := Int.ediv_nonneg hx (by decide)
    have : 0 ≤ two64 * ((limit - consumed) * rate / two64) := Int.mul_nonneg (by decide) hq
    omega
  have ht : (0 : Int) ≤ Gen.CvmGas.transactionGasLimit := by decide
  refine ⟨by omega, by omega, by omega⟩

/-- with nothing left on the meter the VM gets nothing -/
theorem nothing_left_nothing_allowed (limit rate og : Int) (hl0 : 0 ≤ limit) (hlim : limit < two64) (hr : 0 ≤ rate)
    (h : getOriginalGas limit limit rate = .ok og) : og = 0 := by
  have := allowance_within_what_is_left limit limit rate og hl0 (Int.le_refl _) hlim hr h
  have hz : (limit - limit) * rate = 0 := by rw [Int.sub_self, Int.zero_mul]
  omega

theorem ceil_bounds (x r : Int) (hx : 0 ≤ x) (hr : 1 ≤ r) :
    x ≤ (x + r - 1) / r * r ∧ (x + r - 1) / r * r < x + r ∧ 0 ≤ (x + r - 1) / r ∧ (x + r - 1) / r ≤ x := by
  have h1 := Int.ediv_mul_le (x + r - 1) (show r ≠ 0 by omega)
  have h2 := Int.lt_ediv_add_one_mul_self (x + r - 1) (show 0 < r by omega)
  rw [Int.add_mul, Int.one_mul] at h2
  refine ⟨by omega, by omega, Int.ediv_nonneg (by omega) (by omega), ?_⟩
  -- `x + r − 1 < (x + 1)·r` since `x ≤ x·r`
  have h3 := Int.mul_le_mul_of_nonneg_left hr hx
  exact Int.lt_add_one_iff.mp ((Int.ediv_lt_iff_lt_mul (by omega)).mpr (by rw [Int.add_mul, Int.one_mul]; omega))

/-- **A failed execution is charged for its work.** With an allowance `og`, `gasLeft ≤ og` left by the VM and a rate ≥ 1, the
    charge times the rate is at least the gas the VM used, and less than that plus one rate unit (the ceiling). -/
theorem charge_covers_the_work (og gasLeft refund rate : Int) (h0 : 0 ≤ gasLeft) (hle : gasLeft ≤ og) (hog : og < two64)
    (hr : 1 ≤ rate) :
    og - gasLeft ≤ charge og gasLeft refund rate true * rate ∧ charge og gasLeft refund rate true * rate < og - gasLeft + rate := by
  obtain ⟨c1, c2, c3, c4⟩ := ceil_bounds (og - gasLeft) rate (by omega) hr
  have hc : charge og gasLeft refund rate true = (og - gasLeft + rate - 1) / rate := by
    unfold charge
    simp only [if_true, Gen.CvmGas.fee, Gen.CvmGas.charged]
    rw [u64_of_range (og - gasLeft) (by omega) (by omega), Int.tdiv_eq_ediv_of_nonneg (by omega)]
    exact u64_of_range _ c3 (by omega)
  rw [hc]; exact ⟨c1, c2⟩

/-- **… and never more than was left on the meter**: the allowance came from `left` units at `rate`, so the charge of a failed
    execution is at most `left`. -/
theorem charge_within_what_was_left (left og gasLeft refund rate : Int) (h0 : 0 ≤ gasLeft) (hle : gasLeft ≤ og) (hog : og < two64)
    (hr : 1 ≤ rate) (hal : og ≤ left * rate) : charge og gasLeft refund rate true ≤ left := by
  have h := (charge_covers_the_work og gasLeft refund rate h0 hle hog hr).2
  -- charge·rate < used + rate ≤ left·rate + rate = (left + 1)·rate
  have h1 : charge og gasLeft refund rate true * rate < (left + 1) * rate := by
    rw [Int.add_mul, Int.one_mul]; omega
  have := Int.lt_of_mul_lt_mul_right h1 (by omega : 0 ≤ rate)
  omega

/-- **The refund is at most half**: a successful execution (`gasLeft ≤ og`, any refund counter ≥ 0) is charged for at least half
    of what it used, in the same units. -/
theorem refund_at_most_half (og gasLeft refund rate : Int) (h0 : 0 ≤ gasLeft) (hle : gasLeft ≤ og) (hog : og < two64)
    (hrf : 0 ≤ refund) (hr : 1 ≤ rate) :
    (og - gasLeft) / 2 ≤ charge og gasLeft refund rate false * rate := by
  have hd : 0 ≤ og - gasLeft := by omega
  -- the refunded gas left is between `gasLeft` and `og`, and the execution is charged like a failed one that left as much
  have ht : u64 (Gen.CvmGas.afterRefund gasLeft og refund) = gasLeft + min ((og - gasLeft) / 2) refund := by
    unfold Gen.CvmGas.afterRefund
    rw [Int.tdiv_eq_ediv_of_nonneg hd]
    exact u64_of_range _ (by omega) (by omega)
  have hc : charge og gasLeft refund rate false = charge og (gasLeft + min ((og - gasLeft) / 2) refund) refund rate true := by
    unfold charge
    simp only [Bool.false_eq_true, if_false, if_true, ht]
  rw [hc]
  have := (charge_covers_the_work og (gasLeft + min ((og - gasLeft) / 2) refund) refund rate (by omega) (by omega) hog hr).1
  omega

/-! recorded behaviour of an infinite meter (limit 0: queries, simulation, genesis, block handlers) -/

/-- at gas rate 1 an infinite meter yields the cap (the subtraction wraps around) -/
example : (match getOriginalGas 0 12345 1 with | .ok v => v == 5000000 | .error _ => false) = true := by decide
/-- at a gas rate above 1 the wrapped product trips the overflow check: every such call fails -/
example : (match getOriginalGas 0 12345 2 with | .error _ => true | .ok _ => false) = true := by decide

example : (match getOriginalGas 3000000 57000 1 with | .ok v => v == 2943000 | .error _ => false) = true := by decide
example : (match getOriginalGas 3000000 57000 10 with | .ok v => v == 5000000 | .error _ => false) = true := by decide
example : (match getOriginalGas 57000 57000 10 with | .ok v => v == 0 | .error _ => false) = true := by decide
/-- an endless loop: the whole allowance of 2,943,000 used at rate 1 is charged -/
example : charge 2943000 0 0 1 true = 2943000 := by decide
/-- at rate 100, 1,151 VM gas cost 12 SDK gas -/
example : charge 5000000 4998849 0 100 true = 12 := by decide
/-- a refund counter larger than half of the use: half is refunded -/
example : charge 100000 40000 999999 1 false = 30000 := by decide

end Shentu.Props.C17g
