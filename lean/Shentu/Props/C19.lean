import Shentu.Gen.Vesting
import Shentu.Gen.Wiring
import Shentu.Proofs.VestingLemmas
/-
  C19 — Locked coins stay locked until the designated unlocker releases them.
-/
namespace Shentu.Props.C19
open Shentu Shentu.Vesting

/-- tie (regenerated on every run): the lock check of a VM call carrying value reads the spendable amount of the denomination the
    VM moves — the staking bond denomination, not a constant that happens to equal it under the default configuration -/
theorem tie_spendable_denomination : Gen.Wiring.cvmSpendableDenom_found = true ∧ Gen.Wiring.cvmSpendableDenom = ["k.sk.BondDenom(ctx)"] := ⟨rfl, rfl⟩

/-! ## the lock's code, tied to the source (regenerated from x/auth and x/bank on every run)

The guards and updates below are coins-valued, so they are extracted as the ordered skeleton of each function (every `if`
condition, every field update, every value returned, every account or coin move) and stated here, next to the model function
that mirrors them (`Vesting.unlock`, `Vesting.lockedSend`, `Vesting.lockedAmt`). A change of a guard, of an updated field or of the
order of the moves breaks the tie. -/

/-- every function of the lock was found in the source -/
theorem tie_vesting_sites : Gen.Vesting.allFound = true := rfl

/-- `MsgUnlock`: the account must exist and be a manual vesting account, the signer must be its recorded unlocker, the unlocked
    total may not exceed the locked total in any denomination; then the unlocked total grows by the amount (and delegated-vesting
    moves to delegated-free by what became unlocked) and the account is saved -/
theorem tie_unlock : Gen.Vesting.unlock =
    ["call k.ak.GetAccount(ctx, accountAddr)", "if acc == nil", "if !ok", "if !issuerAddr.Equals(unlocker)",
     "if mvacc.VestedCoins.Add(msg.UnlockAmount...).IsAnyGT(mvacc.OriginalVesting)",
     "mvacc.VestedCoins = mvacc.VestedCoins.Add(msg.UnlockAmount...)",
     "if mvacc.DelegatedVesting.IsAllGT(mvacc.OriginalVesting.Sub(mvacc.VestedCoins))",
     "mvacc.DelegatedVesting = mvacc.DelegatedVesting.Sub(unlockedDelegated)",
     "mvacc.DelegatedFree = mvacc.DelegatedFree.Add(unlockedDelegated...)",
     "call k.ak.SetAccount(ctx, mvacc)"] := rfl

/-- `MsgLockedSend`: the recipient may not be its own unlocker; a new recipient needs an unlocker and starts with nothing locked
    and nothing unlocked; an existing one must already be a manual vesting account and its unlocker cannot be named again; the
    coins are credited, the locked total grows by exactly the amount, the account is saved, and the sender is debited (through
    `SubtractCoins`, which respects the sender's own lock) -/
theorem tie_lockedSend : Gen.Vesting.lockedSend =
    ["if msg.UnlockerAddress != \"\"", "call k.ak.GetAccount(ctx, fromAddr)", "if from == nil", "if toAddr.Equals(unlocker)",
     "call k.ak.GetAccount(ctx, toAddr)", "if acc == nil", "call k.ak.NewAccountWithAddress(ctx, toAddr)", "if unlocker.Empty()",
     "call vesting.NewManualVestingAccount(baseAcc, sdk.NewCoins(), sdk.NewCoins(), unlocker)", "if !ok", "if !unlocker.Empty()",
     "call k.AddCoins(ctx, toAddr, msg.Amount)", "toAcc.OriginalVesting = toAcc.OriginalVesting.Add(msg.Amount...)",
     "call k.ak.SetAccount(ctx, toAcc)", "call k.SubtractCoins(ctx, fromAddr, msg.Amount)"] := rfl

/-- what the bank treats as locked: the original amount minus the unlocked total (minus what is delegated while locked: the SDK's
    `LockedCoinsFromVesting`), whatever the block time -/
theorem tie_locked_amount :
    Gen.Vesting.lockedCoins = ["return mva.BaseVestingAccount.LockedCoinsFromVesting(mva.GetVestingCoins(blockTime))"] ∧
    Gen.Vesting.vestingCoins = ["return mva.OriginalVesting.Sub(mva.GetVestedCoins(blockTime))"] ∧
    Gen.Vesting.vestedCoins = ["if !mva.VestedCoins.IsZero()", "return mva.VestedCoins"] ∧
    Gen.Vesting.trackDelegation = ["call mva.BaseVestingAccount.TrackDelegation(balance, mva.GetVestingCoins(blockTime), amount)"] := ⟨rfl, rfl, rfl, rfl⟩

theorem denoms_single (d : Denom) (x : Int) : d ∈ Coins.denoms [(d, x)] := by
  rw [Coins.denoms_single]; exact List.mem_singleton.mpr rfl
/-- the spendable-balance rule: whatever `canSpend` lets through leaves the locked amount in the account -/
theorem canSpend_leaves_locked (l : Ledger) (vs : Accounts) (a : Addr) (amt : Coins) (h : canSpend l vs a amt = .ok ()) :
    ∀ d ∈ Coins.denoms amt, l.balOf a d - Coins.amountOf amt d ≥ lockedOf vs a d := by
  intro d hd
  have := (canSpend_ok h).2 d hd
  omega

/-- **A plain send** (and every path that goes through the bank's `SubtractCoins`: multi-send inputs, deposits, fees, escrow)
    cannot take the sender below its locked amount. -/
theorem send_respects_lock (l l' : Ledger) (vs : Accounts) (a b : Addr) (amt : Coins) (hab : a ≠ b)
    (h : send l vs a b amt = .ok l') : ∀ d ∈ Coins.denoms amt, l'.balOf a d ≥ lockedOf vs a d := by
  obtain ⟨hc, rfl⟩ := send_ok h
  intro d hd
  have := (canSpend_ok hc).2 d hd
  rw [Ledger.balOf_move', if_pos rfl, if_neg (Ne.symm hab)]
  omega

/-- **Value attached to a contract call or deployment** is subject to the same rule: `Cvm.call` and `Cvm.deploy` run `canSpend` on a positive value before anything moves -/
theorem call_value_respects_lock (bond : Denom) (l l' : Ledger) (vs : Accounts) (s s' : Cvm.State) (caller callee : Addr) (v : Int)
    (d0 : String) (z : Bool) (t : Addr) (hd : Bool) (hv : 0 < v)
    (h : Cvm.call bond l vs s caller callee v d0 z t hd = .ok (l', s')) :
    l.balOf caller bond - v ≥ lockedOf vs caller bond := by
  have hc := (Cvm.call_ok h).1
  rw [if_pos hv] at hc
  simpa using canSpend_leaves_locked l vs caller [(bond, v)] hc bond (denoms_single bond v)

theorem deploy_value_respects_lock (bond : Denom) (l l' : Ledger) (vs : Accounts) (s s' : Cvm.State) (caller na : Addr) (code : String) (v : Int)
    (hv : 0 < v) (h : Cvm.deploy bond l vs s caller na code v = .ok (l', s')) :
    l.balOf caller bond - v ≥ lockedOf vs caller bond := by
  have hc := (Cvm.deploy_ok h).1
  rw [if_pos hv] at hc
  simpa using canSpend_leaves_locked l vs caller [(bond, v)] hc bond (denoms_single bond v)

/-- locked coins can be delegated: delegation only needs the balance -/
theorem delegate_allowed (l : Ledger) (vs : Accounts) (del pool : Addr) (d : Denom) (amount : Int)
    (hpos : 0 < amount) (hbal : amount ≤ l.balOf del d) : ∃ r, delegate l vs del pool d amount = .ok r := by
  unfold delegate
  have h1 : ¬ amount ≤ 0 := by omega
  have h2 : ¬ l.balOf del d < amount := by omega
  simp [h1, h2]

/-- only the unlocker recorded in the account can unlock; the unlocked total never exceeds what was locked, in any denomination;
    nothing but the unlocked amount (and the delegated split) changes — in particular not the unlocker and not the original amount -/
theorem unlock_spec (vs vs' : Accounts) (ex : Addr → Bool) (issuer account : Addr) (amt : Coins)
    (h : unlock vs ex issuer account amt = .ok vs') :
    ∃ m m', find vs account = some m ∧ issuer = m.unlocker ∧ vs' = set vs m' ∧
      m'.addr = m.addr ∧ m'.unlocker = m.unlocker ∧ m'.ov = m.ov ∧ m'.vested = Coins.add m.vested amt ∧
      (∀ d, Coins.amountOf m'.vested d ≤ Coins.amountOf m.ov d) := by
  obtain ⟨m, hm, hiss, _, hle, rfl⟩ := unlock_ok h
  refine ⟨m, _, hm, hiss, rfl, unlocked_addr m amt, unlocked_unlocker m amt, unlocked_ov m amt, unlocked_vested m amt, ?_⟩
  rw [unlocked_vested]; exact hle

/-- nobody but the designated unlocker -/
theorem unlock_refused_for_others (vs : Accounts) (ex : Addr → Bool) (issuer account : Addr) (amt : Coins) (m : MVA)
    (hm : find vs account = some m) (hne : issuer ≠ m.unlocker) : ∃ x, unlock vs ex issuer account amt = .error x := by
  cases h : unlock vs ex issuer account amt with
  | error x => exact ⟨x, rfl⟩
  | ok vs' =>
    obtain ⟨m', hm', hiss, _⟩ := unlock_ok h
    rw [hm] at hm'; cases hm'
    exact absurd hiss hne

/-- **The unlocker of an existing account cannot be changed**: a locked send that names an unlocker for an existing vesting
    account is refused, and an accepted one keeps the recorded unlocker. -/
theorem lockedSend_keeps_unlocker (l l' : Ledger) (vs vs' : Accounts) (f : Addr → Bool) (src dst u : Addr) (amt : Coins) (m : MVA)
    (hm : find vs dst = some m) (h : lockedSend l vs f src dst u amt = .ok (l', vs')) :
    u = "" ∧ vs' = set vs { m with ov := Coins.add m.ov amt } := by
  obtain ⟨m', hcase, _, hvs, _⟩ := lockedSend_ok h
  rcases hcase with ⟨hm', hu⟩ | ⟨hm', _⟩
  · rw [hm] at hm'; cases hm'
    exact ⟨hu, hvs⟩
  · rw [hm] at hm'; cases hm'

/-- non-vacuity: an account with 100 locked and 50 free can spend 50 and not 51 -/
example : (match canSpend { posts := [("m", "uctk", 150)], supply := [("uctk", 150)] }
    [{ addr := "m", ov := [("uctk", 100)], vested := [], dv := [], df := [], unlocker := "u" }] "m" [("uctk", 50)] with | .ok _ => true | .error _ => false) = true := by decide
example : (match canSpend { posts := [("m", "uctk", 150)], supply := [("uctk", 150)] }
    [{ addr := "m", ov := [("uctk", 100)], vested := [], dv := [], df := [], unlocker := "u" }] "m" [("uctk", 51)] with | .ok _ => true | .error _ => false) = false := by decide

end Shentu.Props.C19

#print axioms Shentu.Props.C19.send_respects_lock
#print axioms Shentu.Props.C19.call_value_respects_lock
#print axioms Shentu.Props.C19.unlock_spec
#print axioms Shentu.Props.C19.lockedSend_keeps_unlocker
