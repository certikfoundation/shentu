import Shentu.Model.Gov
import Shentu.Gen.Determinism
import Shentu.Proofs.C12TSum
/-
  C10 — Execution is deterministic and independent of node restarts.

  What a proof can carry here (the rest — Go's runtime, the databases — is exhibited by the differential part of the check, which
  runs a second instance and a restarted goleveldb instance on the same blocks and compares application hashes and results):
  * `no_unreviewed_sites`: the inventory, regenerated from the current source on every run, of every construct through which
    two executions of the same Go code can differ (iteration over a map, wall clock, random numbers, goroutines, select,
    floating point) in the consensus code of the repository contains no site without a recorded justification;
  * `tally_order_independent`: the one map iteration that feeds consensus state (governance's tally over the validators) computes
    the same result for every order of iteration;
  * `restart_invisible`: a node whose in-memory state is a function of its committed state answers every block sequence in the
    same way whether or not it is stopped and restarted between blocks (the hypothesis is the thing the restart runs validate).
-/
namespace Shentu.Props.C10
open Shentu

theorem no_unreviewed_sites : Gen.Determinism.unreviewed = [] ∧ Gen.Determinism.allFound = true := by decide
theorem scanned_something : Gen.Determinism.filesScanned > 50 ∧ Gen.Determinism.sites.length ≥ 1 := by decide

open Gov in
theorem addTo_comm (r : Results) (o1 o2 : Nat) (p1 p2 : Dec) :
    (r.addTo o1 p1).addTo o2 p2 = (r.addTo o2 p2).addTo o1 p1 := C12TH.addTo_comm r o1 o2 p1 p2

/-- the per-validator step of `stakeTally` (tally.go: "iterate over the validators again to tally their voting power") -/
def valStep (r : Gov.Results) (vi : Gov.ValInfo) : Gov.Results :=
  if vi.vote == 0 then r
  else r.addTo vi.vote (Dec.mulInt (Dec.quo (Dec.sub vi.shares vi.deductions) vi.shares) vi.tokens)

theorem valStep_comm (r : Gov.Results) (a b : Gov.ValInfo) : valStep (valStep r a) b = valStep (valStep r b) a := by
  unfold valStep
  cases a.vote == 0 <;> cases b.vote == 0 <;> simp only [Bool.false_eq_true, if_true, if_false]
  exact addTo_comm ..

/-- whatever order the map iteration produces, the tally is the same -/
theorem tally_order_independent (vals vals' : List Gov.ValInfo) (p : vals.Perm vals') (r : Gov.Results) :
    vals.foldl valStep r = vals'.foldl valStep r := p.foldl_eq' (fun a _ b _ r => valStep_comm r a b) r

/-- that `valStep` is the function the model's `stakeTally` folds over the validator table is
    `Props.C12T.stake_tally_is_two_loops` (over `C12TH.stakeResults`) -/
theorem valStep_is_model_step (r : Gov.Results) (vi : Gov.ValInfo) :
    valStep r vi = (if vi.vote == 0 then r else r.addTo vi.vote (Dec.mulInt (Dec.quo (Dec.sub vi.shares vi.deductions) vi.shares) vi.tokens)) := rfl

/-- a node: committed state `S` (the database), in-memory state `C`, blocks `B`, answers `O` (hash and results) -/
structure Node (S C B O : Type) where
  load : S → C                     -- what a starting process builds from the database
  exec : S → C → B → S × C × O     -- one block

/-- the in-memory state is always what a fresh process would build from the committed state -/
def Coherent {S C B O} (n : Node S C B O) : Prop := ∀ s b, (n.exec s (n.load s) b).2.1 = n.load (n.exec s (n.load s) b).1

/-- run a block sequence; `true` in the second component = the node is stopped and restarted before that block -/
def runNode {S C B O} (n : Node S C B O) : S → C → List (B × Bool) → List O
  | _, _, [] => []
  | s, c, (b, restart) :: rest =>
    let c0 := if restart then n.load s else c
    let r := n.exec s c0 b
    r.2.2 :: runNode n r.1 r.2.1 rest

/-- **Stopping a node after any committed block and restarting it from its database yields exactly the same answers from then on** -/
theorem restart_invisible {S C B O} (n : Node S C B O) (h : Coherent n) (s : S) (blocks : List (B × Bool)) :
    runNode n s (n.load s) blocks = runNode n s (n.load s) (blocks.map (fun x => (x.1, false))) := by
  induction blocks generalizing s with
  | nil => rfl
  | cons x rest ih =>
    obtain ⟨b, restart⟩ := x
    simp only [runNode, List.map_cons]
    have hc : (if restart = true then n.load s else n.load s) = n.load s := by split <;> rfl
    simp only [hc, Bool.false_eq_true, if_false]
    congr 1
    rw [h s b]
    exact ih _

/-! non-vacuity: a node with a cache of the last value is coherent, one whose memory counts the blocks since it was started is not -/
example : Coherent ({ load := fun s => s, exec := fun s _ b => (s + b, s + b, s + b) } : Node Nat Nat Nat Nat) := by
  intro s b; rfl
example : ¬ Coherent ({ load := fun _ => 0, exec := fun s c b => (s + b, c + 1, s + b) } : Node Nat Nat Nat Nat) := by
  intro h; have := h 0 0; simp at this

end Shentu.Props.C10
