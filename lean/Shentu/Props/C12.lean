import Shentu.Model.Gov
import Shentu.Proofs.GovLemmas
/-
  C12 — Proposals pass only by the stated voting rules, in the stated rounds.
  The comparisons are the ones regenerated from x/gov/keeper/tally.go, vote.go, proposal.go.
-/
namespace Shentu.Props.C12
open Shentu Shentu.Gov

theorem tie_sites : Gen.Gov.allFound = true := rfl

/-- software upgrades, certifier updates and shield claims — and only they — have the certifier round -/
theorem tie_security_kinds : Gen.Gov.securityVotingKinds = ["upgrade", "certifierUpdate", "claim"] := rfl
/-- certifier updates are tallied with their own stake-round parameters, everything else with the default -/
theorem tie_cert_stake_tally : Gen.Gov.certStakeTallyKinds = ["certifierUpdate"] := rfl

/-- the certifier round skips every stored vote whose voter is not a certifier when the round is tallied -/
theorem tie_security_tally_counts_certifiers_only : Gen.Gov.secTallySkipsUnless = "err != nil || !k.IsCertifier(ctx, voter)" := rfl

/-- **Only certifiers' votes count in the certifier round**: the outcome of `securityTally` is the same whether or not the votes of
    addresses outside the council are in the store (a certifier removed from the council after voting no longer has a vote). -/
theorem security_tally_ignores_non_certifiers (g : State) (c : Cert.State) (p : Proposal) :
    securityTally g c p = securityTally { g with votes := g.votes.filter (fun v => Cert.isCertifier c v.voter) } c p := by
  have hf : ({ g with votes := g.votes.filter (fun v => Cert.isCertifier c v.voter) } : State).votes.filter
        (fun v => v.pid == p.id && v.option != 0 && Cert.isCertifier c v.voter) =
      g.votes.filter (fun v => v.pid == p.id && v.option != 0 && Cert.isCertifier c v.voter) := by
    show (g.votes.filter (fun v => Cert.isCertifier c v.voter)).filter _ = _
    rw [List.filter_filter]
    apply List.filter_congr
    intro v _
    cases Cert.isCertifier c v.voter <;> simp
  unfold securityTally
  simp only [hf]

theorem routing (kind : String) :
    hasSecurityVoting kind = true ↔ kind = "upgrade" ∨ kind = "certifierUpdate" ∨ kind = "claim" := by
  simp [hasSecurityVoting, tie_security_kinds]

/-- both outcomes of the stake round, by one walk through its five tests -/
theorem stake_round_iff (bonded : Int) (r : Results) (tp : TallyParams) :
    ((stakePassVeto bonded r tp).1 = true ↔
      bonded ≠ 0 ∧ Dec.lt (Dec.quo r.total (Dec.ofInt bonded)) tp.quorum = false ∧
      Dec.beq (Dec.sub r.total r.abstain) Dec.zero = false ∧
      Dec.lt tp.veto (Dec.quo r.veto r.total) = false ∧
      Dec.lt tp.threshold (Dec.quo r.yes (Dec.sub r.total r.abstain)) = true) ∧
    ((stakePassVeto bonded r tp).2 = true ↔
      bonded ≠ 0 ∧ Dec.lt (Dec.quo r.total (Dec.ofInt bonded)) tp.quorum = false ∧
      Dec.beq (Dec.sub r.total r.abstain) Dec.zero = false ∧ Dec.lt tp.veto (Dec.quo r.veto r.total) = true) := by
  unfold stakePassVeto Gen.Gov.stakeNoBonded Gen.Gov.stakeBelowQuorum Gen.Gov.stakePercent Gen.Gov.stakeAllAbstain
    Gen.Gov.stakeVetoed Gen.Gov.stakePasses
  by_cases h1 : bonded = 0 <;> simp [h1]
  cases h2 : Dec.lt (Dec.quo r.total (Dec.ofInt bonded)) tp.quorum <;> simp
  cases h3 : Dec.beq (Dec.sub r.total r.abstain) Dec.zero <;> simp
  cases h4 : Dec.lt tp.veto (Dec.quo r.veto r.total) <;> simp
  cases h5 : Dec.lt tp.threshold (Dec.quo r.yes (Dec.sub r.total r.abstain)) <;> simp

/-- **Stake round.** A proposal passes exactly when there is bonded stake, turnout reaches the quorum, not
    everybody abstained, veto votes do not exceed the veto threshold and yes votes exceed the threshold share of
    the non-abstaining power. (`Dec` comparisons exactly as the chain computes them.) -/
theorem stake_round_pass_iff (bonded : Int) (r : Results) (tp : TallyParams) :
    (stakePassVeto bonded r tp).1 = true ↔
      bonded ≠ 0 ∧ Dec.lt (Dec.quo r.total (Dec.ofInt bonded)) tp.quorum = false ∧
      Dec.beq (Dec.sub r.total r.abstain) Dec.zero = false ∧
      Dec.lt tp.veto (Dec.quo r.veto r.total) = false ∧
      Dec.lt tp.threshold (Dec.quo r.yes (Dec.sub r.total r.abstain)) = true := (stake_round_iff bonded r tp).1

/-- a proposal is vetoed exactly when the quorum is met, not everybody abstained and veto votes exceed the veto threshold;
    a vetoed proposal never passes -/
theorem stake_round_veto_iff (bonded : Int) (r : Results) (tp : TallyParams) :
    (stakePassVeto bonded r tp).2 = true ↔
      bonded ≠ 0 ∧ Dec.lt (Dec.quo r.total (Dec.ofInt bonded)) tp.quorum = false ∧
      Dec.beq (Dec.sub r.total r.abstain) Dec.zero = false ∧ Dec.lt tp.veto (Dec.quo r.veto r.total) = true :=
  (stake_round_iff bonded r tp).2

theorem veto_excludes_pass (bonded : Int) (r : Results) (tp : TallyParams) :
    (stakePassVeto bonded r tp).2 = true → (stakePassVeto bonded r tp).1 = false := by
  intro h
  have hv := (stake_round_veto_iff bonded r tp).mp h
  cases hp : (stakePassVeto bonded r tp).1 with
  | false => rfl
  | true => have := (stake_round_pass_iff bonded r tp).mp hp; simp_all

/-- the shield-claim variant applies the same rule over the stake of certified identities -/
theorem claim_round_same_rule (bonded : Int) (r : Results) (tp : TallyParams) :
    claimPassVeto bonded r tp = stakePassVeto bonded r tp := rfl

/-- **Certifier round** (`securityTally`: one certifier one vote — quorum of head count, then yes share above the threshold):
    the rule by which its outcome ends the voting -/
theorem certifier_round_end_rule (pass isCert : Bool) :
    Gen.Gov.endVoting pass isCert = ((pass && isCert) || (!pass && !isCert)) := rfl

/-- in the certifier round a certifier update that is approved ends (passes) at once, a rejected one goes on to the
    stake round; any other kind goes on when approved and ends (rejected) otherwise -/
theorem certifier_round_outcomes (pass : Bool) :
    Gen.Gov.endVoting pass true = pass ∧ Gen.Gov.endVoting pass false = !pass := by
  cases pass <;> decide

/-- **Eligibility.** A vote is recorded exactly when the proposal is in a voting period, the option is one of the four,
    in the certifier round the option is yes/no and the voter is a certifier, and for a shield claim in the stake round the
    voter is a certified identity. -/
theorem vote_iff (w : World) (pid : Nat) (voter : Addr) (o : Nat) :
    (∃ w', vote w pid voter o = .ok w') ↔
      (o = 1 ∨ o = 2 ∨ o = 3 ∨ o = 4) ∧ ∃ p, findP w.g pid = some p ∧ (p.status = 2 ∨ p.status = 3) ∧
        (p.status = 2 → (o = 1 ∨ o = 3) ∧ Cert.isCertifier w.c voter = true) ∧
        (p.kind = "claim" → p.status = 3 → isCertifiedIdentity w.c voter = true) := by
  constructor
  · rintro ⟨_, h⟩
    obtain ⟨ho, p, hp, hs, hc, hk, _⟩ := vote_ok_iff.mp h
    exact ⟨ho, p, hp, hs, hc, hk⟩
  · rintro ⟨ho, p, hp, hs, hc, hk⟩
    exact ⟨_, vote_ok_iff.mpr ⟨ho, p, hp, hs, hc, hk, rfl⟩⟩

def rank (s : Nat) : Nat := match s with | 1 => 1 | 2 => 2 | 3 => 3 | _ => 4

theorem activated_id (e : Env) (g : State) (p : Proposal) : (activated e g p).id = p.id :=
  Gov.activated_id e g p

/-- entering or changing the voting period: deposit → certifier/validator voting, certifier → validator voting -/
theorem activate_status (e : Env) (g : State) (p : Proposal) (hst : p.status = 1 ∨ p.status = 2) :
    findP (activateVotingPeriod e g p) p.id = some (activated e g p) ∧
    rank p.status < rank (activated e g p).status ∧ (activated e g p).status ≤ 3 ∧
      (p.status = 1 → ((activated e g p).status = 2 ↔ hasSecurityVoting p.kind = true)) := by
  refine ⟨by unfold activateVotingPeriod; rw [findP_setP, activated_id]; simp, ?_⟩
  unfold activated Gen.Gov.entersCertifierRound
  dsimp only
  rcases hst with h1 | h2
  · cases hs : hasSecurityVoting p.kind <;> simp [h1, rank]
  · simp [h2, rank]

/-- finalisation writes passed, rejected or failed — and passed only when the votes said so -/
theorem finish_status (w : World) (p : Proposal) (pass : Bool) (t : Tally) :
    ∃ st : Nat, (st = 4 ∨ st = 5 ∨ st = 6) ∧ (st = 4 → pass = true) ∧ (pass = false → st = 5) ∧
      findP (finish w p pass t).g p.id = some { p with status := st, tally := t } := by
  obtain ⟨c', st, hf, hs⟩ := finish_shape w p pass t
  have hfind : findP (finish w p pass t).g p.id = some { p with status := st, tally := t } := by
    rw [hf]; exact findP_setP_self ..
  rcases hs with ⟨rfl, hp, _⟩ | ⟨h, _, h5⟩
  · exact ⟨4, Or.inl rfl, fun _ => hp, fun hf => (by rw [hf] at hp; cases hp), hfind⟩
  · exact ⟨st, Or.inr h, fun h4 => by omega, h5, hfind⟩

end Shentu.Props.C12

#print axioms Shentu.Props.C12.stake_round_pass_iff
#print axioms Shentu.Props.C12.vote_iff
#print axioms Shentu.Props.C12.activate_status
#print axioms Shentu.Props.C12.finish_status
