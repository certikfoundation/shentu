import Shentu.Proofs.ReimbSplit
import Shentu.Props.C04b
/-
  C04 / C08, the bridge between the books of a payout (`Props/C04.lean`, shield model) and its arithmetic at the staking level
  (`Props/C04b.lean`): what `CreateReimbursement` asks of one provider — its share of the shield still sold (`purchased`) plus
  its share of the payout — never exceeds that provider's collateral, provided the two ratios add up to at most one (plus one
  unit of rounding).  With C06's invariant (a provider's collateral is backed by its bonded and unbonding stake) this is the
  hypothesis `purchased + payout ≤ stake` of `C04b.makePayout_exact`: a payout that the books allow is one that the staking
  level can make, exactly, without the panic "exact pay out was not made from unbondings".
-/
namespace Shentu.Props.C04c
open Shentu Shentu.Shield Shentu.Shield.Fund

/-- **what a payout asks of a provider is within its collateral** -/
theorem asked_within_collateral (pr yr : Dec) (p : Provider) (tp ty : Int)
    (hc : 0 ≤ p.collateral) (hcb : p.collateral < Dec.prec) (hpr : 0 ≤ pr.raw) (hyr : 0 ≤ yr.raw)
    (hsum : pr.raw + yr.raw ≤ Dec.prec + 1) :
    payoutPur pr yr p tp ty + payoutPay pr yr p tp ty ≤ p.collateral := by
  have hP := Dec.prec_pos
  have h1 := DecRound.tdiv_mul_le (p.collateral * pr.raw) _ (Int.mul_nonneg hc hpr) hP
  have h2 := DecRound.tdiv_mul_le (p.collateral * yr.raw) _ (Int.mul_nonneg hc hyr) hP
  rw [← ReimbSplit.truncShare_eq] at h1 h2
  -- the two truncated shares fit: (x + y)·10^18 ≤ c·(pr + yr) ≤ c·(10^18 + 1) < (c + 1)·10^18
  have hbase : ReimbSplit.truncShare pr p.collateral + ReimbSplit.truncShare yr p.collateral < p.collateral + 1 := by
    have := Int.mul_le_mul_of_nonneg_left hsum hc
    exact Int.lt_of_mul_lt_mul_right (a := Dec.prec) (by linarith) hP.le
  -- the minima only lower the two amounts; each "+ 1" is taken only while the collateral still exceeds the sum
  obtain ⟨e1, e2⟩ := ReimbSplit.payout_shape pr yr p tp ty
  generalize payoutPur pr yr p tp ty = a at *
  generalize payoutPay pr yr p tp ty = b at *
  omega

/-- the two ratios `CreateReimbursement` works with — shield sold over collateral and payout over collateral — add up to at most
    one plus one unit of rounding whenever shield plus payout is within the collateral (which C06 maintains: the payout was
    locked, and shield is sold only against collateral that is neither locked nor being withdrawn) -/
theorem ratios_add_up (ts a T : Int) (hts : 0 ≤ ts) (ha : 0 ≤ a) (hT : 0 < T) (hle : ts + a ≤ T) :
    (Dec.quo (Dec.ofInt ts) (Dec.ofInt T)).raw + (Dec.quo (Dec.ofInt a) (Dec.ofInt T)).raw ≤ Dec.prec + 1 := by
  have hP := Dec.prec_pos
  refine DecRound.quo_pair_le_of_lt _ _ _ (Dec.ofInt_nonneg ts hts) (Dec.ofInt_nonneg a ha) (Int.mul_pos hT hP) _ ?_
  -- `(ts + a)·P·P + T·P < (P + 2)·T·P`
  show (ts * Dec.prec + a * Dec.prec) * Dec.prec + T * Dec.prec < (Dec.prec + 1 + 1) * (T * Dec.prec)
  have h := Int.mul_le_mul_of_nonneg_right hle (Int.mul_nonneg hP.le hP.le)
  have := Int.mul_pos hT hP
  linarith

/-- **a payout that the books allow can be made**: if the provider's collateral is backed by its stake (C06) and the delegations
    are well formed, the staking level pays the provider's share exactly — no panic, no coin short -/
theorem payout_is_makeable (pr yr : Dec) (p : Provider) (tp ty : Int) (ds : List Payout.Del) (ubds : List Int)
    (hc : 0 ≤ p.collateral) (hcb : p.collateral < Dec.prec) (hpr : 0 ≤ pr.raw) (hyr : 0 ≤ yr.raw)
    (hsum : pr.raw + yr.raw ≤ Dec.prec + 1)
    (hwf : ∀ d ∈ ds, C04b.WF d) (hu : ∀ b ∈ ubds, 0 ≤ b)
    (hpur : 0 ≤ payoutPur pr yr p tp ty) (hpay : 0 < payoutPay pr yr p tp ty)
    (hbacked : p.collateral ≤ Payout.bondedOf ds + Payout.sum ubds) (hbig : Payout.bondedOf ds < 2 * Dec.prec) :
    ∃ pd pu, Payout.makePayout (Payout.bondedOf ds) (payoutPur pr yr p tp ty) (payoutPay pr yr p tp ty) ds ubds = .ok (pd, pu) ∧
      Payout.sum pd + Payout.sum pu = payoutPay pr yr p tp ty := by
  have hask := asked_within_collateral pr yr p tp ty hc hcb hpr hyr hsum
  obtain ⟨pd, pu, h1, h2, _, _⟩ := C04b.makePayout_exact ds ubds _ _ hwf hu hpur hpay (by omega) hbig
  exact ⟨pd, pu, h1, h2⟩

end Shentu.Props.C04c
