import Shentu.Model.Mint
import Shentu.Proofs.BankLemmas
import Shentu.Proofs.DecRound
/-
  C01 (and C02, C08) for the mint module's BeginBlocker — "supply changes only by the block's minted provision".

  `Mint.beginBlock` is the model of x/mint/abci.go; its arithmetic is regenerated from the source (`Gen.Mint`) and the way
  BeginBlocker combines the shares is held to the source by the `tie_*` theorems below (a change of the Go source that sends another
  amount, or in another order, breaks one of them). Tied to the code by the engine `mint` (the REAL `mint.BeginBlocker`
  called on states reached by generated histories, with community pools and stake-for-shield pools drawn around the
  boundaries).

  Proved for every ledger, every provision and every pair of pools:
   * `split_exact`            the three shares are non-negative and add up to exactly the provision;
   * `split_ok_of_ratios`     with non-negative ratios that add up to at most one the split never panics (C08);
   * `split_panics_iff`       … and it panics exactly when a share is negative or the shares exceed the provision;
   * `ratios_sum_le_one`      the two ratios do add up to at most one whenever both pools are coins inside the supply and one whole
                              coin is held elsewhere (half-even rounding of `Dec.Quo` taken into account), hence `split_never_halts`;
   * `beginBlock_inv`         balances = supply is preserved (C01);
   * `beginBlock_supply`      the supply grows by exactly the provision, in the bond denomination only;
   * `beginBlock_mint_account` the mint module account holds afterwards what it held before: everything minted is handed on;
   * `beginBlock_deliveries`  the fee collector, the community pool's account and the shield account receive exactly their shares
                              (the shield share is what `Shield.fundBlockRewards` then books as block service fees: C02).
-/
namespace Shentu.Props.C01m
open Shentu Shentu.Mint

/-- every arithmetic site of x/mint was recognised in the source -/
theorem tie_sites : Gen.Mint.allFound = true := by decide

/-- BeginBlocker mints the block provision, computes both pool shares from that same provision, keeps the rest for the fee
    collector and sends each amount to its destination -/
theorem tie_composition :
    Gen.Mint.mintedCoinSrc = "minter.BlockProvision(params)" ∧
    Gen.Mint.mintedCoinsSrc = "sdk.NewCoins(mintedCoin)" ∧
    Gen.Mint.cpRatioSrc = "k.GetCommunityPoolRatio(ctx)" ∧
    Gen.Mint.cpCoinsSrc = "k.GetPoolMint(ctx, communityPoolRatio, mintedCoin)" ∧
    Gen.Mint.sspRatioSrc = "k.GetShieldStakeForShieldPoolRatio(ctx)" ∧
    Gen.Mint.sspCoinsSrc = "k.GetPoolMint(ctx, shieldStakeForShieldPoolRatio, mintedCoin)" ∧
    Gen.Mint.feesSrc = "mintedCoins.Sub(communityPoolCoins).Sub(SPPCoins)" ∧
    Gen.Mint.mintArg = ["mintedCoins"] ∧ Gen.Mint.feesArg = ["collectedFeesCoins"] ∧
    Gen.Mint.cpArg = ["communityPoolCoins"] ∧ Gen.Mint.sspArg = ["SPPCoins"] :=
  ⟨rfl, rfl, rfl, rfl, rfl, rfl, rfl, rfl, rfl, rfl, rfl⟩

/-- the provision is minted first, the ratios are read afterwards (the supply they divide by contains the provision), and
    nothing else mints, burns or sends -/
theorem tie_order :
    Gen.Mint.moveOrder = ["k.BondedRatio", "k.MintCoins", "k.GetCommunityPoolRatio", "k.GetPoolMint",
      "k.GetShieldStakeForShieldPoolRatio", "k.GetPoolMint", "k.AddCollectedFees", "k.SendToCommunityPool", "k.SendToShieldRewards"] := rfl

/-- the community-pool share goes to the distribution module's community pool, the shield share to the shield module's block
    rewards, and only the bond denomination's entry of the community pool is read -/
theorem tie_destinations :
    Gen.Mint.cpSendCall = ["k.dk.FundCommunityPool"] ∧ Gen.Mint.sspSendCall = ["k.shieldKeeper.FundShieldBlockRewards"] ∧
    Gen.Mint.cpDenomTest = "coin.Denom == k.stakingKeeper.BondDenom(ctx)" := ⟨rfl, rfl, rfl⟩

/-- the regenerated arithmetic is the arithmetic the theorems below are about -/
theorem tie_arithmetic (r : Dec) (m : Int) : poolMint r m = Int.tdiv (r.raw * m) Dec.prec := rfl

theorem split_ok_iff (minted : Int) (rc rs : Dec) (sp : Split) :
    split minted rc rs = .ok sp ↔ 0 ≤ poolMint rc minted ∧ 0 ≤ poolMint rs minted ∧ poolMint rc minted + poolMint rs minted ≤ minted ∧
      sp = ⟨minted - poolMint rc minted - poolMint rs minted, poolMint rc minted, poolMint rs minted⟩ := by
  unfold split
  simp only [panicE, Bool.or_eq_true, decide_eq_true_eq]
  generalize poolMint rc minted = c
  generalize poolMint rs minted = s
  split
  · exact ⟨fun h => (nomatch h), fun _ => by omega⟩
  · split
    · exact ⟨fun h => (nomatch h), fun _ => by omega⟩
    · split
      · exact ⟨fun h => (nomatch h), fun _ => by omega⟩
      · exact ⟨fun h => ⟨by omega, by omega, by omega, (Except.ok.inj h).symm⟩, fun h => h.2.2.2 ▸ rfl⟩

/-- **The shares add up.** Whenever the split succeeds, the three shares are non-negative and their sum is exactly the provision. -/
theorem split_exact (minted : Int) (rc rs : Dec) (sp : Split) (h : split minted rc rs = .ok sp) :
    sp.fees + sp.cp + sp.ssp = minted ∧ 0 ≤ sp.fees ∧ 0 ≤ sp.cp ∧ 0 ≤ sp.ssp := by
  obtain ⟨h1, h2, h3, rfl⟩ := (split_ok_iff ..).mp h
  dsimp only; omega

/-- the split fails exactly when a share would be negative or the two pool shares exceed the provision -/
theorem split_panics_iff (minted : Int) (rc rs : Dec) :
    (∃ e, split minted rc rs = .error e) ↔
      (poolMint rc minted < 0 ∨ poolMint rs minted < 0 ∨ minted < poolMint rc minted + poolMint rs minted) := by
  cases h : split minted rc rs with
  | ok sp => have := (split_ok_iff ..).mp h; exact ⟨fun ⟨_, h⟩ => (nomatch h), fun _ => by omega⟩
  | error e =>
    refine ⟨fun _ => Classical.byContradiction fun hn => ?_, fun _ => ⟨e, rfl⟩⟩
    have := (split_ok_iff minted rc rs _).mpr ⟨by omega, by omega, by omega, rfl⟩
    rw [h] at this; cases this

/-- **The mint never halts the chain on sane ratios (C08).** With a non-negative provision and non-negative ratios whose sum is
    at most one, the split succeeds. -/
theorem split_ok_of_ratios (minted : Int) (rc rs : Dec) (hm : 0 ≤ minted) (hc : 0 ≤ rc.raw) (hs : 0 ≤ rs.raw)
    (hsum : rc.raw + rs.raw ≤ Dec.prec) : ∃ sp, split minted rc rs = .ok sp := by
  have h1 := Dec.truncateInt_bounds ⟨rc.raw * minted⟩ (Int.mul_nonneg hc hm)
  have h2 := Dec.truncateInt_bounds ⟨rs.raw * minted⟩ (Int.mul_nonneg hs hm)
  refine ⟨_, (split_ok_iff ..).mpr ⟨h1.1, h2.1, ?_, rfl⟩⟩
  have := Int.mul_le_mul_of_nonneg_right hsum hm
  rw [Int.add_mul] at this
  exact Int.le_of_mul_le_mul_right (a := Dec.prec) (by rw [Int.add_mul, Int.mul_comm minted]; exact Int.le_trans (Int.add_le_add h1.2 h2.2) this) Dec.prec_pos

/-- `SendToCommunityPool`, `SendToShieldRewards`: a share of zero is not sent.  For balances, supply and the invariant that is the
    same as sending it. -/
def sendNZ (l : Ledger) (a b : Addr) (d : Denom) (x : Int) : Ledger := if (x == 0) = true then l else l.move a b [(d, x)]

theorem balOf_sendNZ (l : Ledger) (a b : Addr) (d : Denom) (x : Int) (y : Addr) (d' : Denom) :
    (sendNZ l a b d x).balOf y d' = (l.move a b [(d, x)]).balOf y d' := by
  unfold sendNZ; split
  · next h => rw [eq_of_beq h]; simp
  · rfl
theorem supply_sendNZ (l : Ledger) (a b : Addr) (d : Denom) (x : Int) : (sendNZ l a b d x).supply = l.supply := by
  unfold sendNZ; split <;> rfl
theorem inv_sendNZ (l : Ledger) (a b : Addr) (d : Denom) (x : Int) (h : l.Inv) : (sendNZ l a b d x).Inv := by
  unfold sendNZ; split; exact h; exact Ledger.inv_move _ _ _ _ h

theorem beginBlock_eq {a : Accts} {bond : Denom} {l l' : Ledger} {minted : Int} {cp : Option Dec} {pool : Int} {sp : Split}
    (h : beginBlock a bond l minted cp pool = .ok (l', sp)) :
    0 ≤ minted ∧ (sp.fees + sp.cp + sp.ssp = minted ∧ 0 ≤ sp.fees ∧ 0 ≤ sp.cp ∧ 0 ≤ sp.ssp) ∧
      l' = sendNZ (sendNZ ((l.mint a.mint [(bond, minted)]).move a.mint a.feeCollector [(bond, sp.fees)])
              a.mint a.distr bond sp.cp) a.mint a.shield bond sp.ssp := by
  unfold beginBlock at h
  simp only [panicE, bind, Except.bind] at h
  split at h; · cases h
  split at h; · cases h
  split at h; · cases h
  next hm _ _ _ _ hsp =>
  cases h
  exact ⟨by omega, split_exact _ _ _ _ hsp, rfl⟩

/-- **C01.** The mint's BeginBlocker keeps "the balances add up to the recorded supply". -/
theorem beginBlock_inv (a : Accts) (bond : Denom) (l l' : Ledger) (minted : Int) (cp : Option Dec) (pool : Int) (sp : Split)
    (hi : l.Inv) (h : beginBlock a bond l minted cp pool = .ok (l', sp)) : l'.Inv := by
  obtain ⟨_, _, rfl⟩ := beginBlock_eq h
  exact inv_sendNZ _ _ _ _ _ (inv_sendNZ _ _ _ _ _ (Ledger.inv_move _ _ _ _ (Ledger.inv_mint _ _ _ hi)))

/-- **The supply grows by exactly the provision**, in the bond denomination and in no other. -/
theorem beginBlock_supply (a : Accts) (bond : Denom) (l l' : Ledger) (minted : Int) (cp : Option Dec) (pool : Int) (sp : Split)
    (h : beginBlock a bond l minted cp pool = .ok (l', sp)) (d : Denom) :
    Coins.amountOf l'.supply d = Coins.amountOf l.supply d + (if bond == d then minted else 0) := by
  obtain ⟨_, _, rfl⟩ := beginBlock_eq h
  rw [supply_sendNZ, supply_sendNZ, show (_ : Ledger).supply = Coins.add l.supply [(bond, minted)] from rfl]; simp

/-- **Everything minted is handed on**: the mint module account holds afterwards what it held before (given that the four module
    accounts are distinct addresses). The three recipients receive exactly their shares. -/
theorem beginBlock_deliveries (a : Accts) (bond : Denom) (l l' : Ledger) (minted : Int) (cp : Option Dec) (pool : Int) (sp : Split)
    (hd : a.mint ≠ a.feeCollector ∧ a.mint ≠ a.distr ∧ a.mint ≠ a.shield ∧ a.feeCollector ≠ a.distr ∧ a.feeCollector ≠ a.shield ∧ a.distr ≠ a.shield)
    (h : beginBlock a bond l minted cp pool = .ok (l', sp)) :
    l'.balOf a.mint bond = l.balOf a.mint bond ∧
    l'.balOf a.feeCollector bond = l.balOf a.feeCollector bond + sp.fees ∧
    l'.balOf a.distr bond = l.balOf a.distr bond + sp.cp ∧
    l'.balOf a.shield bond = l.balOf a.shield bond + sp.ssp ∧
    (∀ x d, x ≠ a.mint → x ≠ a.feeCollector → x ≠ a.distr → x ≠ a.shield → l'.balOf x d = l.balOf x d) := by
  obtain ⟨_, ⟨hsum, _⟩, rfl⟩ := beginBlock_eq h
  obtain ⟨d1, d2, d3, d4, d5, d6⟩ := hd
  -- every balance: the three moves out of the mint account, which was credited with the provision (`hsum`)
  have bal : ∀ x d, Ledger.balOf (sendNZ (sendNZ ((l.mint a.mint [(bond, minted)]).move a.mint a.feeCollector [(bond, sp.fees)])
      a.mint a.distr bond sp.cp) a.mint a.shield bond sp.ssp) x d =
      l.balOf x d + (if a.mint = x ∧ bond = d then minted - sp.fees - sp.cp - sp.ssp else 0)
      + (if a.feeCollector = x ∧ bond = d then sp.fees else 0) + (if a.distr = x ∧ bond = d then sp.cp else 0)
      + (if a.shield = x ∧ bond = d then sp.ssp else 0) := by
    intro x d
    rw [balOf_sendNZ, Ledger.balOf_move1, balOf_sendNZ, Ledger.balOf_move1, Ledger.balOf_move1,
      show (l.mint a.mint [(bond, minted)]).balOf x d = (l.credit a.mint [(bond, minted)]).balOf x d from rfl,
      Ledger.balOf_credit', Coins.amountOf_single_cons]
    by_cases h1 : a.mint = x <;> by_cases h2 : bond = d <;>
      simp only [h1, h2, and_self, and_false, and_true, if_true, if_false] <;> omega
  refine ⟨?_, ?_, ?_, ?_, fun x d hx1 hx2 hx3 hx4 => ?_⟩ <;> rw [bal]
  · simp only [d1.symm, d2.symm, d3.symm, false_and, and_self, if_true, if_false]; omega
  · simp only [d1, d4.symm, d5.symm, false_and, and_self, if_true, if_false]; omega
  · simp only [d2, d4, d6.symm, false_and, and_self, if_true, if_false]; omega
  · simp only [d3, d5, d6, false_and, and_self, if_true, if_false]; omega
  · simp only [hx1.symm, hx2.symm, hx3.symm, hx4.symm, false_and, if_false]; omega

/-- the mint module account after the block holds what it held before -/
theorem beginBlock_mint_account (a : Accts) (bond : Denom) (l l' : Ledger) (minted : Int) (cp : Option Dec) (pool : Int) (sp : Split)
    (hd : a.mint ≠ a.feeCollector ∧ a.mint ≠ a.distr ∧ a.mint ≠ a.shield ∧ a.feeCollector ≠ a.distr ∧ a.feeCollector ≠ a.shield ∧ a.distr ≠ a.shield)
    (h : beginBlock a bond l minted cp pool = .ok (l', sp)) : l'.balOf a.mint bond = l.balOf a.mint bond :=
  (beginBlock_deliveries a bond l l' minted cp pool sp hd h).1

/-- the bond-denomination entry of the community pool, 18 digits (zero when there is none) -/
def cpRaw : Option Dec → Int
  | some c => c.raw
  | none => 0

/-- with a positive supply neither ratio meets its zero divisor: both are plain quotients over the supply -/
theorem ratios_of_pos (supply : Int) (hS : 0 < supply) :
    (∀ c, cpRatio (some c) supply = .ok (Dec.quo c (Dec.ofInt supply))) ∧
    ∀ pool, sspRatio pool supply = Dec.quo (Dec.ofInt pool) (Dec.ofInt supply) := by
  have hb : ((Dec.ofInt supply).raw == 0) = false := beq_false_of_ne (Int.ne_of_gt (Int.mul_pos hS Dec.prec_pos))
  exact ⟨fun c => if_neg (by rw [show (Gen.Mint.supplyDecCp supply).raw = (Dec.ofInt supply).raw from rfl, hb]; decide),
    fun pool => if_neg (by rw [show Gen.Mint.sspZeroGuard (Gen.Mint.supplyDecSsp supply) = ((Dec.ofInt supply).raw == 0) from rfl, hb]; decide)⟩

/-- **The ratios add up to at most one** whenever the community pool and the stake-for-shield pool are coins inside the supply
    and at least one whole coin of the supply is held elsewhere (the bonded stake, for one). Together with
    `split_ok_of_ratios`: the mint's BeginBlocker cannot halt the chain. -/
theorem ratios_sum_le_one (supply pool : Int) (cp : Option Dec) (rc : Dec)
    (hS : 0 < supply) (hP : 0 ≤ pool) (hc : ∀ c, cp = some c → 0 ≤ c.raw)
    (hroom : cpRaw cp + pool * Dec.prec + Dec.prec ≤ supply * Dec.prec)
    (h : cpRatio cp supply = .ok rc) :
    0 ≤ rc.raw ∧ 0 ≤ (sspRatio pool supply).raw ∧ rc.raw + (sspRatio pool supply).raw ≤ Dec.prec := by
  have hp := Dec.prec_pos
  have hb : 0 < (Dec.ofInt supply).raw := Int.mul_pos hS hp
  have q2 := DecRound.quo_bounds (Dec.ofInt pool) (Dec.ofInt supply) (Int.mul_nonneg hP (Int.le_of_lt hp)) hb
  rw [← (ratios_of_pos supply hS).2 pool] at q2
  have h1 : 0 ≤ rc.raw ∧ 2 * (rc.raw * (Dec.ofInt supply).raw) ≤ 2 * (cpRaw cp * Dec.prec) + (Dec.ofInt supply).raw := by
    cases cp with
    | none => cases h; exact ⟨Int.le_refl _, by show 2 * (0 * _) ≤ 2 * (0 * _) + _; omega⟩
    | some c =>
      rw [(ratios_of_pos supply hS).1 c] at h; cases h
      have q := DecRound.quo_bounds c (Dec.ofInt supply) (hc c rfl) hb
      exact ⟨q.2.2, q.1⟩
  refine ⟨h1.1, q2.2.2, ?_⟩
  generalize (sspRatio pool supply).raw = r2 at q2
  generalize rc.raw = r1 at h1
  generalize cpRaw cp = c at h1 hroom
  -- were the sum above one, `(10^18 + 1)·S ≤ (r1 + r2)·S ≤ c + pool + S ≤ 10^18·S − 10^18 + S` (all in units of `10^-18`)
  refine Int.not_lt.mp fun hgt => ?_
  have hm := Int.mul_le_mul_of_nonneg_right (Int.add_one_le_of_lt hgt) (Int.le_of_lt hb)
  rw [Int.add_mul r1] at hm
  simp only [Dec.ofInt, Dec.prec] at *
  omega

/-- **C08 for the mint.** With a non-negative provision, pools that are coins inside the supply and one whole coin held
    elsewhere, the split of the provision succeeds. -/
theorem split_never_halts (minted supply pool : Int) (cp : Option Dec) (rc : Dec)
    (hm : 0 ≤ minted) (hS : 0 < supply) (hP : 0 ≤ pool) (hc : ∀ c, cp = some c → 0 ≤ c.raw)
    (hroom : cpRaw cp + pool * Dec.prec + Dec.prec ≤ supply * Dec.prec)
    (h : cpRatio cp supply = .ok rc) : ∃ sp, split minted rc (sspRatio pool supply) = .ok sp := by
  obtain ⟨h1, h2, h3⟩ := ratios_sum_le_one supply pool cp rc hS hP hc hroom h
  exact split_ok_of_ratios minted rc _ hm h1 h2 h3

/-- and the ratio itself is always computed when the supply is positive -/
theorem cpRatio_ok (supply : Int) (cp : Option Dec) (hS : 0 < supply) : ∃ rc, cpRatio cp supply = .ok rc := by
  cases cp with
  | none => exact ⟨_, rfl⟩
  | some c => exact ⟨_, (ratios_of_pos supply hS).1 c⟩

/-- non-vacuity: community pool 1,250,000.5 and stake-for-shield pool 3,333,333 in a supply of 9,999,000 -/
example : (1250000500000000000000000 : Int) + 3333333 * Dec.prec + Dec.prec ≤ 9999000 * Dec.prec := by decide

/-! non-vacuity: provisions of 1,000,000 (`beginBlock`) and 1,000,003 (`split`) with a community pool of 12.5 % and a shield pool of 1/3 of the supply -/
def exAccts : Accts := ⟨"mint", "fees", "distr", "shield"⟩
def exLedger : Ledger := { posts := [("alice", "uctk", 7999000), ("distr", "uctk", 1000000)], supply := [("uctk", 8999000)] }
example : (match beginBlock exAccts "uctk" exLedger 1000000 (some ⟨1250000000000000000000000⟩) 3333333 with
    | .ok (l, sp) => sp == ⟨541622, 125012, 333366⟩ && l.invB | .error _ => false) = true := by decide
example : ∃ sp, split 1000003 ⟨125000000000000000⟩ ⟨333333333333333333⟩ = .ok sp := ⟨_, rfl⟩
example : exLedger.invB = true := by decide
/-- ratios above one: the split panics (what a community pool larger than the supply would do) -/
example : (match split 1000 ⟨600000000000000000⟩ ⟨600000000000000000⟩ with | .error _ => true | .ok _ => false) = true := by decide

end Shentu.Props.C01m

#print axioms Shentu.Props.C01m.tie_sites
#print axioms Shentu.Props.C01m.tie_composition
#print axioms Shentu.Props.C01m.tie_order
#print axioms Shentu.Props.C01m.tie_destinations
#print axioms Shentu.Props.C01m.split_exact
#print axioms Shentu.Props.C01m.split_panics_iff
#print axioms Shentu.Props.C01m.split_ok_of_ratios
#print axioms Shentu.Props.C01m.beginBlock_inv
#print axioms Shentu.Props.C01m.beginBlock_supply
#print axioms Shentu.Props.C01m.beginBlock_deliveries
#print axioms Shentu.Props.C01m.beginBlock_mint_account
#print axioms Shentu.Props.C01m.ratios_sum_le_one
#print axioms Shentu.Props.C01m.split_never_halts
#print axioms Shentu.Props.C01m.cpRatio_ok
