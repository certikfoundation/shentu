import Shentu.Proofs.C15HRun
/-
  C15 at the level of histories — oracle tasks are scored once, at their closing block; responses are accepted only from
  operators, once, in range, before closing; the rewards credited for a task never exceed its bounty; only the creator
  removes a task.

  **What a history is.**  A history is any list of `(Env × Op)`: every constructor of `Oracle.Op` (the eight messages, the
  begin-blocker and the end-blocker), each in its own environment.  `runStep` applies one operation; a refused operation
  changes nothing.  `Run` carries the ledger, the oracle state and three ghost records that are computed from what an accepted
  operation visibly does: `aggCount k` counts how often the task stored under key `k` left `pending` since `k` was last
  created, `respLog` lists the accepted `respond` operations since then (with the height and with whether the signer was an
  operator at that moment), `paid k d` adds up by how much the operators' accumulated rewards grew while the end-blocker
  handled the task under `k` (reset when `k` is created again).

  **Tasks are keyed by `contract ++ function`** — in the source and in the model alike.  Two different (contract, function)
  pairs can therefore name the same task (`task_ids_not_injective`); every statement below is about keys.

  **What is assumed.**  `Timed bond c ops`: heights never decrease, nothing comes after the end-blocker at the same height,
  all environments use one bond denomination.  Heights need not be consecutive: a block height may be skipped, and then the
  tasks closing at it simply stay pending.  `Inv bond c r`: the closing index is exact from height `c` on and task keys are
  distinct (`Idx`), the end-blocker's totality invariant `EndInv`, operator addresses are distinct, the ghost records
  agree with the state.  The empty state satisfies `Inv` (`inv_init`) and every operation of a timed history keeps it
  (`inv_step`).  The transition statements `only_creator_deletes`, `replaced_only_after_closing` assume nothing at all.

  **What createTask allows.**  Anybody may create a task under a key whose stored task has `closing < height`; the old record
  is dropped whatever its status and whoever created it.  Nothing else replaces a task.

  **That the module account covers what is owed** needs the sums over operators, withdrawals and tasks for every operation
  and is `Props.C14F.module_funded`; here `endOne_pstep` bounds what one distribution credits by the bounty.  The concrete
  history at the end shows the figures.
-/
namespace Shentu.Props.C15H
open Shentu Shentu.Oracle Shentu.C15HH Shentu.C20GOrcInv

/-- Two different task identifiers with the same store key: contract and function are concatenated without a separator. -/
theorem task_ids_not_injective :
    (("ab", "c") : String × String) ≠ ("a", "bc") ∧
    Task.key { (default : Task) with contract := "ab", function := "c" } =
      Task.key { (default : Task) with contract := "a", function := "bc" } := by decide

/-- The statement "different identifiers are different tasks" is false of the model (and of the source). -/
theorem distinct_ids_distinct_tasks_fails :
    ¬ (∀ c f c' f' : String, (c, f) ≠ (c', f') → c ++ f ≠ c' ++ f') := by
  intro h
  exact h "ab" "c" "a" "bc" (by decide) (by decide)

/-! ### scored once -/

/-- **Aggregated at most once.**  After every timed history the task under any key has left `pending` at most once since
    the key was last created, and not at all if it is still pending. -/
theorem aggregated_at_most_once {bond : Denom} {c : Int} {r0 : Run} (ops : List (Env × Op)) (h0 : Inv bond c r0)
    (ht : Timed bond c ops) (k : String) :
    (ops.foldl runStep r0).aggCount k ≤ 1 ∧
    ∀ t, findTask (ops.foldl runStep r0).s k = some t → t.status = 1 → (ops.foldl runStep r0).aggCount k = 0 := by
  obtain ⟨_, hinv⟩ := inv_end ops h0 ht
  have hk := hinv.keys k
  exact ⟨hk.once, fun t h1 h2 => (hk.pending t h1 h2).1⟩

/-- **Only the end-blocker of the closing block scores a task.**  If, at some step of a timed history, the task under `k` is
    pending before and not pending after, the step is an end-blocker, its height is the task's closing block, and the task
    after is the same task (same creator, bounty, closing block, responders and scores), succeeded or failed. -/
theorem leaves_pending_only_at_closing {bond : Denom} {c : Int} {r0 : Run} (pre : List (Env × Op)) (eo : Env × Op)
    (h0 : Inv bond c r0) (ht : Timed bond c (pre ++ [eo])) (k : String) (t t' : Task)
    (h1 : findTask (pre.foldl runStep r0).s k = some t) (hp : t.status = 1)
    (h2 : findTask (runStep (pre.foldl runStep r0) eo).s k = some t') (hn : t'.status ≠ 1) :
    eo.2 = .endBlock ∧ eo.1.h = t.closing ∧ Fin t t' := by
  obtain ⟨_, hinv, hc, _⟩ := inv_run pre [eo] h0 ht
  generalize List.foldl runStep r0 pre = r at *
  obtain ⟨e, op⟩ := eo
  rcases runStep_cases r e op with hr | ⟨l', s', hs, hr⟩ <;> rw [hr] at h2
  · rw [h1] at h2; cases h2; exact absurd hp hn
  cases stepE_keyStep hs k with
  | same hf => rw [hf, h1] at h2; cases h2; exact absurd hp hn
  | msg hev hf =>
    rw [h2] at hf; subst hf
    cases hev with
    | respond _ _ _ hu => rw [h1] at hu; cases hu; exact absurd hp hn
    | create => exact absurd rfl hn
  | fin hop hm hu _ hu' hfin =>
    rw [hu'] at h2; cases h2; rw [h1] at hu; cases hu
    exact ⟨hop, (closing_at hinv.idx hc hm h1).symm, hfin⟩

/-- **A finished task is frozen.**  At every step of a timed history a succeeded or failed task stays exactly as it is,
    unless it is removed by its creator after its closing block, or dropped by a `createTask` for the same key (by
    anybody) at a height above its closing block.  In particular it accepts no response and is not scored again. -/
theorem finished_never_changes {bond : Denom} {c : Int} {r0 : Run} (pre : List (Env × Op)) (eo : Env × Op)
    (h0 : Inv bond c r0) (ht : Timed bond c (pre ++ [eo])) (k : String) (t : Task)
    (h1 : findTask (pre.foldl runStep r0).s k = some t) (hp : t.status ≠ 1) :
    findTask (runStep (pre.foldl runStep r0) eo).s k = some t ∨
    (∃ ct fn fo, eo.2 = .deleteTask ct fn fo t.creator ∧ k = ct ++ fn ∧ t.closing < eo.1.h ∧
      findTask (runStep (pre.foldl runStep r0) eo).s k = none) ∨
    (∃ ct fn b cr w v t', eo.2 = .createTask ct fn b cr w v ∧ k = ct ++ fn ∧ t.closing < eo.1.h ∧
      findTask (runStep (pre.foldl runStep r0) eo).s k = some t' ∧ t'.status = 1 ∧ t'.responses = [] ∧ t'.creator = cr) := by
  obtain ⟨_, hinv, hc, _⟩ := inv_run pre [eo] h0 ht
  generalize List.foldl runStep r0 pre = r at *
  obtain ⟨e, op⟩ := eo
  rcases runStep_cases r e op with hr | ⟨l', s', hs, hr⟩ <;> rw [hr]
  · exact Or.inl h1
  cases stepE_keyStep hs k with
  | same hf => exact Or.inl (hf.trans h1)
  | fin _ _ hu hust => rw [h1] at hu; cases hu; exact absurd hust hp
  | msg hev hf =>
    cases hev with
    | respond _ _ _ hu hcl =>
      rw [h1] at hu; cases hu
      have := hinv.fin k t h1 hp
      dsimp only at hc; omega
    | delete hk _ hu _ hcl hcr =>
      rw [h1] at hu; cases hu
      exact Or.inr (Or.inl ⟨_, _, _, by rw [hcr], hk, hcl, hf⟩)
    | create hk _ hpre =>
      rw [h1] at hpre
      obtain ⟨hn, _⟩ | ⟨_, ho, hcl, _⟩ := hpre
      · cases hn
      · cases ho; exact Or.inr (Or.inr ⟨_, _, _, _, _, _, _, rfl, hk, hcl, hf, rfl, rfl, rfl⟩)

/-- a state that no timed history reaches: a succeeded task whose closing block 10 is still ahead -/
def sAhead : State :=
  { ops := [{ addr := "alice", proposer := "alice", coll := [("uctk", 100)], rew := [] }], wds := [], total := [], closing := [],
    tasks := [{ contract := "ab", function := "c", begin := 1, bounty := [], expiration := 100, creator := "carol",
                responses := [], result := 65, closing := 10, waiting := 9, status := 2 }],
    params := { lock := 5, minColl := 10, window := 3, aggRes := 50, threshold := 50, eps1 := 1, eps2 := 1, expDur := 100 } }

/-- **Without the timing hypothesis `finished_never_changes` is false**: `respond` does not look at the status, only at the
    closing block.  A succeeded task whose closing block is still ahead (which a timed history never produces, field `fin`
    of `Inv`) accepts a response at height 5. -/
theorem finished_never_changes_untimed_fails :
    ¬ (∀ (r : Run) (eo : Env × Op) (k : String) (t : Task), findTask r.s k = some t → t.status ≠ 1 →
        ∀ t', findTask (runStep r eo).s k = some t' → t'.responses.length = t.responses.length) := by
  intro h
  let r : Run := { l := default, s := sAhead, aggCount := fun _ => 0, respLog := [], paid := fun _ _ => 0 }
  let eo : Env × Op := ({ h := 5, t := 50, bond := "uctk", modAddr := "oracle" }, .respond "ab" "c" 70 "alice")
  have h1 : ((findTask r.s "abc").map (fun t => (t.status, t.responses.length))) = some (2, 0) := by decide +kernel
  have h2 : ((findTask (runStep r eo).s "abc").map (fun t => t.responses.length)) = some 1 := by decide +kernel
  cases hf : findTask r.s "abc" with
  | none => rw [hf] at h1; cases h1
  | some t =>
    rw [hf] at h1
    simp only [Option.map_some, Option.some.injEq, Prod.mk.injEq] at h1
    cases hf' : findTask (runStep r eo).s "abc" with
    | none => rw [hf'] at h2; cases h2
    | some t' =>
      rw [hf'] at h2
      simp only [Option.map_some, Option.some.injEq] at h2
      have := h r eo "abc" t hf (by omega) t' hf'
      omega

/-! ### responses -/

/-- **Responses only while open.**  After every timed history, the responses stored with a task are exactly the accepted
    `respond` operations for its key since the key was created, in order; no operator appears twice; every one of them was
    signed by an operator (at that moment), at a height not above the closing block, with a score in [0, 100]. -/
theorem responses_only_while_open {bond : Denom} {c : Int} {r0 : Run} (ops : List (Env × Op)) (h0 : Inv bond c r0)
    (ht : Timed bond c ops) (k : String) (t : Task) (h1 : findTask (ops.foldl runStep r0).s k = some t) :
    t.responses.map rsig = (((ops.foldl runStep r0).respLog.filter (·.key == k)).map evSig) ∧
    (t.responses.map (·.op)).Nodup ∧
    ∀ ev ∈ (ops.foldl runStep r0).respLog.filter (·.key == k),
      ev.h ≤ t.closing ∧ ev.wasOp = true ∧ 0 ≤ ev.score ∧ ev.score ≤ 100 := by
  obtain ⟨_, hinv⟩ := inv_end ops h0 ht
  have hk := hinv.keys k
  refine ⟨hk.resp t h1, hk.nodup t h1, fun ev hev => ⟨hk.early t h1 ev hev, hinv.log ev (List.mem_filter.mp hev).1⟩⟩

/-! ### rewards -/

/-- **Rewards within the bounty.**  After every timed history, what the end-blockers credited to operators for the task
    stored under a key is non-negative and at most the task's bounty, in every denomination; for a pending task it is zero. -/
theorem rewards_within_bounty {bond : Denom} {c : Int} {r0 : Run} (ops : List (Env × Op)) (h0 : Inv bond c r0)
    (ht : Timed bond c ops) (k : String) (t : Task) (h1 : findTask (ops.foldl runStep r0).s k = some t) (d : Denom) :
    0 ≤ (ops.foldl runStep r0).paid k d ∧ (ops.foldl runStep r0).paid k d ≤ Coins.amountOf t.bounty d ∧
    (t.status = 1 → (ops.foldl runStep r0).paid k d = 0) := by
  obtain ⟨_, hinv⟩ := inv_end ops h0 ht
  have hk := hinv.keys k
  exact ⟨(hk.paid t h1 d).1, (hk.paid t h1 d).2, fun hp => (hk.pending t h1 hp).2 d⟩

/-- **Nothing is credited for a task twice.**  At every step of a timed history the amount credited under a key changes
    only in the end-blocker that takes the task under that key from pending to finished (which happens at most once,
    `aggregated_at_most_once`), or is reset to zero when the key is created again. -/
theorem rewards_credited_once {bond : Denom} {c : Int} {r0 : Run} (pre : List (Env × Op)) (eo : Env × Op)
    (h0 : Inv bond c r0) (ht : Timed bond c (pre ++ [eo])) (k : String) (d : Denom)
    (hne : (runStep (pre.foldl runStep r0) eo).paid k d ≠ (pre.foldl runStep r0).paid k d) :
    (eo.2 = .endBlock ∧ ∃ t t', findTask (pre.foldl runStep r0).s k = some t ∧ t.status = 1 ∧
      findTask (runStep (pre.foldl runStep r0) eo).s k = some t' ∧ Fin t t') ∨
    (∃ ct fn b cr w v, eo.2 = .createTask ct fn b cr w v ∧ k = ct ++ fn ∧ (runStep (pre.foldl runStep r0) eo).paid k d = 0) := by
  obtain ⟨_, hinv, hc, hb, _⟩ := inv_run pre [eo] h0 ht
  generalize List.foldl runStep r0 pre = r at *
  obtain ⟨e, op⟩ := eo
  rcases runStep_cases r e op with hr | ⟨l', s', hs, hr⟩ <;> rw [hr] at hne ⊢
  · exact absurd rfl hne
  dsimp only at hne ⊢
  cases op with
  | endBlock =>
    left
    rcases endBlock_pstep (by rw [hb]; exact hinv.endInv) hinv.opsNodup (Except.map_pair_ok hs).2 r.paid k with
      ⟨_, hq⟩ | ⟨t, t', h1, h2, h3, h4, _⟩
    · exact absurd (hq d) hne
    · exact ⟨rfl, t, t', h1, h2, h3, h4⟩
  | createTask ct fn b cr w v =>
    right
    by_cases hk : k = ct ++ fn
    · exact ⟨ct, fn, b, cr, w, v, rfl, hk, by simp [paidNext, hk]⟩
    · exact absurd (by simp [paidNext, hk]) hne
  | _ => exact absurd rfl hne

/-! ### removal and replacement — no hypothesis on the state or on the history -/

/-- **Only the creator deletes.**  From any state whatever: if the task under `k` is there before an operation and nothing
    is stored under `k` after it, the operation is a `deleteTask` for that key signed by the task's creator, at a height
    above the closing block, and the task has expired unless `force` is set.  `force` does not lift the creator check. -/
theorem only_creator_deletes (r : Run) (eo : Env × Op) (k : String) (t : Task) (h1 : findTask r.s k = some t)
    (h2 : findTask (runStep r eo).s k = none) :
    ∃ ct fn fo, eo.2 = .deleteTask ct fn fo t.creator ∧ k = ct ++ fn ∧ t.closing < eo.1.h ∧
      (fo = true ∨ t.expiration < eo.1.t) := by
  obtain ⟨e, op⟩ := eo
  rcases runStep_cases r e op with hr | ⟨l', s', hs, hr⟩ <;> rw [hr] at h2
  · rw [h1] at h2; cases h2
  cases stepE_keyStep hs k with
  | same hf => rw [hf, h1] at h2; cases h2
  | fin _ _ _ _ hu' => rw [hu'] at h2; cases h2
  | msg hev hf =>
    rw [h2] at hf; subst hf
    cases hev with
    | delete hk _ hu hexp hcl hcr =>
      rw [h1] at hu; cases hu
      exact ⟨_, _, _, by rw [hcr], hk, hcl, hexp⟩

/-- **Replacement only by `createTask`, only after the closing block, by anybody.**  From any state whatever: if after an
    operation the task under `k` differs from the one before in creator, creation height, closing block or bounty, the
    operation is a `createTask` for that key at a height above the old closing block; the new task is pending, has no
    responses and belongs to the signer.  The old task's status and creator are not looked at. -/
theorem replaced_only_after_closing (r : Run) (eo : Env × Op) (k : String) (t t' : Task) (h1 : findTask r.s k = some t)
    (h2 : findTask (runStep r eo).s k = some t')
    (hd : t'.creator ≠ t.creator ∨ t'.begin ≠ t.begin ∨ t'.closing ≠ t.closing ∨ t'.bounty ≠ t.bounty) :
    ∃ ct fn b cr w v, eo.2 = .createTask ct fn b cr w v ∧ k = ct ++ fn ∧ t.closing < eo.1.h ∧
      t'.status = 1 ∧ t'.responses = [] ∧ t'.creator = cr ∧ t'.bounty = b ∧ t'.begin = eo.1.h := by
  have same : t' = t → False := by
    intro h; subst h; rcases hd with h | h | h | h <;> exact h rfl
  obtain ⟨e, op⟩ := eo
  rcases runStep_cases r e op with hr | ⟨l', s', hs, hr⟩ <;> rw [hr] at h2
  · rw [h1] at h2; cases h2; exact (same rfl).elim
  cases stepE_keyStep hs k with
  | same hf => rw [hf, h1] at h2; cases h2; exact (same rfl).elim
  | msg hev hf =>
    rw [h2] at hf; subst hf
    cases hev with
    | respond _ _ _ hu =>
      rw [h1] at hu; cases hu
      rcases hd with h | h | h | h <;> exact (h rfl).elim
    | create hk _ hpre =>
      rw [h1] at hpre
      obtain ⟨hn, _⟩ | ⟨_, ho, hcl, _⟩ := hpre
      · cases hn
      · cases ho; exact ⟨_, _, _, _, _, _, rfl, hk, hcl, rfl, rfl, rfl, rfl, rfl⟩
  | fin _ _ hu _ hu' hfin =>
    rw [hu'] at h2; cases h2; rw [h1] at hu; cases hu
    rcases hd with h | h | h | h
    · exact (h hfin.creator).elim
    · exact (h hfin.begin).elim
    · exact (h hfin.closing).elim
    · exact (h hfin.bounty).elim

/-! ### a task without responses -/

/-- **A task that closes without any response fails.**  In any state, handling a pending task with an empty response list in
    the end-blocker stores it as failed with the default result, and changes nothing else: no operator is credited, the
    bounty stays in the module account. -/
theorem no_response_task_fails (bond : Denom) (s : State) (id : String × String) (t : Task)
    (h1 : findTask s (id.1 ++ id.2) = some t) (hp : t.status = 1) (hr : t.responses = []) :
    endOne bond s id = .ok (setTask s { t with responses := [], result := s.params.aggRes, status := 3 }) := by
  have hk : t.key = id.1 ++ id.2 := (findTask_mem h1).2
  have hagg : aggregateE bond s (id.1 ++ id.2) = .ok { t with responses := [], result := s.params.aggRes, status := 3 } := by
    unfold aggregateE
    rw [h1]; dsimp only
    rw [if_neg (by rw [Gen.Oracle.aggPending_iff]; omega), hr]
    rfl
  have hd : distributeBountyE bond s { t with responses := [], result := s.params.aggRes, status := 3 } =
      err "oracle:task-failed" := rfl
  -- the effect: the failed copy is written, nothing is credited
  have he : endOneE bond s (id.1 ++ id.2) =
      .ok (fun _ => { t with responses := [], result := s.params.aggRes, status := 3 }, []) := by
    unfold endOneE
    rw [hagg]; dsimp only
    rw [hd]; simp [err, Err.isPanic]
  rw [endOne_eq bond id (Agree.refl _ s), he, ← hk]
  exact congrArg Except.ok (setTask_eq_app (t := { t with responses := [], result := s.params.aggRes, status := 3 })
    (show (findTask s t.key).isSome = true by rw [hk, h1]; rfl)).symm

/-! ### non-vacuity: a concrete history -/

def params0 : Params := { lock := 5, minColl := 10, window := 3, aggRes := 50, threshold := 50, eps1 := 1, eps2 := 1, expDur := 100 }

def ledger0 : Ledger :=
  { posts := [("alice", "uctk", 1000), ("bob", "uctk", 1000), ("carol", "uctk", 500), ("carol", "uatom", 300)], supply := [] }

def env (h : Int) : Env := { h := h, t := 10 * h, bond := "uctk", modAddr := "oracle" }

/-- two operators; a task with a two-denomination bounty and two responses; a second task without responses; a creation under
    a colliding key, a response from a stranger, a second response, a late response and a deletion by a stranger (all
    refused); two end-blockers; the deletion by the creator -/
def hist : List (Env × Op) :=
  [ (env 1, .createOperator "alice" [("uctk", 100)] "alice"),
    (env 1, .createOperator "bob" [("uctk", 300)] "bob"),
    (env 2, .createTask "ab" "c" [("uctk", 90), ("uatom", 40)] "carol" 3 0),
    (env 2, .createTask "x" "y" [("uctk", 7)] "carol" 2 0),
    (env 2, .createTask "a" "bc" [("uctk", 1)] "carol" 2 0),
    (env 3, .respond "ab" "c" 80 "alice"),
    (env 3, .respond "ab" "c" 60 "bob"),
    (env 3, .respond "ab" "c" 70 "carol"),
    (env 3, .respond "ab" "c" 90 "alice"),
    (env 4, .endBlock),
    (env 5, .endBlock),
    (env 6, .respond "ab" "c" 10 "bob"),
    (env 6, .deleteTask "ab" "c" true "mallory"),
    (env 6, .deleteTask "ab" "c" true "carol") ]

def r0 : Run := Run.init ledger0 params0

/-- the start satisfies the invariant and the history is timed: the hypotheses of every theorem above hold -/
example : Inv "uctk" 0 r0 ∧ Timed "uctk" 0 hist := ⟨inv_init _ _ _ _ (by decide) (by decide), by decide⟩

def at_ (n : Nat) : Run := (hist.take n).foldl runStep r0

set_option maxRecDepth 100000 in
/-- operations refused before any end-blocker, each with the reason: the colliding key ("a","bc") names the open task
    ("ab","c"); a stranger's response; a second response of the same operator -/
example :
    refusal (env 2) (at_ 4) (.createTask "a" "bc" [("uctk", 1)] "carol" 2 0) = some "oracle:task-not-closed" ∧
    refusal (env 3) (at_ 7) (.respond "ab" "c" 70 "carol") = some "oracle:unqualified-operator" ∧
    refusal (env 3) (at_ 8) (.respond "ab" "c" 90 "alice") = some "oracle:duplicate-response" := by decide +kernel

set_option maxRecDepth 100000 in
/-- before the end-blockers: both tasks are pending, nothing has been scored or credited, the two accepted responses are
    the logged ones -/
example :
    ((findTask (at_ 9).s "xy").map (fun t => (t.status, t.closing, t.responses.length))) = some (1, 4, 0) ∧
    ((findTask (at_ 9).s "abc").map (fun t => (t.status, t.closing, t.responses.map rsig))) =
      some (1, 5, [("alice", 80), ("bob", 60)]) ∧
    (at_ 9).aggCount "abc" = 0 ∧ (at_ 9).paid "abc" "uctk" = 0 ∧
    ((at_ 9).respLog.map (fun ev => (ev.key, ev.op, ev.score, ev.h, ev.wasOp))) =
      [("abc", "alice", 80, 3, true), ("abc", "bob", 60, 3, true)] := by decide +kernel

set_option maxRecDepth 100000 in
/-- non-vacuity of `no_response_task_fails`: before the end-blocker of block 4 the task "xy" is pending without responses -/
example : ∃ t, findTask (at_ 9).s ("x" ++ "y") = some t ∧ t.status = 1 ∧ t.responses = [] := by
  have h : ((findTask (at_ 9).s ("x" ++ "y")).map (fun t => (t.status, t.responses.length))) = some (1, 0) := by decide +kernel
  cases hf : findTask (at_ 9).s ("x" ++ "y") with
  | none => rw [hf] at h; cases h
  | some t =>
    rw [hf] at h
    simp only [Option.map_some, Option.some.injEq, Prod.mk.injEq] at h
    exact ⟨t, rfl, h.1, List.length_eq_zero_iff.mp h.2⟩

/-- the same history without the task "xy" (the kernel cannot evaluate `String.startsWith`, which the end-blocker calls on the
    error "oracle:task-failed", so `decide` stops at the end-blocker of block 4 of `hist`; what happens to "xy" there is
    `no_response_task_fails`, whose hypotheses the state `at_ 9` satisfies by the example above: it ends failed with the
    default result 50 and nothing is credited) -/
def histB : List (Env × Op) :=
  [ (env 1, .createOperator "alice" [("uctk", 100)] "alice"),
    (env 1, .createOperator "bob" [("uctk", 300)] "bob"),
    (env 2, .createTask "ab" "c" [("uctk", 90), ("uatom", 40)] "carol" 3 0),
    (env 3, .respond "ab" "c" 80 "alice"),
    (env 3, .respond "ab" "c" 60 "bob"),
    (env 4, .endBlock),
    (env 5, .endBlock),
    (env 6, .respond "ab" "c" 10 "bob"),
    (env 6, .deleteTask "ab" "c" true "mallory"),
    (env 6, .deleteTask "ab" "c" true "carol") ]

def atB (n : Nat) : Run := (histB.take n).foldl runStep r0

example : Timed "uctk" 0 histB := by decide

set_option maxRecDepth 100000 in
/-- the end-blocker of block 4 leaves the task pending; the end-blocker of its closing block 5 scores it with the
    collateral-weighted mean 65 = (80·100 + 60·300) / 400 and pays 35 + 54 = 89 of 90 uctk and 15 + 24 = 39 of 40 uatom; it
    left `pending` exactly once -/
example :
    ((findTask (atB 6).s "abc").map (·.status)) = some 1 ∧
    ((findTask (atB 7).s "abc").map (fun t => (t.status, t.result, t.responses.map rsig))) =
      some (2, 65, [("alice", 80), ("bob", 60)]) ∧
    (atB 6).aggCount "abc" = 0 ∧ (atB 7).aggCount "abc" = 1 ∧
    (atB 7).paid "abc" "uctk" = 89 ∧ (atB 7).paid "abc" "uatom" = 39 ∧
    ((findOp (atB 7).s "alice").map (fun o => (Coins.amountOf o.rew "uctk", Coins.amountOf o.rew "uatom"))) = some (35, 15) ∧
    ((findOp (atB 7).s "bob").map (fun o => (Coins.amountOf o.rew "uctk", Coins.amountOf o.rew "uatom"))) = some (54, 24) := by
  decide +kernel

set_option maxRecDepth 100000 in
/-- after the closing block: a late response and a deletion by a stranger are refused, the creator's deletion is accepted;
    the module account then holds 490 uctk against 400 of collateral and 89 of accumulated rewards — the rounding unit stays
    in the account for good (figures only; the inequality is `Props.C14F.module_funded`) -/
example :
    refusal (env 6) (atB 7) (.respond "ab" "c" 10 "bob") = some "oracle:task-closed" ∧
    refusal (env 6) (atB 8) (.deleteTask "ab" "c" true "mallory") = some "oracle:not-creator" ∧
    refusal (env 6) (atB 9) (.deleteTask "ab" "c" true "carol") = none ∧
    (findTask (atB 10).s "abc").isNone = true ∧
    (atB 10).l.balOf "oracle" "uctk" = 490 ∧ collSum (atB 10).s.ops "uctk" = 400 ∧ rewSum (atB 10).s.ops "uctk" = 89 ∧
    (atB 10).l.balOf "oracle" "uatom" = 40 ∧ rewSum (atB 10).s.ops "uatom" = 39 := by decide +kernel

end Shentu.Props.C15H

#print axioms Shentu.Props.C15H.task_ids_not_injective
#print axioms Shentu.Props.C15H.distinct_ids_distinct_tasks_fails
#print axioms Shentu.Props.C15H.aggregated_at_most_once
#print axioms Shentu.Props.C15H.leaves_pending_only_at_closing
#print axioms Shentu.Props.C15H.finished_never_changes
#print axioms Shentu.Props.C15H.finished_never_changes_untimed_fails
#print axioms Shentu.Props.C15H.responses_only_while_open
#print axioms Shentu.Props.C15H.rewards_within_bounty
#print axioms Shentu.Props.C15H.rewards_credited_once
#print axioms Shentu.Props.C15H.only_creator_deletes
#print axioms Shentu.Props.C15H.replaced_only_after_closing
#print axioms Shentu.Props.C15H.no_response_task_fails
#print axioms Shentu.C15HH.inv_step
#print axioms Shentu.C15HH.inv_init
