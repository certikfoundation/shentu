import Shentu.Model.Shield
import Shentu.Model.Oracle
import Shentu.Proofs.ShieldExpiry
import Shentu.Proofs.ShieldCollBasic
/-
  C20 — Exported state re-imports to an equivalent chain.

  The models' states are the exported records themselves, so "export then import" is the identity on everything that the
  genesis files carry; what an import *rebuilds* is what needs a proof:
  * x/shield re-creates the withdraw queue by inserting the exported withdrawals one by one (`InitGenesis` →
    `InsertWithdrawQueue`): `rebuild_queue` shows the result is the exported queue, entry for entry, in the same order;
  * x/shield does not export the block fees (they are always handed out before a block ends): `block_fees_zero_after_endBlock`;
  * x/oracle exports height-indexed deadlines relative to the export height and re-bases them at the import height, which
    Tendermint's convention places one block later: `deadline_moves_one_block` (and `Oracle.matures_one_block_later` in
    `Props/C20G.lean`) — same amounts, same recipients, one block later, nothing lost;
  * `continuation_equal`: any two chains whose states are equal compute equal states under the same further operations —
    the step functions are functions of the state (and of nothing else), which is what the correspondence checks validate.
  The comparison of real instances (export, import, export again; same further blocks on both) is the differential part.
-/
namespace Shentu.Props.C20
open Shentu

open Shield in
def sortedByTime : List Withdraw → Prop
  | [] => True
  | w :: ws => (∀ x ∈ ws, w.time ≤ x.time) ∧ sortedByTime ws

open Shield in
/-- `InitGenesis`: `for _, withdraw := range data.Withdraws { k.InsertWithdrawQueue(ctx, withdraw) }` -/
def rebuild (ws : List Shield.Withdraw) : List Shield.Withdraw := ws.foldl (fun q w => Shield.insertWithdraw w q) []

open Shield in
theorem insert_at_end (q : List Withdraw) (w : Withdraw) (h : ∀ x ∈ q, x.time ≤ w.time) : insertWithdraw w q = q ++ [w] := by
  induction q with
  | nil => rfl
  | cons x xs ih =>
    have hx : ¬ w.time < x.time := by have := h x (List.mem_cons_self ..); omega
    simp only [insertWithdraw, hx, if_false, List.cons_append]
    rw [ih (fun y hy => h y (List.mem_cons_of_mem _ hy))]

open Shield in
theorem sorted_iff_pairwise (l : List Withdraw) : sortedByTime l ↔ l.Pairwise (fun a b => a.time ≤ b.time) := by
  induction l with
  | nil => simp [sortedByTime]
  | cons x xs ih => simp only [sortedByTime, List.pairwise_cons, ih]

open Shield in
/-- **pending withdrawals survive an export and import unchanged** (amounts, owners, completion times, order): every
    insertion into what has been rebuilt so far goes to the end -/
theorem rebuild_queue (ws : List Shield.Withdraw) (hs : sortedByTime ws) : rebuild ws = ws :=
  Keyed.foldl_append_of_fresh (R := fun a x : Withdraw => a.time ≤ x.time) insert_at_end ws [] ((sorted_iff_pairwise ws).mp hs)

open Shield in
/-- the queue the module maintains is sorted, so the hypothesis of `rebuild_queue` holds for every exported queue -/
theorem insertWithdraw_sorted (q : List Withdraw) (w : Withdraw) (hs : sortedByTime q) : sortedByTime (insertWithdraw w q) :=
  (sorted_iff_pairwise _).mpr <|
    insert_pairwise insertWithdraw (R := fun a b : Withdraw => a.time ≤ b.time) (fun _ => rfl) Coll.insertWithdraw_cons Int.le_trans w q
      (fun y _ => by split <;> omega) ((sorted_iff_pairwise q).mp hs)

open Shield in
theorem completeLoop_blockFees (ws : List Withdraw) (a b : State) (h : completeLoop ws a = .ok b) : b.blockFees = a.blockFees :=
  (completeLoop_star h).lift (R := fun x y => y.2.blockFees = x.2.blockFees) (fun _ => rfl)
    (fun {x y z} (h1 : y.2.blockFees = x.2.blockFees) (h2 : z.2.blockFees = y.2.blockFees) => h2.trans h1)
    (fun hr => by cases hr; rfl)

open Shield in
/-- the block fees are not part of the export: the end-blocker hands them out (into `remaining` and the providers' rewards)
    and leaves none, once fee distribution has started (`lastUpdate` is set by the first purchase or by genesis) -/
theorem block_fees_zero_after_distribution (e : Env) (s s1 : State) (hl : s.lastUpdate ≠ zeroTime)
    (h : expireAndDistribute e s = .ok s1) : s1.blockFees = Dec.zero :=
  (PoolLm.expireAndDistribute_started hl h).1

open Shield in
theorem block_fees_zero_after_endBlock (e : Env) (s s' : State) (hl : s.lastUpdate ≠ zeroTime) (h : endBlock e s = .ok s') :
    s'.blockFees = Dec.zero := by
  obtain ⟨s1, s2, h1, h2, rfl⟩ := PoolLm.endBlock_ok h
  exact (completeLoop_blockFees _ _ _ h2).trans (block_fees_zero_after_distribution e s s1 hl h1)

open Oracle in
/-- `GetAllWithdrawsForExport`: the due block relative to the export height -/
def exportWd (h : Int) (w : Oracle.Withdraw) : Oracle.Withdraw := { w with due := w.due - h }
open Oracle in
/-- `InitGenesis`: `withdraw.DueBlock += ctx.BlockHeight()` -/
def importWd (h : Int) (w : Oracle.Withdraw) : Oracle.Withdraw := { w with due := w.due + h }

/-- exported after block `h`, imported as the start of block `h + 1` (Tendermint's convention): the same withdrawal —
    same operator, same coins — due exactly one block later -/
theorem deadline_moves_one_block (h : Int) (w : Oracle.Withdraw) :
    importWd (h + 1) (exportWd h w) = { w with due := w.due + 1 } := by
  simp only [importWd, exportWd]; congr 1; omega

/-- exporting the imported state at its own height gives the same relative record again: export ∘ import ∘ export = export -/
theorem reexport_same (h : Int) (w : Oracle.Withdraw) : exportWd (h + 1) (importWd (h + 1) (exportWd h w)) = exportWd h w := by
  simp [importWd, exportWd]

/-- whatever the operations are, two chains in equal states stay equal: the next state is a function of the state and the
    operation (for the models this is true by construction; for the implementation it is what C10's restart runs and the
    per-step correspondence checks validate) -/
theorem continuation_equal {S Op : Type} (step : S → Op → S) (ops : List Op) (s imported : S) (h : imported = s) :
    ops.foldl step imported = ops.foldl step s := by rw [h]

example : sortedByTime [⟨"a", 5, 10⟩, ⟨"b", 7, 10⟩, ⟨"a", 1, 12⟩] := by
  simp [sortedByTime]
example : rebuild [⟨"a", 5, 10⟩, ⟨"b", 7, 10⟩, ⟨"a", 1, 12⟩] = [⟨"a", 5, 10⟩, ⟨"b", 7, 10⟩, ⟨"a", 1, 12⟩] := by decide
example : importWd 101 (exportWd 100 ⟨"op", [("uctk", 5)], 130⟩) = ⟨"op", [("uctk", 5)], 131⟩ := by
  simp [importWd, exportWd]

end Shentu.Props.C20
