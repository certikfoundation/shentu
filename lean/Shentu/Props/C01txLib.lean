import Shentu.Proofs.C01txExamples
/-
  The library model of the CVM message path (`Model/Cvm.lean`: a fixed set of programs known by kind) against the
  interpreter-backed model (`Model/CvmTx.lean`: the same bytecode run through `EVM.execTop`).

  On the example state of `Proofs/VmRuns.lean` the two are evaluated side by side by the kernel.  For the kinds
  "forward", "suicideTo", "none" (no code), "revert" and "invalid", four values (0, 3, the caller's whole balance, more than
  the balance) and six targets named in the calldata (two users, an address without account, contracts that stop, revert,
  abort) both models fail, or both succeed with the same balances in both denominations at every address of the state and the
  same addresses holding code.  This is a refinement by evaluation on a family of 120 calls, not a general theorem; the
  general statement proved about the interpreter-backed model is in `Props/C01tx.lean`.  The two places where the models are
  known to differ are kept as theorems.  Nothing is assumed.
-/
namespace Shentu.Props.C01txLib
open Shentu Shentu.EVM Shentu.CvmTx Shentu.CvmTxH Shentu.CvmTxH.Ex

/-- the kinds are what `Cvm.kindAt` says of the library state, and the codes are the same bytes -/
theorem kinds : Cvm.kindAt lib0 "8192" = "forward" ∧ Cvm.kindAt lib0 "20480" = "suicideTo" ∧ Cvm.kindAt lib0 "12288" = "none" ∧
    Cvm.kindAt lib0 "32768" = "revert" ∧ Cvm.kindAt lib0 "36864" = "invalid" := by decide

/-- kind "forward": CALL with the call's value to the address in the calldata -/
theorem forward_agrees : ∀ v ∈ [0, 3, 100, 101], ∀ t ∈ [A, T, NEW, CR, REV, BAD], agree FWD v t = true := library_runs.1

/-- kind "suicideTo": SELFDESTRUCT to the address in the calldata -/
theorem suicideTo_agrees : ∀ v ∈ [0, 3, 100, 101], ∀ t ∈ [A, T, NEW, CR, REV, BAD], agree SD v t = true := library_runs.2.1

/-- kind "none": a callee without code (the calldata must then be empty in both models: both refuse these calls, and both
    accept the plain transfer, which is `ex_transfer` of `Props/C01tx.lean`) -/
theorem none_agrees : ∀ v ∈ [0, 3, 100, 101], ∀ t ∈ [A, T, NEW, CR, REV, BAD], agree T v t = true := library_runs.2.2.1

/-- kind "revert" -/
theorem revert_agrees : ∀ v ∈ [0, 3, 100, 101], ∀ t ∈ [A, T, NEW, CR, REV, BAD], agree REV v t = true := library_runs.2.2.2.1

/-- kind "invalid" -/
theorem invalid_agrees : ∀ v ∈ [0, 3, 100, 101], ∀ t ∈ [A, T, NEW, CR, REV, BAD], agree BAD v t = true := library_runs.2.2.2.2.1

/-- the whole family: five kinds, four values, six targets -/
theorem library_agrees_with_interpreter :
    ∀ callee ∈ [FWD, SD, T, REV, BAD], ∀ v ∈ [0, 3, 100, 101], ∀ t ∈ [A, T, NEW, CR, REV, BAD], agree callee v t = true := by
  intro callee hc
  simp only [List.mem_cons, List.not_mem_nil, or_false] at hc
  rcases hc with h | h | h | h | h <;> subst h
  · exact forward_agrees
  · exact suicideTo_agrees
  · exact none_agrees
  · exact revert_agrees
  · exact invalid_agrees

/-- the family is not trivial: some of its calls succeed and move coins, some fail -/
example : errOf (vmCall FWD 3 T) = "" ∧ bondAfter (vmCall FWD 3 T) T = 4 ∧ errOf (vmCall FWD 101 T) ≠ "" ∧
    bondAfter (vmCall SD 3 A) A = 109 := library_runs.2.2.2.2.2.1

/-- where the two differ (1): the library model does not know the blocked-address rule of the write-back — a SELFDESTRUCT
    naming the module account succeeds there and credits it, while the interpreter-backed model fails the transaction -/
theorem library_lacks_blocked_rule :
    (match libCall SD 0 MOD with | .ok (l, _) => l.balOf "28672" "uctk" | .error _ => -1) = 59 ∧
    errOf (vmCall SD 0 MOD) = "cvm:blocked-recipient" := library_runs.2.2.2.2.2.2.1

/-- where the two differ (2): the interpreter model treats the addresses up to 0xff as native contracts outside its scope.  A
    forward to the forwarding contract itself (whose inner frame, entered with empty calldata, calls address 0) is "outside
    the model" there, while the library model sends the value on to the address named by the empty word and succeeds -/
theorem interpreter_excludes_native_range :
    errOf (vmCall FWD 1 FWD) = "cvm:vm-status" ∧ (match libCall FWD 1 FWD with | .ok _ => true | .error _ => false) = true :=
  library_runs.2.2.2.2.2.2.2

end Shentu.Props.C01txLib

#print axioms Shentu.Props.C01txLib.kinds
#print axioms Shentu.Props.C01txLib.forward_agrees
#print axioms Shentu.Props.C01txLib.suicideTo_agrees
#print axioms Shentu.Props.C01txLib.none_agrees
#print axioms Shentu.Props.C01txLib.revert_agrees
#print axioms Shentu.Props.C01txLib.invalid_agrees
#print axioms Shentu.Props.C01txLib.library_agrees_with_interpreter
#print axioms Shentu.Props.C01txLib.library_lacks_blocked_rule
#print axioms Shentu.Props.C01txLib.interpreter_excludes_native_range
