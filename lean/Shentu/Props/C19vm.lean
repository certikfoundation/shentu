import Shentu.Proofs.C19vmRun
import Shentu.Props.C01tx
/-
  C19 at the level of the VM model and of the chain-level transaction over it: **an account that does not execute code can
  only gain coins while the interpreter runs**, apart from the value of the outermost call, which is taken from the
  outermost caller.  Hence coins that are locked in an ordinary account (a ManualVestingAccount never holds code: the real
  code refuses a locked send to a contract and a deployment onto an existing account) cannot leave it through any
  execution the account starts: whatever the callee does — re-entrancy, CALL / CALLCODE / DELEGATECALL / STATICCALL,
  CREATE / CREATE2, SELFDESTRUCT, failing frames — the account ends with at least its balance minus the value, and the
  value was checked to be spendable.

  What is proved, for every program, input, gas, call tree (any nesting depth of the model), derivation oracle `Env.fresh`,
  every setting of the deviation switches `Quirks`, and every pre-state — no hypothesis on the cache (it need not be keyed
  nor bounded) and none on the instructions executed:
   * `passive_accounts_only_gain`: an address whose account, if it has one, has no code, and in whose name the outermost
     frame does not execute (it is not the outermost callee, or the outermost code is empty), holds after `execTop` at
     least what it held before, minus the outermost value if it is the outermost caller of a CALL-type frame;
     `bystanders_only_gain` is the case of an address that is not the caller; `passive_accounts_stay` says that such an
     account is still there afterwards and still has no code (in particular it cannot be created over);
   * the same as an invariant of the interpreter loop and of the frames (`step_passive`, `run_passive`,
     `runFrame_passive`, `runDepth_passive`): every place that debits an account debits the account in whose name the
     frame executes (`env.callee`: the value of CALL / CALLCODE / CREATE is taken from it in the child's `openFrame`,
     SELFDESTRUCT moves its balance), a DELEGATECALL / CALLCODE callee executes in the CURRENT account's name, and a CALL to an
     account without code executes nothing;
   * `tx_codeless_caller_keeps_balance_minus_value` and `tx_respects_lock_for_codeless_caller`: in the bank, after a
     successful `CvmTx.tx` whose caller has no code — ANY callee, call or deployment — the caller's bond balance is at least
     its balance before minus the value, hence at least its locked amount.  The bound on the cache that
     `C01tx.tx_respects_lock_partial` takes as a hypothesis is `codeless_caller_cache_bound`; for a caller with code it is
     false (`C01tx.tx_caller_keeps_balance_minus_value_fails`).

  The invariant is "`Passive a b` of the frame's accounts UNLESS the frame has an error in its sink", not `Passive a b` alone:
  a CREATE whose derived address has an account puts DuplicateAddress into the creator's sink and still runs the
  constructor, in the existing account's name (`create_collision_aborts_creator`).  Inside that doomed frame a codeless account
  IS debited (`doomed_frame_debits_codeless_account`: the unconditional invariant is false); the frame ends with the
  error, its cache is dropped, and `execTop` hands back the pre-state.  The other recorded deviations do not touch the
  property: `call_creates_empty_account` creates an account at an address that had none, an unpayable CALL runs the callee
  and then fails the frame, SELFDESTRUCT to self does nothing.

  What is assumed for the chain-level corollaries: `WF` and `Cfg.Inj` as in `Props/C01tx.lean`, and that the caller's store
  entry, if there is one, has no code.  Property theorems only; the work is in `Shentu/Proofs/VmKeeps.lean` and
  `Shentu/Proofs/C19vmRun.lean`.
-/
namespace Shentu.Props.C19vm
open Shentu Shentu.EVM Shentu.CvmTx Shentu.CvmTxH Shentu.LockVmH

/-- what a callee frame is trusted with.  The frame does not execute in `a`'s name, or has no code to execute.  Its value is
    not taken from `a`.  Started on a cache in which `a` has a codeless account with at least `b` coins, it hands back —
    when it reports success — a cache in which `a` has a codeless account with at least `b` coins. -/
def ChildOK (a b : Nat) (child : ChildFn) : Prop :=
  ∀ (env : Env) (g : Nat) (w : World) (rm : List Nat), (env.callee ≠ a ∨ env.code.size = 0) → (env.callType ≤ 1 → env.caller ≠ a) →
    Passive a b w → (child env g w rm).status = 0 → (child env g w rm).err = none → Passive a b (child env g w rm).world

/-- One iteration of the interpreter loop of a frame that does not execute in `a`'s name, given callees that keep the promise.
    If the frame has no error in its sink before, then afterwards it has an error in its sink, or `a` still has a codeless
    account with at least `b` coins. -/
theorem step_passive (a b : Nat) (child : ChildFn) (hc : ChildOK a b child) (env : Env) (hcal : env.callee ≠ a) (s : Frame)
    (hw : s.err.isSome = true ∨ Passive a b s.world) :
    (step child env s).val.2.err.isSome = true ∨ Passive a b (step child env s).val.2.world :=
  (passive_writes (fun env g w rm hG => hc env g w rm hG.1 hG.2) env hcal).step s hw

/-- The whole loop, for any fuel.  Moreover a loop that ends the frame without error leaves no error in the sink, so then
    `a` has its codeless account with at least `b` coins. -/
theorem run_passive (a b : Nat) (child : ChildFn) (hc : ChildOK a b child) (env : Env) (hcal : env.callee ≠ a) (fuel : Nat)
    (s : Frame) (hw : Passive a b s.world) (ret : ByteArray) (hdone : (run child env fuel s).1 = .done ret none) :
    Passive a b (run child env fuel s).2.world :=
  run_done_keeps failed_doom (passive_writes (fun env g w rm hG => hc env g w rm hG.1 hG.2) env hcal).step fuel s (.inr hw) hdone

/-- A frame (value transfer, then the code) keeps the promise, given callees that do. -/
theorem runFrame_passive (a b : Nat) (child : ChildFn) (hc : ChildOK a b child) : ChildOK a b (runFrame child) :=
  fun env g w rm h1 h2 => runFrame_childOK (fun env g w rm hG => hc env g w rm hG.1 hG.2) env g w rm ⟨h1, h2⟩

/-- … at every nesting depth. -/
theorem runDepth_passive (a b : Nat) : ∀ d : Nat, ChildOK a b (runDepth d) :=
  fun d env g w rm h1 h2 => runDepth_childOK d env g w rm ⟨h1, h2⟩

/-- **Accounts that do not execute only gain.**  Take any execution and any address `a`.  Assume that `a`'s account, if it has
    one, has no code.  Assume that the outermost frame does not execute in `a`'s name: `a` is not the outermost callee, or
    the outermost code is empty.  Then `a` holds afterwards at least what it held before, minus the outermost value if `a` is
    the outermost caller and the outermost frame transfers value (call types CALL and CALLCODE). -/
theorem passive_accounts_only_gain (env : Env) (gas : Nat) (pre : World) (depth : Nat) (a : Nat)
    (hcode : ∀ acc, pre.get a = some acc → acc.code.size = 0) (hcallee : env.callee ≠ a ∨ env.code.size = 0) :
    balOf pre a ≤ balOf (execTop env gas pre depth).world a + (if env.caller = a ∧ env.callType ≤ 1 then env.value else 0) :=
  execTop_only_gain env gas pre depth a hcode hcallee

/-- A codeless address that is neither the outermost caller nor the outermost callee never loses. -/
theorem bystanders_only_gain (env : Env) (gas : Nat) (pre : World) (depth : Nat) (a : Nat)
    (hcode : ∀ acc, pre.get a = some acc → acc.code.size = 0) (hcallee : env.callee ≠ a) (hcaller : env.caller ≠ a) :
    balOf pre a ≤ balOf (execTop env gas pre depth).world a := by
  have := execTop_only_gain env gas pre depth a hcode (.inl hcallee)
  have hn : ¬ (env.caller = a ∧ env.callType ≤ 1) := fun h => hcaller h.1
  rw [if_neg hn] at this
  exact this

/-- A codeless account in whose name the outermost frame does not execute is still there afterwards and still has no code.
    In particular no CREATE / CREATE2 of the execution installs code at its address. -/
theorem passive_accounts_stay (env : Env) (gas : Nat) (pre : World) (depth : Nat) (a : Nat) (acc : Account)
    (hacc : pre.get a = some acc) (hcode : acc.code.size = 0) (hcallee : env.callee ≠ a ∨ env.code.size = 0) :
    ∃ acc', (execTop env gas pre depth).world.get a = some acc' ∧ acc'.code.size = 0 := by
  obtain ⟨acc', h1, h2, _⟩ := execTop_passive (b := 0) env gas pre depth hcallee ⟨acc, hacc, hcode, Nat.zero_le _⟩
  exact ⟨acc', h1, h2⟩

variable {c : Cfg} {l l' : Ledger} {vs : Vesting.Accounts} {st st' : Store} {m : Msg}

/-- **A caller without code loses at most the value.**  After a successful transaction — a call of any contract or a
    deployment, whatever the code does — the bank's bond balance of a caller whose account has no code is at least its
    balance before minus the value of the message. -/
theorem tx_codeless_caller_keeps_balance_minus_value (hinj : c.Inj) (hwf : WF c l st)
    (hcode : ∀ acc, World.get st m.caller = some acc → acc.code.size = 0) (h : tx c l vs st m = .ok (l', st')) :
    l'.balOf (c.nm m.caller) c.bond ≥ l.balOf (c.nm m.caller) c.bond - (m.value : Int) := by
  obtain ⟨_, h2, _, _, h5, _⟩ := Props.C01tx.tx_ok_shape h
  have hvm := codeless_caller_cache_bound h2 hcode h5
  rw [Props.C01tx.tx_bank_is_cache hinj hwf h, Props.C01tx.bank_is_cache_before hwf]
  omega

/-- **C19 for every program, for a caller without code**: after a successful transaction that carries value the caller's
    bond balance is at least its locked amount.  The spendable check of `tx` leaves the locked amount in the balance before
    the execution; the execution takes at most the value. -/
theorem tx_respects_lock_for_codeless_caller (hinj : c.Inj) (hwf : WF c l st) (hv : 0 < m.value)
    (hcode : ∀ acc, World.get st m.caller = some acc → acc.code.size = 0) (h : tx c l vs st m = .ok (l', st')) :
    l'.balOf (c.nm m.caller) c.bond ≥ Vesting.lockedOf vs (c.nm m.caller) c.bond :=
  Int.le_trans (Props.C01tx.tx_respects_lock hv h) (tx_codeless_caller_keeps_balance_minus_value hinj hwf hcode h)

/-- A transaction without value takes nothing from a caller without code. -/
theorem tx_without_value_codeless_caller_only_gains (hinj : c.Inj) (hwf : WF c l st) (hv : m.value = 0)
    (hcode : ∀ acc, World.get st m.caller = some acc → acc.code.size = 0) (h : tx c l vs st m = .ok (l', st')) :
    l'.balOf (c.nm m.caller) c.bond ≥ l.balOf (c.nm m.caller) c.bond := by
  have := tx_codeless_caller_keeps_balance_minus_value hinj hwf hcode h
  rw [hv] at this
  simpa using this

section examples
open Shentu.CvmTxH.Ex Shentu.LockVmH.Ex

/-- the hypotheses of the chain-level theorems hold of the example state: injective rendering, well-formed, balanced, and the
    caller `A` (like the bystander `T`) has a store entry without code -/
example : c0.Inj ∧ WF c0 l2 st2 ∧ l2.invB = true ∧
    (∀ acc, World.get st2 mK.caller = some acc → acc.code.size = 0) ∧ (∀ acc, World.get st2 T = some acc → acc.code.size = 0) :=
  ⟨c0_inj, wf2, by decide, by decide, by decide⟩

/-- the hypotheses of `passive_accounts_only_gain` hold of the loaded cache of that state, for the caller and for the bystander -/
example : (∀ acc, World.get (loadWorld c0 l2 st2) A = some acc → acc.code.size = 0) ∧ (envOf st2 mK).callee ≠ A ∧
    (∀ acc, World.get (loadWorld c0 l2 st2) T = some acc → acc.code.size = 0) ∧ (envOf st2 mK).callee ≠ T ∧ (envOf st2 mK).caller ≠ T := by
  decide

/-- the hypotheses of the frame-level theorems (`step_passive`, `run_passive`, `runFrame_passive`) are satisfiable: the callees of
    the model keep the promise (at any depth, here 8), the contract's frame does not execute in the user's name, and in the
    loaded cache — also as the accounts of a fresh frame — the user has a codeless account with 100 coins -/
example : ChildOK A 100 (runDepth 8) ∧ (envOf st2 mK).callee ≠ A ∧ Passive A 100 (loadWorld c0 l2 st2) ∧
    Passive A 100 ({ gas := 100000, world := loadWorld c0 l2 st2 } : Frame).world :=
  ⟨runDepth_passive A 100 8, by decide, ⟨{ addr := A, balance := 100 }, rfl, by decide, by decide⟩,
   ⟨{ addr := A, balance := 100 }, rfl, by decide, by decide⟩⟩

/-- **a contract that re-enters, forwards and self-destructs, between a codeless caller and a codeless bystander.**  The user
    `A` (100 coins) calls `K` (7 coins) with 3 coins; `K` calls itself with the 3 coins; the inner frame sends 2 coins to the
    bystander `T` (1 coin) and self-destructs in favour of `A`.  The transaction succeeds, SELFDESTRUCT was executed, `K` ends
    with nothing and without code, `T` with 3, `A` with 100 − 3 + 8 = 105 ≥ 100 − 3; balances add up to the supply. -/
theorem ex_reenter_forward_selfdestruct :
    errOf (tx c0 l2 [] st2 mK) = "" ∧ (vmRun c0 l2 st2 mK).seen &&& (1 <<< 0xff) ≠ 0 ∧
    bondAfter (tx c0 l2 [] st2 mK) A = 105 ∧ bondAfter (tx c0 l2 [] st2 mK) T = 3 ∧ bondAfter (tx c0 l2 [] st2 mK) K = 0 ∧
    codeAfter (tx c0 l2 [] st2 mK) K = some 0 ∧ invAfter (tx c0 l2 [] st2 mK) = true := lock_runs.1

/-- the same at the level of the interpreter's cache: the balances `passive_accounts_only_gain` and `bystanders_only_gain` speak about -/
theorem ex_reenter_cache :
    balOf (loadWorld c0 l2 st2) A = 100 ∧ balOf (vmRun c0 l2 st2 mK).world A = 105 ∧
    balOf (loadWorld c0 l2 st2) T = 1 ∧ balOf (vmRun c0 l2 st2 mK).world T = 3 := lock_runs.2.1

/-- the lock: with 99 of the user's 100 coins locked the same call with a value of 3 is refused before anything runs; with a
    value of 1 it passes (hypotheses of `tx_respects_lock_for_codeless_caller`) and the user ends above the locked amount -/
theorem ex_lock_contract_call : errOf (tx c0 l2 vsLocked st2 mK) = "bank:insufficient-funds" ∧
    Vesting.lockedOf vsLocked (c0.nm A) "uctk" = 99 ∧ errOf (tx c0 l2 vsLocked st2 { mK with value := 1 }) = "" ∧
    bondAfter (tx c0 l2 vsLocked st2 { mK with value := 1 }) A = 105 := lock_runs.2.2.1

/-- **inside a doomed frame a codeless account IS debited** (so the invariant must be conditional on the error sink).  The
    contract `K` executes CREATE; the derivation oracle answers the address of the user `A`, who has an account (100 coins,
    no code).  DuplicateAddress goes into the creator's sink and the constructor still runs, in `A`'s name: it sends 5 of
    `A`'s coins to `T`.  The creator's frame ends with the error and with a cache in which `A` holds 95; `execTop` drops
    that cache, so after the execution `A` holds its 100. -/
theorem doomed_frame_debits_codeless_account :
    (runFrame (runDepth 8) envCol 100000 wCol []).err = some .duplicateAddress ∧
    balOf wCol A = 100 ∧ balOf (runFrame (runDepth 8) envCol 100000 wCol []).world A = 95 ∧
    balOf (runFrame (runDepth 8) envCol 100000 wCol []).world T = 6 ∧
    balOf (execTop envCol 100000 wCol).world A = 100 := lock_runs.2.2.2

/-- … hence "a codeless account in whose name the frame does not execute keeps its balance in the frame's cache, whatever the
    frame reports" is false of the model; `runFrame_passive` has the condition "reports success" for this reason -/
theorem runFrame_passive_unconditional_fails :
    ¬ (∀ (a b : Nat) (env : Env) (g : Nat) (w : World), env.callee ≠ a → env.caller ≠ a → Passive a b w →
        Passive a b (runFrame (runDepth 8) env g w []).world) := by
  intro hall
  have h := hall A 100 envCol 100000 wCol (by decide) (by decide) ⟨{ addr := A, balance := 100 }, rfl, by decide, by decide⟩
  have h2 := passive_balOf h
  rw [doomed_frame_debits_codeless_account.2.2.1] at h2
  omega

end examples

end Shentu.Props.C19vm

#print axioms Shentu.Props.C19vm.step_passive
#print axioms Shentu.Props.C19vm.run_passive
#print axioms Shentu.Props.C19vm.runFrame_passive
#print axioms Shentu.Props.C19vm.runDepth_passive
#print axioms Shentu.Props.C19vm.passive_accounts_only_gain
#print axioms Shentu.Props.C19vm.bystanders_only_gain
#print axioms Shentu.Props.C19vm.passive_accounts_stay
#print axioms Shentu.Props.C19vm.tx_codeless_caller_keeps_balance_minus_value
#print axioms Shentu.Props.C19vm.tx_respects_lock_for_codeless_caller
#print axioms Shentu.Props.C19vm.tx_without_value_codeless_caller_only_gains
#print axioms Shentu.Props.C19vm.ex_reenter_forward_selfdestruct
#print axioms Shentu.Props.C19vm.ex_reenter_cache
#print axioms Shentu.Props.C19vm.ex_lock_contract_call
#print axioms Shentu.Props.C19vm.doomed_frame_debits_codeless_account
#print axioms Shentu.Props.C19vm.runFrame_passive_unconditional_fails
