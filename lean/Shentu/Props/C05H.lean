import Shentu.Proofs.C05HLemmas
import Shentu.Props.C03a
/-
  C05 over histories — shield claims as the governance module drives them.

  "A shield claim proposal is accepted only if the proposer holds the referenced purchase in the referenced pool,
   that purchase's protection has not ended, its remaining shield covers the loss, and the initial deposit is at
   least the larger of the minimum claim deposit and the deposit rate times the loss.  On acceptance exactly the
   loss is moved from that purchase, its pool and the total shield into the amount locked for claims; when the
   proposal ends the locked amount is released, and unless the claim was paid or vetoed the shield is restored to
   that same purchase."

  Shentu/Props/C05.lean proves these sentences for ONE step.  This file proves them over EVERY message-level history.

  The history model (Shentu/Proofs/C05HLemmas.lean).  A history is a list of `HOp`:
   * `accept e pid pool holder purchase loss duration deposit` — a claim proposal is submitted.  The admission check
     `claimAdmissible` runs, then the lock `secureCollaterals`, on the same state.  If the proposal id was used before,
     or either refuses, nothing changes.  Otherwise the claim is entered in the ghost log of open claims.
   * `ends e pid outcome` — governance's end-blocker ends proposal `pid`.  `claimEnds` runs with the pool, proposer,
     purchase and loss that the ghost log RECORDED at acceptance.  If `pid` is not open nothing changes.
     If `claimEnds` refuses (a payout that panics) or the outcome is `failed`, nothing changes and the claim stays open.
     Otherwise the claim moves from the open log to the list of ended proposal ids.
   * `msg m` — one of the other messages, hooks and block functions of the module (`Msg`), passed to `C03a.step`.
  The keeper functions `secureCollaterals`, `claimEnd`, `restoreShield`, `createReimbursement`, `claimEnds` do not occur
  on their own: they run only inside `accept` and `ends`.

  What is assumed.  One predicate on the start state, `Inv`: the locked amount `totalClaimed` equals the sum of the open
  losses in the ghost log, no proposal id occurs twice among the open claims or among the ended ones, and no open claim
  carries an ended id.  The state with an empty log and `totalClaimed = 0` satisfies it (`init_inv`); every step
  preserves it (`step_preserves_inv`).  Nothing is assumed about amounts, parameters, pools or the other books.

  What is proved, for every history, every start state with `Inv`, every environment in every step:
   (a) `locked_is_sum_of_open_claims`  the locked amount is the sum of the losses of the open claims;
   (b) `locks_undone`                  when no claim is open the locked amount is zero;
   (c) `each_claim_locked_once_released_once`  every step changes log and lock in one of three ways (nothing; one fresh
       claim opened, exactly its loss locked; one open claim closed, exactly its loss released); ids stay distinct;
       an ended id is never open again; `used_pid_never_accepted`, `ends_of_closed_pid_is_noop`;
   (d) `accepted_only_if_admissible`   every open claim was admitted by `claimAdmissible` in the state in which it was
       accepted, with the four admission facts of C05 spelled out;
   (e) `rejected_claim_restores_same_purchase`  accept, any number of other steps, rejected end: the purchase has its
       shield back.  Frame condition: no step in between ends this proposal, and the purchase and its pool READ the same
       before the end as right after the acceptance;
   (f) `history_is_C03a_history`      a message-level history is a history of `C03a` (same ledger, same store);
   (g) `failed_end_keeps_claim_open`   an end with outcome `failed`, or one whose payout refuses, changes nothing at all:
       the claim stays open and its loss stays locked (and stays counted in (a)).
-/
namespace Shentu.Props.C05H
open Shentu Shentu.Shield Shentu.Shield.PoolLm Shentu.C05H

/-- a start state: the given ledger and store, with an empty ghost log -/
def init (l : Ledger) (s : State) : HState := { l := l, s := s, g := { pending := [], ended := [] } }

/-- a store in which nothing is locked, with an empty log, satisfies the invariant -/
theorem init_inv (l : Ledger) (s : State) (h : s.totalClaimed = 0) : Inv (init l s) :=
  ⟨by rw [show (init l s).s.totalClaimed = s.totalClaimed from rfl, h]; rfl, List.nodup_nil, List.nodup_nil,
    fun _ hc => nomatch hc⟩

/-- every step of a history preserves the invariant -/
theorem step_preserves_inv (op : HOp) (x : HState) (hi : Inv x) : Inv (hstep op x) := hstep_inv op x hi

/-- every history preserves the invariant -/
theorem history_preserves_inv (ops : List HOp) (x : HState) (hi : Inv x) : Inv (hrun ops x) := hrun_inv ops x hi

/-- non-vacuity: `C03b.demo` with an empty log satisfies the invariant; so does a store with 15 locked and two open
    claims of 10 and 5 in the log -/
example : Inv (init C03b.demoLedger C03b.demo) := init_inv _ _ rfl
example : Inv { l := C03b.demoLedger, s := { C03b.demo with totalClaimed := 15 },
                g := { pending := [⟨8, 1, "bb", 2, 5, 50, 0⟩, ⟨7, 1, "aa", 1, 10, 50, 0⟩], ended := [3] } } := by
  constructor <;> decide +kernel

/-! ## (a), (b): the lock is the sum of the open claims -/

/-- **(a)** After every history the amount locked for claims equals the sum of the losses of the claims that were
    accepted and have not ended.  The start state may be any state whose ghost log agrees with its store (`Inv`). -/
theorem locked_is_sum_of_open_claims (ops : List HOp) (x : HState) (hi : Inv x) :
    (hrun ops x).s.totalClaimed = sumLoss (hrun ops x).g.pending := (hrun_inv ops x hi).locked

/-- (a) from a chain start: nothing locked, empty log -/
theorem locked_is_sum_of_open_claims_from_start (ops : List HOp) (l : Ledger) (s : State) (h : s.totalClaimed = 0) :
    (hrun ops (init l s)).s.totalClaimed = sumLoss (hrun ops (init l s)).g.pending :=
  locked_is_sum_of_open_claims ops _ (init_inv l s h)

/-- **(b)** When no claim is open, nothing is locked: every lock taken along the history has been undone. -/
theorem locks_undone (ops : List HOp) (x : HState) (hi : Inv x) (hnone : (hrun ops x).g.pending = []) :
    (hrun ops x).s.totalClaimed = 0 := by
  rw [locked_is_sum_of_open_claims ops x hi, hnone]; rfl

/-- no message, hook or block function other than `accept` and `ends` changes the locked amount -/
theorem messages_leave_lock (m : Msg) (x : HState) : (hstep (.msg m) x).s.totalClaimed = x.s.totalClaimed :=
  msg_totalClaimed m x.l x.s

/-! ## (c): each claim is locked once and released once -/

/-- **(c)** Along every history, each step does one of three things to the ghost log and the lock (`Delta`):
    it leaves both alone; or it opens ONE claim whose proposal id was never used and locks exactly its loss; or it closes
    ONE open claim, moves its id to the ended ids and releases exactly its loss.
    At every point the open claims have pairwise distinct ids and so have the ended ones, and no open claim has an ended id.
    An id that has ended stays ended, so it is never open again.
    Hence an accepted proposal contributes `+loss` exactly once and `−loss` at most once. -/
theorem each_claim_locked_once_released_once (pre post : List HOp) (op : HOp) (x : HState) (hi : Inv x) :
    Delta (hrun pre x) (hrun (pre ++ [op]) x) ∧
    ((hrun pre x).g.pending.map (·.pid)).Nodup ∧ (hrun pre x).g.ended.Nodup ∧
    (∀ pid ∈ (hrun pre x).g.ended,
      pid ∈ (hrun (pre ++ post) x).g.ended ∧ pid ∉ (hrun (pre ++ post) x).g.pending.map (·.pid)) := by
  have hpre := hrun_inv pre x hi
  refine ⟨?_, hpre.openNodup, hpre.endedNodup, ?_⟩
  · rw [hrun_append]; exact hstep_delta op _
  · intro pid hp
    rw [hrun_append]
    have hend := hrun_ended_mono post _ hp
    refine ⟨hend, ?_⟩
    intro hm
    rcases List.mem_map.mp hm with ⟨c, hc, hcp⟩
    exact (hrun_inv post _ hpre).disjoint c hc (hcp ▸ hend)

/-- the open and the ended proposal ids together have no duplicates, at the end of every history -/
theorem ids_never_reused (ops : List HOp) (x : HState) (hi : Inv x) :
    ((hrun ops x).g.pending.map (·.pid) ++ (hrun ops x).g.ended).Nodup := by
  have h := hrun_inv ops x hi
  refine List.nodup_append.mpr ⟨h.openNodup, h.endedNodup, ?_⟩
  intro a ha b hb hab
  rcases List.mem_map.mp ha with ⟨c, hc, hcp⟩
  exact h.disjoint c hc (hcp ▸ hab ▸ hb)

/-- an `accept` that names a proposal id of an open or ended claim changes nothing -/
theorem used_pid_never_accepted (e : Env) (pid pool : Nat) (holder : Addr) (purchase : Nat) (loss dur deposit : Int)
    (x : HState) (hu : x.g.usedPid pid = true) : hstep (.accept e pid pool holder purchase loss dur deposit) x = x :=
  acceptStep_used hu

/-- an `ends` for a proposal id that is not open (never accepted, or ended before) changes nothing -/
theorem ends_of_closed_pid_is_noop (e : Env) (pid : Nat) (o : ClaimOutcome) (x : HState)
    (h : pid ∉ x.g.pending.map (·.pid)) : hstep (.ends e pid o) x = x := by
  apply endsStep_notOpen
  apply List.find?_eq_none.mpr
  intro c hc hcp
  exact h (List.mem_map.mpr ⟨c, hc, by simpa using hcp⟩)

/-! ## (d): accepted only if admissible -/

/-- **(d)** Every open claim at the end of a history was open at the start or was accepted by a step of the history.
    In the second case the history splits at that step.  In the state reached before it the proposal id was unused and
    `claimAdmissible` admitted the claim with the recorded arguments.  The four admission facts of C05 held in that state:
    the holder's purchase list of that pool contains the purchase; its protection had not ended at the block time of the
    submission; its remaining shield covered the loss; the deposit was at least the minimum claim deposit and at least
    rate × loss. -/
theorem accepted_only_if_admissible (ops : List HOp) (x : HState) {c : Claim} (hc : c ∈ (hrun ops x).g.pending) :
    c ∈ x.g.pending ∨ ∃ pre post e dur,
      ops = pre ++ HOp.accept e c.pid c.pool c.holder c.purchase c.loss dur c.deposit :: post ∧ c.time = e.t ∧
      (hrun pre x).g.usedPid c.pid = false ∧
      claimAdmissible (hrun pre x).s c.time c.holder c.pool c.purchase c.loss c.deposit = none ∧
      ∃ en, findPurchase (hrun pre x).s c.pool c.holder c.purchase = some en ∧ c.time ≤ en.endTime ∧ c.loss ≤ en.shield ∧
        (hrun pre x).s.params.claimMinDeposit ≤ c.deposit ∧
        (Dec.mul (Dec.ofInt c.loss) (hrun pre x).s.params.claimDepositRate).raw ≤ (Dec.ofInt c.deposit).raw := by
  rcases hrun_pending_origin ops x hc with h | ⟨pre, post, e, dur, hops, ht, hu, hadm, _⟩
  · exact Or.inl h
  · rw [← ht] at hadm
    exact Or.inr ⟨pre, post, e, dur, hops, ht, hu, hadm, (C05.admitted_iff' _ _ _ _ _ _ _).mp hadm⟩

/-- (d) from a chain start (empty log): every open claim was accepted by a step of the history, admissibly -/
theorem accepted_only_if_admissible_from_start (ops : List HOp) (l : Ledger) (s : State) {c : Claim}
    (hc : c ∈ (hrun ops (init l s)).g.pending) :
    ∃ pre post e dur, ops = pre ++ HOp.accept e c.pid c.pool c.holder c.purchase c.loss dur c.deposit :: post ∧ c.time = e.t ∧
      claimAdmissible (hrun pre (init l s)).s c.time c.holder c.pool c.purchase c.loss c.deposit = none := by
  rcases accepted_only_if_admissible ops (init l s) hc with h | ⟨pre, post, e, dur, hops, ht, _, hadm, _⟩
  · cases h
  · exact ⟨pre, post, e, dur, hops, ht, hadm⟩

/-! ## (g): an end that fails changes nothing -/

/-- **(g)** `claimEnds` can fail in two ways: the outcome is `failed` (the proposal passed but its handler returned an
    error: governance discards the handler's writes), or the outcome is `paid` and `createReimbursement` refuses.
    In both cases the step changes nothing: store, ledger and log are as before.  The claim stays open, its loss stays
    locked (`C05.failed_keeps_lock`), and it stays counted in `locked_is_sum_of_open_claims`. -/
theorem failed_end_keeps_claim_open (e : Env) (pid : Nat) (o : ClaimOutcome) (x : HState)
    (h : o = .failed ∨ ∀ c, x.g.pending.find? (·.pid == pid) = some c →
      ∃ err, claimEnds e x.l x.s pid c.pool c.holder c.holder c.purchase c.loss o = .error err) :
    hstep (.ends e pid o) x = x := endsStep_stuck e pid o x h

/-- and an end that does not fail closes the claim: with distinct ids, the open claim `c` leaves the log, its id joins
    the ended ids, and exactly its loss is released -/
theorem successful_end_closes_claim (e : Env) (o : ClaimOutcome) (x : HState) (hi : Inv x) {c : Claim}
    (hc : c ∈ x.g.pending) {l' : Ledger} {s' : State}
    (hce : claimEnds e x.l x.s c.pid c.pool c.holder c.holder c.purchase c.loss o = .ok (l', s')) (ho : o ≠ .failed) :
    (hstep (.ends e c.pid o) x).s = s' ∧ (hstep (.ends e c.pid o) x).l = l' ∧
    c ∉ (hstep (.ends e c.pid o) x).g.pending ∧ c.pid ∈ (hstep (.ends e c.pid o) x).g.ended ∧
    s'.totalClaimed = x.s.totalClaimed - c.loss := by
  rw [endsStep_ok (find_of_key hi.openNodup hc) hce ho]
  refine ⟨rfl, rfl, ?_, List.mem_cons_self, C05.release_on_end hce ho⟩
  intro hm
  have := (List.mem_filter.mp hm).2
  simp at this

/-! ## (e): accept, anything, rejected end -/

/-- **(e)** A claim is accepted in `x` (fresh id, admitted, lock taken: state `x1`).  Any history `mid` follows that
    does not end this proposal (state `x2`).  Then the proposal ends `rejected` (state `x3`).
    Frame condition: the purchase and its pool read the same in `x2` as in `x1` — what happened in between (other
    claims, purchases, deposits, blocks) did not touch that purchase's entry or that pool's record.
    Then the shield is restored to that same purchase: it reads as before the acceptance, except that its deletion time
    keeps the extension of the lock.  The pool reads as before the acceptance.  Exactly the loss is released from the
    lock and added back to the total shield.  Every other purchase and pool reads as in `x2`.  The claim is closed. -/
theorem rejected_claim_restores_same_purchase (x : HState) (hi : Inv x) (e e' : Env) (pid pool : Nat) (holder : Addr)
    (purchase : Nat) (loss dur deposit : Int) (mid : List HOp) {s1 : State}
    (hfresh : x.g.usedPid pid = false)
    (hadm : claimAdmissible x.s e.t holder pool purchase loss deposit = none)
    (hlock : secureCollaterals e x.s pool holder purchase loss dur = .ok s1)
    (hmid : ∀ op ∈ mid, ∀ e'' o, op ≠ HOp.ends e'' pid o)
    (hframe : findPurchase (hrun mid (hstep (.accept e pid pool holder purchase loss dur deposit) x)).s pool holder purchase
                = findPurchase s1 pool holder purchase ∧
              findPool (hrun mid (hstep (.accept e pid pool holder purchase loss dur deposit) x)).s pool = findPool s1 pool) :
    let x2 := hrun mid (hstep (.accept e pid pool holder purchase loss dur deposit) x)
    let x3 := hstep (.ends e' pid .rejected) x2
    ∃ en, findPurchase x.s pool holder purchase = some en ∧ e.t ≤ en.endTime ∧ loss ≤ en.shield ∧
      findPurchase x3.s pool holder purchase = some { en with delTime := max en.delTime (e.t + dur) } ∧
      findPool x3.s pool = findPool x.s pool ∧
      x3.s.totalClaimed = x2.s.totalClaimed - loss ∧ x3.s.totalShield = x2.s.totalShield + loss ∧
      (∀ pool' holder' id', ¬(pool' = pool ∧ holder' = holder ∧ id' = purchase) →
        findPurchase x3.s pool' holder' id' = findPurchase x2.s pool' holder' id') ∧
      (∀ pool', pool' ≠ pool → findPool x3.s pool' = findPool x2.s pool') ∧
      pid ∈ x3.g.ended ∧ pid ∉ x3.g.pending.map (·.pid) := by
  intro x2 x3
  have hx1 := acceptStep_ok (pid := pid) hfresh hadm hlock
  have hi1 : Inv (hstep (.accept e pid pool holder purchase loss dur deposit) x) := hstep_inv _ x hi
  let c : Claim := { pid := pid, pool := pool, holder := holder, purchase := purchase, loss := loss, time := e.t, deposit := deposit }
  have hc1 : c ∈ (hstep (.accept e pid pool holder purchase loss dur deposit) x).g.pending := by
    rw [hx1]; exact List.mem_cons_self
  -- the claim is still open, under its id, after `mid`
  have hi2 : Inv x2 := hrun_inv mid _ hi1
  have hc2 : c ∈ x2.g.pending := hrun_pending_keeps mid _ hc1 hmid
  have hfind : x2.g.pending.find? (·.pid == pid) = some c := find_of_key hi2.openNodup hc2
  have hce : claimEnds e' x2.l x2.s pid pool holder holder purchase loss .rejected
      = .ok (x2.l, claimEnd (restoreShield x2.s pool holder purchase loss) loss) := rfl
  have hx3 : x3 = { l := x2.l, s := claimEnd (restoreShield x2.s pool holder purchase loss) loss,
                    g := { pending := x2.g.pending.filter (·.pid != pid), ended := pid :: x2.g.ended } } :=
    endsStep_ok (c := c) hfind hce (by decide)
  -- reads after the lock, carried over `mid` by the frame condition
  rcases (C05.admitted_iff' _ _ _ _ _ _ _).mp hadm with ⟨en, hen, ht, hsh, _, _⟩
  rcases C05.lock_exact_reads hlock hen with ⟨r1, _, ⟨p, hfp, r3⟩, _, _, _⟩
  have hen2 : findPurchase x2.s pool holder purchase = some (lockedEntry e en loss dur) := hframe.1.trans r1
  have hfp2 : findPool x2.s pool = some { p with shield := p.shield - loss } := hframe.2.trans r3
  rcases C05.rejected_restores_reads hce hfp2 hen2 with ⟨q1, q2, q3, q4, q5, q6⟩
  have hs3 : x3.s = claimEnd (restoreShield x2.s pool holder purchase loss) loss := by rw [hx3]
  refine ⟨en, hen, ht, hsh, ?_, ?_, by rw [hs3]; exact q6, by rw [hs3]; exact q5, ?_, ?_, ?_, ?_⟩
  · rw [hs3, q1, PoolLm.lockedEntry_restored]
  · rw [hs3, q3, hfp, PoolLm.pool_restored]
  · intro pool' holder' id' hne; rw [hs3]; exact q2 pool' holder' id' hne
  · intro pool' hne; rw [hs3]; exact q4 pool' hne
  · rw [hx3]; exact List.mem_cons_self
  · rw [hx3]
    intro hm
    rcases List.mem_map.mp hm with ⟨c', hc', hcp⟩
    have := (List.mem_filter.mp hc').2
    simp [hcp] at this

/-- the frame condition of (e) follows from a step-by-step one: if every step of `mid` leaves the two reads alone,
    so does `mid` -/
theorem frame_of_stepwise (pool : Nat) (holder : Addr) (purchase : Nat) (mid : List HOp) (x1 : HState)
    (hstepwise : ∀ k, k < mid.length →
      findPurchase (hrun (mid.take (k + 1)) x1).s pool holder purchase = findPurchase (hrun (mid.take k) x1).s pool holder purchase ∧
      findPool (hrun (mid.take (k + 1)) x1).s pool = findPool (hrun (mid.take k) x1).s pool) :
    findPurchase (hrun mid x1).s pool holder purchase = findPurchase x1.s pool holder purchase ∧
    findPool (hrun mid x1).s pool = findPool x1.s pool := by
  have key : ∀ k, k ≤ mid.length →
      findPurchase (hrun (mid.take k) x1).s pool holder purchase = findPurchase x1.s pool holder purchase ∧
      findPool (hrun (mid.take k) x1).s pool = findPool x1.s pool := by
    intro k
    induction k with
    | zero => intro _; exact ⟨rfl, rfl⟩
    | succ k ih =>
      intro hk
      have h1 := hstepwise k (by omega)
      have h2 := ih (by omega)
      exact ⟨h1.1.trans h2.1, h1.2.trans h2.2⟩
  have := key mid.length (Nat.le_refl _)
  rwa [List.take_length] at this

/-! ## (f): a message-level history is a history of `C03a` -/

/-- **(f)** Every message-level history is a history of `C03a`: its ledger and store are reached by a list of `C03a` operations
    that is no longer than the history.  `accept` contributes `secureCollaterals` or nothing, `ends` contributes
    `claimEnds` with the recorded arguments or nothing, a message contributes itself.  So whatever `C03a` proves about
    all its histories holds along message-level histories too. -/
theorem history_is_C03a_history (ops : List HOp) (x : HState) :
    ∃ ops' : List C03a.Op, ops'.length ≤ ops.length ∧ ((hrun ops x).l, (hrun ops x).s) = C03a.run ops' (x.l, x.s) :=
  hrun_refines ops x

/-! ## non-vacuity: two overlapping claims on `C03b.demo`, one rejected, one paid -/

namespace Ex
open C03b

/-- block time 50; claim 7 (purchase 1 of "aa", loss 10) and claim 8 (purchase 2 of "bb", loss 5) overlap; in between
    "aa" buys more shield, a block ends, a second `accept` re-uses id 7, and an `ends` names the unknown id 9;
    claim 7 is rejected, claim 8 is paid -/
def hist : List HOp :=
  [.accept demoEnv 7 1 "aa" 1 10 100 0,
   .accept demoEnv 8 1 "bb" 2 5 100 0,
   .msg (.purchase demoEnv 1 [("uctk", 10)] "aa" false),
   .accept demoEnv 7 1 "bb" 2 1 100 0,
   .ends demoEnv 9 .rejected,
   .msg (.endBlock demoEnv),
   .ends demoEnv 7 .rejected,
   .ends demoEnv 8 .paid]

def x0 : HState := init demoLedger demo

/-- what the examples look at: locked amount, total shield, open (id, loss), ended ids -/
def view (x : HState) : Int × Int × List (Nat × Int) × List Nat :=
  (x.s.totalClaimed, x.s.totalShield, x.g.pending.map (fun c => (c.pid, c.loss)), x.g.ended)

/-- the log and the lock along the history (prefixes of length 1, 2, 4, 7, 8) -/
example : view (hrun (hist.take 1) x0) = (10, 60, [(7, 10)], []) := by decide +kernel
example : view (hrun (hist.take 2) x0) = (15, 55, [(8, 5), (7, 10)], []) := by decide +kernel
example : view (hrun (hist.take 4) x0) = (15, 65, [(8, 5), (7, 10)], []) := by decide +kernel
example : view (hrun (hist.take 7) x0) = (5, 75, [(8, 5)], [7]) := by decide +kernel
example : view (hrun hist x0) = (0, 75, [], [8, 7]) := by decide +kernel

/-- the rejected claim gave the shield back to purchase 1 of "aa" (50, deletion time extended to 150); the paid claim
    did not give it back to purchase 2 of "bb" (15 of 20), and created a reimbursement of 5 -/
example : ((findPurchase (hrun hist x0).s 1 "aa" 1).map (fun p => (p.shield, p.delTime)),
           (findPurchase (hrun hist x0).s 1 "bb" 2).map (fun p => (p.shield, p.delTime)),
           (hrun hist x0).s.reimbs.map (fun r => (r.pid, r.amount))) =
    (some (50, 150), some (15, 200), [(8, 5)]) := by decide +kernel

/-- the store after the lock of claim 7 on `demo` -/
def s1 : State :=
  match secureCollaterals demoEnv x0.s 1 "aa" 1 10 100 with
  | .ok s => s
  | .error _ => x0.s

theorem s1_lock : secureCollaterals demoEnv x0.s 1 "aa" 1 10 100 = .ok s1 := by
  unfold s1
  cases h : secureCollaterals demoEnv x0.s 1 "aa" 1 10 100 with
  | ok s => rfl
  | error err =>
    have : C03a.Ex.isOk (secureCollaterals demoEnv x0.s 1 "aa" 1 10 100) = true := by decide +kernel
    rw [h] at this; cases this

/-- steps between the acceptance and the end of claim 7 that leave purchase 1 of "aa" and pool 1 alone: a deposit of
    collateral, an `ends` for an unknown id, block rewards, the end of a block -/
def mid : List HOp :=
  [.msg (.deposit demoEnv "cc" [("uctk", 5)]), .ends demoEnv 9 .vetoed, .msg (.fundBlockRewards demoEnv "ad" 3),
   .msg (.endBlock demoEnv)]

/-- non-vacuity of (e): every hypothesis holds for claim 7 on `demo` with `mid` in between, so the theorem applies;
    its conclusion, evaluated: purchase 1 reads 50 again (deletion time 150), pool 1 reads 70 again -/
example :
    let x2 := hrun mid (hstep (.accept demoEnv 7 1 "aa" 1 10 100 0) x0)
    let x3 := hstep (.ends demoEnv 7 .rejected) x2
    ∃ en, findPurchase x0.s 1 "aa" 1 = some en ∧ demoEnv.t ≤ en.endTime ∧ 10 ≤ en.shield ∧
      findPurchase x3.s 1 "aa" 1 = some { en with delTime := max en.delTime (demoEnv.t + 100) } ∧
      findPool x3.s 1 = findPool x0.s 1 ∧
      x3.s.totalClaimed = x2.s.totalClaimed - 10 ∧ x3.s.totalShield = x2.s.totalShield + 10 ∧
      (∀ pool' holder' id', ¬(pool' = 1 ∧ holder' = "aa" ∧ id' = 1) →
        findPurchase x3.s pool' holder' id' = findPurchase x2.s pool' holder' id') ∧
      (∀ pool', pool' ≠ 1 → findPool x3.s pool' = findPool x2.s pool') ∧
      7 ∈ x3.g.ended ∧ 7 ∉ x3.g.pending.map (·.pid) := by
  refine rejected_claim_restores_same_purchase x0 (init_inv _ _ rfl) demoEnv demoEnv 7 1 "aa" 1 10 100 0 mid
    (by decide +kernel) (by decide +kernel) s1_lock ?_ ?_
  · intro op hop e'' o heq
    subst heq
    simp [mid] at hop
  · rw [acceptStep_ok (pid := 7) (deposit := 0) (x := x0) (by decide +kernel) (by decide +kernel) s1_lock]
    unfold s1
    decide +kernel

example : ((findPurchase (hstep (.ends demoEnv 7 .rejected) (hrun mid (hstep (.accept demoEnv 7 1 "aa" 1 10 100 0) x0))).s 1 "aa" 1).map
             (fun p => (p.shield, p.delTime)),
           (findPool (hstep (.ends demoEnv 7 .rejected) (hrun mid (hstep (.accept demoEnv 7 1 "aa" 1 10 100 0) x0))).s 1).map (·.shield)) =
    (some (50, 150), some 70) := by decide +kernel

/-- the frame condition of (e) is a real restriction: in `hist` claim 8 and the purchase change the record of pool 1
    between the acceptance and the end of claim 7 (the purchase entry itself is left alone) -/
example :
    findPurchase (hrun ((hist.drop 1).take 5) (hrun (hist.take 1) x0)).s 1 "aa" 1 = findPurchase (hrun (hist.take 1) x0).s 1 "aa" 1 ∧
    findPool (hrun ((hist.drop 1).take 5) (hrun (hist.take 1) x0)).s 1 ≠ findPool (hrun (hist.take 1) x0).s 1 := by decide +kernel

/-- non-vacuity of (g): with the collateral gone, the payout of the open claim 7 refuses; the step changes nothing -/
def stuck : HState :=
  { l := demoLedger, s := { demo with totalCollateral := 0, totalClaimed := 10 },
    g := { pending := [⟨7, 1, "aa", 1, 10, 50, 0⟩], ended := [] } }

example : Inv stuck := by constructor <;> decide +kernel
example : ∀ c, stuck.g.pending.find? (·.pid == 7) = some c →
    ∃ err, claimEnds demoEnv stuck.l stuck.s 7 c.pool c.holder c.holder c.purchase c.loss .paid = .error err := by
  intro c hc
  have : c = ⟨7, 1, "aa", 1, 10, 50, 0⟩ := by
    have h : stuck.g.pending.find? (·.pid == 7) = some ⟨7, 1, "aa", 1, 10, 50, 0⟩ := by decide +kernel
    rw [h] at hc; injection hc with hc; exact hc.symm
  subst this
  exact ⟨_, rfl⟩
example : view (hstep (.ends demoEnv 7 .paid) stuck) = (10, 70, [(7, 10)], []) := by decide +kernel
example : view (hstep (.ends demoEnv 7 .failed) (hrun (hist.take 2) x0)) = (15, 55, [(8, 5), (7, 10)], []) := by decide +kernel

end Ex

end Shentu.Props.C05H

#print axioms Shentu.Props.C05H.init_inv
#print axioms Shentu.Props.C05H.step_preserves_inv
#print axioms Shentu.Props.C05H.history_preserves_inv
#print axioms Shentu.Props.C05H.locked_is_sum_of_open_claims
#print axioms Shentu.Props.C05H.locked_is_sum_of_open_claims_from_start
#print axioms Shentu.Props.C05H.locks_undone
#print axioms Shentu.Props.C05H.messages_leave_lock
#print axioms Shentu.Props.C05H.each_claim_locked_once_released_once
#print axioms Shentu.Props.C05H.ids_never_reused
#print axioms Shentu.Props.C05H.used_pid_never_accepted
#print axioms Shentu.Props.C05H.ends_of_closed_pid_is_noop
#print axioms Shentu.Props.C05H.accepted_only_if_admissible
#print axioms Shentu.Props.C05H.accepted_only_if_admissible_from_start
#print axioms Shentu.Props.C05H.failed_end_keeps_claim_open
#print axioms Shentu.Props.C05H.successful_end_closes_claim
#print axioms Shentu.Props.C05H.rejected_claim_restores_same_purchase
#print axioms Shentu.Props.C05H.frame_of_stepwise
#print axioms Shentu.Props.C05H.history_is_C03a_history
#print axioms Shentu.Props.C05H.Ex.s1_lock
