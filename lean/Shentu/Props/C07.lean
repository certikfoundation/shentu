import Shentu.Proofs.C07PLemmas
/-
  C07 — Collateral leaves the pool only after the full withdrawal period.

  Vocabulary (Shentu/Proofs/ShieldColl*.lean): `collOf s a` is the collateral recorded for `a`, `qsum s a` the total
  `a` has queued, `dueBy a T q` the part of it that matures by `T`; `Req` is a logged request (who, how much, when),
  `logSum P log a T` the amount `a` requested at or before `T − P`.  `Op`, `step`, `run` are the histories of C03a
  (Shentu/Proofs/ShieldMachine.lean); `Ghost`, `gstep`, `grun`, `Timed`, `GhostInv` stand at the end of ShieldCollSteps.
-/
namespace Shentu.Props.C07
open Shentu Shentu.Shield Shentu.Shield.Coll Shentu.Props.C03a

/-! ## "a request can never exceed the provider's collateral not already being withdrawn" -/

/-- `WithdrawCollateral` with a non-zero amount succeeds exactly when the address is a provider and the amount is
    within its collateral not already being withdrawn -/
theorem request_bounded (e : Env) (s : State) (a : Addr) (amount : Int) (h0 : amount ≠ 0) :
    (∃ s', withdrawCollateral e s a amount = .ok s') ↔
      ∃ p, findProvider s a = some p ∧ amount ≤ p.collateral - p.withdrawing :=
  withdrawCollateral_succeeds_iff e s a amount h0

/-- the same for the message `MsgWithdrawCollateral`: it succeeds exactly when the coins are valid (all positive, only
    the bond denomination — then the amount is positive) and the amount is within the provider's free collateral -/
theorem request_bounded_msg (e : Env) (s : State) (a : Addr) (coins : Coins) :
    (∃ s', withdraw e s a coins = .ok s') ↔
      (Coins.isAllPositive coins = true ∧ (Coins.denoms coins).any (· != e.bond) = false ∧ 0 < Coins.amountOf coins e.bond ∧
       ∃ p, findProvider s a = some p ∧ Coins.amountOf coins e.bond ≤ p.collateral - p.withdrawing) := by
  simp only [withdraw_eq, err_guard_iff, exists_and_left, Bool.not_eq_false']
  constructor
  · rintro ⟨h1, h2, h⟩
    have hp := Coins.amountOf_pos_of_allPositive coins e.bond h1 h2
    exact ⟨h1, h2, hp, (request_bounded e s a _ (by omega)).mp h⟩
  · rintro ⟨h1, h2, hp, h⟩
    exact ⟨h1, h2, (request_bounded e s a _ (by omega)).mpr h⟩

/-- the withdrawal forced by the staking hooks is exactly the collateral not being withdrawn that exceeds the new
    stake, so it is within the collateral not already being withdrawn as well -/
theorem forced_request_bounded (e : Env) (s s' : State) (a : Addr) (staked : Int) (h : stakingHook e s a staked = .ok s') :
    ∀ r ∈ hookLog e s a staked, ∃ p, findProvider s a = some p ∧ r.addr = a ∧ r.time = e.t ∧
      r.amount = p.collateral - p.withdrawing - staked ∧ 0 < r.amount ∧ r.amount ≤ p.collateral - p.withdrawing := by
  intro r hr
  rcases stakingHook_log h with ⟨h0, _⟩ | ⟨p, hf, hw, hst, h1, _⟩
  · rw [h0] at hr; cases hr
  · rw [h1, List.mem_singleton] at hr; subst hr
    exact ⟨p, hf, rfl, rfl, rfl, hw, by simp only; omega⟩

/-- a successful request raises the provider's withdrawing amount by exactly the amount and leaves its collateral alone -/
theorem request_books (e : Env) (s s' : State) (a : Addr) (amount : Int) (h : withdrawCollateral e s a amount = .ok s') :
    wdgOf s' a = wdgOf s a + amount ∧ ∀ b, collOf s' b = collOf s b := by
  rcases withdrawCollateral_ok h with ⟨h0, h1⟩ | ⟨h0, p, hf, hle, h1⟩
  · rw [h1, h0]; exact ⟨by omega, fun _ => rfl⟩
  · subst h1
    refine ⟨?_, requested_collOf hf⟩
    rw [wdgOf_update hf (p' := { p with withdrawing := p.withdrawing + amount }) (findProvider_some hf).2 rfl, wdgOf_found hf]
    simp

/-! ## "a withdrawal request that has waited at least the configured withdraw period" -/

/-- a successful request adds exactly one entry — the requested amount, completing a full withdraw period after the
    block time — and changes no other entry: the new queue is the old one with the entry put in (as a multiset, and
    as a list: between two untouched parts of the old queue) -/
theorem request_enqueued_at_full_period (e : Env) (s s' : State) (a : Addr) (amount : Int) (h0 : amount ≠ 0)
    (h : withdrawCollateral e s a amount = .ok s') :
    s'.withdraws.Perm ({ addr := a, amount := amount, time := e.t + s.params.withdrawPeriod } :: s.withdraws) ∧
    ∃ l1 l2, s.withdraws = l1 ++ l2 ∧
      s'.withdraws = l1 ++ { addr := a, amount := amount, time := e.t + s.params.withdrawPeriod } :: l2 := by
  rcases withdrawCollateral_ok h with ⟨h1, _⟩ | ⟨_, p, hf, hle, h1⟩
  · exact absurd h1 h0
  · subst h1
    refine ⟨insertWithdraw_perm _ _, ?_⟩
    obtain ⟨l1, l2, g1, g2, _, _⟩ := insertWithdraw_split { addr := a, amount := amount, time := e.t + s.params.withdrawPeriod } s.withdraws
    exact ⟨l1, l2, g1, g2⟩

/-- the same for the message -/
theorem request_enqueued_msg (e : Env) (s s' : State) (a : Addr) (coins : Coins) (h : withdraw e s a coins = .ok s') :
    s'.withdraws.Perm ({ addr := a, amount := Coins.amountOf coins e.bond, time := e.t + s.params.withdrawPeriod } :: s.withdraws) := by
  have hs := withdraw_ok h
  exact (request_enqueued_at_full_period e s s' a _ (by omega) hs.2).1

/-- the same for the withdrawal forced by the staking hooks: the queue grows by exactly the logged requests, each
    completing a full period after the block time -/
theorem forced_enqueued_at_full_period (e : Env) (s s' : State) (a : Addr) (staked : Int) (h : stakingHook e s a staked = .ok s') :
    s'.withdraws.Perm ((hookLog e s a staked).map (fun r => { addr := r.addr, amount := r.amount, time := r.time + s.params.withdrawPeriod })
      ++ s.withdraws) := by
  rcases stakingHook_log h with ⟨h0, h1⟩ | ⟨p, _, _, _, h0, rfl⟩ <;> rw [h0]
  · rw [h1]; exact List.Perm.refl _
  · exact insertWithdraw_perm _ _

/-! ## "Delays imposed for open claims only postpone releases, never advance, duplicate or drop them" -/

/-- `DelayWithdraws` for provider `a` up to time `t`: as multisets, the new queue is the old one with some entries of `a`
    that matured by `t` moved to `t` (nothing duplicated, nothing dropped, nothing advanced); consequently, for every
    provider and every time `T` the amount maturing by `T` does not increase and the pending total is unchanged; the
    entries of the other providers are untouched, in their order. -/
theorem delay_only_postpones (s s' : State) (a : Addr) (amount t : Int) (hpos : ∀ w ∈ s.withdraws, 0 < w.amount)
    (h : delayWithdraws s a amount t = .ok s') :
    (∃ moved rest, s.withdraws.Perm (moved ++ rest) ∧ s'.withdraws.Perm (moved.map (retime t) ++ rest) ∧
        ∀ w ∈ moved, w.addr = a ∧ w.time ≤ t) ∧
    (∀ b T, dueBy b T s'.withdraws ≤ dueBy b T s.withdraws) ∧
    (∀ b, qsum s' b = qsum s b) ∧
    s'.withdraws.filter (fun w => w.addr != a) = s.withdraws.filter (fun w => w.addr != a) ∧
    s'.providers = s.providers := by
  obtain ⟨q', h1, h2, h3⟩ := delayWithdraws_spec h
  subst h1
  have hp := h2.postponed
  refine ⟨h2, hp.early hpos, fun b => hp.total _ (fun _ _ => rfl), ?_, rfl⟩
  exact h3 _ (by intro w hw; simp [hw])

/-- what the three layers above `DelayWithdraws` guarantee about the queue (`Postponed`): sums over classes of entries that do
    not look at the time are unchanged, nothing matures earlier, every new entry is an old one (same owner, same
    amount) at the same or a later time and conversely, same number of entries; nothing else in the books changes -/
theorem secureFromProvider_only_postpones (e : Env) (s s' : State) (p : Provider) (amount duration : Int)
    (h : secureFromProvider e s p amount duration = .ok s') :
    Postponed s.withdraws s'.withdraws ∧ s'.providers = s.providers ∧
      s'.withdraws.filter (fun w => w.addr != p.addr) = s.withdraws.filter (fun w => w.addr != p.addr) := by
  have hd := secureFromProvider_delayLike h
  refine ⟨hd.queue, hd.provs, ?_⟩
  rcases secureFromProvider_ok h with h1 | ⟨amt, h1⟩
  · rw [h1]
  · obtain ⟨q', g1, _, g3⟩ := delayWithdraws_spec h1
    subst g1
    exact g3 _ (by intro w hw; simp [hw])

theorem secureLoop_only_postpones (e : Env) (ratio : Dec) (duration : Int) (ps : List Provider) (rem : Int) (s s' : State)
    (h : secureLoop e ratio duration ps rem s = .ok s') : Postponed s.withdraws s'.withdraws ∧ s'.providers = s.providers := by
  have hd := secureLoop_delayLike h
  exact ⟨hd.queue, hd.provs⟩

/-- `SecureCollaterals` (claim submission): for every provider and every time, the amount maturing by that time does not
    increase and the pending total is unchanged; no provider's collateral or withdrawing amount changes -/
theorem secureCollaterals_only_postpones (e : Env) (s s' : State) (poolID : Nat) (purchaser : Addr) (purchaseID : Nat)
    (loss duration : Int) (hpos : ∀ w ∈ s.withdraws, 0 < w.amount)
    (h : secureCollaterals e s poolID purchaser purchaseID loss duration = .ok s') :
    Postponed s.withdraws s'.withdraws ∧ (∀ b T, dueBy b T s'.withdraws ≤ dueBy b T s.withdraws) ∧
      (∀ b, qsum s' b = qsum s b) ∧ s'.providers = s.providers := by
  have hd := secureCollaterals_delayLike h
  exact ⟨hd.queue, hd.queue.early hpos, fun b => hd.queue.total _ (fun _ _ => rfl), hd.provs⟩

/-- `DequeueCompletedWithdrawQueue` at block time `e.t` removes exactly the entries with `time ≤ e.t` — no entry with
    `time > e.t` is touched, the rest of the queue keeps its order — and lowers each provider's collateral (and its
    withdrawing amount) by exactly the sum of its removed entries -/
theorem release_only_matured (e : Env) (s s' : State) (hi : CollInv s) (h : completeWithdrawals e s = .ok s') :
    s'.withdraws = s.withdraws.filter (fun w => !(decide (w.time ≤ e.t))) ∧
    (∀ b, collOf s' b = collOf s b - dueBy b e.t s.withdraws) ∧
    (∀ b, wdgOf s' b = wdgOf s b - dueBy b e.t s.withdraws) ∧
    s'.totalCollateral = s.totalCollateral - sumI (·.amount) (s.withdraws.filter (fun w => decide (w.time ≤ e.t))) := by
  have := completeWithdrawals_spec hi h
  refine ⟨this.2.1, this.2.2.2.1, this.2.2.2.2, ?_⟩
  -- the total: along the loop `totalCollateral` minus what is still to be released is constant
  unfold completeWithdrawals at h
  have hc := (completeLoop_star h).lift
    (R := fun a b => b.2.totalCollateral - sumI (·.amount) b.1 = a.2.totalCollateral - sumI (·.amount) a.1)
    (fun _ => rfl) (fun h1 h2 => h2.trans h1)
    (fun hr => by cases hr; simp only [released, sumI_cons]; omega)
  simp only [sumI_nil] at hc
  omega

/-- the same for the whole `EndBlocker` -/
theorem endBlock_releases_only_matured (e : Env) (s s' : State) (hi : CollInv s) (h : endBlock e s = .ok s') :
    s'.withdraws = s.withdraws.filter (fun w => !(decide (w.time ≤ e.t))) ∧
    (∀ b, collOf s' b = collOf s b - dueBy b e.t s.withdraws) := by
  have := endBlock_spec e s s' hi h
  exact ⟨this.2.1, this.2.2.2.1⟩

/-- the transaction-level operations: everything except the end-blocker / `DequeueCompletedWithdrawQueue` and claim
    payouts (`CreateReimbursement`, a claim that ends `paid`) -/
def isTx (op : Op) : Prop := opCompletes op = none ∧ opPays op = false

/-- no transaction-level operation lowers any provider's collateral (collateral stops counting only through the
    end-blocker's release of matured withdrawals, or through a claim payout) -/
theorem tx_never_releases (op : Op) (w : World) (hi : CollInv w.2) (hadm : op.admissible w.2) (htx : isTx op) :
    ∀ b, collOf w.2 b ≤ collOf (step op w).2 b := by
  intro b
  exact step_ind (P := fun x => collOf w.2 b ≤ collOf x.2 b) op w (Int.le_refl _)
    (fun w' h => (apply_facts op w w' hi hadm h).keep htx.1 htx.2 b)

/-- the ghost does not influence the run -/
theorem grun_fst (ops : List Op) (x : World × Ghost) : (grun ops x).1 = run ops x.1 :=
  (List.foldl_hom (fun x : World × Ghost => x.1) (fun x op => (C07P.gstep_world op x.1 x.2).symm)).symm

theorem gstep_inv (P : Int) (op : Op) (w : World) (g : Ghost) (hi : CollInv w.2) (hP : w.2.params.withdrawPeriod = P)
    (hadm : op.admissible w.2) (ht : ∀ t, opTime op = some t → g.now ≤ t) (hg : GhostInv P g w.2) :
    CollInv (gstep op (w, g)).1.2 ∧ (gstep op (w, g)).1.2.params.withdrawPeriod = P ∧
      GhostInv P (gstep op (w, g)).2 (gstep op (w, g)).1.2 := by
  -- the step of the histories with period changes, run from the ghost tagged with the constant period
  have h := C07P.pstep_op_inv op w (C07P.liftGhost P g) hi hadm ht ((C07P.pinv_lift P g w.2).mpr hg)
  rw [C07P.pstep_lift P op w g hP] at h
  refine ⟨h.1, ?_, (C07P.pinv_lift P _ _).mp h.2⟩
  rw [C07P.gstep_world, C07P.step_period op w]; exact hP

/-- C07, over histories ("by any time T, the collateral released to a provider never exceeds the amounts they requested
    at or before T minus the period"): run any history — messages, staking hooks forcing withdrawals, claim submissions
    delaying them, payouts consuming them, end-blockers with arbitrary non-decreasing block times — from a state and a
    ghost that satisfy the invariant (e.g. an empty queue, see `dominance_from_empty_queue`); then for every provider
    `a`, the amount released to `a` is at most the sum of the amounts `a` requested (explicitly or forced) at least a
    full withdraw period before the current block time.  As `ops` is arbitrary this holds at every point of every history. -/
theorem dominance (P : Int) (ops : List Op) (w : World) (g : Ghost) (hi : CollInv w.2)
    (hP : w.2.params.withdrawPeriod = P) (hadm : Admissible ops w) (htime : Timed ops g.now) (hg : GhostInv P g w.2) :
    ∀ a, (grun ops (w, g)).2.released a ≤ logSum P (grun ops (w, g)).2.log a (grun ops (w, g)).2.now := by
  -- the history is the history with period changes that changes none, run from the ghost tagged with `P`
  have hmain := C07P.prun_inv (ops.map .op) w (C07P.liftGhost P g) hi (C07P.padmissible_ops ops w _ hadm)
    (C07P.ptimed_ops ops g.now htime) ((C07P.pinv_lift P g w.2).mpr hg)
  rw [C07P.prun_ops P ops w g hi hP hadm] at hmain
  intro a
  have h1 := (C07P.pinv_lift P _ _).mp hmain.2 a _ (Int.le_refl _)
  have h2 := dueBy_nonneg a (grun ops (w, g)).2.now _ hmain.1.wdrPos
  omega

/-- `dominance` started from a state with an empty withdrawal queue (e.g. genesis), nothing logged, nothing released -/
theorem dominance_from_empty_queue (ops : List Op) (w : World) (t0 : Int) (hi : CollInv w.2) (hq : w.2.withdraws = [])
    (hadm : Admissible ops w) (htime : Timed ops t0) :
    ∀ a, (grun ops (w, ⟨[], fun _ => 0, t0⟩)).2.released a ≤
      logSum w.2.params.withdrawPeriod (grun ops (w, ⟨[], fun _ => 0, t0⟩)).2.log a (grun ops (w, ⟨[], fun _ => 0, t0⟩)).2.now := by
  apply dominance _ ops w _ hi rfl hadm htime
  intro a T _
  rw [hq]; simp [dueBy]

namespace Ex
open Shentu.Props.C03a.Ex

/-- `request_bounded`: in `s0` provider "a" has 100 of collateral, 30 of it being withdrawn: 70 can be requested, 71 cannot;
    "zz" is no provider -/
example : isOk (withdrawCollateral e60 s0 "a" 70) = true ∧ isOk (withdrawCollateral e60 s0 "a" 71) = false ∧
    isOk (withdrawCollateral e60 s0 "zz" 1) = false ∧ isOk (withdraw e60 s0 "a" [("uctk", 70)]) = true ∧
    isOk (withdraw e60 s0 "a" [("uctk", 71)]) = false := by decide +kernel

/-- `request_enqueued_at_full_period`: block time 60, period 50 — the entry completes at 110 -/
example : (get (withdrawCollateral e60 s0 "a" 70)).withdraws.map (fun w => (w.addr, w.amount, w.time)) =
    [("a", 10, 40), ("a", 20, 70), ("a", 70, 110)] := by decide +kernel

/-- `delay_only_postpones`: its hypotheses hold for `s0` and a delay that moves something -/
example : (∀ w ∈ s0.withdraws, 0 < w.amount) ∧ isOk (delayWithdraws s0 "a" 25 90) = true ∧
    (get (delayWithdraws s0 "a" 25 90)).withdraws.map (fun w => (w.addr, w.amount, w.time)) = [("a", 20, 90), ("a", 10, 90)] ∧
    dueBy "a" 80 s0.withdraws = 30 ∧ dueBy "a" 80 (get (delayWithdraws s0 "a" 25 90)).withdraws = 0 ∧
    dueBy "a" 90 (get (delayWithdraws s0 "a" 25 90)).withdraws = 30 := by decide +kernel

/-- `release_only_matured`: at block time 60 only the entry completing at 40 is released -/
example : CollInv s0 ∧ isOk (completeWithdrawals e60 s0) = true ∧
    (get (completeWithdrawals e60 s0)).withdraws.map (fun w => (w.addr, w.amount, w.time)) = [("a", 20, 70)] ∧
    collOf s0 "a" = 100 ∧ collOf (get (completeWithdrawals e60 s0)) "a" = 90 ∧ dueBy "a" 60 s0.withdraws = 10 := by
  refine ⟨by constructor <;> decide, ?_⟩; decide +kernel

/-- `tx_never_releases` applies to the messages and hooks, e.g. a withdrawal request and a staking change -/
example : isTx (.withdraw e60 "a" [("uctk", 70)]) ∧ isTx (.stakingChanged e60 "a") ∧ isTx (.deposit e60 "c" [("uctk", 7)]) ∧
    isTx (.secureCollaterals e60 1 "x" 1 5 100) ∧ ¬ isTx (.endBlock e60) ∧ ¬ isTx (.claimEnds e60 7 1 "x" "x" 1 90 .paid) := by
  refine ⟨⟨rfl, rfl⟩, ⟨rfl, rfl⟩, ⟨rfl, rfl⟩, ⟨rfl, rfl⟩, ?_, ?_⟩
  · intro h; cases h.1
  · intro h; cases h.2

/-- a state with an empty queue -/
def s1 : State :=
  { s0 with
      withdraws := [], totalWithdrawing := 0,
      providers := [{ addr := "a", collateral := 100, withdrawing := 0, bonded := 100, rewards := Dec.zero },
                    { addr := "b", collateral := 50, withdrawing := 0, bonded := 80, rewards := Dec.zero }] }

def env (t : Int) : Env :=
  { t := t, bond := "uctk", modAddr := "mod", bondedAfter := fun x => if x == "a" then some 40 else none }

/-- "a" requests 30 at time 10, is forced to withdraw 30 more at time 20 (stake drops to 40), a claim delays the later
    entry to 90, then end-blockers at 65, 80 and 100 (and a request that fails) -/
def hist : List Op :=
  [.withdraw (env 10) "a" [("uctk", 30)], .stakingChanged (env 20) "a", .delayWithdraws "a" 5 90, .endBlock (env 65),
   .withdraw (env 70) "a" [("uctk", 999)], .endBlock (env 80), .endBlock (env 100)]

def g0 : Ghost := ⟨[], fun _ => 0, 0⟩

/-- the hypotheses of `dominance_from_empty_queue` hold for this history -/
example : CollInv s1 ∧ s1.withdraws = [] ∧ Admissible hist (l0, s1) ∧ Timed hist 0 := by
  refine ⟨by constructor <;> decide, rfl, ⟨trivial, trivial, trivial, trivial, trivial, trivial, trivial, trivial⟩, ?_⟩
  refine ⟨?_, ?_, ?_, ?_, ?_, ?_, ?_, trivial⟩ <;> intro t ht <;> cases ht <;> decide

/-- and the history is not trivial: two requests are logged (the explicit one and the forced one); at time 80 one of them
    has been released (30 ≤ 60: the other was delayed by the claim), at time 100 both (60 ≤ 60) -/
example : (grun hist ((l0, s1), g0)).2.log = [⟨"a", 30, 10⟩, ⟨"a", 30, 20⟩] ∧
    (grun (hist.take 6) ((l0, s1), g0)).2.released "a" = 30 ∧ logSum 50 (grun (hist.take 6) ((l0, s1), g0)).2.log "a" 80 = 60 ∧
    (grun hist ((l0, s1), g0)).2.released "a" = 60 ∧ logSum 50 (grun hist ((l0, s1), g0)).2.log "a" 100 = 60 ∧
    (grun (hist.take 3) ((l0, s1), g0)).2.released "a" = 0 ∧ logSum 50 (grun (hist.take 3) ((l0, s1), g0)).2.log "a" 20 = 0 := by
  decide +kernel

end Ex

end Shentu.Props.C07
