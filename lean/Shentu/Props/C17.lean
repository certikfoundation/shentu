import Shentu.Proofs.VmLoop
import Shentu.Gen.Determinism
/-
  C17 — contract execution is metered.

  Statements about the executable model `Shentu.EVM` of /repo/vm's interpreter loop: every opcode byte, the call family and
  CREATE / CREATE2 included (callee and constructor frames are run by the `child` the frame is given; the statements hold
  for ANY `child`).  The model takes every cost from `Shentu.Gen.Gas`, which the translator regenerates from vm/op_table.go
  and vm/gas.go on every run; the differential driver (Drivers/VmDriver) checks that model and implementation agree on the
  remaining gas of every generated execution.

  What is stated: (a) the generated gas table and the CREATE case were fully recognised in the source (`tie_sites`,
  `tie_create`); (b) neither an iteration nor a whole run increases the remaining gas or clears the error sink
  (`step_gas_monotone`, `run_gas_monotone`); (c) every regular instruction has a table cost ≥ 1, so an iteration that
  continues has lowered the gas or put an error into the sink (`regular_ops_cost`, `step_costs_at_least_one`); (d) hence with
  initial gas `g` the loop ends within `g + 2` iterations (`run_terminates`); (e) and an instruction whose cost exceeds the
  remaining gas ends the frame with InsufficientGas (`oog_reported`).
-/
namespace Shentu.Props.C17
open Shentu Shentu.EVM

/-- (a) every extraction site of the gas schedule was recognised in the current source -/
theorem tie_sites : Gen.Gas.allFound = true := rfl

/-- (a) the CREATE / CREATE2 case of vm/contract.go as the model reads it: it charges Burrow's `GasCreateAccount` (value taken
    from the Burrow version of go.mod), hands the constructor the creator's own gas object, hashes the creator's code for
    CREATE2, passes the init code as call data, numbers creations with a counter of the CVM, pushes 0 for a failed
    constructor without failing the creator, and reports an address in use through the creator's error sink -/
theorem tie_create :
    Gen.Gas.createAccountGas_found = true ∧ Gen.Gas.createSharesGas_found = true ∧
    Gen.Gas.create2HashesCreatorCode_found = Quirks.impl.create2HashesCreatorCode ∧
    Gen.Gas.createInputIsInitCode_found = Quirks.impl.createInputIsInitCode ∧
    Gen.Gas.createSeqPerVm_found = true ∧ Gen.Gas.createFailurePushesZero_found = true ∧
    Gen.Gas.createCollisionIntoSink_found = Quirks.impl.createCollisionAborts := ⟨rfl, rfl, rfl, rfl, rfl, rfl, rfl⟩

/-- (a') nowhere in the consensus code is a context's gas meter replaced (regenerated inventory: `WithGasMeter`,
    `NewInfiniteGasMeter`, `NewGasMeter` outside tests): the work a transaction causes is charged to the meter baseapp gave it -/
theorem gas_meter_never_replaced : Gen.Determinism.gasMeterSites = [] := rfl


def Strict (s s' : Frame) : Prop := s'.gas + 1 ≤ s.gas ∨ s'.err.isSome = true

theorem Strict.then_inv {a b c : Frame} (h1 : Strict a b) (h2 : Inv b c) : Strict a c := by
  cases h1 with
  | inl h => exact .inl (Nat.le_trans (Nat.add_le_add_right h2.1 1) h)
  | inr h => exact .inr (h2.2 h)

theorem Inv.then_strict {a b c : Frame} (h1 : Inv a b) (h2 : Strict b c) : Strict a c := by
  cases h2 with
  | inl h => exact .inl (Nat.le_trans h h1.1)
  | inr h => exact .inr h

theorem strict_bind {m : M α} {f : α → M β}
    (hm : ∀ s a s1, (m s).val = (some a, s1) → Strict s s1) :
    ∀ s b s', ((m >>= f) s).val = (some b, s') → Strict s s' := by
  intro s b s' h
  obtain ⟨a, s1, h1, h2⟩ := bind_some h
  exact (hm s a s1 h1).then_inv (inv_of h2)


theorem useGas_one_strict (s : Frame) (u : Unit) (s1 : Frame) (h : (useGas 1 s).val = (some u, s1)) : Strict s s1 := by
  unfold useGas at h
  split at h
  · cases h
    exact .inl (show s.gas - 1 + 1 ≤ s.gas by omega)
  · obtain ⟨s2, h2, _, he⟩ := pushErr_val .insufficientGas s
    rw [h2] at h; cases h
    exact .inr he

theorem pop_strict (s : Frame) (a : Nat) (s1 : Frame) (h : (pop s).val = (some a, s1)) : Strict s s1 := by
  unfold pop at h
  exact strict_bind useGas_one_strict s a s1 h

theorem push_strict (w : Nat) (s : Frame) (u : Unit) (s1 : Frame) (h : (push w s).val = (some u, s1)) : Strict s s1 := by
  unfold push at h
  exact strict_bind useGas_one_strict s u s1 h


/-- (b) one iteration of the interpreter loop never increases the remaining gas -/
theorem step_gas_monotone (child : ChildFn) (env : Env) (s : Frame) : (step child env s).val.2.gas ≤ s.gas := (step child env s).property.1

/-- an error, once in the sink, stays there -/
theorem step_error_sticky (child : ChildFn) (env : Env) (s : Frame) (h : s.err.isSome = true) :
    (step child env s).val.2.err.isSome = true :=
  (step child env s).property.2 h

/-- the same for the pieces of an iteration: cost lookup (with its memory growth) and instruction body -/
theorem gasLookUp_gas_monotone (q : Quirks) (self : Nat) (i : Gen.Gas.OpInfo) (s : Frame) : (gasLookUp q self i s).val.2.gas ≤ s.gas :=
  (gasLookUp q self i s).property.1
/-- including CALL / CALLCODE / DELEGATECALL / STATICCALL, whatever the callee does: the refund of the callee's unused
    gas is capped by what the frame had before the call (`withRefund`) -/
theorem exec_gas_monotone (child : ChildFn) (env : Env) (op : Nat) (s : Frame) : (exec child env op s).val.2.gas ≤ s.gas :=
  (exec child env op s).property.1

/-- (b) a whole run never increases the remaining gas -/
theorem run_gas_monotone (child : ChildFn) (env : Env) : ∀ (fuel : Nat) (s : Frame), (run child env fuel s).2.gas ≤ s.gas :=
  fun fuel s => (run_inv child env fuel s).1


/-- the side condition as a computation over the generated table -/
def regularOK : Bool :=
  (List.range 256).all fun op => isHalting op || isFree op || decide (1 ≤ (infoOf op).static)

theorem regularOK_true : regularOK = true := by decide +kernel

/-- (c) the decidable side condition on the generated table: outside the halting instructions and EXP / RETURNDATACOPY /
    CHAINID / SSTORE / LOG0-4 / DELEGATECALL / CREATE2 / STATICCALL, every instruction — CREATE included — has a static cost ≥ 1 -/
theorem regular_ops_cost_table (op : Nat) (h : op < 256) (h2 : isHalting op = false)
    (h3 : isFree op = false) : 1 ≤ (infoOf op).static := by
  have hall := regularOK_true
  unfold regularOK at hall
  rw [List.all_eq_true] at hall
  have := hall op (List.mem_range.mpr h)
  simpa [h2, h3] using this

theorem regular_ops_cost (op : Nat) (h : op < 256) (h2 : isHalting op = false) (h3 : isFree op = false) :
    1 ≤ (opInfo op).static := by
  rw [opInfo_eq_infoOf op h]
  exact regular_ops_cost_table op h h2 h3

/-- (c) CREATE and CREATE2 are metered like every other instruction: CREATE has the table cost `CreateGas` (≥ 1); CREATE2 has no
    static cost in the source (`onlyCopyGas` ignores its base argument, so `CreateGas` is never charged for it) and is one of
    the instructions whose first action is a charged Pop; neither ends the frame; both are cases of the interpreter's `switch` -/
theorem create_metering :
    (opInfo 0xf0).static = Gen.Gas.CreateGas ∧ 1 ≤ (opInfo 0xf0).static ∧ (opInfo 0xf5).static = 0 ∧ isFree 0xf5 = true ∧
    isFree 0xf0 = false ∧ isHalting 0xf0 = false ∧ isHalting 0xf5 = false ∧ isKnown 0xf0 = true ∧ isKnown 0xf5 = true := by
  rw [opInfo_eq_infoOf 0xf0 (by decide), opInfo_eq_infoOf 0xf5 (by decide)]
  decide

/-- the cost returned by the lookup is at least the table's static cost -/
theorem gasLookUp_ge_static (q : Quirks) (self : Nat) (info : Gen.Gas.OpInfo) (s : Frame) (c : Nat × Nat) (s1 : Frame)
    (h : (gasLookUp q self info s).val = (some c, s1)) : info.static ≤ c.1 :=
  gasLookUp_static_le h

theorem chargeOrStop_true (c : Nat) (s s2 : Frame) (h : (chargeOrStop c s).val = (some true, s2)) :
    c ≤ s.gas ∧ s2.gas = s.gas - c := by
  rw [chargeOrStop_val] at h
  split at h
  · rename_i hle
    cases h
    exact ⟨hle, rfl⟩
  · cases h

theorem chargeOrStop_false (c : Nat) (s s2 : Frame) (h : (chargeOrStop c s).val = (some false, s2)) :
    s.gas < c ∧ s2 = s := by
  rw [chargeOrStop_val] at h
  split at h
  · cases h
  · rename_i hle
    cases h
    exact ⟨by omega, rfl⟩

theorem finish_halt_not_cont (r : ByteArray) (s s' : Frame) : (finish (.halt r) s).val ≠ (some .cont, s') := by
  intro h
  unfold finish at h
  obtain ⟨_, _, _, h2⟩ := bind_some h
  rw [pure_val] at h2
  simp at h2

theorem finish_unsupported_not_cont (s s' : Frame) : (finish .unsupported s).val ≠ (some .cont, s') := by
  intro h
  unfold finish at h
  rw [pure_val] at h
  simp at h

theorem execHalt_halts (env : Env) (op : Nat) (s : Frame) (c : Ctl) (s1 : Frame) (h : (execHalt env op s).val = (some c, s1)) :
    (∃ r, c = .halt r) ∨ c = .unsupported := by
  unfold execHalt at h
  obtain ⟨r, _, _, h2⟩ := bind_some h
  rw [pure_val] at h2
  simp at h2
  cases r with
  | some b => left; exact ⟨b, h2.1.symm⟩
  | none => right; exact h2.1.symm

theorem execFree_strict (child : ChildFn) (env : Env) (op : Nat) (s : Frame) (c : Ctl) (s1 : Frame)
    (h : (execFree child env op s).val = (some c, s1)) : Strict s s1 := by
  unfold execFree at h
  split at h
  · exact strict_bind (push_strict _) s c s1 h
  · exact strict_bind pop_strict s c s1 h

theorem stepBody_strict (child : ChildFn) (env : Env) (op : Nat) (hop : op < 256) (s s' : Frame)
    (h : (stepBody child env op s).val = (some .cont, s')) : Strict s s' := by
  -- a halting instruction does not continue; one without a table cost (`isFree`) begins with a `pop` or `push`, which charge 1;
  -- any other has a table cost ≥ 1, which `chargeOrStop` has taken
  match h1 : ((noteSeen op >>= fun _ => gasLookUp env.q env.callee (opInfo op)) s).val with
  | (none, s1) =>
    unfold stepBody at h
    rw [bind_val_none h1] at h
    cases h
  | (some cm, s1) =>
    rw [stepBody_of_lookup h1] at h
    split at h
    case isFalse => cases h
    case isTrue =>
    -- the memory expansion between the charge and the instruction, then the check of the error sink
    obtain ⟨_, s2, hx, h⟩ := bind_some h
    rw [bind_val_some (show (getF s2).val = (some s2, s2) from rfl)] at h
    cases herr : s2.err with
    | some e0 =>
      simp only [herr] at h
      cases h
    | none =>
    simp only [herr] at h
    obtain ⟨c, s3, h3, h4⟩ := bind_some h
    -- the frames in order: `s`, `s1` after the lookup, the charge, `s2` after the memory expansion, `s3` after the instruction, `s'`
    have ic : Inv s1 { s1 with gas := s1.gas - cm.1 } := ⟨Nat.sub_le _ _, id⟩
    refine Inv.then_strict (inv_of h1) ?_
    unfold exec at h3
    cases hh : isHalting op with
    | true =>
      rw [hh, if_pos rfl] at h3
      rcases execHalt_halts _ op s2 c s3 h3 with ⟨r, rfl⟩ | rfl
      · exact absurd h4 (finish_halt_not_cont r s3 s')
      · exact absurd h4 (finish_unsupported_not_cont s3 s')
    | false =>
      cases hf : isFree op with
      | true =>
        rw [hh, hf, if_neg Bool.false_ne_true, if_pos rfl] at h3
        exact Inv.then_strict (ic.trans (inv_of hx)) ((execFree_strict child env op s2 c s3 h3).then_inv (inv_of h4))
      | false =>
        have hc : 1 ≤ cm.1 := Nat.le_trans (regular_ops_cost op hop hh hf) (lookup_static_le h1)
        exact Strict.then_inv (.inl (show s1.gas - cm.1 + 1 ≤ s1.gas by omega)) ((inv_of hx).trans (inv_of h))

/-- **every instruction's cost grows with the work it causes** — copy instructions: the per-word copy fee is computed from the
    same stack position that gives the number of bytes copied (the length operand of the memory rule), for every copy
    instruction of the regenerated table (EXTCODECOPY has four operands: its length is at position 3, not 2) -/
theorem copy_fee_reads_the_length :
    Gen.Gas.table.all (fun e => match e.dyn, e.mem with
      | .copyGas p _ w, .mem64 _ l => p == l && w ≥ 1
      | .copyGas _ _ _, _ => false
      | _, _ => true) = true := by decide

theorem opAt_lt (env : Env) (pc : Nat) : opAt env pc < 256 := by
  unfold opAt
  split
  · decide
  · exact UInt8.toNat_lt _

/-- (c) an iteration that lets the loop continue has lowered the remaining gas by at least 1, or has put
    an error into the sink (then the next iteration ends the frame) -/
theorem step_costs_at_least_one (child : ChildFn) (env : Env) (s s' : Frame) (hs : s.err = none)
    (h : (step child env s).val = (some .cont, s')) : Strict s s' := by
  unfold step at h
  simp only [hs] at h
  split at h
  · simp at h
  · split at h
    · obtain ⟨_, _, _, h2⟩ := bind_some h
      rw [pure_val] at h2
      simp at h2
    · exact stepBody_strict child env _ (opAt_lt env s.pc) s s' h


/-- what is left to burn: nothing once an error is in the sink, else the gas plus the iteration that finds it exhausted -/
def budget (s : Frame) : Nat := if s.err.isSome then 0 else s.gas + 1

/-- (d) the loop never runs out of fuel when it is given `budget + 1` iterations -/
theorem run_terminates_aux (child : ChildFn) (env : Env) : ∀ (fuel : Nat) (s : Frame), budget s + 1 ≤ fuel →
    (∀ s', run child env fuel s ≠ (.outOfFuel, s')) := by
  intro fuel s hb s' hr
  have := run_induct (child := child) (env := env) (I := fun n s => budget s + 1 ≤ n) (Q := fun o _ => o ≠ .outOfFuel)
    (fun s h => by omega)
    (fun n s s1 hb hv => by
      -- the error sink was empty, otherwise the iteration would have ended the frame
      cases he : s.err with
      | some e => rw [step_of_err child env he] at hv; cases hv
      | none =>
        have st := step_costs_at_least_one child env s s1 he hv
        unfold budget at hb ⊢
        simp [he] at hb
        cases st with
        | inl hlt => split <;> omega
        | inr herr => simp [herr]; omega)
    (fun _ _ _ _ _ h => by cases h) (fun _ _ _ _ _ _ _ h => by cases h) (fun _ _ _ _ _ h => by cases h) fuel s hb
  rw [hr] at this
  exact this rfl

/-- (d) execution with initial gas g ends within g + 2 iterations of the interpreter loop
    (g gas-consuming iterations, one that raises the error, one that reports it) -/
theorem run_terminates (child : ChildFn) (env : Env) (s : Frame) (s' : Frame) : run child env (s.gas + 2) s ≠ (.outOfFuel, s') := by
  apply run_terminates_aux child env (s.gas + 2) s
  unfold budget
  split <;> omega


/-- (e) when the cost found for the next instruction exceeds what is left, the iteration ends the frame with
    InsufficientGas, returns nothing and does not touch the remaining gas -/
theorem oog_reported (child : ChildFn) (env : Env) (op : Nat) (s s1 : Frame) (cost : Nat × Nat)
    (hl : ((noteSeen op >>= fun _ => gasLookUp env.q env.callee (opInfo op)) s).val = (some cost, s1)) (hlt : s1.gas < cost.1) :
    (stepBody child env op s).val = (some (.done .empty (some .insufficientGas)), s1) := by
  rw [stepBody_of_lookup hl, if_neg (by omega)]

/-- the charge itself: the gas-accounting primitive either subtracts exactly the cost or refuses -/
theorem charge_exact (c : Nat) (s : Frame) :
    (c ≤ s.gas ∧ (chargeOrStop c s).val = (some true, { s with gas := s.gas - c })) ∨
    (s.gas < c ∧ (chargeOrStop c s).val = (some false, s)) := by
  rw [chargeOrStop_val]
  by_cases h : c ≤ s.gas
  · exact .inl ⟨h, if_pos h⟩
  · exact .inr ⟨by omega, if_neg h⟩

end Shentu.Props.C17

open Shentu.Props.C17 in
#print axioms tie_sites
#print axioms Shentu.Props.C17.tie_create
#print axioms Shentu.Props.C17.step_gas_monotone
#print axioms Shentu.Props.C17.step_error_sticky
#print axioms Shentu.Props.C17.run_gas_monotone
#print axioms Shentu.Props.C17.regular_ops_cost
#print axioms Shentu.Props.C17.create_metering
#print axioms Shentu.Props.C17.step_costs_at_least_one
#print axioms Shentu.Props.C17.run_terminates
#print axioms Shentu.Props.C17.oog_reported
#print axioms Shentu.Props.C17.charge_exact
