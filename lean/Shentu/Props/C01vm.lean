import Shentu.Proofs.VmConserveRun
import Shentu.Proofs.VmRuns
/-
  C01 at the level of the VM model (`Shentu.EVM`): "no transfer path — … contract calls with value … — creates, destroys or
  silently drops coins".

  The interpreter model changes the accounts of a frame (`Frame.world`) in these ways only: the value transfer that opens a
  CALL / CALLCODE frame (`openFrame` → `transfer`), SSTORE (`World.sstore`), the creation of a missing account by CALL,
  SELFDESTRUCT or CREATE (`World.put { addr := a }`), SELFDESTRUCT itself, the adoption of a successful callee's or
  constructor's accounts by its caller (`settle`, `settleCreate`), and the storing of a created contract's code
  (`initChildCode`, which touches no balance).  Each of the first four is shown here to keep the sum of all balances (`total`)
  and the one-entry-per-address shape of the cache (`Keyed`); of the fifth, `settle_world` says that the caller goes on with
  its own accounts or with the callee's, and the constructor's side is `EVM.safe_settleCreate`
  (`Proofs/VmConserveRun.lean`).  That their composition, whole executions with nested calls
  and creations, keeps the sum is `Props/C01run.lean`; the monitor `value_conserved` of the VM engine checks the same on the
  implementation's own account dump for every generated program.

  `selfdestruct_conserves_partial` holds because SELFDESTRUCT naming the running contract itself keeps the balance
  (`Quirks.selfDestructSelfKeeps`); `selfdestruct_to_self_burnt_before` is the same model with that switched off: the coins
  vanish.  Without its hypothesis `hb` the statement is false in the 64-bit overflow branch, see the note above the theorem.
-/
namespace Shentu.Props.C01vm
open Shentu Shentu.EVM

/-- a value transfer moves coins; it creates none and destroys none -/
theorem transfer_conserves (w w' : World) (frm to value : Nat) (hk : Keyed w) (h : transfer w frm to value = .ok w') :
    total w' = total w ∧ Keyed w' :=
  transfer_total_keyed hk h

/-- opening a frame (the value transfer of CALL / CALLCODE inside the callee's cache) conserves, whether it succeeds or not -/
theorem openFrame_conserves (env : Env) (w : World) (hk : Keyed w) :
    total (openFrame env w).1 = total w ∧ Keyed (openFrame env w).1 :=
  openFrame_total_keyed env hk

/-- SSTORE does not touch balances -/
theorem sstore_conserves (w : World) (a k v : Nat) (hk : Keyed w) :
    total (w.sstore a k v) = total w ∧ Keyed (w.sstore a k v) :=
  sstore_total_keyed a k v hk

/-- creating a missing account (CALL to, or SELFDESTRUCT in favour of, an address without one) adds no coins -/
theorem create_conserves (w : World) (a : Nat) (hk : Keyed w) (h : w.get a = none) :
    total (w.put { addr := a }) = total w ∧ Keyed (w.put { addr := a }) :=
  create_total_keyed hk h

/-
  Without the hypothesis `hb` the statement below is false.  When the beneficiary's balance plus the contract's does not fit
  64 bits, the model (like the code: the error goes into the `errors.Maybe` sink and the instruction goes on) pushes
  IntegerOverflow, does not credit the beneficiary, and still removes the contract's account: in that frame the contract's
  coins are gone (`selfdestruct_overflow_loses` below is the concrete case).  The frame then carries an error, so its accounts
  are never adopted by a caller (`settle_world`) nor written back (`execTop`).  What holds is the statement under either of two
  hypotheses: the coins of the cache fit 64 bits (`total s.world < U64`, what the chain's supply guarantees), or the
  instruction left no error in the frame's sink.
-/

/-- **SELFDESTRUCT conserves**: the balance moves to the beneficiary and the account goes; a contract that names itself keeps
    its balance and stays.  Whatever the instruction's outcome (success, error pushed, outside the model) — provided the coins
    of the cache fit the 64 bits of a balance, or else provided the instruction pushed no error (`hb`). -/
theorem selfdestruct_conserves_partial (env : Env) (hq : env.q.selfDestructSelfKeeps = true) (s s' : Frame)
    (r : Option (Option ByteArray)) (hk : Keyed s.world) (h : (selfdestruct env s).val = (r, s'))
    (hb : total s.world < U64 ∨ s'.err = none) :
    total s'.world = total s.world ∧ Keyed s'.world := by
  have hg := over_selfdestruct (n := total s.world) env hq s (.inr ⟨hk, rfl⟩)
  rw [h] at hg
  rcases hg with ⟨hge, he⟩ | hs
  · -- the frame is doomed: it has an error and the cache held 2^64 coins or more, against `hb`
    rcases hb with hb | hb
    · omega
    · rw [hb] at he; cases he
  · exact ⟨hs.2, hs.1⟩

/-- … in particular whenever the cache holds fewer than 2^64 coins -/
theorem selfdestruct_conserves_bounded (env : Env) (hq : env.q.selfDestructSelfKeeps = true) (s s' : Frame)
    (r : Option (Option ByteArray)) (hk : Keyed s.world) (h : (selfdestruct env s).val = (r, s')) (hb : total s.world < U64) :
    total s'.world = total s.world ∧ Keyed s'.world :=
  selfdestruct_conserves_partial env hq s s' r hk h (.inl hb)

/-- … and whenever the frame goes on without error (the only case in which its accounts can reach the caller or the chain) -/
theorem selfdestruct_conserves_noerr (env : Env) (hq : env.q.selfDestructSelfKeeps = true) (s s' : Frame)
    (r : Option (Option ByteArray)) (hk : Keyed s.world) (h : (selfdestruct env s).val = (r, s')) (he : s'.err = none) :
    total s'.world = total s.world ∧ Keyed s'.world :=
  selfdestruct_conserves_partial env hq s s' r hk h (.inr he)

/-- the case that refutes the statement without `hb`: the beneficiary 0x1000 holds 2^64 - 1 coins, the contract 0x2000 holds 7;
    the model pushes IntegerOverflow and ends with the beneficiary's account alone -/
def overflowEnv : Env :=
  { code := .empty, opBits := .empty, input := .empty, caller := 0x1000, callee := 0x2000, origin := 0x1000, value := 0, height := 1,
    time := 0, chainId := 0 }
def overflowFrame : Frame :=
  { gas := 1000, stack := [0x1000], world := [{ addr := 0x1000, balance := 2 ^ 64 - 1 }, { addr := 0x2000, balance := 7 }] }

theorem selfdestruct_overflow_loses :
    overflowEnv.q.selfDestructSelfKeeps = true ∧ Keyed overflowFrame.world ∧ total overflowFrame.world = 2 ^ 64 + 6 ∧
    total (selfdestruct overflowEnv overflowFrame).val.2.world = 2 ^ 64 - 1 ∧
    (selfdestruct overflowEnv overflowFrame).val.2.err = some .integerOverflow := by
  decide +kernel

/-- the caller of a finished callee continues with its own accounts or with the callee's, nothing else -/
theorem settle_world (readOnly : Bool) (w : World) (dirty : Bool) (removed : List Nat) (r : CallRes) :
    (settle readOnly w dirty removed r).world = w ∨
    ((settle readOnly w dirty removed r).world = r.world ∧ r.err = none) :=
  settle_cases readOnly w dirty removed r

/-- a contract holding 7 coins that executes `ADDRESS SELFDESTRUCT` (code 30 ff) -/
def selfEnv (q : Quirks) : Env :=
  { q := q, code := ⟨#[0x30, 0xff]⟩, opBits := opcodeBits ⟨#[0x30, 0xff]⟩, input := .empty, caller := 0x1000, callee := 0x2000,
    origin := 0x1000, value := 0, height := 1, time := 0, chainId := 0 }
def selfWorld : World := [{ addr := 0x1000, balance := 5 }, { addr := 0x2000, balance := 7, code := ⟨#[0x30, 0xff]⟩ }]

/-- with `selfDestructSelfKeeps` off (the code before its repair, and the EVM specification of the time) the 7 coins are gone: no
    account holds them, and the chain's recorded supply does not know — the violation of C01 that was exhibited on the real application -/
theorem selfdestruct_to_self_burnt_before :
    total (execTop (selfEnv { Quirks.impl with selfDestructSelfKeeps := false }) 100000 selfWorld).world = 5 :=
  top_runs.2.1

/-- with it on (the code as it is) the contract keeps them -/
theorem selfdestruct_to_self_keeps_now : total (execTop (selfEnv Quirks.impl) 100000 selfWorld).world = 12 :=
  top_runs.2.2

example : Keyed selfWorld := by decide

end Shentu.Props.C01vm
