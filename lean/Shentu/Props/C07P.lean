import Shentu.Props.C07
/-!
  C07P — "collateral leaves only after the full withdrawal period", with the period changing in mid-history.

  `Shentu/Props/C07.lean` states `dominance` for histories in which the withdraw period is one constant `P`.
  On the chain a passed parameter-change proposal can replace the period at any block.
  The code queues a request with completion = request time + the period in force AT THE REQUEST.
  A later change does not touch queued entries.

  What is proved here (definitions: `Shentu/Proofs/C07PLemmas.lean`).
  * Histories are lists of `POp`: an operation of C03a (`op o`), or `setPeriod p`.
  * `op o` runs the step of C07 (`C07.gstep`); its requests are logged together with the period of the state it ran in.
  * `setPeriod p` replaces `params.withdrawPeriod` and nothing else; it logs nothing and releases nothing.
  * `logSumP log a T` sums the amounts `a` requested whose own due time (request time + own period) is at most `T`.
  * `dominance_with_period_changes`: at every point of every history, for every provider, the amount released is at
    most `logSumP log a now`.  The number, direction and size of the period changes are arbitrary.
  * The theorem of C07 is the special case without `setPeriod` steps (`no_period_change_is_C07`), and is proved so
    in `Shentu/Props/C07.lean` (`C07.dominance`; `dominance_is_special_case` below states it again).
  * A statement with ONE period for the whole history is false once the period changes, in both directions
    (`single_period_dominance_fails_when_shortened`, `single_period_dominance_fails_when_lengthened`).

  What is assumed: `CollInv` of the initial state (preserved by every step, `pstep_inv`); the invariant `PInv` of the
  initial state and ghost (it holds for an empty queue with an empty log, `pinv_empty`; preserved by every step);
  every step admissible (`POp.admissible`: the conditions of C03a, and `0 < p` for `setPeriod p`); block times
  non-decreasing (`PTimed`).  The proofs never use `0 < p`: the theorems hold for every integer period.
-/
namespace Shentu.Props.C07P
open Shentu Shentu.Shield Shentu.Shield.Coll Shentu.Props.C03a Shentu.Props.C07

/-- C07 with period changes.  Run any history of operations and period changes from a state and ghost that satisfy
    the invariant.  Then for every provider `a`, the amount released to `a` so far is at most the sum of the amounts `a`
    requested (explicitly or forced by a staking hook) whose own due time has passed.  The own due time of a request
    is its request time plus the period that was in force when it was made.  As `ops` is arbitrary, this holds at
    every point of every history, with any number of period changes, longer or shorter. -/
theorem dominance_with_period_changes (ops : List POp) (w : World) (g : PGhost) (hi : CollInv w.2)
    (hadm : PAdmissible ops (w, g)) (htime : PTimed ops g.now) (hg : PInv g w.2) :
    ∀ a, (prun ops (w, g)).2.released a ≤ logSumP (prun ops (w, g)).2.log a (prun ops (w, g)).2.now := by
  have hmain := prun_inv ops w g hi hadm htime hg
  intro a
  have h1 := hmain.2 a _ (Int.le_refl _)
  have h2 := dueBy_nonneg a (prun ops (w, g)).2.now _ hmain.1.wdrPos
  omega

/-- The same from a state with an empty withdrawal queue (e.g. genesis), nothing logged, nothing released. -/
theorem dominance_with_period_changes_from_empty_queue (ops : List POp) (w : World) (t0 : Int) (hi : CollInv w.2)
    (hq : w.2.withdraws = []) (hadm : PAdmissible ops (w, ⟨[], fun _ => 0, t0⟩)) (htime : PTimed ops t0) :
    ∀ a, (prun ops (w, ⟨[], fun _ => 0, t0⟩)).2.released a ≤
      logSumP (prun ops (w, ⟨[], fun _ => 0, t0⟩)).2.log a (prun ops (w, ⟨[], fun _ => 0, t0⟩)).2.now :=
  dominance_with_period_changes ops w _ hi hadm htime (pinv_empty w.2 t0 hq)

/-- The invariant is inductive: every admissible step at a non-decreasing block time preserves `CollInv` and `PInv`.
    (The initial case is `pinv_empty`.) -/
theorem invariant_preserved (op : POp) (w : World) (g : PGhost) (hi : CollInv w.2) (hadm : op.admissible w.2)
    (ht : ∀ t, popTime op = some t → g.now ≤ t) (hg : PInv g w.2) :
    CollInv (pstep op (w, g)).1.2 ∧ PInv (pstep op (w, g)).2 (pstep op (w, g)).1.2 :=
  pstep_inv op w g hi hadm ht hg

/-- A `setPeriod` step leaves the bank ledger, the withdrawal queue, the provider records (so every provider's
    collateral and withdrawing amount) and the whole ghost unchanged.  The new period is the one that was set.
    The other parameters are unchanged. -/
theorem period_change_does_not_touch_the_queue (p : Int) (w : World) (g : PGhost) :
    (pstep (.setPeriod p) (w, g)).1.1 = w.1 ∧
    (pstep (.setPeriod p) (w, g)).1.2.withdraws = w.2.withdraws ∧
    (pstep (.setPeriod p) (w, g)).1.2.providers = w.2.providers ∧
    (∀ b, collOf (pstep (.setPeriod p) (w, g)).1.2 b = collOf w.2 b) ∧
    (∀ b, wdgOf (pstep (.setPeriod p) (w, g)).1.2 b = wdgOf w.2 b) ∧
    (∀ b T, dueBy b T (pstep (.setPeriod p) (w, g)).1.2.withdraws = dueBy b T w.2.withdraws) ∧
    (pstep (.setPeriod p) (w, g)).2 = g ∧
    (pstep (.setPeriod p) (w, g)).1.2.params.withdrawPeriod = p ∧
    (pstep (.setPeriod p) (w, g)).1.2.params = { w.2.params with withdrawPeriod := p } ∧
    (pstep (.setPeriod p) (w, g)).1.2 = { w.2 with params := (pstep (.setPeriod p) (w, g)).1.2.params } :=
  ⟨rfl, rfl, rfl, fun _ => rfl, fun _ => rfl, fun _ _ => rfl, rfl, rfl, rfl, rfl⟩

/-- A successful explicit request made right after `setPeriod p` is queued with completion = request time + `p`.
    The queue is the old queue with exactly that entry put in. -/
theorem requests_after_change_wait_the_new_period (e : Env) (s s' : State) (a : Addr) (amount p : Int) (h0 : amount ≠ 0)
    (h : withdrawCollateral e (setPeriodState p s) a amount = .ok s') :
    s'.withdraws.Perm ({ addr := a, amount := amount, time := e.t + p } :: s.withdraws) ∧
    ∃ l1 l2, s.withdraws = l1 ++ l2 ∧ s'.withdraws = l1 ++ { addr := a, amount := amount, time := e.t + p } :: l2 :=
  request_enqueued_at_full_period e (setPeriodState p s) s' a amount h0 h

/-- The same inside a history.  After `setPeriod p`, a successful request step logs the request with the period `p`. -/
theorem requests_after_change_are_logged_with_the_new_period (e : Env) (w : World) (g : PGhost) (s' : State) (a : Addr)
    (amount p : Int) (h0 : amount ≠ 0) (h : withdrawCollateral e (setPeriodState p w.2) a amount = .ok s') :
    (pstep (.op (.withdrawCollateral e a amount)) (pstep (.setPeriod p) (w, g))).2.log = g.log ++ [(⟨a, amount, e.t⟩, p)] ∧
    (pstep (.op (.withdrawCollateral e a amount)) (pstep (.setPeriod p) (w, g))).1.2 = s' := by
  have happ : Op.apply (.withdrawCollateral e a amount) (w.1, setPeriodState p w.2) = .ok (w.1, s') := by
    simp only [Op.apply, h]; rfl
  have hst : pstep (.setPeriod p) (w, g) = ((w.1, setPeriodState p w.2), g) := rfl
  rw [hst, pstep_op_ok _ _ _ g happ]
  refine ⟨?_, rfl⟩
  simp only [opRequests, requestLog, h0, if_false, tag, List.map_cons, List.map_nil]
  rfl

/-- A history without `setPeriod` steps, run with the ghost that carries periods (`PGhost`), is the history of C07:
    same world, same released amounts, same time, and the log is the log of C07 with every request tagged with the
    constant period. -/
theorem no_period_change_is_C07 (P : Int) (ops : List Op) (w : World) (g : Ghost) (hi : CollInv w.2)
    (hP : w.2.params.withdrawPeriod = P) (hadm : Admissible ops w) :
    prun (ops.map .op) (w, liftGhost P g) = ((grun ops (w, g)).1, liftGhost P (grun ops (w, g)).2) :=
  prun_ops P ops w g hi hP hadm

/-- `C07.dominance`, word for word: its proof there is the invariant with period changes (`prun_inv`, what
    `dominance_with_period_changes` rests on) applied to the history `ops.map .op`, read back through
    `no_period_change_is_C07`. -/
theorem dominance_is_special_case (P : Int) (ops : List Op) (w : World) (g : Ghost) (hi : CollInv w.2)
    (hP : w.2.params.withdrawPeriod = P) (hadm : Admissible ops w) (htime : Timed ops g.now) (hg : GhostInv P g w.2) :
    ∀ a, (grun ops (w, g)).2.released a ≤ logSum P (grun ops (w, g)).2.log a (grun ops (w, g)).2.now :=
  dominance P ops w g hi hP hadm htime hg

namespace Ex
open Shentu.Props.C03a.Ex Shentu.Props.C07.Ex

def g0 : PGhost := ⟨[], fun _ => 0, 0⟩

/-- Period 50.  "a" requests 30 at time 10 (due 60).  The period is shortened to 20.  "b" requests 10 at time 30
    (due 50).  The end-blocker at 55 releases the second request before the first; the one at 65 releases the first. -/
def hist : List POp :=
  [.op (.withdraw (env 10) "a" [("uctk", 30)]), .setPeriod 20, .op (.withdraw (env 30) "b" [("uctk", 10)]),
   .op (.endBlock (env 55)), .op (.endBlock (env 65))]

/-- Period 50.  "a" requests 30 at time 10 (due 60).  The period is lengthened to 100.  The end-blocker at 65 releases
    the request, 45 before "request time + the new period". -/
def histLong : List POp :=
  [.op (.withdraw (env 10) "a" [("uctk", 30)]), .setPeriod 100, .op (.endBlock (env 65))]

theorem hist_hyps : CollInv s1 ∧ s1.withdraws = [] ∧ PAdmissible hist ((l0, s1), g0) ∧ PTimed hist 0 := by
  refine ⟨by constructor <;> decide +kernel, rfl, ⟨trivial, (show (0 : Int) < 20 by decide), trivial, trivial, trivial, trivial⟩, ?_⟩
  refine ⟨?_, ?_, ?_, ?_, ?_, trivial⟩ <;> intro t ht <;> cases ht <;> decide +kernel

theorem histLong_hyps : CollInv s1 ∧ s1.withdraws = [] ∧ PAdmissible histLong ((l0, s1), g0) ∧ PTimed histLong 0 := by
  refine ⟨by constructor <;> decide +kernel, rfl, ⟨trivial, (show (0 : Int) < 100 by decide), trivial, trivial⟩, ?_⟩
  refine ⟨?_, ?_, ?_, trivial⟩ <;> intro t ht <;> cases ht <;> decide +kernel

/-- Non-vacuity of `dominance_with_period_changes` (and of the corollary): the hypotheses hold for `hist`. -/
example : CollInv s1 ∧ s1.withdraws = [] ∧ PAdmissible hist ((l0, s1), g0) ∧ PTimed hist 0 ∧ PInv g0 s1 :=
  ⟨hist_hyps.1, hist_hyps.2.1, hist_hyps.2.2.1, hist_hyps.2.2.2, pinv_empty s1 0 rfl⟩

/-- And the history is not trivial.  Both requests are logged, each with its own period.  After the end-blocker at 55
    the later request of "b" has been released (10 ≤ 10) and the earlier one of "a" has not (0 ≤ 0).  After the one at
    65 both have (30 ≤ 30).  The queue entries carry the two different completion times. -/
example : (prun hist ((l0, s1), g0)).2.log = [(⟨"a", 30, 10⟩, 50), (⟨"b", 10, 30⟩, 20)] ∧
    (prun (hist.take 3) ((l0, s1), g0)).1.2.withdraws.map (fun w => (w.addr, w.amount, w.time)) = [("b", 10, 50), ("a", 30, 60)] ∧
    (prun (hist.take 4) ((l0, s1), g0)).2.released "b" = 10 ∧ logSumP (prun (hist.take 4) ((l0, s1), g0)).2.log "b" 55 = 10 ∧
    (prun (hist.take 4) ((l0, s1), g0)).2.released "a" = 0 ∧ logSumP (prun (hist.take 4) ((l0, s1), g0)).2.log "a" 55 = 0 ∧
    (prun hist ((l0, s1), g0)).2.released "a" = 30 ∧ logSumP (prun hist ((l0, s1), g0)).2.log "a" 65 = 30 ∧
    (prun hist ((l0, s1), g0)).2.now = 65 ∧ (prun hist ((l0, s1), g0)).1.2.params.withdrawPeriod = 20 := by
  decide +kernel

/-- `period_change_does_not_touch_the_queue` / `requests_after_change_wait_the_new_period` on concrete data: in `s0`
    (period 50, two entries queued) the period is set to 20; a request of 70 at time 60 is then queued for 80, behind
    the old entries, which keep their times 40 and 70. -/
example : isOk (withdrawCollateral e60 (setPeriodState 20 s0) "a" 70) = true ∧
    (get (withdrawCollateral e60 (setPeriodState 20 s0) "a" 70)).withdraws.map (fun w => (w.addr, w.amount, w.time)) =
      [("a", 10, 40), ("a", 20, 70), ("a", 70, 80)] ∧
    (setPeriodState 20 s0).withdraws = s0.withdraws ∧ (setPeriodState 20 s0).params.withdrawPeriod = 20 := by decide +kernel

/-- `dominance_is_special_case`: its hypotheses are those of `C07.dominance`; they hold for the history of C07's
    own example (see the end of `Shentu/Props/C07.lean`), whose lifted run logs both requests with the period 50. -/
example : (prun (C07.Ex.hist.map .op) ((l0, s1), liftGhost 50 C07.Ex.g0)).2.log = [(⟨"a", 30, 10⟩, 50), (⟨"a", 30, 20⟩, 50)] ∧
    (prun (C07.Ex.hist.map .op) ((l0, s1), liftGhost 50 C07.Ex.g0)).2.released "a" = 60 := by decide +kernel

/-- The statement of C07 with the INITIAL period for all requests is false once the period is shortened.  In `hist`
    the period drops from 50 to 20; "b" requests 10 at time 30 and has them released at 55, before 30 + 50. -/
theorem single_period_dominance_fails_when_shortened :
    ¬ ∀ (ops : List POp) (w : World) (t0 : Int), CollInv w.2 → w.2.withdraws = [] →
        PAdmissible ops (w, ⟨[], fun _ => 0, t0⟩) → PTimed ops t0 →
        ∀ a, (prun ops (w, ⟨[], fun _ => 0, t0⟩)).2.released a ≤
          logSum w.2.params.withdrawPeriod ((prun ops (w, ⟨[], fun _ => 0, t0⟩)).2.log.map (·.1)) a
            (prun ops (w, ⟨[], fun _ => 0, t0⟩)).2.now := by
  intro h
  have h1 := h (hist.take 4) (l0, s1) 0 hist_hyps.1 rfl
    ⟨trivial, (show (0 : Int) < 20 by decide), trivial, trivial, trivial⟩
    (by refine ⟨?_, ?_, ?_, ?_, trivial⟩ <;> intro t ht <;> cases ht <;> decide +kernel) "b"
  revert h1
  decide +kernel

/-- The statement with the CURRENT period for all requests is false once the period is lengthened.  In `histLong`
    the period rises from 50 to 100; "a" requested 30 at time 10 and has them released at 65, before 10 + 100. -/
theorem single_period_dominance_fails_when_lengthened :
    ¬ ∀ (ops : List POp) (w : World) (t0 : Int), CollInv w.2 → w.2.withdraws = [] →
        PAdmissible ops (w, ⟨[], fun _ => 0, t0⟩) → PTimed ops t0 →
        ∀ a, (prun ops (w, ⟨[], fun _ => 0, t0⟩)).2.released a ≤
          logSum (prun ops (w, ⟨[], fun _ => 0, t0⟩)).1.2.params.withdrawPeriod
            ((prun ops (w, ⟨[], fun _ => 0, t0⟩)).2.log.map (·.1)) a (prun ops (w, ⟨[], fun _ => 0, t0⟩)).2.now := by
  intro h
  have h1 := h histLong (l0, s1) 0 histLong_hyps.1 rfl histLong_hyps.2.2.1 histLong_hyps.2.2.2 "a"
  revert h1
  decide +kernel

/-- The numbers behind the two failures.  In `hist`, 10 have been released to "b" at 55, and nothing was requested by
    "b" 50 (the old period) before 55.  In `histLong`, 30 have been released to "a" at 65, and nothing was requested by
    "a" 100 (the new period) before 65, while the per-request sum covers the release (30 ≤ 30).
    (Only the smallest period of the history would give a true single-period statement, and a weaker one.) -/
example : (prun (hist.take 4) ((l0, s1), g0)).2.released "b" = 10 ∧
    logSum 50 ((prun (hist.take 4) ((l0, s1), g0)).2.log.map (·.1)) "b" 55 = 0 ∧
    (prun histLong ((l0, s1), g0)).2.released "a" = 30 ∧
    logSum 100 ((prun histLong ((l0, s1), g0)).2.log.map (·.1)) "a" 65 = 0 ∧
    logSumP (prun histLong ((l0, s1), g0)).2.log "a" 65 = 30 := by decide +kernel

end Ex

end Shentu.Props.C07P

#print axioms Shentu.Props.C07P.dominance_with_period_changes
#print axioms Shentu.Props.C07P.dominance_with_period_changes_from_empty_queue
#print axioms Shentu.Props.C07P.invariant_preserved
#print axioms Shentu.Props.C07P.period_change_does_not_touch_the_queue
#print axioms Shentu.Props.C07P.requests_after_change_wait_the_new_period
#print axioms Shentu.Props.C07P.requests_after_change_are_logged_with_the_new_period
#print axioms Shentu.Props.C07P.no_period_change_is_C07
#print axioms Shentu.Props.C07P.dominance_is_special_case
#print axioms Shentu.Props.C07P.Ex.single_period_dominance_fails_when_shortened
#print axioms Shentu.Props.C07P.Ex.single_period_dominance_fails_when_lengthened
