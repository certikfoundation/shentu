import Shentu.Model.GenesisCert
import Shentu.Proofs.C20GCertLemmas
/-!
  C20 for x/cert: export the state, import it in a fresh chain, and the chain is observably the same.

  The model of the genesis functions is `Shentu/Model/GenesisCert.lean`.  `exportGenesis` copies the
  certifier list, the platform list, the certificate list and the certificate counter; the alias index is
  not exported.  `initGenesis` follows the Go `InitGenesis` in its order: every certifier by `SetCertifier`
  (an overwrite-or-append by address, and by alias when the alias is not empty), then, if there is a
  certifier, every platform by the model's own `certifyPlatform` signed by the first certifier with the
  error ignored, then every certificate by an overwrite-or-append by identifier, then the counter.
  Libraries are not in the model.

  The invariant is `WFG s := C13H.WF s ∧ PlatNodup s`.  `C13H.WF` is the invariant of C13 over histories.
  `PlatNodup` is not a clause of `C13H.WF`: the platform keys are pairwise distinct.  It holds at every `C13H.genesis` state
  and every step keeps it, so `WFG` holds after every history from a well-formed genesis.

  What is proved, for ALL states with `WFG` (no bound on sizes):

  * G1 `reimport_same`: import after export gives back the very same state, alias index included.
    `reimport_same_sharp` lists the clauses that are really used.  Each of them is needed: a kernel-checked
    counterexample is kept for each (`reimport_same_fails_*`).  The clause `below` of `WF` is not used.
  * G2 `reexport_same`: exporting the re-imported state gives the same genesis file.
    `export_of_import`: on every genesis file with distinct keys, import then export is the identity.
  * G3 `continuation_same`, `continuation_same_outcomes`: the same further operations lead both chains to
    the same states, and each operation is accepted in one iff it is accepted in the other.
    `continuation_after_history`: this holds for the state reached by any history from a well-formed genesis.
  * G4 `invariant_reimported`: the re-imported state satisfies `WFG`.
    `import_establishes_invariant`: the import of ANY genesis file with a certifier, distinct addresses,
    distinct non-empty aliases, distinct identifiers below the counter and distinct platform keys satisfies
    `WFG`; in particular the rebuilt alias index is the one the certifier list determines.
    `import_invariant_fails_duplicate_address`: without distinct addresses the imported state has a stale alias.

  What is assumed: nothing beyond the hypotheses written in each theorem.  The model keeps every store as a
  list in insertion order; the Go stores iterate in key order.  That difference is the business of the
  differential check, not of these theorems.
-/
namespace Shentu.Props.C20GCert
open Shentu Shentu.Cert Shentu.C13H Shentu.Genesis.Cert Shentu.C20GCertH

/-- At a genesis state of C13 there is no platform, so the platform keys are distinct. -/
theorem platNodup_at_genesis (cs : List Certifier) (certs : List Certificate) (nextId : Nat) :
    PlatNodup (genesis cs certs nextId) := platNodup_genesis cs certs nextId

/-- Every step keeps the platform keys distinct, whether the operation is accepted or refused.
    A platform certification removes the old entry of the key before it appends the new one. -/
theorem platNodup_step (s : State) (o : Op) (hp : PlatNodup s) : PlatNodup (step s o) := step_platNodup o hp

/-- Every step keeps the whole invariant. -/
theorem wfg_step (s : State) (o : Op) (h : WFG s) : WFG (step s o) := step_wfg o h

/-- The invariant holds after every history that starts in a state where it holds. -/
theorem wfg_history (s : State) (ops : List Op) (h : WFG s) : WFG (run s ops) := run_wfg ops h

/-- A genesis with at least one certifier, distinct addresses, distinct non-empty aliases and distinct
    certificate identifiers below the counter satisfies the invariant, and so does every state reached from it. -/
theorem wfg_from_genesis (cs : List Certifier) (certs : List Certificate) (nextId : Nat)
    (h1 : cs ≠ []) (h2 : (cs.map (·.addr)).Nodup) (h3 : (aliasesOf cs).Nodup)
    (h4 : (certs.map (·.id)).Nodup) (h5 : ∀ c ∈ certs, c.id < nextId) (ops : List Op) :
    WFG (run (genesis cs certs nextId) ops) :=
  run_wfg ops ⟨genesis_wf cs certs nextId h1 h2 h3 h4 h5, platNodup_genesis cs certs nextId⟩

/-- The clauses that the round trip uses.  Certifier addresses are distinct.  Non-empty aliases are distinct.
    The alias index is the one the certifier list determines.  Certificate identifiers are distinct.
    Platform keys are distinct.  If there is a platform, there is a certifier to sign its import.
    Then import after export gives back the same state.  The bound of identifiers by the counter is not used. -/
theorem reimport_same_sharp (s : State) (haddr : (s.certifiers.map (·.addr)).Nodup)
    (hal : (aliasesOf s.certifiers).Nodup) (hidx : s.aliasIdx = aliasIndexOf s.certifiers)
    (hids : (s.certs.map (·.id)).Nodup) (hpl : PlatNodup s) (hne : s.certifiers ≠ [] ∨ s.platforms = []) :
    initGenesis (exportGenesis s) = s := by
  rw [initGenesis_eq (exportGenesis s) haddr hal hids hpl hne]
  cases s
  simp only [exportGenesis] at hidx ⊢
  rw [hidx]

/-- Under the invariant, import after export gives back the very same state: the same council in the same
    order, the same alias index, the same certificates, the same counter, the same platforms. -/
theorem reimport_same (s : State) (h : WFG s) : initGenesis (exportGenesis s) = s :=
  reimport_same_sharp s h.1.addrs h.1.aliases h.1.index h.1.ids h.2 (Or.inl h.1.nonempty)


namespace Witness

/-- no certifier, one platform; every other clause holds -/
def noCouncil : State := { certifiers := [], aliasIdx := [], certs := [], nextId := 1, platforms := [("pk", "aws")] }
/-- one certifier known as "alice"; the alias index has a second, stale entry -/
def staleIndex : State :=
  { certifiers := [⟨"a", "alice", "a"⟩], aliasIdx := [("alice", "a"), ("ghost", "z")], certs := [], nextId := 1, platforms := [] }
/-- one certifier known as "alice"; the alias index misses the entry -/
def missingIndex : State :=
  { certifiers := [⟨"a", "alice", "a"⟩], aliasIdx := [], certs := [], nextId := 1, platforms := [] }
/-- the address `a` twice, under two aliases -/
def twiceAddr : State :=
  { certifiers := [⟨"a", "alice", "a"⟩, ⟨"a", "alicia", "a"⟩], aliasIdx := [("alice", "a"), ("alicia", "a")],
    certs := [], nextId := 1, platforms := [] }
/-- two certifiers share the alias "team" -/
def sharedAlias : State :=
  { certifiers := [⟨"a", "team", "a"⟩, ⟨"b", "team", "a"⟩], aliasIdx := [("team", "a"), ("team", "b")],
    certs := [], nextId := 1, platforms := [] }
/-- the certificate identifier 1 twice -/
def twiceId : State :=
  { certifiers := [⟨"a", "", "a"⟩], aliasIdx := [], certs := [⟨1, "audit", "x", "a"⟩, ⟨1, "audit", "y", "a"⟩], nextId := 2, platforms := [] }
/-- the platform key "pk" twice -/
def twiceKey : State :=
  { certifiers := [⟨"a", "", "a"⟩], aliasIdx := [], certs := [], nextId := 1, platforms := [("pk", "aws"), ("pk2", "sgx"), ("pk", "gcp")] }

end Witness

/-- WITHOUT a certifier the round trip is FALSE when there is a platform: the import drops every platform.
    All other clauses hold in the counterexample.
    The Go code behaves the same: `InitGenesis` imports the platforms only `if len(certifiers) > 0`, and
    `CertifyPlatform` would refuse the signer anyway.  No history reaches such a state: the last certifier
    cannot be removed. -/
theorem reimport_same_fails_empty_council :
    ¬ ∀ s : State, (s.certifiers.map (·.addr)).Nodup → (aliasesOf s.certifiers).Nodup → s.aliasIdx = aliasIndexOf s.certifiers →
      (s.certs.map (·.id)).Nodup → (∀ c ∈ s.certs, c.id < s.nextId) → PlatNodup s → initGenesis (exportGenesis s) = s := by
  intro h
  have e := h Witness.noCouncil (by decide) (by decide) (by decide) (by decide) (by decide) (by decide)
  exact absurd (congrArg State.platforms e) (by decide)

/-- what the import makes of the counterexample: the platform is gone -/
theorem reimport_empty_council_drops_platforms :
    (initGenesis (exportGenesis Witness.noCouncil)).platforms = [] ∧ Witness.noCouncil.platforms = [("pk", "aws")] := by decide +kernel

/-- WITHOUT the index clause the round trip is FALSE: a stale entry of the alias index is not exported, so
    the import does not bring it back.  All other clauses hold in the counterexample.
    The Go code behaves the same: `ExportGenesis` does not read the alias store, and `InitGenesis` writes
    it only through `SetCertifier`.  No history reaches such a state (C13: the index matches the council). -/
theorem reimport_same_fails_stale_alias_index :
    ¬ ∀ s : State, s.certifiers ≠ [] → (s.certifiers.map (·.addr)).Nodup → (aliasesOf s.certifiers).Nodup →
      (s.certs.map (·.id)).Nodup → (∀ c ∈ s.certs, c.id < s.nextId) → PlatNodup s → initGenesis (exportGenesis s) = s := by
  intro h
  have e := h Witness.staleIndex (by decide) (by decide) (by decide) (by decide) (by decide) (by decide)
  exact absurd (congrArg State.aliasIdx e) (by decide)

/-- The same in the other direction: an entry that the alias index misses is there after the import.
    The Go code behaves the same, for the same reason. -/
theorem reimport_same_fails_missing_alias_index :
    ¬ ∀ s : State, s.certifiers ≠ [] → (s.certifiers.map (·.addr)).Nodup → (aliasesOf s.certifiers).Nodup →
      (s.certs.map (·.id)).Nodup → (∀ c ∈ s.certs, c.id < s.nextId) → PlatNodup s → initGenesis (exportGenesis s) = s := by
  intro h
  have e := h Witness.missingIndex (by decide) (by decide) (by decide) (by decide) (by decide) (by decide)
  exact absurd (congrArg State.aliasIdx e) (by decide)

/-- what the import makes of the two counterexamples: the index of the council, no more and no less -/
theorem reimport_rebuilds_alias_index :
    (initGenesis (exportGenesis Witness.staleIndex)).aliasIdx = [("alice", "a")] ∧
    (initGenesis (exportGenesis Witness.missingIndex)).aliasIdx = [("alice", "a")] := by decide +kernel

/-- WITHOUT distinct addresses the round trip is FALSE: the second record of an address overwrites the first.
    All other clauses hold in the counterexample.
    The Go certifier store is keyed by address, so it cannot hold such a list and an export never shows one.
    A genesis file written by hand can; `SetCertifier` then overwrites by `store.Set`, as the model does. -/
theorem reimport_same_fails_duplicate_address :
    ¬ ∀ s : State, s.certifiers ≠ [] → (aliasesOf s.certifiers).Nodup → s.aliasIdx = aliasIndexOf s.certifiers →
      (s.certs.map (·.id)).Nodup → (∀ c ∈ s.certs, c.id < s.nextId) → PlatNodup s → initGenesis (exportGenesis s) = s := by
  intro h
  have e := h Witness.twiceAddr (by decide) (by decide) (by decide) (by decide) (by decide) (by decide)
  exact absurd (congrArg State.certifiers e) (by decide)

/-- WITHOUT distinct non-empty aliases the round trip is FALSE: the alias store has one entry per alias, and
    the import leaves it pointing at the last certifier of the file that carries the alias.
    All other clauses hold in the counterexample.
    The Go code behaves the same: `SetCertifier` writes the alias key by `store.Set`, an overwrite.
    No history reaches such a state: a used alias is refused ("cert:repeated-alias"). -/
theorem reimport_same_fails_shared_alias :
    ¬ ∀ s : State, s.certifiers ≠ [] → (s.certifiers.map (·.addr)).Nodup → s.aliasIdx = aliasIndexOf s.certifiers →
      (s.certs.map (·.id)).Nodup → (∀ c ∈ s.certs, c.id < s.nextId) → PlatNodup s → initGenesis (exportGenesis s) = s := by
  intro h
  have e := h Witness.sharedAlias (by decide) (by decide) (by decide) (by decide) (by decide) (by decide)
  exact absurd (congrArg State.aliasIdx e) (by decide)

/-- what the import makes of that counterexample: one entry, for the later certifier -/
theorem reimport_shared_alias_last_wins :
    (initGenesis (exportGenesis Witness.sharedAlias)).aliasIdx = [("team", "b")] := by decide +kernel

/-- WITHOUT distinct certificate identifiers the round trip is FALSE: the later certificate overwrites the earlier.
    All other clauses hold in the counterexample (the bound by the counter too).
    The Go certificate store is keyed by identifier, so an export never shows such a list; for a file written
    by hand `SetCertificate` overwrites by `store.Set`, as the model does. -/
theorem reimport_same_fails_duplicate_id :
    ¬ ∀ s : State, s.certifiers ≠ [] → (s.certifiers.map (·.addr)).Nodup → (aliasesOf s.certifiers).Nodup →
      s.aliasIdx = aliasIndexOf s.certifiers → (∀ c ∈ s.certs, c.id < s.nextId) → PlatNodup s → initGenesis (exportGenesis s) = s := by
  intro h
  have e := h Witness.twiceId (by decide) (by decide) (by decide) (by decide) (by decide) (by decide)
  exact absurd (congrArg State.certs e) (by decide)

/-- WITHOUT distinct platform keys the round trip is FALSE: the later description replaces the earlier one.
    All clauses of `C13H.WF` hold in the counterexample; only `PlatNodup` is missing.
    The Go platform store is keyed by public key, so an export never shows such a list; for a file written
    by hand `CertifyPlatform` overwrites by `store.Set`, as the model does. -/
theorem reimport_same_fails_duplicate_platform_key :
    ¬ ∀ s : State, WF s → initGenesis (exportGenesis s) = s := by
  intro h
  have e := h Witness.twiceKey ⟨by decide, by decide, by decide, by decide, by decide, by decide⟩
  exact absurd (congrArg State.platforms e) (by decide)

/-- what the import makes of that counterexample -/
theorem reimport_duplicate_platform_key_last_wins :
    (initGenesis (exportGenesis Witness.twiceKey)).platforms = [("pk2", "sgx"), ("pk", "gcp")] := by decide +kernel

/-- On every genesis file with distinct addresses, distinct non-empty aliases, distinct identifiers, distinct
    platform keys, and a certifier if there is a platform, import then export gives back the file. -/
theorem export_of_import (g : Genesis) (haddr : (g.certifiers.map (·.addr)).Nodup) (hal : (aliasesOf g.certifiers).Nodup)
    (hids : (g.certificates.map (·.id)).Nodup) (hpl : (g.platforms.map (·.1)).Nodup)
    (hne : g.certifiers ≠ [] ∨ g.platforms = []) : exportGenesis (initGenesis g) = g := by
  rw [initGenesis_eq g haddr hal hids hpl hne]; rfl

/-- Under the invariant, the export of the re-imported state is the export of the state: the same file. -/
theorem reexport_same (s : State) (h : WFG s) : exportGenesis (initGenesis (exportGenesis s)) = exportGenesis s := by
  rw [reimport_same s h]

/-- The second export does not need the index clause: the alias index is not exported. -/
theorem reexport_same_sharp (s : State) (haddr : (s.certifiers.map (·.addr)).Nodup) (hal : (aliasesOf s.certifiers).Nodup)
    (hids : (s.certs.map (·.id)).Nodup) (hpl : PlatNodup s) (hne : s.certifiers ≠ [] ∨ s.platforms = []) :
    exportGenesis (initGenesis (exportGenesis s)) = exportGenesis s :=
  export_of_import (exportGenesis s) haddr hal hids hpl hne

/-- Under the invariant, the original chain and the re-imported chain reach the same state after every list
    of further operations. -/
theorem continuation_same (s : State) (h : WFG s) (ops : List Op) :
    run (initGenesis (exportGenesis s)) ops = run s ops := by rw [reimport_same s h]

/-- Under the invariant, every further operation is accepted on the re-imported chain iff it is accepted on
    the original chain.  The ghost logs of the two runs are equal line by line. -/
theorem continuation_same_outcomes (s : State) (h : WFG s) (ops : List Op) :
    outcomes (initGenesis (exportGenesis s)) ops = outcomes s ops ∧
    glog (initGenesis (exportGenesis s)) ops = glog s ops := by rw [reimport_same s h]; exact ⟨rfl, rfl⟩

/-- `outcomes` is the accepted/refused column of the ghost log of C13. -/
theorem outcomes_are_log_results (s : State) (ops : List Op) : outcomes s ops = (glog s ops).map (·.ok) :=
  outcomes_eq_glog s ops

/-- Export and import at ANY moment.  Start from a well-formed genesis, run any history `h`, export, import in a
    fresh chain, run any further operations there.  The state is the one the original chain reaches by `h ++ ops`,
    the outcomes of the further operations are equal, and the invariant holds all along. -/
theorem continuation_after_history (cs : List Certifier) (certs : List Certificate) (nextId : Nat)
    (h1 : cs ≠ []) (h2 : (cs.map (·.addr)).Nodup) (h3 : (aliasesOf cs).Nodup)
    (h4 : (certs.map (·.id)).Nodup) (h5 : ∀ c ∈ certs, c.id < nextId) (h ops : List Op) :
    run (initGenesis (exportGenesis (run (genesis cs certs nextId) h))) ops = run (genesis cs certs nextId) (h ++ ops) ∧
    outcomes (initGenesis (exportGenesis (run (genesis cs certs nextId) h))) ops = outcomes (run (genesis cs certs nextId) h) ops ∧
    WFG (run (initGenesis (exportGenesis (run (genesis cs certs nextId) h))) ops) := by
  have hw := wfg_from_genesis cs certs nextId h1 h2 h3 h4 h5 h
  rw [reimport_same _ hw, run_append]
  exact ⟨rfl, rfl, run_wfg ops hw⟩

/-- Export and import may be repeated: after any number of histories, each followed by an export and an import,
    the chain is where the original chain is after the histories one after the other. -/
theorem continuation_many_restarts (s : State) (h : WFG s) (hs : List (List Op)) :
    hs.foldl (fun st ops => initGenesis (exportGenesis (run st ops))) s = run s hs.flatten := by
  induction hs generalizing s with
  | nil => rfl
  | cons x xs ih =>
    rw [List.foldl_cons, reimport_same _ (run_wfg x h), ih _ (run_wfg x h), List.flatten_cons, run_append]

/-- Under the invariant, the re-imported state satisfies the invariant. -/
theorem invariant_reimported (s : State) (h : WFG s) : WFG (initGenesis (exportGenesis s)) := by
  rw [reimport_same s h]; exact h

/-- The import itself establishes the invariant.  Take ANY genesis file with at least one certifier, distinct
    addresses, distinct non-empty aliases, distinct certificate identifiers below the counter and distinct
    platform keys.  The imported state satisfies `WFG`.  The alias index rebuilt entry by entry is exactly the
    index that the certifier list determines.  The state is the genesis state of C13 with the platforms of the file. -/
theorem import_establishes_invariant (g : Genesis) (hne : g.certifiers ≠ []) (haddr : (g.certifiers.map (·.addr)).Nodup)
    (hal : (aliasesOf g.certifiers).Nodup) (hids : (g.certificates.map (·.id)).Nodup)
    (hbelow : ∀ c ∈ g.certificates, c.id < g.nextCertificateId) (hpl : (g.platforms.map (·.1)).Nodup) :
    WFG (initGenesis g) ∧ (initGenesis g).aliasIdx = aliasIndexOf g.certifiers ∧
    initGenesis g = { genesis g.certifiers g.certificates g.nextCertificateId with platforms := g.platforms } := by
  rw [initGenesis_eq g haddr hal hids hpl (Or.inl hne)]
  exact ⟨⟨⟨hne, haddr, hal, rfl, hids, hbelow⟩, hpl⟩, rfl, rfl⟩

/-- The genesis state that C13 starts from is what `InitGenesis` builds from a file without platforms. -/
theorem import_is_c13_genesis (cs : List Certifier) (certs : List Certificate) (nextId : Nat)
    (h2 : (cs.map (·.addr)).Nodup) (h3 : (aliasesOf cs).Nodup) (h4 : (certs.map (·.id)).Nodup) :
    initGenesis { certifiers := cs, platforms := [], certificates := certs, nextCertificateId := nextId } = genesis cs certs nextId := by
  rw [initGenesis_eq _ h2 h3 h4 (by simp) (Or.inr rfl)]; rfl

/-- WITHOUT distinct addresses the import does NOT establish the invariant: the second record of the address
    replaces the first in the certifier list, and the alias of the first stays in the alias index, pointing at
    a certifier that no longer carries it.  All other hypotheses hold for this file.
    The Go code behaves the same on such a file: `SetCertifier` overwrites the certifier key and never deletes
    an alias key, and `ValidateGenesis` of x/cert checks nothing (`return nil`). -/
theorem import_invariant_fails_duplicate_address :
    ¬ ∀ g : Genesis, g.certifiers ≠ [] → (aliasesOf g.certifiers).Nodup → (g.certificates.map (·.id)).Nodup →
      (∀ c ∈ g.certificates, c.id < g.nextCertificateId) → (g.platforms.map (·.1)).Nodup → WFG (initGenesis g) := by
  intro h
  have e := h (exportGenesis Witness.twiceAddr) (by decide) (by decide) (by decide) (by decide) (by decide)
  exact absurd e.1.index (by decide)

/-- what the import makes of that file: one certifier, two alias entries -/
theorem import_duplicate_address_stale_alias :
    (initGenesis (exportGenesis Witness.twiceAddr)).certifiers = [⟨"a", "alicia", "a"⟩] ∧
    (initGenesis (exportGenesis Witness.twiceAddr)).aliasIdx = [("alice", "a"), ("alicia", "a")] ∧
    hasAlias (initGenesis (exportGenesis Witness.twiceAddr)) "alice" = true := by decide +kernel

namespace Demo

/-- three certifiers, two with an alias and one without; two certificates; two platforms -/
def demo : State :=
  { certifiers := [⟨"a", "alice", "a"⟩, ⟨"b", "", "a"⟩, ⟨"c", "carol", "b"⟩]
    aliasIdx := [("alice", "a"), ("carol", "c")]
    certs := [⟨1, "audit", "0xc0de", "a"⟩, ⟨3, "proof", "0xbeef", "c"⟩]
    nextId := 4
    platforms := [("pk1", "aws"), ("pk2", "sgx")] }

theorem demo_wfg : WFG demo := ⟨⟨by decide +kernel, by decide +kernel, by decide +kernel, by decide +kernel, by decide +kernel, by decide +kernel⟩, by decide +kernel⟩

/-- the hypotheses of `reimport_same`, `reexport_same`, `continuation_same`, `invariant_reimported` are met -/
example : WFG demo := demo_wfg
example : initGenesis (exportGenesis demo) = demo := reimport_same demo demo_wfg
/-- the same by computation, field by field -/
example : (initGenesis (exportGenesis demo)).certifiers = demo.certifiers ∧
    (initGenesis (exportGenesis demo)).aliasIdx = [("alice", "a"), ("carol", "c")] ∧
    (initGenesis (exportGenesis demo)).certs = demo.certs ∧
    (initGenesis (exportGenesis demo)).nextId = 4 ∧
    (initGenesis (exportGenesis demo)).platforms = [("pk1", "aws"), ("pk2", "sgx")] := by decide +kernel
example : exportGenesis (initGenesis (exportGenesis demo)) = exportGenesis demo := by decide +kernel

/-- the hypotheses of `export_of_import` and `import_establishes_invariant` are met by the exported file -/
example : (exportGenesis demo).certifiers ≠ [] ∧ ((exportGenesis demo).certifiers.map (·.addr)).Nodup ∧
    (aliasesOf (exportGenesis demo).certifiers).Nodup ∧ ((exportGenesis demo).certificates.map (·.id)).Nodup ∧
    (∀ c ∈ (exportGenesis demo).certificates, c.id < (exportGenesis demo).nextCertificateId) ∧
    ((exportGenesis demo).platforms.map (·.1)).Nodup := by decide +kernel

/-- further operations: remove `a`; `a` tries to issue and is refused; `c` issues; `b` certifies "pk1" again;
    a stranger tries to certify a platform; adding `d` under the used alias "carol" is refused -/
def further : List Op :=
  [.govUpdate "a" "" "c" false, .issue "a" "audit" "x", .issue "c" "audit" "y", .certifyPlatform "b" "pk1" "gcp",
   .certifyPlatform "z" "pk9" "no", .govUpdate "d" "carol" "b" true]

example : outcomes (initGenesis (exportGenesis demo)) further = [true, false, true, true, false, false] := by decide +kernel
example : outcomes demo further = [true, false, true, true, false, false] := by decide +kernel
example : (run (initGenesis (exportGenesis demo)) further).platforms = [("pk2", "sgx"), ("pk1", "gcp")] := by decide +kernel
example : (run (initGenesis (exportGenesis demo)) further).aliasIdx = [("carol", "c")] := by decide +kernel

/-- a history from a one-certifier genesis that reaches a state of the same shape -/
def g0 : State := genesis [⟨"a", "alice", "a"⟩] [] 1
def history : List Op :=
  [.govUpdate "b" "" "a" true, .govUpdate "c" "carol" "b" true, .issue "a" "audit" "0xc0de", .issue "b" "audit" "0xdead",
   .revoke "c" 2, .issue "c" "proof" "0xbeef", .certifyPlatform "a" "pk1" "aws", .certifyPlatform "b" "pk2" "sgx",
   .certifyPlatform "c" "pk1" "gcp"]

/-- the hypotheses of `wfg_from_genesis` and `continuation_after_history` are met -/
example : WFG (run g0 history) := wfg_from_genesis _ _ _ (by decide +kernel) (by decide +kernel) (by decide +kernel) (by decide +kernel) (by simp) history
example : (run g0 history).platforms = [("pk2", "sgx"), ("pk1", "gcp")] := by decide +kernel
example : (run g0 history).certs = [⟨1, "audit", "0xc0de", "a"⟩, ⟨3, "proof", "0xbeef", "c"⟩] := by decide +kernel
example : (initGenesis (exportGenesis (run g0 history))).aliasIdx = [("alice", "a"), ("carol", "c")] := by decide +kernel
example : (run (initGenesis (exportGenesis (run g0 history))) further).certs =
    [⟨1, "audit", "0xc0de", "a"⟩, ⟨3, "proof", "0xbeef", "c"⟩, ⟨4, "audit", "y", "c"⟩] := by decide +kernel

/-- two restarts in a row -/
example : (([history, further].foldl (fun st ops => initGenesis (exportGenesis (run st ops))) g0)).certifiers =
    [⟨"b", "", "a"⟩, ⟨"c", "carol", "b"⟩] := by decide +kernel

end Demo

end Shentu.Props.C20GCert

#print axioms Shentu.Props.C20GCert.platNodup_at_genesis
#print axioms Shentu.Props.C20GCert.platNodup_step
#print axioms Shentu.Props.C20GCert.wfg_step
#print axioms Shentu.Props.C20GCert.wfg_history
#print axioms Shentu.Props.C20GCert.wfg_from_genesis
#print axioms Shentu.Props.C20GCert.reimport_same_sharp
#print axioms Shentu.Props.C20GCert.reimport_same
#print axioms Shentu.Props.C20GCert.reimport_same_fails_empty_council
#print axioms Shentu.Props.C20GCert.reimport_empty_council_drops_platforms
#print axioms Shentu.Props.C20GCert.reimport_same_fails_stale_alias_index
#print axioms Shentu.Props.C20GCert.reimport_same_fails_missing_alias_index
#print axioms Shentu.Props.C20GCert.reimport_rebuilds_alias_index
#print axioms Shentu.Props.C20GCert.reimport_same_fails_duplicate_address
#print axioms Shentu.Props.C20GCert.reimport_same_fails_shared_alias
#print axioms Shentu.Props.C20GCert.reimport_shared_alias_last_wins
#print axioms Shentu.Props.C20GCert.reimport_same_fails_duplicate_id
#print axioms Shentu.Props.C20GCert.reimport_same_fails_duplicate_platform_key
#print axioms Shentu.Props.C20GCert.reimport_duplicate_platform_key_last_wins
#print axioms Shentu.Props.C20GCert.export_of_import
#print axioms Shentu.Props.C20GCert.reexport_same
#print axioms Shentu.Props.C20GCert.reexport_same_sharp
#print axioms Shentu.Props.C20GCert.continuation_same
#print axioms Shentu.Props.C20GCert.continuation_same_outcomes
#print axioms Shentu.Props.C20GCert.outcomes_are_log_results
#print axioms Shentu.Props.C20GCert.continuation_after_history
#print axioms Shentu.Props.C20GCert.continuation_many_restarts
#print axioms Shentu.Props.C20GCert.invariant_reimported
#print axioms Shentu.Props.C20GCert.import_establishes_invariant
#print axioms Shentu.Props.C20GCert.import_is_c13_genesis
#print axioms Shentu.Props.C20GCert.import_invariant_fails_duplicate_address
#print axioms Shentu.Props.C20GCert.import_duplicate_address_stale_alias
#print axioms Shentu.Props.C20GCert.Demo.demo_wfg
