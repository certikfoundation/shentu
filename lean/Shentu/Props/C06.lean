import Shentu.Proofs.ShieldLimitLemmas
import Shentu.Proofs.DecRound
/-
  C06 — Protection is never oversold and collateral is backed by stake.

  Property theorems (helper lemmas about the model: `Shentu/Proofs/ShieldLimitLemmas.lean`).
  The specification predicates below are written from the property text, not from the model's code.
-/
namespace Shentu.Props.C06
open Shentu Shentu.Shield Shentu.Shield.Limit

def Succeeds {α : Type} (x : Except Err α) : Prop := ∃ r, x = .ok r

/-- total collateral minus collateral being withdrawn minus collateral locked for claims -/
def free (s : State) : Int := s.totalCollateral - s.totalWithdrawing - s.totalClaimed

/-- the configured fraction of the free collateral (truncated to a whole amount) -/
def fraction (s : State) : Int := Dec.truncateInt (Dec.mul (Dec.ofInt (free s)) s.params.poolLimit)

/-- the state is within the purchase limits for pool `poolID` -/
def WithinLimits (s' : State) (poolID : Nat) : Prop :=
  s'.totalShield ≤ free s' ∧
  ∃ pool, findPool s' poolID = some pool ∧ pool.shield ≤ pool.limit ∧ pool.shield ≤ fraction s'

/-- total shield does not exceed the free collateral -/
def NotOversold (s : State) : Prop := s.totalShield ≤ free s

/-- the provider's collateral that is not being withdrawn is within the bonded stake -/
def Backed (s : State) (a : Addr) : Prop :=
  ∀ p, findProvider s a = some p → p.collateral - p.withdrawing ≤ p.bonded

/-- how a purchase is paid: the fees if there are any, otherwise the staked deposit -/
def payment (e : Env) (l : Ledger) (purchaser : Addr) (fees staking : Coins) : Except Err Ledger :=
  if Coins.isZero fees = false then l.send purchaser e.modAddr fees
  else l.send purchaser e.modAddr [(e.bond, Coins.amountOf staking e.bond)]

theorem succeeds_guard {α} {b : Bool} {k : String} {a : Except Err α} :
    Succeeds (if b = true then err k else a) ↔ b = false ∧ Succeeds a := by
  simp only [Succeeds, err_guard_iff, exists_and_left]

theorem not_succeeds_err {α} {k : String} : ¬ Succeeds (err k : Except Err α) := by
  rintro ⟨_, h⟩; cases h

theorem succeeds_guardP {α} {c : Prop} [Decidable c] {k : String} {a : Except Err α} :
    Succeeds (if c then err k else a) ↔ ¬ c ∧ Succeeds a :=
  (exists_congr fun _ => guard_iff).trans exists_and_left

theorem succeeds_ok {α} (r : α) : Succeeds (.ok r : Except Err α) := ⟨r, rfl⟩

/-- the configured fraction is computed without rounding error: ⌊free · poolLimit⌋ (toward zero) -/
theorem fraction_eq (s : State) : fraction s = Int.tdiv (free s * s.params.poolLimit.raw) Dec.prec :=
  Dec.trunc_mul_ofInt _ _

/-- "A purchase … succeeds only if [limits], the pool is active …; conversely, a funded purchase that meets all of
    these conditions is accepted": the exact acceptance condition of the common purchase path.
    The limits are stated on the pre-state here; `purchaseCore_within_limits` restates them on the post-state. -/
theorem purchaseCore_ok_iff (e : Env) (l : Ledger) (s : State) (poolID : Nat) (shield : Coins) (purchaser : Addr)
    (fees staking : Coins) :
    Succeeds (purchaseCore e l s poolID shield purchaser fees staking) ↔
      ∃ pool, findPool s poolID = some pool ∧ pool.active = true ∧ Coins.isZero shield = false ∧
        ¬ (Coins.isZero fees = true ∧ Coins.isZero staking = true) ∧
        s.totalShield + Coins.amountOf shield e.bond ≤ free s ∧
        Coins.amountOf shield e.bond + pool.shield ≤ min pool.limit (fraction s) ∧
        Succeeds (payment e l purchaser fees staking) := by
  simp only [Succeeds, Prod.exists, PoolLm.purchaseCore_ok_iff, PoolLm.pcPaid_ok_iff, payment, free, fraction]
  constructor
  · rintro ⟨l', _, pool, _, hp, ha, hz, hfs, h1, h2, ⟨hpay, _⟩, _⟩
    exact ⟨pool, hp, ha, hz, by simpa using hfs, h1, h2, l', hpay⟩
  · rintro ⟨pool, hp, ha, hz, hfs, h1, h2, l', hpay⟩
    exact ⟨l', _, pool, _, hp, ha, hz, by simpa using hfs, h1, h2, ⟨hpay, rfl⟩, rfl⟩

/-- what a successful purchase books: the pool's shield and the total shield grow by exactly the purchased amount;
    collateral, withdrawals, claims, providers and parameters are untouched -/
theorem purchaseCore_effect (e : Env) (l l' : Ledger) (s s' : State) (poolID : Nat) (shield : Coins) (purchaser : Addr)
    (fees staking : Coins) (h : purchaseCore e l s poolID shield purchaser fees staking = .ok (l', s')) :
    ∃ pool, findPool s poolID = some pool ∧
      findPool s' poolID = some { pool with shield := pool.shield + Coins.amountOf shield e.bond } ∧
      (∀ id, id ≠ poolID → findPool s' id = findPool s id) ∧
      s'.totalShield = s.totalShield + Coins.amountOf shield e.bond ∧
      free s' = free s ∧ fraction s' = fraction s ∧ s'.providers = s.providers ∧ s'.withdraws = s.withdraws := by
  obtain ⟨pool, hp, hb⟩ := purchaseCore_booked h
  have key := hb.lookup hp
  refine ⟨pool, hp, (key poolID).trans (if_pos rfl), fun id hne => (key id).trans (if_neg hne), hb.totalShield, ?_, ?_,
    hb.providers, hb.withdraws⟩
  · simp only [free, hb.totalCollateral, hb.totalWithdrawing, hb.totalClaimed]
  · simp only [fraction, free, hb.totalCollateral, hb.totalWithdrawing, hb.totalClaimed, hb.params]

/-- "A purchase … succeeds only if afterwards total shield does not exceed total collateral minus collateral being
    withdrawn minus collateral locked for claims, the pool's shield does not exceed its limit nor the configured
    fraction of that free collateral": the limits hold in the state after every successful purchase,
    whatever the state before. -/
theorem purchaseCore_within_limits (e : Env) (l l' : Ledger) (s s' : State) (poolID : Nat) (shield : Coins)
    (purchaser : Addr) (fees staking : Coins)
    (h : purchaseCore e l s poolID shield purchaser fees staking = .ok (l', s')) : WithinLimits s' poolID := by
  obtain ⟨pool, hp, _, _, _, h1, h2, _⟩ := (purchaseCore_ok_iff ..).mp ⟨_, h⟩
  obtain ⟨pool', hp', hself, _, hts, hfree, hfrac, _⟩ := purchaseCore_effect e l l' s s' poolID shield purchaser fees staking h
  cases hp.symm.trans hp'
  refine ⟨by rw [hfree, hts]; exact h1, _, hself, ?_, ?_⟩
  · show pool.shield + _ ≤ pool.limit; omega
  · show pool.shield + _ ≤ fraction s'; rw [hfrac]; omega

/-- the fee of a paid purchase at the standard rate: trunc(amount × feesRate) -/
def feeOf (s : State) (amt : Int) : Int := Dec.truncateInt (Dec.mul (Dec.ofInt amt) s.params.feesRate)
/-- the deposit of a staked purchase at the standard rate: trunc(stakingRate × amount) -/
def stakeOf (s : State) (amt : Int) : Int := Dec.truncateInt (Dec.mulInt s.params.stakingRate amt)

/-- the fee is computed without rounding error (one factor is integral): `⌊amount · feesRate⌋` toward zero -/
theorem feeOf_eq (s : State) (amt : Int) : feeOf s amt = Int.tdiv (amt * s.params.feesRate.raw) Dec.prec := Dec.trunc_mul_ofInt _ _
/-- the deposit is `⌊stakingRate · amount⌋` (toward zero); `Dec.mulInt` is exact -/
theorem stakeOf_eq (s : State) (amt : Int) : stakeOf s amt = Int.tdiv (s.params.stakingRate.raw * amt) Dec.prec := rfl

/-- what a user purchase costs: the fee, or for a staked purchase the deposit -/
def costOf (s : State) (staking : Bool) (amt : Int) : Int := if staking then stakeOf s amt else feeOf s amt

theorem costOf_zero (s : State) (staking : Bool) : costOf s staking 0 = 0 := by
  cases staking
  · exact Dec.trunc_mul_ofInt_zero _
  · exact Dec.trunc_mulInt_zero _

/-- a user purchase hands its cost `c` to the common path as fees or as a deposit: what the common path asks of it -/
theorem userPayment (e : Env) (l : Ledger) (purchaser : Addr) (staking : Bool) (c : Int) :
    ((Coins.isZero (if staking then [] else [(e.bond, c)]) = true ∧
       Coins.isZero (if staking then [(e.bond, c)] else []) = true) ↔ c = 0) ∧
    (c ≠ 0 → payment e l purchaser (if staking then [] else [(e.bond, c)]) (if staking then [(e.bond, c)] else []) =
      l.send purchaser e.modAddr [(e.bond, c)]) := by
  cases staking <;> simp (config := { contextual := true }) [payment, Coins.isZero_single, Coins.isZero_nil]

/-- both kinds of user purchase in one statement (`purchase_paid_ok_iff`, `purchase_staked_ok_iff` are its two
    instances): a user purchase succeeds iff the message is valid, the amount is at least the minimum, its cost is non-zero and covered, the pool
    is active and both limits are met. -/
theorem purchase_ok_iff (e : Env) (l : Ledger) (s : State) (poolID : Nat) (shield : Coins) (purchaser : Addr) (staking : Bool) :
    Succeeds (purchase e l s poolID shield purchaser staking) ↔
      (staking = false → poolID ≠ 0 ∧ Coins.isAllPositive shield = true) ∧
      Coins.isZero shield = false ∧
      s.params.minPurchase ≤ Coins.amountOf shield e.bond ∧
      costOf s staking (Coins.amountOf shield e.bond) ≠ 0 ∧
      ∃ pool, findPool s poolID = some pool ∧ pool.active = true ∧
        s.totalShield + Coins.amountOf shield e.bond ≤ free s ∧
        Coins.amountOf shield e.bond + pool.shield ≤ min pool.limit (fraction s) ∧
        Succeeds (l.send purchaser e.modAddr [(e.bond, costOf s staking (Coins.amountOf shield e.bond))]) := by
  rw [purchase_eq, succeeds_guard, succeeds_guard, purchaseCore_ok_iff,
    show userCost s staking (Coins.amountOf shield e.bond) = costOf s staking (Coins.amountOf shield e.bond) from rfl]
  generalize Coins.amountOf shield e.bond = amt
  have hc0 : amt = 0 → costOf s staking amt = 0 := fun h => h ▸ costOf_zero s staking
  generalize costOf s staking amt = c at hc0 ⊢
  obtain ⟨hzero, hpay⟩ := userPayment e l purchaser staking c
  rw [hzero]
  constructor
  · rintro ⟨g1, g2, pool, hp, ha, hz, hcne, h1, h2, hsend⟩
    refine ⟨fun hst => by simpa [hst] using g1, hz, ?_, hcne, pool, hp, ha, h1, h2, hpay hcne ▸ hsend⟩
    have := mt hc0 hcne
    simp [hz] at g2
    omega
  · rintro ⟨hv, hz, hmin, hcne, pool, hp, ha, h1, h2, hsend⟩
    refine ⟨?_, ?_, pool, hp, ha, hz, hcne, h1, h2, (hpay hcne).symm ▸ hsend⟩
    · cases staking
      · simp [(hv rfl).1, (hv rfl).2]
      · rfl
    · have : ¬ s.params.minPurchase > amt := by omega
      simp [this]

/-- the exact acceptance condition of a paid user purchase: valid message, amount at least the minimum, a non-zero
    fee `trunc(amount × feesRate)`, active pool, both limits, and the purchaser can pay the fee.
    ("succeeds only if … the pool is active and (for purchases by users) the amount is at least the minimum";
    "conversely, a funded purchase … that meets all of these conditions is accepted" — with the extra condition that
    the fee does not truncate to zero, see `purchase_paid_accepted`.) -/
theorem purchase_paid_ok_iff (e : Env) (l : Ledger) (s : State) (poolID : Nat) (shield : Coins) (purchaser : Addr) :
    Succeeds (purchase e l s poolID shield purchaser false) ↔
      poolID ≠ 0 ∧ Coins.isAllPositive shield = true ∧
      s.params.minPurchase ≤ Coins.amountOf shield e.bond ∧
      feeOf s (Coins.amountOf shield e.bond) ≠ 0 ∧
      ∃ pool, findPool s poolID = some pool ∧ pool.active = true ∧
        s.totalShield + Coins.amountOf shield e.bond ≤ free s ∧
        Coins.amountOf shield e.bond + pool.shield ≤ min pool.limit (fraction s) ∧
        Succeeds (l.send purchaser e.modAddr [(e.bond, feeOf s (Coins.amountOf shield e.bond))]) := by
  rw [purchase_ok_iff]
  simp only [costOf, Bool.false_eq_true, if_false, true_implies]
  constructor
  · rintro ⟨⟨h1, h2⟩, _, h3, h4, h5⟩
    exact ⟨h1, h2, h3, h4, h5⟩
  · rintro ⟨h1, h2, h3, h4, h5⟩
    exact ⟨⟨h1, h2⟩, Coins.isAllPositive_not_isZero shield h2, h3, h4, h5⟩

/-- the exact acceptance condition of a staked user purchase: some shield, amount at least the minimum, a non-zero
    deposit `trunc(stakingRate × amount)`, active pool, both limits, and the purchaser can put up the deposit. -/
theorem purchase_staked_ok_iff (e : Env) (l : Ledger) (s : State) (poolID : Nat) (shield : Coins) (purchaser : Addr) :
    Succeeds (purchase e l s poolID shield purchaser true) ↔
      Coins.isZero shield = false ∧
      s.params.minPurchase ≤ Coins.amountOf shield e.bond ∧
      stakeOf s (Coins.amountOf shield e.bond) ≠ 0 ∧
      ∃ pool, findPool s poolID = some pool ∧ pool.active = true ∧
        s.totalShield + Coins.amountOf shield e.bond ≤ free s ∧
        Coins.amountOf shield e.bond + pool.shield ≤ min pool.limit (fraction s) ∧
        Succeeds (l.send purchaser e.modAddr [(e.bond, stakeOf s (Coins.amountOf shield e.bond))]) := by
  rw [purchase_ok_iff]
  simp only [costOf, if_true, Bool.true_eq_false, false_implies, true_and]

/-- "(for purchases by users) the amount is at least the minimum": every accepted user purchase, paid or staked,
    is for a non-zero amount of at least `minPurchase` — no assumption on the rates or on the state is needed. -/
theorem purchase_minimum (e : Env) (l : Ledger) (s : State) (poolID : Nat) (shield : Coins) (purchaser : Addr)
    (staking : Bool) (h : Succeeds (purchase e l s poolID shield purchaser staking)) :
    s.params.minPurchase ≤ Coins.amountOf shield e.bond ∧ Coins.amountOf shield e.bond ≠ 0 :=
  let ⟨_, _, hmin, hc, _⟩ := (purchase_ok_iff ..).mp h
  ⟨hmin, fun h0 => hc (h0 ▸ costOf_zero s staking)⟩

/-- a user purchase goes through the common path: the limits hold in the state after it -/
theorem purchase_within_limits (e : Env) (l l' : Ledger) (s s' : State) (poolID : Nat) (shield : Coins) (purchaser : Addr)
    (staking : Bool) (h : purchase e l s poolID shield purchaser staking = .ok (l', s')) : WithinLimits s' poolID := by
  obtain ⟨_, _, h⟩ := PoolLm.purchase_ok h
  exact purchaseCore_within_limits _ _ _ _ _ _ _ _ _ _ h

theorem feeOf_ne_zero (s : State) (amt : Int) (h : Dec.prec ≤ amt * s.params.feesRate.raw) : feeOf s amt ≠ 0 := by
  rw [feeOf_eq, Int.tdiv_eq_ediv_of_nonneg (by simp only [Dec.prec] at h ⊢; omega)]
  simp only [Dec.prec] at h ⊢; omega

theorem stakeOf_ne_zero (s : State) (amt : Int) (h : Dec.prec ≤ s.params.stakingRate.raw * amt) : stakeOf s amt ≠ 0 := by
  rw [stakeOf_eq, Int.tdiv_eq_ediv_of_nonneg (by simp only [Dec.prec] at h ⊢; omega)]
  simp only [Dec.prec] at h ⊢; omega

/-- "Conversely, a funded purchase … that meets all of these conditions is accepted" (paid): a valid message for at
    least the minimum, whose fee is at least one unit and covered by the purchaser, in an active pool, within both limits. -/
theorem purchase_paid_accepted (e : Env) (l : Ledger) (s : State) (poolID : Nat) (shield : Coins) (purchaser : Addr) (pool : Pool)
    (hid : poolID ≠ 0) (hpos : Coins.isAllPositive shield = true)
    (hmin : s.params.minPurchase ≤ Coins.amountOf shield e.bond)
    (hrate : Dec.prec ≤ Coins.amountOf shield e.bond * s.params.feesRate.raw)
    (hp : findPool s poolID = some pool) (ha : pool.active = true)
    (h1 : s.totalShield + Coins.amountOf shield e.bond ≤ free s)
    (h2 : Coins.amountOf shield e.bond + pool.shield ≤ pool.limit)
    (h3 : Coins.amountOf shield e.bond + pool.shield ≤ fraction s)
    (hfund : Succeeds (l.send purchaser e.modAddr [(e.bond, feeOf s (Coins.amountOf shield e.bond))])) :
    Succeeds (purchase e l s poolID shield purchaser false) :=
  (purchase_paid_ok_iff ..).mpr ⟨hid, hpos, hmin, feeOf_ne_zero _ _ hrate, pool, hp, ha, h1, by omega, hfund⟩

/-- "Conversely, a funded purchase … that meets all of these conditions is accepted" (staked): the deposit takes the place of the fee. -/
theorem purchase_staked_accepted (e : Env) (l : Ledger) (s : State) (poolID : Nat) (shield : Coins) (purchaser : Addr) (pool : Pool)
    (hz : Coins.isZero shield = false)
    (hmin : s.params.minPurchase ≤ Coins.amountOf shield e.bond)
    (hrate : Dec.prec ≤ s.params.stakingRate.raw * Coins.amountOf shield e.bond)
    (hp : findPool s poolID = some pool) (ha : pool.active = true)
    (h1 : s.totalShield + Coins.amountOf shield e.bond ≤ free s)
    (h2 : Coins.amountOf shield e.bond + pool.shield ≤ pool.limit)
    (h3 : Coins.amountOf shield e.bond + pool.shield ≤ fraction s)
    (hfund : Succeeds (l.send purchaser e.modAddr [(e.bond, stakeOf s (Coins.amountOf shield e.bond))])) :
    Succeeds (purchase e l s poolID shield purchaser true) :=
  (purchase_staked_ok_iff ..).mpr ⟨hz, hmin, stakeOf_ne_zero _ _ hrate, pool, hp, ha, h1, by omega, hfund⟩

/-- "(… or made by the admin for a pool)": the purchase made when a pool is created obeys the same limits -/
theorem createPool_within_limits (e : Env) (l l' : Ledger) (s s' : State) (creator : Addr) (shield fees : Coins)
    (sponsor : String) (sponsorAddr : Addr) (limit : Int)
    (h : createPool e l s creator shield fees sponsor sponsorAddr limit = .ok (l', s')) : WithinLimits s' s.nextPool := by
  exact purchaseCore_within_limits _ _ _ _ _ _ _ _ _ _ (PoolLm.createPool_ok h).2.2

theorem purchaseCore_fees_iff (e : Env) (l : Ledger) (s : State) (poolID : Nat) (shield : Coins) (purchaser : Addr) (fees : Coins) :
    Succeeds (purchaseCore e l s poolID shield purchaser fees []) ↔
      ∃ pool, findPool s poolID = some pool ∧ pool.active = true ∧ Coins.isZero shield = false ∧ Coins.isZero fees = false ∧
        s.totalShield + Coins.amountOf shield e.bond ≤ free s ∧
        Coins.amountOf shield e.bond + pool.shield ≤ min pool.limit (fraction s) ∧
        Succeeds (l.send purchaser e.modAddr fees) := by
  rw [purchaseCore_ok_iff]
  cases hz : Coins.isZero fees <;> simp [payment, hz, Coins.isZero_nil]

/-- the purchase an admin operation makes: on a state `s1` that has the totals of `s` and holds the pool `pool1` -/
theorem purchaseCore_at_iff (e : Env) (l : Ledger) (s s1 : State) (poolID : Nat) (shield : Coins) (purchaser : Addr)
    (fees : Coins) (pool1 : Pool) (hfind : findPool s1 poolID = some pool1)
    (hT : s1.totalShield = s.totalShield := by rfl) (hfree : free s1 = free s := by rfl)
    (hfrac : fraction s1 = fraction s := by rfl) :
    Succeeds (purchaseCore e l s1 poolID shield purchaser fees []) ↔
      pool1.active = true ∧ Coins.isZero shield = false ∧ Coins.isZero fees = false ∧
      s.totalShield + Coins.amountOf shield e.bond ≤ free s ∧
      Coins.amountOf shield e.bond + pool1.shield ≤ min pool1.limit (fraction s) ∧
      Succeeds (l.send purchaser e.modAddr fees) := by
  rw [purchaseCore_fees_iff, hT, hfree, hfrac, hfind]
  simp only [Option.some.injEq, exists_eq_left']

/-- the exact acceptance condition of `createPool` (for a fresh pool id): valid message from the admin, fees present and
    covered, and the initial shield within the free collateral, the new pool's limit and the configured fraction -/
theorem createPool_ok_iff (e : Env) (l : Ledger) (s : State) (creator : Addr) (shield fees : Coins)
    (sponsor : String) (sponsorAddr : Addr) (limit : Int) (hfresh : findPool s s.nextPool = none) :
    Succeeds (createPool e l s creator shield fees sponsor sponsorAddr limit) ↔
      sponsor.trimAscii.toString ≠ "" ∧ Coins.isAllPositive shield = true ∧ creator = s.admin ∧
      Coins.isZero fees = false ∧
      s.totalShield + Coins.amountOf shield e.bond ≤ free s ∧
      Coins.amountOf shield e.bond ≤ min limit (fraction s) ∧
      Succeeds (l.send creator e.modAddr fees) := by
  rw [createPool_eq, succeeds_guard, succeeds_guard,
    purchaseCore_at_iff e l s _ _ _ _ _ _ (findPool_withNewPool s sponsor sponsorAddr limit hfresh)]
  bool_norm
  simp only [Int.add_zero, true_and, and_assoc, bne_eq_false_iff_eq]
  exact ⟨fun ⟨a, b, c, _, d⟩ => ⟨a, b, c, d⟩, fun ⟨a, b, c, d⟩ => ⟨a, b, c, Coins.isAllPositive_not_isZero shield b, d⟩⟩
/-- "(… or made by the admin for a pool)": a purchase made through `updatePool` obeys the same limits
    (the pool's limit being the new one when the message changes it) -/
theorem updatePool_within_limits (e : Env) (l l' : Ledger) (s s' : State) (updater : Addr) (poolID : Nat)
    (shield fees : Coins) (limit : Int) (hz : Coins.isZero shield = false)
    (h : updatePool e l s updater poolID shield fees limit = .ok (l', s')) : WithinLimits s' poolID := by
  obtain ⟨_, _, _, _, _, rfl, h | ⟨hz', _⟩⟩ := PoolLm.updatePool_ok h
  · exact purchaseCore_within_limits _ _ _ _ _ _ _ _ _ _ h
  · rw [hz] at hz'; cases hz'

/-- `updatePool` without shield sells nothing: the total shield, every pool's shield and the free collateral stay as
    they were (only the limit, and the fee pot, may change) -/
theorem updatePool_no_shield (e : Env) (l l' : Ledger) (s s' : State) (updater : Addr) (poolID : Nat)
    (shield fees : Coins) (limit : Int) (hz : Coins.isZero shield = true)
    (h : updatePool e l s updater poolID shield fees limit = .ok (l', s')) :
    s'.totalShield = s.totalShield ∧ free s' = free s ∧
    ∀ id, (findPool s' id).map (·.shield) = (findPool s id).map (·.shield) := by
  obtain ⟨_, _, pool, _, hp, rfl, hcase⟩ := PoolLm.updatePool_ok h
  have hshield := findPool_setPool_shield hp (relimit pool limit) (relimit_id pool limit) (relimit_shield pool limit)
  rcases hcase with h | ⟨_, ⟨_, rfl⟩ | ⟨_, rfl⟩⟩
  · obtain ⟨_, _, _, _, hz', _⟩ := PoolLm.purchaseCore_ok h
    rw [hz] at hz'; cases hz'
  · exact ⟨rfl, rfl, hshield⟩
  · exact ⟨rfl, rfl, hshield⟩

/-- the exact acceptance condition of an `updatePool` that buys shield: valid message from the admin, active pool,
    fees present and covered, and the limits (against the pool's new limit if the message sets one) -/
theorem updatePool_ok_iff (e : Env) (l : Ledger) (s : State) (updater : Addr) (poolID : Nat)
    (shield fees : Coins) (limit : Int) (hz : Coins.isZero shield = false) :
    Succeeds (updatePool e l s updater poolID shield fees limit) ↔
      poolID ≠ 0 ∧ Coins.isAnyNegative shield = false ∧ updater = s.admin ∧
      ∃ pool, findPool s poolID = some pool ∧ pool.active = true ∧ Coins.isZero fees = false ∧
        s.totalShield + Coins.amountOf shield e.bond ≤ free s ∧
        Coins.amountOf shield e.bond + pool.shield ≤ min (if limit = 0 then pool.limit else limit) (fraction s) ∧
        Succeeds (l.send updater e.modAddr fees) := by
  rw [updatePool_eq, succeeds_guard, succeeds_guard]
  bool_norm
  simp only [and_assoc, bne_eq_false_iff_eq]
  refine and_congr_right fun _ => and_congr_right fun _ => and_congr_right fun _ => ?_
  cases hp : findPool s poolID with
  | none => exact ⟨fun h => (not_succeeds_err h).elim, fun ⟨_, h, _⟩ => (by cases h)⟩
  | some pool =>
    have hfind := (findPool_setPool_some hp (relimit pool limit) (relimit_id pool limit) poolID).trans (if_pos rfl)
    simp only [hz, if_true, Option.some.injEq, exists_eq_left',
      purchaseCore_at_iff e l s _ _ _ _ _ _ hfind, relimit_active, relimit_shield, relimit_limit, true_and]

/-- every successful purchase-type operation ESTABLISHES `NotOversold` in its post-state, whatever the state before.
    (`NotOversold` is not an invariant of the module: withdrawal requests and claim payouts may lower the free
    collateral below the shield already sold; what the property demands is that no purchase is accepted then.) -/
theorem purchases_keep_NotOversold (e : Env) (l l' : Ledger) (s s' : State) :
    (∀ poolID shield purchaser fees staking,
      purchaseCore e l s poolID shield purchaser fees staking = .ok (l', s') → NotOversold s') ∧
    (∀ poolID shield purchaser staking,
      purchase e l s poolID shield purchaser staking = .ok (l', s') → NotOversold s') ∧
    (∀ creator shield fees sponsor sponsorAddr limit,
      createPool e l s creator shield fees sponsor sponsorAddr limit = .ok (l', s') → NotOversold s') ∧
    (∀ updater poolID shield fees limit, Coins.isZero shield = false →
      updatePool e l s updater poolID shield fees limit = .ok (l', s') → NotOversold s') :=
  ⟨fun _ _ _ _ _ h => (purchaseCore_within_limits _ _ _ _ _ _ _ _ _ _ h).1,
   fun _ _ _ _ h => (purchase_within_limits _ _ _ _ _ _ _ _ _ h).1,
   fun _ _ _ _ _ _ h => (createPool_within_limits _ _ _ _ _ _ _ _ _ _ _ h).1,
   fun _ _ _ _ _ hz h => (updatePool_within_limits _ _ _ _ _ _ _ _ _ _ hz h).1⟩

/-- while the module is oversold (free collateral below the shield sold, e.g. after withdrawal requests), every
    purchase of a non-negative amount is refused -/
theorem oversold_refuses (e : Env) (l : Ledger) (s : State) (poolID : Nat) (shield : Coins) (purchaser : Addr)
    (fees staking : Coins) (hover : free s < s.totalShield) (hamt : 0 ≤ Coins.amountOf shield e.bond) :
    ¬ Succeeds (purchaseCore e l s poolID shield purchaser fees staking) := by
  rw [purchaseCore_ok_iff]
  rintro ⟨_, _, _, _, _, h1, _⟩
  omega

/-- the provider's record as a deposit sees it: the stored one, or for a first deposit an empty one whose bonded
    stake is what the staking module reports for the address (nothing if it has no delegation) -/
def recordOf (e : Env) (s : State) (a : Addr) : Provider :=
  (findProvider s a).getD
    { addr := a, collateral := 0, withdrawing := 0, bonded := (e.bondedAfter a).getD 0, rewards := Dec.zero }

/-- "A deposit succeeds only if the provider's collateral not being withdrawn stays within their bonded stake.
    … Conversely, a … deposit that meets all of these conditions is accepted": the exact acceptance condition. -/
theorem deposit_ok_iff (e : Env) (s : State) (a : Addr) (coins : Coins) :
    Succeeds (deposit e s a coins) ↔
      Coins.isAllPositive coins = true ∧ (∀ d ∈ Coins.denoms coins, d = e.bond) ∧
      (recordOf e s a).collateral + Coins.amountOf coins e.bond - (recordOf e s a).withdrawing ≤ (recordOf e s a).bonded := by
  rw [deposit_eq, succeeds_guard, succeeds_guard, succeeds_guardP, show recordOf e s a = depositRecord e s a from rfl]
  simp only [Bool.not_eq_false', List.any_eq_false, bne_iff_ne, ne_eq, Decidable.not_not, Int.not_lt, succeeds_ok, and_true]

/-- what a successful deposit does: the deposited amount is positive; the provider's collateral grows by exactly that
    amount and nothing else of the record changes; total collateral grows by the amount; every other provider, the
    withdrawal queue, the pools and the other totals are untouched. -/
theorem deposit_effect (e : Env) (s s' : State) (a : Addr) (coins : Coins) (h : deposit e s a coins = .ok s') :
    0 < Coins.amountOf coins e.bond ∧
    findProvider s' a = some { recordOf e s a with collateral := (recordOf e s a).collateral + Coins.amountOf coins e.bond } ∧
    (∀ b, b ≠ a → findProvider s' b = findProvider s b) ∧
    s'.totalCollateral = s.totalCollateral + Coins.amountOf coins e.bond ∧
    s'.totalWithdrawing = s.totalWithdrawing ∧ s'.totalShield = s.totalShield ∧ s'.totalClaimed = s.totalClaimed ∧
    s'.withdraws = s.withdraws ∧ s'.pools = s.pools := by
  have hpos := (deposit_ok h).1
  rw [deposit_eq] at h
  cases (of_guard (of_guard (of_guard h).2).2).2
  have key := findProvider_depositState e s a (Coins.amountOf coins e.bond)
  exact ⟨hpos, (key a).trans (if_pos rfl), fun b hb => (key b).trans (if_neg hb), rfl, rfl, rfl, rfl, rfl, rfl⟩

/-- "A deposit succeeds only if the provider's collateral not being withdrawn stays within their bonded stake":
    after every successful deposit the depositor is backed, whatever the state before. -/
theorem deposit_backed (e : Env) (s s' : State) (a : Addr) (coins : Coins) (h : deposit e s a coins = .ok s') :
    Backed s' a := by
  have hok := (deposit_ok_iff e s a coins).mp ⟨s', h⟩
  obtain ⟨_, hfind, _⟩ := deposit_effect e s s' a coins h
  intro p hp
  rw [hfind] at hp; injection hp with hp; subst hp
  exact hok.2.2

/-- the hook fails (a panic, i.e. the staking transaction is rolled back) exactly when it would have to force a
    withdrawal while the recomputed stake is negative; a staking module never reports a negative stake -/
theorem stakingHook_ok_iff (e : Env) (s : State) (a : Addr) (staked : Int) :
    Succeeds (stakingHook e s a staked) ↔
      ∀ p, findProvider s a = some p → p.collateral - p.withdrawing - staked > 0 → 0 ≤ staked := by
  cases hf : findProvider s a with
  | none =>
    rw [stakingHook_none e s a staked hf]
    exact ⟨fun _ p hp => (by cases hp), fun _ => ⟨s, rfl⟩⟩
  | some p =>
    rw [stakingHook_some e s a staked p hf]
    constructor
    · intro h q hq hw
      injection hq with hq; subst hq
      rw [if_pos hw] at h
      split at h
      · obtain ⟨_, h⟩ := h; cases h
      · omega
    · intro h
      split
      · rename_i hw
        have := h p rfl hw
        rw [if_neg (by omega)]
        exact ⟨_, rfl⟩
      · exact ⟨_, rfl⟩

/-- the forced withdrawal can never exceed what is withdrawable: with a non-negative recomputed stake the hook never fails -/
theorem stakingHook_never_fails (e : Env) (s : State) (a : Addr) (staked : Int) (h : 0 ≤ staked) :
    Succeeds (stakingHook e s a staked) :=
  (stakingHook_ok_iff e s a staked).mpr (fun _ _ _ => h)

/-- an address that is not a provider is not affected by its staking actions -/
theorem stakingHook_not_provider (e : Env) (s : State) (a : Addr) (staked : Int) (h : findProvider s a = none) :
    stakingHook e s a staked = .ok s := stakingHook_none e s a staked h

/-- "whenever a provider's own staking action drops their stake below that, the shortfall is put into withdrawal at
    once": if the recomputed stake is below the collateral not being withdrawn, the shortfall
    `collateral − withdrawing − staked` — exactly — is added to the provider's `withdrawing` and to the total, and one
    queue entry of exactly that amount, completing at `now + withdrawPeriod`, is inserted into the queue (after the
    entries due no later, before those due later); the collateral itself, every other provider, the pools and the
    other totals are untouched. -/
theorem stakingHook_shortfall (e : Env) (s s' : State) (a : Addr) (staked : Int) (p : Provider)
    (hp : findProvider s a = some p) (hshort : staked < p.collateral - p.withdrawing)
    (h : stakingHook e s a staked = .ok s') :
    let w : Withdraw := { addr := a, amount := p.collateral - p.withdrawing - staked, time := e.t + s.params.withdrawPeriod }
    findProvider s' a = some { p with bonded := staked, withdrawing := p.withdrawing + w.amount } ∧
    (∀ b, b ≠ a → findProvider s' b = findProvider s b) ∧
    s'.totalWithdrawing = s.totalWithdrawing + w.amount ∧
    (∃ pre post, s.withdraws = pre ++ post ∧ s'.withdraws = pre ++ w :: post ∧
      (∀ x ∈ pre, x.time ≤ w.time) ∧ (∀ x, post.head? = some x → w.time < x.time)) ∧
    s'.totalCollateral = s.totalCollateral ∧ s'.totalShield = s.totalShield ∧ s'.totalClaimed = s.totalClaimed ∧
    s'.pools = s.pools := by
  intro w
  rw [stakingHook_some e s a staked p hp, if_pos (by omega)] at h
  split at h; · cases h
  injection h with h; subst h
  have key := findProvider_forcedState e s a p staked hp
  exact ⟨(key a).trans (if_pos rfl), fun b hb => (key b).trans (if_neg hb), rfl, Coll.insertWithdraw_split w s.withdraws,
    rfl, rfl, rfl, rfl⟩

/-- otherwise (the stake still covers the collateral not being withdrawn) only the recorded stake changes -/
theorem stakingHook_covered (e : Env) (s s' : State) (a : Addr) (staked : Int) (p : Provider)
    (hp : findProvider s a = some p) (hcov : p.collateral - p.withdrawing ≤ staked)
    (h : stakingHook e s a staked = .ok s') :
    findProvider s' a = some { p with bonded := staked } ∧
    (∀ b, b ≠ a → findProvider s' b = findProvider s b) ∧
    s'.withdraws = s.withdraws ∧ s'.totalWithdrawing = s.totalWithdrawing ∧
    s'.totalCollateral = s.totalCollateral ∧ s'.totalShield = s.totalShield ∧ s'.totalClaimed = s.totalClaimed ∧
    s'.pools = s.pools := by
  rw [stakingHook_some e s a staked p hp, if_neg (by omega)] at h
  injection h with h; subst h
  have key := findProvider_setProvider_some hp { p with bonded := staked } rfl
  exact ⟨(key a).trans (if_pos rfl), fun b hb => (key b).trans (if_neg hb), rfl, rfl, rfl, rfl, rfl, rfl⟩

/-- after every successful staking hook the provider is backed again, whatever the state before
    (in the shortfall case with equality: collateral − withdrawing = stake) -/
theorem stakingHook_backed (e : Env) (s s' : State) (a : Addr) (staked : Int)
    (h : stakingHook e s a staked = .ok s') : Backed s' a := by
  intro q hq
  cases hf : findProvider s a with
  | none =>
    rw [stakingHook_none e s a staked hf] at h
    injection h with h; subst h
    rw [hf] at hq; cases hq
  | some p =>
    rw [findProvider_stakingHook_some hf h, if_pos rfl] at hq; cases hq
    show p.collateral - (p.withdrawing + max 0 (p.collateral - p.withdrawing - staked)) ≤ staked
    omega

/-- the hooks as they fire in a step (`stakingChanged`): the stake reported by the staking module is used -/
theorem stakingChanged_backed (e : Env) (s s' : State) (a : Addr) (b : Int) (hb : e.bondedAfter a = some b)
    (h : stakingChanged e s a = .ok s') : Backed s' a := by
  simp only [stakingChanged, hb] at h
  exact stakingHook_backed e s s' a b h

/-- **The deposit message in terms of the model's operations.** `Keeper.DepositCollateral` (a slash changes
    what the delegations are worth without any staking hook, so the recorded stake of an existing provider may be stale) is, for
    an existing provider, the staking hook with the stake recomputed from the delegations followed by the deposit proper; for a
    new provider it is the deposit proper. Every history theorem below quantifies over arbitrary sequences of exactly these
    operations. -/
theorem depositMsg_ops (e : Env) (s s' : State) (a : Addr) (coins : Coins) (h : depositMsg e s a coins = .ok s') :
    (findProvider s a = none ∧ deposit e s a coins = .ok s') ∨
    (∃ p s1, findProvider s a = some p ∧ stakingChanged e s a = .ok s1 ∧ deposit e s1 a coins = .ok s') := by
  unfold depositMsg at h
  split at h; · cases h
  split at h
  · rename_i hf; exact Or.inl ⟨hf, h⟩
  · rename_i p hf
    split at h; · cases h
    rename_i s1 h1
    exact Or.inr ⟨p, s1, hf, h1, h⟩

/-- **"A deposit succeeds only if the provider's collateral not being withdrawn stays within their bonded stake"** — the bonded
    stake as the staking module reports it at the time of the deposit (`e.bondedAfter a`, what the delegations are worth now),
    not a figure recorded at the provider's last staking action. -/
theorem depositMsg_within_current_stake (e : Env) (s s' : State) (a : Addr) (coins : Coins) (b : Int) (q : Provider)
    (hq : findProvider s a = some q) (hb : e.bondedAfter a = some b) (h : depositMsg e s a coins = .ok s') :
    ∃ p', findProvider s' a = some p' ∧ p'.bonded = b ∧ p'.collateral - p'.withdrawing ≤ b := by
  rcases depositMsg_ops e s s' a coins h with ⟨hn, _⟩ | ⟨p, s1, _, h1, h2⟩
  · rw [hq] at hn; cases hn
  · -- after the hook the record holds the current stake
    obtain ⟨p1, hp1, hb1⟩ : ∃ p1, findProvider s1 a = some p1 ∧ p1.bonded = b := by
      simp only [stakingChanged, hb] at h1
      exact ⟨_, (findProvider_stakingHook_some hq h1 a).trans (if_pos rfl), rfl⟩
    obtain ⟨_, hfind, _⟩ := deposit_effect e s1 s' a coins h2
    have hback := deposit_backed e s1 s' a coins h2
    have hro : recordOf e s1 a = p1 := by simp [recordOf, hp1]
    rw [hro] at hfind
    refine ⟨_, hfind, hb1, ?_⟩
    have := hback _ hfind
    simpa [hb1] using this

/-- after every successful deposit message the depositor is backed -/
theorem depositMsg_backed (e : Env) (s s' : State) (a : Addr) (coins : Coins) (h : depositMsg e s a coins = .ok s') :
    Backed s' a := by
  rcases depositMsg_ops e s s' a coins h with ⟨_, h2⟩ | ⟨_, s1, _, _, h2⟩
  · exact deposit_backed e s s' a coins h2
  · exact deposit_backed e s1 s' a coins h2

/-- what "funded" means for a user purchase: the single amount to pay is non-negative and within the payer's balance -/
theorem funded_iff (l : Ledger) (src dst : Addr) (d : Denom) (x : Int) :
    Succeeds (l.send src dst [(d, x)]) ↔ 0 ≤ x ∧ x ≤ l.balOf src d :=
  Ledger.send_single_succeeds_iff l src dst d x

def AllBacked (s : State) : Prop := ∀ a, Backed s a

/-- a provider's action: a deposit, a withdrawal request, or a staking action after which the staking module
    reports `staked` as the provider's bonded stake (delegate, undelegate, redelegate) -/
inductive ProvOp where
  | deposit (a : Addr) (coins : Coins)
  | withdraw (a : Addr) (coins : Coins)
  | staking (a : Addr) (staked : Int)

/-- the model operation behind each provider action -/
def applyOp (e : Env) (s : State) : ProvOp → Except Err State
  | .deposit a coins => Shield.deposit e s a coins
  | .withdraw a coins => Shield.withdraw e s a coins
  | .staking a staked => stakingHook e s a staked

/-- a history of provider actions, each in its own environment (block time, staking view); failed actions are
    rolled back, i.e. leave the state as it was -/
def run : List (Env × ProvOp) → State → State
  | [], s => s
  | (e, op) :: rest, s =>
    match applyOp e s op with
    | .ok s' => run rest s'
    | .error _ => run rest s

theorem AllBacked.of_one {s s' : State} {a : Addr} (hs : AllBacked s)
    (hoth : ∀ b, b ≠ a → findProvider s' b = findProvider s b) (ha : Backed s' a) : AllBacked s' := by
  intro b
  by_cases hb : b = a
  · exact hb ▸ ha
  · intro q hq; exact hs b q (hoth b hb ▸ hq)

/-- a withdrawal request keeps its provider backed (it only lowers the collateral not being withdrawn) -/
theorem withdraw_keeps {e : Env} {s s' : State} {a : Addr} {coins : Coins} (h : Shield.withdraw e s a coins = .ok s') :
    (∀ b, b ≠ a → findProvider s' b = findProvider s b) ∧ (Backed s a → Backed s' a) := by
  obtain ⟨hpos, h⟩ := withdraw_ok h
  rcases withdrawCollateral_ok h with ⟨_, rfl⟩ | ⟨_, p, hp, _, rfl⟩
  · exact ⟨fun _ _ => rfl, id⟩
  · have key := findProvider_requested e hp (Coins.amountOf coins e.bond)
    refine ⟨fun b hb => (key b).trans (if_neg hb), fun ha q hq => ?_⟩
    rw [key, if_pos rfl] at hq; cases hq
    have := ha p hp
    show p.collateral - (p.withdrawing + _) ≤ p.bonded
    omega

/-- one successful provider action keeps every provider backed: the acting provider by `deposit_backed` /
    `stakingHook_backed` (a withdrawal request only lowers the collateral not being withdrawn), the others because
    their records are untouched -/
theorem applyOp_allBacked (e : Env) (s s' : State) (op : ProvOp) (hs : AllBacked s) (h : applyOp e s op = .ok s') :
    AllBacked s' := by
  cases op with
  | deposit a coins => exact hs.of_one (deposit_effect e s s' a coins h).2.2.1 (deposit_backed e s s' a coins h)
  | withdraw a coins => exact hs.of_one (withdraw_keeps h).1 ((withdraw_keeps h).2 (hs a))
  | staking a staked => exact hs.of_one (fun _ hb => findProvider_stakingHook h hb) (stakingHook_backed e s s' a staked h)

/-- Quantifier "all delegate / undelegate / redelegate sequences by providers": along every history of deposits,
    withdrawal requests and staking actions, in any order and by any providers, every provider's collateral not being
    withdrawn stays within the bonded stake recorded for them. -/
theorem run_allBacked (ops : List (Env × ProvOp)) (s : State) (hs : AllBacked s) : AllBacked (run ops s) := by
  induction ops generalizing s with
  | nil => exact hs
  | cons x rest ih =>
    obtain ⟨e, op⟩ := x
    unfold run
    split
    · rename_i s' h; exact ih s' (applyOp_allBacked e s s' op hs h)
    · exact ih s hs

/-- purchases do not touch the providers, so they keep every provider backed too -/
theorem purchaseCore_allBacked (e : Env) (l l' : Ledger) (s s' : State) (poolID : Nat) (shield : Coins) (purchaser : Addr)
    (fees staking : Coins) (hs : AllBacked s)
    (h : purchaseCore e l s poolID shield purchaser fees staking = .ok (l', s')) : AllBacked s' :=
  let ⟨_, _, hb⟩ := purchaseCore_booked h
  fun a q hq => hs a q (by simpa only [findProvider, hb.providers] using hq)

theorem succeeds_of_isOk {α : Type} {x : Except Err α} (h : x.isOk = true) : Succeeds x := by
  cases x with
  | ok r => exact ⟨r, rfl⟩
  | error _ => cases h

theorem not_succeeds_of_isOk {α : Type} {x : Except Err α} (h : x.isOk = false) : ¬ Succeeds x := by
  rintro ⟨r, hr⟩; subst hr; cases h

/-! ## non-vacuity: a concrete state, purchases and deposits exactly at the limits and one unit beyond -/
namespace Ex

def params : Params :=
  { protection := 1000, withdrawPeriod := 500, feesRate := ⟨100000000000000000⟩, poolLimit := ⟨500000000000000000⟩,
    minPurchase := 50, stakingRate := ⟨2000000000000000000⟩, payoutPeriod := 100 }

/-- one provider (collateral 1000, 100 of it being withdrawn, stake 950), pool 1 (shield 300, limit 600) and
    pool 2 (shield 200, limit 280), both active; free collateral 900, the configured fraction (1/2) of it 450 -/
def st : State :=
  { admin := "ad",
    pools := [{ id := 1, shield := 300, limit := 600, active := true, sponsor := "sp", sponsorAddr := "sa" },
              { id := 2, shield := 200, limit := 280, active := true, sponsor := "sq", sponsorAddr := "sb" }],
    lists := [{ pool := 1, purchaser := "bob", entries := [{ id := 1, endTime := 5000, delTime := 5000, shield := 300, fees := ⟨0⟩ }] },
              { pool := 2, purchaser := "bob", entries := [{ id := 2, endTime := 5000, delTime := 5000, shield := 200, fees := ⟨0⟩ }] }],
    providers := [{ addr := "prov", collateral := 1000, withdrawing := 100, bonded := 950, rewards := Dec.zero }],
    withdraws := [{ addr := "prov", amount := 100, time := 700 }],
    stakes := [], origStakings := [], reimbs := [],
    totalCollateral := 1000, totalWithdrawing := 100, totalShield := 500, totalClaimed := 0,
    serviceFees := Dec.zero, remaining := Dec.zero, blockFees := Dec.zero, stakingPool := 0,
    lastUpdate := 10, nextPool := 3, nextPurchase := 3, params := params }

def env : Env := { t := 100, bond := "uctk", modAddr := "mod", bondedAfter := fun a => if a == "carol" then some 70 else none }
def ledger : Ledger := { posts := [("alice", "uctk", 10000), ("ad", "uctk", 10000)], supply := [("uctk", 20000)] }

example : free st = 900 ∧ fraction st = 450 := by decide +kernel

/-- a stale record as an evaluation: "prov" holds collateral 1000 with 100 being withdrawn against a RECORDED stake of
    950; a slash has left its delegations worth 920. A deposit of 50 fits the record (the deposit proper accepts it) but not
    the stake: the message refuses it, and a deposit of 20 — which the stake does cover — is accepted. -/
def envSlashed : Env := { env with bondedAfter := fun a => if a == "prov" then some 920 else none }
example : Succeeds (deposit envSlashed st "prov" [("uctk", 50)]) := succeeds_of_isOk (by decide +kernel)
example : ¬ Succeeds (depositMsg envSlashed st "prov" [("uctk", 50)]) := not_succeeds_of_isOk (by decide +kernel)
example : Succeeds (depositMsg envSlashed st "prov" [("uctk", 20)]) := succeeds_of_isOk (by decide +kernel)
example : findProvider st "prov" = some { addr := "prov", collateral := 1000, withdrawing := 100, bonded := 950, rewards := Dec.zero } ∧
    envSlashed.bondedAfter "prov" = some 920 := by decide +kernel

/-- paid purchase in pool 1: 150 reaches the configured fraction (300 + 150 = 450) and is accepted, 151 is refused -/
example : Succeeds (purchase env ledger st 1 [("uctk", 150)] "alice" false) := succeeds_of_isOk (by decide +kernel)
example : ¬ Succeeds (purchase env ledger st 1 [("uctk", 151)] "alice" false) := not_succeeds_of_isOk (by decide +kernel)
/-- … and the post-state is exactly at the limit -/
example : (match purchase env ledger st 1 [("uctk", 150)] "alice" false with
    | .ok (_, s') => (s'.totalShield, (findPool s' 1).map (·.shield), free s', fraction s')
    | .error _ => (0, none, 0, 0)) = (650, some 450, 900, 450) := by decide +kernel

/-- staked purchase in pool 2: 80 reaches the pool's own limit (200 + 80 = 280), 81 is refused -/
example : Succeeds (purchase env ledger st 2 [("uctk", 80)] "alice" true) := succeeds_of_isOk (by decide +kernel)
example : ¬ Succeeds (purchase env ledger st 2 [("uctk", 81)] "alice" true) := not_succeeds_of_isOk (by decide +kernel)

/-- the minimum: 50 is accepted, 49 is refused; an unfunded purchaser is refused -/
example : Succeeds (purchase env ledger st 1 [("uctk", 50)] "alice" false) := succeeds_of_isOk (by decide +kernel)
example : ¬ Succeeds (purchase env ledger st 1 [("uctk", 49)] "alice" false) := not_succeeds_of_isOk (by decide +kernel)
example : ¬ Succeeds (purchase env ledger st 1 [("uctk", 50)] "nobody" false) := not_succeeds_of_isOk (by decide +kernel)

/-- the total: with 850 of the 900 free units sold, 50 more are accepted and 51 refused (pool 1's own limits allow 150) -/
example : Succeeds (purchase env ledger { st with totalShield := 850 } 1 [("uctk", 50)] "alice" false) := succeeds_of_isOk (by decide +kernel)
example : ¬ Succeeds (purchase env ledger { st with totalShield := 850 } 1 [("uctk", 51)] "alice" false) := not_succeeds_of_isOk (by decide +kernel)

/-- a paused pool sells nothing -/
example : ¬ Succeeds (purchase env ledger (setPool st { id := 1, shield := 300, limit := 600, active := false, sponsor := "sp", sponsorAddr := "sa" })
    1 [("uctk", 50)] "alice" false) := not_succeeds_of_isOk (by decide +kernel)

/-- the admin: a new pool may start with up to min(limit, fraction, free − sold) = min(1000, 450, 400)
    (`String.trimAscii` does not reduce in the kernel, so the sponsor check is a hypothesis here and the purchase that
    `createPool` makes — `createPool_eq` — is evaluated directly below) -/
example (hsp : "new".trimAscii.toString ≠ "") :
    Succeeds (createPool env ledger st "ad" [("uctk", 400)] [("uctk", 7)] "new" "sc" 1000) :=
  (createPool_ok_iff env ledger st "ad" [("uctk", 400)] [("uctk", 7)] "new" "sc" 1000 (by decide +kernel)).mpr
    ⟨hsp, by decide +kernel, rfl, by decide +kernel, by decide +kernel, by decide +kernel, succeeds_of_isOk (by decide +kernel)⟩
example : ¬ Succeeds (createPool env ledger st "ad" [("uctk", 401)] [("uctk", 7)] "new" "sc" 1000) := by
  rw [createPool_ok_iff env ledger st "ad" [("uctk", 401)] [("uctk", 7)] "new" "sc" 1000 (by decide +kernel)]
  rintro ⟨_, _, _, _, h, _, _⟩
  revert h; decide +kernel
example : Succeeds (purchaseCore env ledger (withNewPool st "new" "sc" 1000) st.nextPool [("uctk", 400)] "ad" [("uctk", 7)] []) :=
  succeeds_of_isOk (by decide +kernel)
example : ¬ Succeeds (purchaseCore env ledger (withNewPool st "new" "sc" 1000) st.nextPool [("uctk", 401)] "ad" [("uctk", 7)] []) :=
  not_succeeds_of_isOk (by decide +kernel)
/-- `updatePool` with shield: raising pool 2's limit to 1000 lets it grow to the fraction (200 + 250 = 450), not further -/
example : Succeeds (updatePool env ledger st "ad" 2 [("uctk", 250)] [("uctk", 7)] 1000) := succeeds_of_isOk (by decide +kernel)
example : ¬ Succeeds (updatePool env ledger st "ad" 2 [("uctk", 251)] [("uctk", 7)] 1000) := not_succeeds_of_isOk (by decide +kernel)
example : Succeeds (updatePool env ledger st "ad" 2 [] [] 250) := succeeds_of_isOk (by decide +kernel)
/-- not a purchase, so not constrained by C06: the admin may lower a pool's limit below the shield already sold
    (pool 2: shield 200, new limit 150); `pool.shield ≤ pool.limit` is a guarantee at purchase time, not a state invariant -/
example : (match updatePool env ledger st "ad" 2 [] [] 150 with
    | .ok (_, s') => (findPool s' 2).map (fun p => (p.shield, p.limit))
    | .error _ => none) = some (200, 150) := by decide +kernel

/-- the extra condition in the converse: at a fees rate of 0.00769 a purchase of 100 (≥ the minimum 50, within every
    limit, purchaser funded) costs ⌊0.769⌋ = 0 and is refused ("no shield"); at 131 the fee is 1 and it is accepted -/
example : ¬ Succeeds (purchase env ledger { st with params := { params with feesRate := ⟨7690000000000000⟩ } } 1 [("uctk", 100)] "alice" false) :=
  not_succeeds_of_isOk (by decide +kernel)
example : Succeeds (purchase env ledger { st with params := { params with feesRate := ⟨7690000000000000⟩ } } 1 [("uctk", 131)] "alice" false) :=
  succeeds_of_isOk (by decide +kernel)

/-- deposits: the provider (collateral 1000, withdrawing 100, stake 950) may add 50, not 51; a newcomer whose
    delegations are worth 70 may deposit 70, not 71 -/
example : Succeeds (deposit env st "prov" [("uctk", 50)]) := succeeds_of_isOk (by decide +kernel)
example : ¬ Succeeds (deposit env st "prov" [("uctk", 51)]) := not_succeeds_of_isOk (by decide +kernel)
example : Succeeds (deposit env st "carol" [("uctk", 70)]) := succeeds_of_isOk (by decide +kernel)
example : ¬ Succeeds (deposit env st "carol" [("uctk", 71)]) := not_succeeds_of_isOk (by decide +kernel)
theorem st_allBacked : AllBacked st := by
  intro a p hp
  have hprov : st.providers = [{ addr := "prov", collateral := 1000, withdrawing := 100, bonded := 950, rewards := Dec.zero }] := rfl
  simp only [findProvider, hprov, List.find?_cons, List.find?_nil] at hp
  split at hp
  · injection hp with hp; subst hp; decide
  · cases hp

/-- staking actions: dropping the stake to 800 forces the shortfall 1000 − 100 − 800 = 100 into withdrawal, due at
    100 + 500 = 600, i.e. before the entry due at 700; a stake of 900 changes nothing but the record -/
example : (match stakingHook env st "prov" 800 with
    | .ok s' => ((findProvider s' "prov").map (fun p => (p.collateral, p.withdrawing, p.bonded)), s'.totalWithdrawing,
                 s'.withdraws.map (fun w => (w.addr, w.amount, w.time)))
    | .error _ => (none, 0, [])) = (some (1000, 200, 800), 200, [("prov", 100, 600), ("prov", 100, 700)]) := by decide +kernel
example : (match stakingHook env st "prov" 900 with
    | .ok s' => ((findProvider s' "prov").map (fun p => (p.collateral, p.withdrawing, p.bonded)), s'.totalWithdrawing,
                 s'.withdraws.map (fun w => (w.addr, w.amount, w.time)))
    | .error _ => (none, 0, [])) = (some (1000, 100, 900), 100, [("prov", 100, 700)]) := by decide +kernel
example : ¬ Succeeds (stakingHook env st "prov" (-1)) := not_succeeds_of_isOk (by decide +kernel)

/-- a history: the provider undelegates down to 800 (100 forced into withdrawal, leaving no room for deposits),
    delegates back up to 900, deposits the 100 this allows; a further deposit of 1 is refused and leaves the state
    as it was; everyone stays backed -/
example : AllBacked (run [(env, .staking "prov" 800), (env, .staking "prov" 900), (env, .deposit "prov" [("uctk", 100)]), (env, .deposit "prov" [("uctk", 1)])] st) :=
  run_allBacked _ st st_allBacked
example : (findProvider (run [(env, .staking "prov" 800), (env, .staking "prov" 900), (env, .deposit "prov" [("uctk", 100)]), (env, .deposit "prov" [("uctk", 1)])] st) "prov").map
    (fun p => (p.collateral, p.withdrawing, p.bonded)) = some (1100, 200, 900) := by decide +kernel

end Ex
end Shentu.Props.C06
