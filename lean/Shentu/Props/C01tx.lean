import Shentu.Proofs.C01txExamples
import Shentu.Props.C19
import Shentu.Props.C18vm
/-
  C01 / C18 / C19 at chain level for EVERY program: the CVM message path (`CvmTx.tx`, the model of x/cvm `Keeper.Tx`) runs the
  interpreter model itself (`EVM.execTop`: any code, input, gas, call tree, CREATE, SELFDESTRUCT, failing frames) between a load of
  the bank's bond balances into the interpreter's cache and a write-back of the cache into the bank.

  What is proved, for every message, every code in the store and every well-formed chain state:
   * the bank's bond balance of every address IS its balance in the interpreter's cache, before (`bank_is_cache_before`) and
     after (`tx_bank_is_cache`) — the bridge through which the interpreter-level theorems reach the ledger;
   * balances still add up to the recorded supply (`tx_keeps_inv`), the recorded supply is not touched (`tx_supply_unchanged`),
     no other denomination of anybody changes (`tx_other_denoms_untouched`), an address that is neither an account before nor in
     the final cache keeps everything (`tx_moves_only_value_and_internal_transfers`);
   * a failed transaction — spendable check, interpreter error at any depth, Go panic, write-back refusal — changes neither the
     ledger nor the store (`tx_failure_changes_nothing`, `tx_vm_failure_fails`);
   * a value the caller may not spend stops the transaction before anything runs, and an accepted value leaves the locked amount
     in the caller's pre-state balance (`tx_respects_lock`); for a callee without code the caller ends exactly `value` lower
     (`tx_plain_transfer`), hence not below its lock (`tx_respects_lock_plain`); this case is also a proved refinement of
     the library model's kind "none" (`plain_transfer_agrees_with_library`).  For a callee WITH code the bound "the caller
     ends at least at balance − value" is reduced to the same bound on the interpreter's cache (`tx_respects_lock_partial`);
     that interpreter-level bound is FALSE for a caller with code (`tx_caller_keeps_balance_minus_value_fails`: its own code
     may run and send more); for a caller without code it holds (`LockVmH.codeless_caller_cache_bound`,
     `Proofs/C19vmRun.lean`) and `Props/C19vm.lean` draws the conclusion;
   * a blocked (module) address never ends with more than it had (`tx_blocked_recipient`), because a write-back that would
     raise it fails the transaction (`tx_blocked_recipient_fails`);
   * well-formedness (`WF`) holds of the empty state (`wf_initial`) and is kept by every successful transaction
     (`tx_keeps_wf`; a failed one changes nothing).

  What is assumed: `WF` (one store entry per address, no negative bond balance, the accounts hold fewer than 2^64 bond coins
  in total, an address without account holds no bond coins) and that the rendering of VM addresses as bank addresses is
  injective (`Cfg.Inj`).  Gas fees are not part of the model (they go to the SDK gas meter).  Property theorems only; the
  work is in `Shentu/Proofs/C01tx*.lean`, on top of `EVM.execTop_safe` (`Proofs/VmConserveRun.lean`; as a property,
  `C01run.execTop_conserves`).
-/
namespace Shentu.Props.C01tx
open Shentu Shentu.EVM Shentu.CvmTx Shentu.CvmTxH

variable {c : Cfg} {l l' : Ledger} {vs : Vesting.Accounts} {st st' : Store} {m : Msg}

/-- the empty chain state is well-formed -/
theorem wf_initial (c : Cfg) : WF c { posts := [], supply := [] } [] := wf_empty c

/-- the final cache of a successful transaction: the interpreter's, with the deployed code installed -/
def finalCache (c : Cfg) (l : Ledger) (st : Store) (m : Msg) : World := (installCode m (vmRun c l st m)).getD []

/-- what a successful transaction is made of (every later theorem starts here) -/
theorem tx_ok_shape (h : tx c l vs st m = .ok (l', st')) :
    spendCheck c l vs m = .ok () ∧ (m.deploy = true → World.get st m.callee = none) ∧
    (vmRun c l st m).status = 0 ∧ (vmRun c l st m).err = none ∧
    installCode m (vmRun c l st m) = some (finalCache c l st m) ∧
    blockedRaise c l (preStore st m) (finalCache c l st m) = false ∧
    l' = writeBack c l (preStore st m) (finalCache c l st m) ∧ st' = storeAfter (preStore st m) (finalCache c l st m) := by
  obtain ⟨w, h1, h2, _, h4, h5, h6, h7, h8, h9⟩ := tx_ok_parts h
  have : finalCache c l st m = w := by unfold finalCache; rw [h6]; rfl
  rw [this]
  exact ⟨h1, h2, h4, h5, h6, h7, h8, h9⟩

/-- the final cache is keyed and holds exactly the coins the accounts held in the bank before: `EVM.execTop_safe`, the fact
    that `C01run.execTop_conserves` states -/
theorem finalCache_conserves (hwf : WF c l st) (h : tx c l vs st m = .ok (l', st')) :
    SafeW (total (loadWorld c l (preStore st m))) (finalCache c l st m) := by
  obtain ⟨_, h2, _, _, h5, _⟩ := tx_ok_shape h
  exact safe_installCode (safe_vmRun m (wf_preStore m hwf h2)) h5

/-- **bridge, before**: in a well-formed state the bank's bond balance of every address is what the interpreter is given -/
theorem bank_is_cache_before (hwf : WF c l st) (x : Nat) :
    l.balOf (c.nm x) c.bond = (cacheBal (loadWorld c l st) x : Int) := (loaded_bal hwf x).symm

/-- **bridge, after**: after a successful transaction the bank's bond balance of every address is its balance in the final
    cache of the interpreter (zero if it is not there) -/
theorem tx_bank_is_cache (hinj : c.Inj) (hwf : WF c l st) (h : tx c l vs st m = .ok (l', st')) (x : Nat) :
    l'.balOf (c.nm x) c.bond = (cacheBal (finalCache c l st m) x : Int) := by
  have hs := finalCache_conserves hwf h
  obtain ⟨_, h2, _, _, _, _, h7, _⟩ := tx_ok_shape h
  rw [h7]
  exact writeBack_balOf_all hinj (wf_preStore m hwf h2) hs.1 x

/-- **C01 for every program**: a successful transaction keeps "balances add up to the recorded supply" -/
theorem tx_keeps_inv (hinj : c.Inj) (hwf : WF c l st) (hi : l.Inv) (h : tx c l vs st m = .ok (l', st')) : l'.Inv := by
  have hs := finalCache_conserves hwf h
  obtain ⟨_, h2, _, _, _, _, h7, _⟩ := tx_ok_shape h
  rw [h7]
  exact CvmTxH.writeBack_inv hinj (wf_preStore m hwf h2) hs hi

/-- a successful transaction keeps well-formedness (a failed one changes nothing: `tx_failure_changes_nothing`) -/
theorem tx_keeps_wf (hinj : c.Inj) (hwf : WF c l st) (h : tx c l vs st m = .ok (l', st')) : WF c l' st' := by
  have hs := finalCache_conserves hwf h
  obtain ⟨_, h2, _, _, _, _, h7, h8⟩ := tx_ok_shape h
  rw [h7, h8]
  exact wf_writeBack hinj (wf_preStore m hwf h2) hs

/-- … hence as the chain applies transactions, whatever their outcome -/
theorem deliver_keeps_wf_inv (hinj : c.Inj) (hwf : WF c l st) (hi : l.Inv) :
    WF c (deliver c l vs st m).1.1 (deliver c l vs st m).1.2 ∧ (deliver c l vs st m).1.1.Inv := by
  unfold deliver
  cases h : tx c l vs st m with
  | error e => exact ⟨hwf, hi⟩
  | ok r => obtain ⟨l', st'⟩ := r; exact ⟨tx_keeps_wf hinj hwf h, tx_keeps_inv hinj hwf hi h⟩

/-- … and over any sequence of transactions -/
theorem run_keeps_wf_inv (hinj : c.Inj) : ∀ (ms : List Msg) (l : Ledger) (st : Store), WF c l st → l.Inv →
    WF c (ms.foldl (fun s m => (deliver c s.1 vs s.2 m).1) (l, st)).1 (ms.foldl (fun s m => (deliver c s.1 vs s.2 m).1) (l, st)).2 ∧
    (ms.foldl (fun s m => (deliver c s.1 vs s.2 m).1) (l, st)).1.Inv := by
  intro ms l st hwf hi
  exact foldl_ind (fun _ (s : Ledger × Store) => WF c s.1 s.2 ∧ s.1.Inv)
    (fun _ _ _ hq => deliver_keeps_wf_inv hinj hq.1 hq.2) ms (l, st) ⟨hwf, hi⟩

/-- the recorded supply is not touched -/
theorem tx_supply_unchanged (h : tx c l vs st m = .ok (l', st')) : l'.supply = l.supply := by
  obtain ⟨_, _, _, _, _, _, h7, _⟩ := tx_ok_shape h
  rw [h7]; exact setBalances_supply _ _ _

/-- no balance in another denomination changes, for anybody -/
theorem tx_other_denoms_untouched (h : tx c l vs st m = .ok (l', st')) (a : Addr) (d : Denom) (hd : d ≠ c.bond) :
    l'.balOf a d = l.balOf a d := by
  obtain ⟨_, _, _, _, _, _, h7, _⟩ := tx_ok_shape h
  rw [h7]; exact setBalances_other_denoms _ _ _ _ _ hd

/-- only accounts of the pre-state and accounts of the final cache are written: any other address keeps every balance.
    (An account of the pre-state that is not in the final cache was destroyed and ends with zero; an account of the final
    cache ends with its cache balance: `tx_bank_is_cache`.) -/
theorem tx_moves_only_value_and_internal_transfers (h : tx c l vs st m = .ok (l', st')) (a : Addr)
    (ha : ∀ x, (World.get (preStore st m) x ≠ none ∨ World.get (finalCache c l st m) x ≠ none) → c.nm x ≠ a) (d : Denom) :
    l'.balOf a d = l.balOf a d := by
  obtain ⟨_, _, _, _, _, _, h7, _⟩ := tx_ok_shape h
  rw [h7]
  exact writeBack_balOf_untouched a d (fun x hx => ha x (mem_touched.mp hx))

/-- an account whose balance in the final cache is its balance in the loaded cache has the bank balance it had -/
theorem tx_unchanged_in_cache_unchanged_in_bank (hinj : c.Inj) (hwf : WF c l st) (h : tx c l vs st m = .ok (l', st')) (x : Nat)
    (hx : cacheBal (finalCache c l st m) x = cacheBal (loadWorld c l st) x) : l'.balOf (c.nm x) c.bond = l.balOf (c.nm x) c.bond := by
  rw [tx_bank_is_cache hinj hwf h x, bank_is_cache_before hwf x, hx]

/-- **C18 for every program**: whatever the reason of the failure, the ledger and the store are exactly what they were -/
theorem tx_failure_changes_nothing (c : Cfg) (l : Ledger) (vs : Vesting.Accounts) (st : Store) (m : Msg)
    (hf : (deliver c l vs st m).2.isSome = true) : (deliver c l vs st m).1 = (l, st) := by
  unfold deliver at hf ⊢
  cases h : tx c l vs st m with
  | error e => rfl
  | ok r => rw [h] at hf; simp at hf

/-- an error of the interpreter at the outermost frame, a Go panic or a construct outside the interpreter model fails the
    transaction — whatever inner frames had committed into the cache by then (transfers, storage, created accounts) -/
theorem tx_vm_failure_fails (c : Cfg) (l : Ledger) (vs : Vesting.Accounts) (st : Store) (m : Msg)
    (hf : (vmRun c l st m).err.isSome = true ∨ (vmRun c l st m).status ≠ 0) : ∃ e, tx c l vs st m = .error e := by
  refine Except.error_of_not_ok fun (l', st') h => ?_
  obtain ⟨_, _, h3, h4, _⟩ := tx_ok_shape h
  rcases hf with hf | hf
  · rw [h4] at hf; cases hf
  · exact hf h3

/-- … and the interpreter itself has then put its cache back (`C18vm.execTop_failure_restores`) -/
theorem tx_vm_failure_cache_restored (c : Cfg) (l : Ledger) (st : Store) (m : Msg)
    (hf : (vmRun c l st m).err.isSome = true ∨ (vmRun c l st m).status ≠ 0) :
    (vmRun c l st m).world = loadWorld c l (preStore st m) :=
  Props.C18vm.execTop_failure_restores _ _ _ _ hf

/-- a value the caller may not spend stops the transaction at once: nothing runs, nothing changes -/
theorem tx_respects_lock_refusal (c : Cfg) (l : Ledger) (vs : Vesting.Accounts) (st : Store) (m : Msg) (e : Shentu.Err)
    (hr : spendCheck c l vs m = .error e) : tx c l vs st m = .error e ∧ (deliver c l vs st m).1 = (l, st) := by
  have : tx c l vs st m = .error e := by unfold tx; rw [hr]
  refine ⟨this, ?_⟩
  unfold deliver; rw [this]

/-- an accepted value leaves the locked amount in the caller's balance: balance before − value ≥ locked -/
theorem tx_respects_lock (hv : 0 < m.value) (h : tx c l vs st m = .ok (l', st')) :
    l.balOf (c.nm m.caller) c.bond - (m.value : Int) ≥ Vesting.lockedOf vs (c.nm m.caller) c.bond := by
  obtain ⟨h1, _⟩ := tx_ok_shape h
  unfold spendCheck at h1
  rw [if_pos hv] at h1
  have := Props.C19.canSpend_leaves_locked l vs (c.nm m.caller) [(c.bond, (m.value : Int))] h1 c.bond (Props.C19.denoms_single _ _)
  simpa using this

/-- The lock, given the interpreter-level bound `hvm` (without it the statement is false for a caller with code,
    `tx_caller_keeps_balance_minus_value_fails`).  If, in the interpreter's cache, the caller ends with at least its balance
    minus the value — which is what an account WITHOUT code can lose, since only the outermost frame's transfer debits it:
    `LockVmH.codeless_caller_cache_bound`, used in `Props/C19vm.lean` — then in the bank the caller ends with at least its
    locked amount. -/
theorem tx_respects_lock_partial (hinj : c.Inj) (hwf : WF c l st) (hv : 0 < m.value) (h : tx c l vs st m = .ok (l', st'))
    (hvm : cacheBal (loadWorld c l st) m.caller ≤ cacheBal (finalCache c l st m) m.caller + m.value) :
    l'.balOf (c.nm m.caller) c.bond ≥ Vesting.lockedOf vs (c.nm m.caller) c.bond := by
  have h1 := tx_respects_lock hv h
  rw [tx_bank_is_cache hinj hwf h]
  rw [bank_is_cache_before hwf] at h1
  omega

/-- **a call to an account without code is the value transfer and nothing else**: the caller ends exactly `value` lower, the
    callee `value` higher, every other address keeps its bond balance -/
theorem tx_plain_transfer (hinj : c.Inj) (hwf : WF c l st) (hd : m.deploy = false) (hcode : (codeOf st m).size = 0)
    (hne : m.caller ≠ m.callee) (h : tx c l vs st m = .ok (l', st')) :
    l'.balOf (c.nm m.caller) c.bond = l.balOf (c.nm m.caller) c.bond - (m.value : Int) ∧
    l'.balOf (c.nm m.callee) c.bond = l.balOf (c.nm m.callee) c.bond + (m.value : Int) ∧
    ∀ x, x ≠ m.caller → x ≠ m.callee → l'.balOf (c.nm x) c.bond = l.balOf (c.nm x) c.bond := by
  have hm := fun x => tx_plain_is_move hinj hwf hcode h x c.bond
  simp only [Ledger.balOf_move1, nm_eq_iff hinj, and_true] at hm
  refine ⟨?_, ?_, fun x h1 h2 => ?_⟩
  · rw [hm, if_pos rfl, if_neg (Ne.symm hne)]; omega
  · rw [hm, if_neg hne, if_pos rfl]; omega
  · rw [hm, if_neg (Ne.symm h1), if_neg (Ne.symm h2)]; omega

/-- **C19 for a transfer through the VM** (callee without code): the caller does not end below its locked amount -/
theorem tx_respects_lock_plain (hinj : c.Inj) (hwf : WF c l st) (hd : m.deploy = false) (hcode : (codeOf st m).size = 0)
    (hne : m.caller ≠ m.callee) (hv : 0 < m.value) (h : tx c l vs st m = .ok (l', st')) :
    l'.balOf (c.nm m.caller) c.bond ≥ Vesting.lockedOf vs (c.nm m.caller) c.bond := by
  rw [(tx_plain_transfer hinj hwf hd hcode hne h).1]
  exact tx_respects_lock hv h

/-- **the library model's kind "none" IS the interpreter-backed call to an account without code** (a proved refinement, for
    every state; the other kinds are compared by evaluation in `Props/C01txLib.lean`): when both models accept the call,
    the library model's ledger and the interpreter-backed model's ledger give every VM address the same balance in every
    denomination, and the library's contract state is unchanged -/
theorem plain_transfer_agrees_with_library (hinj : c.Inj) (hwf : WF c l st) (hd : m.deploy = false)
    (hcode : (codeOf st m).size = 0) (hne : m.caller ≠ m.callee) (s s'' : Cvm.State) (l'' : Ledger)
    (hk : Cvm.kindAt s (c.nm m.callee) = "none") (d0 : String) (z : Bool) (t : Addr)
    (h : tx c l vs st m = .ok (l', st'))
    (hl : Cvm.call c.bond l vs s (c.nm m.caller) (c.nm m.callee) (m.value : Int) d0 z t false = .ok (l'', s'')) :
    s'' = s ∧ ∀ x d, l'.balOf (c.nm x) d = l''.balOf (c.nm x) d := by
  unfold Cvm.call at hl
  split at hl; · cases hl
  dsimp only at hl
  rw [hk] at hl
  simp only [Bool.and_false, Bool.false_eq_true, if_false] at hl
  unfold Cvm.runKind at hl
  simp only at hl
  injection hl with hl
  injection hl with hl1 hl2
  subst hl1
  exact ⟨hl2.symm, tx_plain_is_move hinj hwf hcode h⟩

/-- a write-back that would raise the bond balance of a blocked address fails the whole transaction -/
theorem tx_blocked_recipient_fails (c : Cfg) (l : Ledger) (vs : Vesting.Accounts) (st : Store) (m : Msg) (x : Nat)
    (hx : World.get (preStore st m) x ≠ none ∨ World.get (finalCache c l st m) x ≠ none)
    (hb : c.blocked (c.nm x) = true) (hraise : (cacheBal (finalCache c l st m) x : Int) > l.balOf (c.nm x) c.bond) :
    ∃ e, tx c l vs st m = .error e :=
  Except.error_of_not_ok fun (_, _) h =>
    absurd (blockedRaise_eq_false.mp (tx_ok_shape h).2.2.2.2.2.1 x hx hb) (Int.not_le.mpr hraise)

/-- **module accounts never gain through the VM**: after a successful transaction a blocked address holds, in every
    denomination, at most what it held -/
theorem tx_blocked_recipient (hinj : c.Inj) (hwf : WF c l st) (h : tx c l vs st m = .ok (l', st')) (a : Addr) (hb : c.blocked a = true) (d : Denom) :
    l'.balOf a d ≤ l.balOf a d := by
  by_cases hex : ∃ x, (World.get (preStore st m) x ≠ none ∨ World.get (finalCache c l st m) x ≠ none) ∧ c.nm x = a
  · obtain ⟨x, hx, rfl⟩ := hex
    by_cases hd : d = c.bond
    · subst hd
      rw [tx_bank_is_cache hinj hwf h x]
      exact blockedRaise_eq_false.mp (tx_ok_shape h).2.2.2.2.2.1 x hx hb
    · exact Int.le_of_eq (tx_other_denoms_untouched h _ d hd)
  · exact Int.le_of_eq (tx_moves_only_value_and_internal_transfers h a (fun x hx e => hex ⟨x, hx, e⟩) d)

/-! Non-vacuity.  One chain state (`Ex.l0`, `Ex.st0`): a user with 100 uctk and 5 foo, a forwarding contract with 7, a third
user with 1, a self-destructing contract with 9 uctk and 2 foo, a creating contract with 7, a module account with 50, a
reverting and an aborting contract.  The hypotheses of the theorems above hold of it, and every kind of execution is
exhibited on it; everything is evaluated by the kernel. -/
section examples
open Shentu.CvmTxH.Ex

/-- the hypotheses are satisfiable: the example configuration is injective, the example state well-formed and balanced -/
example : c0.Inj ∧ WF c0 l0 st0 ∧ l0.invB = true := ⟨c0_inj, wf0, inv0⟩

def mTransfer : Msg := { caller := A, callee := T, value := 3, gas := 100000 }
def mForward : Msg := { caller := A, callee := FWD, value := 3, data := word T, gas := 100000 }
def mSuicide : Msg := { caller := A, callee := SD, value := 0, data := word T, gas := 100000 }
def mCreate : Msg := { caller := A, callee := CR, value := 0, gas := 100000, fresh := fun _ _ => NEW }
def mInnerFail : Msg := { caller := A, callee := FWD, value := 3, data := word REV, gas := 100000 }
def mAbort : Msg := { caller := A, callee := BAD, value := 3, gas := 100000 }
def mSuicideToModule : Msg := { caller := A, callee := SD, value := 0, data := word MOD, gas := 100000 }
def mPayModule : Msg := { caller := A, callee := MOD, value := 1, gas := 100000 }
def mDeploy : Msg := { caller := A, callee := NEW, value := 2, data := initStop, deploy := true, gas := 100000 }

/-- a value transfer to an account without code: 3 coins move, the invariant holds (hypotheses of `tx_plain_transfer`) -/
theorem ex_transfer : bondAfter (tx c0 l0 [] st0 mTransfer) A = 97 ∧ bondAfter (tx c0 l0 [] st0 mTransfer) T = 4 ∧
    invAfter (tx c0 l0 [] st0 mTransfer) = true ∧ (codeOf st0 mTransfer).size = 0 := tx_runs.1

/-- a contract forwarding the value to a third account: the contract keeps its 7, the third account gets the 3 -/
theorem ex_forward : bondAfter (tx c0 l0 [] st0 mForward) A = 97 ∧ bondAfter (tx c0 l0 [] st0 mForward) FWD = 7 ∧
    bondAfter (tx c0 l0 [] st0 mForward) T = 4 ∧ invAfter (tx c0 l0 [] st0 mForward) = true := tx_runs.2.1

/-- SELFDESTRUCT: the 9 coins reach the beneficiary, the destroyed contract ends with 0 uctk, keeps its 2 foo, and loses its code -/
theorem ex_selfdestruct : bondAfter (tx c0 l0 [] st0 mSuicide) T = 10 ∧ bondAfter (tx c0 l0 [] st0 mSuicide) SD = 0 ∧
    fooAfter (tx c0 l0 [] st0 mSuicide) SD = 2 ∧ codeAfter (tx c0 l0 [] st0 mSuicide) SD = some 0 ∧
    invAfter (tx c0 l0 [] st0 mSuicide) = true := tx_runs.2.2.1

/-- CREATE with an endowment: a new account appears in the store and in the bank with 3 coins, the creator keeps 4 -/
theorem ex_create : bondAfter (tx c0 l0 [] st0 mCreate) NEW = 3 ∧ bondAfter (tx c0 l0 [] st0 mCreate) CR = 4 ∧
    (codeAfter (tx c0 l0 [] st0 mCreate) NEW).isSome = true ∧ (World.get st0 NEW).isNone = true ∧
    invAfter (tx c0 l0 [] st0 mCreate) = true := tx_runs.2.2.2.1

/-- a failing inner call: the forwarded value comes back to the forwarding contract, the transaction succeeds -/
theorem ex_inner_failure : bondAfter (tx c0 l0 [] st0 mInnerFail) A = 97 ∧ bondAfter (tx c0 l0 [] st0 mInnerFail) FWD = 10 ∧
    bondAfter (tx c0 l0 [] st0 mInnerFail) REV = 0 ∧ invAfter (tx c0 l0 [] st0 mInnerFail) = true := tx_runs.2.2.2.2.1

/-- a failing outermost frame (hypothesis of `tx_failure_changes_nothing` / `tx_vm_failure_fails`): the value transfer that
    opened the frame is gone with it -/
theorem ex_abort : errOf (tx c0 l0 [] st0 mAbort) = "cvm:ExecutionAborted" ∧ ((vmRun c0 l0 st0 mAbort).err.isSome = true) ∧
    ((deliver c0 l0 [] st0 mAbort).2.isSome = true) := tx_runs.2.2.2.2.2.1

/-- a deployment with an endowment: the new account holds 2 coins and the returned one-byte code -/
theorem ex_deploy : bondAfter (tx c0 l0 [] st0 mDeploy) A = 98 ∧ bondAfter (tx c0 l0 [] st0 mDeploy) NEW = 2 ∧
    codeAfter (tx c0 l0 [] st0 mDeploy) NEW = some 1 ∧ invAfter (tx c0 l0 [] st0 mDeploy) = true := tx_runs.2.2.2.2.2.2.1

/-- a module account as beneficiary of a SELFDESTRUCT, or as the callee of a call carrying value: the transaction fails
    (hypotheses of `tx_blocked_recipient_fails`) -/
theorem ex_blocked : errOf (tx c0 l0 [] st0 mSuicideToModule) = "cvm:blocked-recipient" ∧
    errOf (tx c0 l0 [] st0 mPayModule) = "cvm:blocked-recipient" ∧ c0.blocked (c0.nm MOD) = true ∧
    (cacheBal (finalCache c0 l0 st0 mSuicideToModule) MOD : Int) > l0.balOf (c0.nm MOD) c0.bond := tx_runs.2.2.2.2.2.2.2.1

/-- the lock: with 99 of the user's 100 coins locked a value of 3 is refused before anything runs, a value of 1 passes and
    leaves the user at the locked amount (hypotheses of `tx_respects_lock_refusal`, `tx_respects_lock`, `tx_respects_lock_plain`) -/
theorem ex_lock : errOf (tx c0 l0 vsLocked st0 mTransfer) = "bank:insufficient-funds" ∧
    Vesting.lockedOf vsLocked "4096" "uctk" = 99 ∧
    bondAfter (tx c0 l0 vsLocked st0 { mTransfer with value := 1 }) A = 99 := tx_runs.2.2.2.2.2.2.2.2.1

/-- two transactions in a row (hypothesis of `run_keeps_wf_inv`): forward, then destroy -/
theorem ex_run : ([mForward, mSuicide].foldl (fun s m => (deliver c0 s.1 [] s.2 m).1) (l0, st0)).1.invB = true ∧
    ([mForward, mSuicide].foldl (fun s m => (deliver c0 s.1 [] s.2 m).1) (l0, st0)).1.balOf "12288" "uctk" = 13 := tx_runs.2.2.2.2.2.2.2.2.2.1

/-- the contract `X` as the caller of the forwarding contract, with its own address as the target: it ends at 15 -/
theorem ex_caller_with_code : bondAfter (tx c0 l1 [] st1 { caller := X, callee := FWD, value := 3, data := word X, gas := 100000 }) X = 15 ∧
    bondAfter (tx c0 l1 [] st1 { caller := X, callee := FWD, value := 3, data := word X, gas := 100000 }) T = 6 ∧
    invAfter (tx c0 l1 [] st1 { caller := X, callee := FWD, value := 3, data := word X, gas := 100000 }) = true :=
  tx_runs.2.2.2.2.2.2.2.2.2.2

/-- **the bound "the caller ends at least at balance − value" is FALSE for a caller with code** (so `tx_respects_lock_partial`
    cannot drop its interpreter-level hypothesis in general): the contract `X` holds 20 coins and sends 5 to a third user
    whenever it is entered; as the caller of the forwarding contract with a value of 3 and its own address as the target it
    gets the 3 back, its code runs, and it ends at 15 < 20 − 3.  The state is well-formed and balanced. -/
theorem tx_caller_keeps_balance_minus_value_fails :
    ¬ (∀ (l : Ledger) (st : Store) (m : Msg), WF c0 l st → l.invB = true →
        bondAfter (tx c0 l [] st m) m.caller ≥ l.balOf (c0.nm m.caller) c0.bond - (m.value : Int)) := by
  intro hall
  have h := hall l1 st1 { caller := X, callee := FWD, value := 3, data := word X, gas := 100000 } wf1 (by decide)
  dsimp only at h
  rw [ex_caller_with_code.1] at h
  revert h
  decide

end examples

end Shentu.Props.C01tx

#print axioms Shentu.Props.C01tx.wf_initial
#print axioms Shentu.Props.C01tx.tx_ok_shape
#print axioms Shentu.Props.C01tx.finalCache_conserves
#print axioms Shentu.Props.C01tx.bank_is_cache_before
#print axioms Shentu.Props.C01tx.tx_bank_is_cache
#print axioms Shentu.Props.C01tx.tx_keeps_inv
#print axioms Shentu.Props.C01tx.tx_keeps_wf
#print axioms Shentu.Props.C01tx.deliver_keeps_wf_inv
#print axioms Shentu.Props.C01tx.run_keeps_wf_inv
#print axioms Shentu.Props.C01tx.tx_supply_unchanged
#print axioms Shentu.Props.C01tx.tx_other_denoms_untouched
#print axioms Shentu.Props.C01tx.tx_moves_only_value_and_internal_transfers
#print axioms Shentu.Props.C01tx.tx_unchanged_in_cache_unchanged_in_bank
#print axioms Shentu.Props.C01tx.tx_failure_changes_nothing
#print axioms Shentu.Props.C01tx.tx_vm_failure_fails
#print axioms Shentu.Props.C01tx.tx_vm_failure_cache_restored
#print axioms Shentu.Props.C01tx.tx_respects_lock_refusal
#print axioms Shentu.Props.C01tx.tx_respects_lock
#print axioms Shentu.Props.C01tx.tx_respects_lock_partial
#print axioms Shentu.Props.C01tx.tx_plain_transfer
#print axioms Shentu.Props.C01tx.tx_respects_lock_plain
#print axioms Shentu.Props.C01tx.plain_transfer_agrees_with_library
#print axioms Shentu.Props.C01tx.tx_blocked_recipient_fails
#print axioms Shentu.Props.C01tx.tx_blocked_recipient
#print axioms Shentu.Props.C01tx.ex_transfer
#print axioms Shentu.Props.C01tx.ex_forward
#print axioms Shentu.Props.C01tx.ex_selfdestruct
#print axioms Shentu.Props.C01tx.ex_create
#print axioms Shentu.Props.C01tx.ex_inner_failure
#print axioms Shentu.Props.C01tx.ex_abort
#print axioms Shentu.Props.C01tx.ex_deploy
#print axioms Shentu.Props.C01tx.ex_blocked
#print axioms Shentu.Props.C01tx.ex_lock
#print axioms Shentu.Props.C01tx.ex_run
#print axioms Shentu.Props.C01tx.tx_caller_keeps_balance_minus_value_fails
#print axioms Shentu.Props.C01tx.ex_caller_with_code
