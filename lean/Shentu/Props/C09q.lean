import Shentu.Proofs.C09qBlock
import Shentu.Proofs.C09qDelay
import Shentu.Proofs.C09qPay
import Shentu.Proofs.C09qSpec
/-
  C09 (and C04, C07) for the staking module's UNBONDING QUEUE as the shield module manipulates it — "an unbonding entry is
  never lost, never completes early, and is paid back exactly once".

  The model is Model/UbdQueue.lean: the unbonding delegations and the completion queue, the SDK's `undelegate` (the part of
  Undelegate that writes the two stores) and the end-blocker's completion (`endBlock`), the shield module's `delayUnbonding`
  (a claim locks a provider's stake: entries completing before the lock's end are postponed) and `payFromAllUnbondings`
  (a claim payout taken from unbonding entries, latest first), every loop and branch of the Go code kept (the cut of the LAST
  resp. FIRST matching pair out of a slice, the wholesale deletion of a slice of at most one pair without looking at it, the
  swap loop that re-sorts the entries, the four panics).  It is tied to the code by the engine `ubdqueue`: the real
  DelayUnbonding, PayFromUnbondings and staking end-blocker run in a discarded cache context on populations built by the real
  Undelegate (several entries per pair, equal completion times, shared slices, slices of one pair, entries exactly at the
  delayed time), the model runs on the same complete state and must give the same two stores.

  The invariant `Inv` (Proofs/C09qDefs.lean): slices in strictly increasing time order, one record per pair, and for every
  pair and every time the slice of that time names the pair exactly as often as the pair has entries completing then.
  It holds in the empty state and is preserved by every operation, hence after every history (`inv_run`).

  Proved for ALL states, inputs and histories:
   Q1 `entry_queued`, Q2 `queued_pair_has_entry`  (after every history: `entry_queued_run`, `queued_pair_has_entry_run`);
   Q3 `delay_*`: touches only the provider (entries and queue pairs), keeps every balance, moves times only from ≤ delayed to
      exactly delayed (never earlier), latest slice first, equals the specification function `Spec.delaySpec` (which has none
      of the risky branches), panics only with "failed to delay enough unbondings";
   Q4 `pay_*`: the provider's entries shrink by exactly the payout, nobody else is touched, completion times do not change,
      exactly the used-up entries are removed, the invariant is kept;
   Q5 `endBlock_*`, `completes_on_time`: the end-blocker at `now` pays back exactly the entries with completion time ≤ now,
      each once, keeps all others in order, and the balances are conserved; by `inv_run` this holds after every history, so a
      postponed entry is paid back at the first end-block at or after its new time and not before.

  FALSE of the model AND of the Go code (reproduced against the real keeper, corpus/repro/C09_delay_counts_first_entry_twice_test.go.txt):
  "the delay covers the amount / panics exactly when the candidates do not cover it".  When one pair of the provider has two
  entries completing EXACTLY at the delayed time, the first one's balance is counted twice and the other's not at all
  (`delay_covered_fails`, `delay_panics_fails`, `delay_ok_of_covered_fails`).  The three statements are proved with the extra
  hypothesis "at most one entry per pair at the delayed time" (`…_partial`).  The queue invariant is not affected.

  Assumed: nothing about sortedness of the entries (the SDK appends; `delay_keeps_sorted` shows a delay keeps sorted lists
  sorted); for the `_partial` coverage statements non-negative balances.  Without `Inv` the wholesale slice deletion of
  PayFromUnbondings removes a bystander's pair (example in Proofs/C09qPay.lean) and the end-blocker loses a mature entry
  (example at the end).
-/
namespace Shentu.Props.C09q
open Shentu.UbdQueue

theorem inv_empty : Inv ({} : State) := Store.inv_empty

/-- The delay keeps the invariant (part of `inv_step`; stated for a single call). -/
theorem delay_inv (s s' : State) (p : String) (a D : Int) (h : Inv s) (ok : delayUnbonding s p a D = .ok s') : Inv s' :=
  (Delay.delay_rel (fun _ _ => True) (fun _ => trivial) (fun _ _ _ _ _ => trivial) (fun _ _ _ _ _ => trivial) h ok).1

/-- Every operation preserves the invariant. A call that panics leaves the state as it was. -/
theorem inv_step (s : State) (op : Op) (h : Inv s) : Inv (step s op) := by
  cases op with
  | undelegate d v t bal => exact Store.undelegate_inv s d v t bal h
  | delay p a dl =>
    simp only [step]
    cases hd : delayUnbonding s p a dl with
    | error e => exact h
    | ok s' => exact delay_inv s s' p a dl h hd
  | pay d u x =>
    simp only [step]
    cases hd : payFromAllUnbondings s d u x with
    | error e => exact h
    | ok s' => exact Pay.reach_inv (Pay.pay_reach s s' d u x h.toWF hd) h
  | endBlock now => exact Block.endBlock_inv s now h

/-- The invariant holds after every history that starts in a state satisfying it. -/
theorem inv_run (s : State) (ops : List Op) (h : Inv s) : Inv (run s ops) :=
  List.foldlRecOn (motive := UbdQueue.Inv) ops step h (fun s h op _ => inv_step s op h)

/-- The invariant holds after every history from the empty state. -/
theorem inv_reachable (ops : List Op) : Inv (run {} ops) := inv_run {} ops inv_empty

/-- a history with all four operations: two entries of one pair at one time, a shared slice, a delay that lands on an
    existing slice, a payout that removes an entry, an end-block -/
def hist : List Op :=
  [.undelegate "p" "v" 50 4, .undelegate "p" "v" 90 5, .undelegate "p" "v" 90 1, .undelegate "b" "v" 90 7,
   .undelegate "p" "w" 100 9, .delay "p" 10 100, .pay "p" 0 9, .endBlock 60]

example : Inv (run {} hist) := inv_reachable hist
example : run {} hist = { ubds := [⟨"b", "v", [⟨90, 7⟩]⟩, ⟨"p", "v", [⟨90, 1⟩]⟩, ⟨"p", "w", [⟨100, 5⟩]⟩],
                          queue := [(90, [("p", "v"), ("b", "v")]), (100, [("p", "w")])] } := by decide +kernel
example : run {} (hist.take 6) = { ubds := [⟨"b", "v", [⟨90, 7⟩]⟩, ⟨"p", "v", [⟨50, 4⟩, ⟨90, 1⟩, ⟨100, 5⟩]⟩, ⟨"p", "w", [⟨100, 9⟩]⟩],
                                   queue := [(50, [("p", "v")]), (90, [("p", "v"), ("b", "v")]), (100, [("p", "w"), ("p", "v")])] } := by decide +kernel

/-- **Q1, never lost.** Every entry of every unbonding delegation is queued: its pair stands in the slice of its completion time. -/
theorem entry_queued (s : State) (h : Inv s) (d v : String) (e : Entry) (he : e ∈ getEntries s.ubds d v) :
    (d, v) ∈ getSlice s.queue e.t := h.queued_of_entry (Store.entriesAt_pos he)

/-- **Q2, no stale pair.** Every queued pair has an entry completing at the slice's time. The SDK's end-blocker would skip a
    stale pair without harm, but `delayUnbonding` panics on one (`Spec` examples), so a stale pair of a provider would block
    every claim that has to lock that provider's unbondings. -/
theorem queued_pair_has_entry (s : State) (h : Inv s) (d v : String) (t : Int) (hq : (d, v) ∈ getSlice s.queue t) :
    ∃ e ∈ getEntries s.ubds d v, e.t = t := by
  obtain ⟨e, he, ht⟩ := List.countP_pos_iff.mp (h.entry_of_queued hq)
  exact ⟨e, he, by simpa using ht⟩

/-- Q1 after every history. -/
theorem entry_queued_run (ops : List Op) (d v : String) (e : Entry) (he : e ∈ getEntries (run {} ops).ubds d v) :
    (d, v) ∈ getSlice (run {} ops).queue e.t := entry_queued _ (inv_reachable ops) d v e he

/-- Q2 after every history. -/
theorem queued_pair_has_entry_run (ops : List Op) (d v : String) (t : Int) (hq : (d, v) ∈ getSlice (run {} ops).queue t) :
    ∃ e ∈ getEntries (run {} ops).ubds d v, e.t = t := queued_pair_has_entry _ (inv_reachable ops) d v t hq

example : (⟨90, 1⟩ : Entry) ∈ getEntries (run {} hist).ubds "p" "v" := by decide +kernel
example : ("b", "v") ∈ getSlice (run {} hist).queue 90 := by decide +kernel

/-- A delay leaves the entries of every other delegator as they are. No hypothesis. -/
theorem delay_frame_entries (s s' : State) (p : String) (a D : Int) (ok : delayUnbonding s p a D = .ok s') (d v : String)
    (hd : d ≠ p) : getEntries s'.ubds d v = getEntries s.ubds d v := Delay.loop_frame_entries d v hd _ _ _ _ ok

/-- A delay leaves the pairs of every other delegator in every slice as they are, in order. In particular the slice of one
    pair that the code deletes without looking at it is always the provider's. -/
theorem delay_frame_queue (s s' : State) (p : String) (a D : Int) (h : Inv s) (ok : delayUnbonding s p a D = .ok s')
    (d : String) (hd : d ≠ p) (t : Int) :
    (getSlice s'.queue t).filter (fun pr => pr.1 == d) = (getSlice s.queue t).filter (fun pr => pr.1 == d) := by
  open Store Spec in
  refine (Delay.delay_rel
    (fun s s' => ∀ t, (getSlice s'.queue t).filter (fun pr => pr.1 == d) = (getSlice s.queue t).filter (fun pr => pr.1 == d))
    ?_ ?_ ?_ h ok).2 t
  · intro s t; rfl
  · intro x y z hxy hyz t; rw [hyz, hxy]
  · intro s c hi hq _ t
    obtain ⟨_, _, _, _, st⟩ := moveOne_step D hi hq
    exact st.frame_queue d hd t

/-- **Never earlier, no balance changed, nothing lost or created.** After a delay, the entries of each pair of the provider are,
    up to order, the old entries one by one (`Delay.List.Forall₂` is the usual element-by-element relation of two lists of equal
    length, which core Lean does not have): the balance is the same; the time is the same, or it was at most `D` and is now
    exactly `D`. -/
theorem delay_entries (s s' : State) (p : String) (a D : Int) (h : Inv s) (ok : delayUnbonding s p a D = .ok s') (v : String) :
    ∃ es, List.Perm es (getEntries s'.ubds p v) ∧ Delay.List.Forall₂ (Delayed D) (getEntries s.ubds p v) es := by
  open Delay Store Spec in
  refine (delay_rel
    (fun s s' => ∀ v, ∃ es, List.Perm es (getEntries s'.ubds p v) ∧ List.Forall₂ (Delayed D) (getEntries s.ubds p v) es)
    ?_ ?_ ?_ h ok).2 v
  · intro s v
    exact ⟨_, List.Perm.refl _, forall2_refl (delayed_refl D) _⟩
  · intro x y z hxy hyz v
    obtain ⟨es1, hp1, hf1⟩ := hxy v
    obtain ⟨es2, hp2, hf2⟩ := hyz v
    obtain ⟨d', hp3, hf3⟩ := forall2_perm hp1 es2 hf2
    exact ⟨d', hp3.trans hp2, forall2_trans (delayed_trans D) hf1 hf3⟩
  · intro s c _ hq hT v
    show ∃ es, List.Perm es (getEntries (setUbd s.ubds p c.1 _) p v) ∧ _
    rw [getEntries_setUbd]
    by_cases hv : v = c.1
    · subst hv
      obtain ⟨l1, e, l2, hes, ht, _, hp⟩ := moveFirst_spec D hq
      refine ⟨l1 ++ ⟨D, e.bal⟩ :: l2, by simpa using hp.symm, ?_⟩
      rw [hes]
      refine forall2_mid (forall2_refl (delayed_refl D) _) ?_ (forall2_refl (delayed_refl D) _)
      exact ⟨rfl, Or.inr ⟨by omega, rfl⟩⟩
    · rw [if_neg (fun e => hv e.2)]
      exact ⟨_, List.Perm.refl _, forall2_refl (delayed_refl D) _⟩

/-- The correspondence of `delay_entries` never makes a time earlier. -/
theorem delayed_never_earlier (D : Int) (e e' : Entry) (h : Delayed D e e') : e.t ≤ e'.t ∧ e'.bal = e.bal := by
  obtain ⟨hb, ht | ⟨hle, ht⟩⟩ := h <;> exact ⟨by omega, hb⟩

/-- **Which entries are moved.** Under the invariant the implementation equals the specification function `Spec.delaySpec`:
    the provider's queued pairs in the slices up to `D` are taken from the LATEST slice down (the Go comment says "oldest"; the
    loop runs from the end), within a slice from the last pair to the first; for each one the slice loses the last occurrence of
    the pair (and disappears when empty), the FIRST entry of the pair completing at that time gets the time `D` and moves behind
    the directly following entries that complete before it, the pair is appended to the slice of `D`; the loop stops as soon as
    the balances of the moved entries reach the amount. It fails exactly when the specification finds the amount uncovered. -/
theorem delay_eq_spec (s : State) (p : String) (a D : Int) (h : Inv s) :
    delayUnbonding s p a D = match Spec.delaySpec s p a D with
      | some s' => .ok s'
      | none => .error "failed to delay enough unbondings" :=
  Delay.loop_eq_spec _ a s h (Delay.cands_init h p D).1

/-- Re-timing keeps a sorted entry list sorted (the swap loop is an insertion). Nothing in the queue invariant depends on
    sortedness; `ComputeUnbondingAmountByTime` (not modelled) stops at the first immature entry and does. -/
theorem delay_keeps_sorted (es : List Entry) (t D : Int) (hs : es.Pairwise (fun a b => a.t ≤ b.t)) (hle : t ≤ D) :
    (Spec.moveFirst es t D).Pairwise (fun a b => a.t ≤ b.t) := by
  induction es with
  | nil => simp [Spec.moveFirst]
  | cons e es ih =>
    rw [List.pairwise_cons] at hs
    unfold Spec.moveFirst
    split
    · exact Spec.bubble_sorted _ es hs.2
    · rw [List.pairwise_cons]
      refine ⟨?_, ih hs.2⟩
      intro y hy
      rcases Spec.mem_moveFirst hy with h | ⟨h1, e', h2, h3⟩
      · exact hs.1 y h
      · have := hs.1 e' h2; omega

/-- Under the invariant a delay panics for one reason only: the candidates did not cover the amount. The two "not found" panics
    are unreachable. -/
theorem delay_error (s : State) (p : String) (a D : Int) (msg : String) (h : Inv s)
    (herr : delayUnbonding s p a D = .error msg) : msg = "failed to delay enough unbondings" := by
  rw [delay_eq_spec s p a D h] at herr
  split at herr
  · cases herr
  · cases herr; rfl

/-- A delay by nothing changes nothing. -/
theorem delay_noop (s : State) (p : String) (a D : Int) (ha : a ≤ 0) : delayUnbonding s p a D = .ok s := by
  unfold delayUnbonding
  cases (maturingByTime s.queue p D).reverse with
  | nil =>
    unfold delayLoop
    have : ¬ a > 0 := by omega
    simp [this]
  | cons c cs =>
    unfold delayLoop
    simp [ha]

example : Inv (run {} (hist.take 5)) ∧ (delayUnbonding (run {} (hist.take 5)) "p" 10 100).toOption = some (run {} (hist.take 6)) :=
  ⟨inv_reachable _, by decide +kernel⟩

/-- **FALSE: "a successful delay covers the amount".** Two entries of one pair at the delayed time: the first one's balance is
    counted twice; the call returns although the entries then completing at the delayed time hold less than the amount. -/
theorem delay_covered_fails : ¬ (∀ (s s' : State) (p : String) (a D : Int), Inv s → NonNeg s.ubds p → 0 < a →
    delayUnbonding s p a D = .ok s' → a ≤ atTime s'.ubds p D) := Delay.delay_covered_fails

/-- **FALSE: "an uncovered amount is refused".** Same situation: the call returns although all candidates together hold less. -/
theorem delay_panics_fails : ¬ (∀ (s : State) (p : String) (a D : Int), Inv s → NonNeg s.ubds p → byTime s.ubds p D < a →
    ∃ msg, delayUnbonding s p a D = .error msg) := Delay.delay_panics_fails

/-- **FALSE: "a covered amount is accepted".** Same situation with the small entry first: the call panics although the
    candidates cover the amount. -/
theorem delay_ok_of_covered_fails : ¬ (∀ (s : State) (p : String) (a D : Int), Inv s → NonNeg s.ubds p →
    a ≤ byTime s.ubds p D → ∃ s', delayUnbonding s p a D = .ok s') := Delay.delay_ok_of_covered_fails

set_option linter.unusedVariables false in
/-- **The true part of "covers the amount".** With non-negative balances and at most one entry per pair of the provider completing
    exactly at `D` beforehand, after a successful delay by `a > 0` the provider's entries completing exactly at `D` hold at
    least `a`: that much of its unbonding stake cannot complete before the lock ends. The proof does not use `0 < a`. -/
theorem delay_covered_partial (s s' : State) (p : String) (a D : Int) (h : Inv s) (hn : NonNeg s.ubds p)
    (hone : ∀ v, entriesAt s p v D ≤ 1) (ha : 0 < a) (ok : delayUnbonding s p a D = .ok s') : a ≤ atTime s'.ubds p D := by
  have := (Delay.spec_covered _ a s h (Delay.cands_init h p D).1 (fun v _ => hone v) hn).2 s' ((Delay.delay_ok_spec h).mp ok)
  rwa [Delay.settled_init h, Int.add_zero] at this

/-- The true part of "an uncovered amount is refused", same extra hypothesis. -/
theorem delay_panics_partial (s : State) (p : String) (a D : Int) (h : Inv s) (hn : NonNeg s.ubds p)
    (hone : ∀ v, entriesAt s p v D ≤ 1) (hc : byTime s.ubds p D < a) :
    delayUnbonding s p a D = .error "failed to delay enough unbondings" := by
  have := Delay.delaySpec_isSome_iff s p a D h hn hone
  rw [delay_eq_spec s p a D h]
  cases hs : Spec.delaySpec s p a D with
  | none => rfl
  | some s' => rw [hs] at this; simp at this; omega

/-- The true part of "a covered amount is accepted", same extra hypothesis: a claim lock never fails at this point when the
    provider's entries completing by `D` cover the amount. -/
theorem delay_ok_of_covered_partial (s : State) (p : String) (a D : Int) (h : Inv s) (hn : NonNeg s.ubds p)
    (hone : ∀ v, entriesAt s p v D ≤ 1) (hc : a ≤ byTime s.ubds p D) : ∃ s', delayUnbonding s p a D = .ok s' := by
  obtain ⟨s', hs⟩ := Option.isSome_iff_exists.mp ((Delay.delaySpec_isSome_iff s p a D h hn hone).mpr hc)
  exact ⟨s', (Delay.delay_ok_spec h).mpr hs⟩

example : Inv Delay.s2 ∧ NonNeg Delay.s2.ubds "p" ∧ (∀ v, entriesAt Delay.s2 "p" v 100 ≤ 1) ∧ (10 : Int) ≤ byTime Delay.s2.ubds "p" 100 :=
  ⟨Delay.inv_s2, Delay.nonneg_s2, Delay.hone_s2, by decide +kernel⟩

/-- **Latest first.** If an entry of the provider still completes at some `T < D` after the delay, nothing was moved out of any
    earlier time: the candidates are taken from the latest slice down. -/
theorem delay_latest_first (s s' : State) (p : String) (a D : Int) (h : Inv s) (ok : delayUnbonding s p a D = .ok s')
    (v : String) (T : Int) (hT : T < D) (hleft : 0 < entriesAt s' p v T) (v' : String) (T' : Int) (hT' : T' < T) :
    entriesAt s' p v' T' = entriesAt s p v' T' :=
  (Delay.spec_latest _ _ _ h (Delay.cands_init h p D).1 s' ((Delay.delay_ok_spec h).mp ok)).2 v T hT hleft v' T' hT'

/-- **Exactly the payout.** A successful payout walk lowers what the delegator has in unbonding entries by exactly the payout
    (every snapshot element still finds its stored entry, also after earlier elements were paid from). -/
theorem pay_exact (s s' : State) (d : String) (u x : Int) (h : WF s) (ok : payFromAllUnbondings s d u x = .ok s') :
    outstanding s'.ubds d = outstanding s.ubds d - x := Pay.reach_exact (Pay.pay_reach s s' d u x h ok) h

/-- The payout keeps the invariant: a used-up entry leaves together with one queue pair of its slice. -/
theorem pay_inv (s s' : State) (d : String) (u x : Int) (h : Inv s) (ok : payFromAllUnbondings s d u x = .ok s') : Inv s' :=
  Pay.reach_inv (Pay.pay_reach s s' d u x h.toWF ok) h

/-- Nothing is taken from other delegators. No hypothesis. -/
theorem pay_frame_entries (s s' : State) (d : String) (u x : Int) (ok : payFromAllUnbondings s d u x = .ok s') (d' v : String)
    (hd : d' ≠ d) : getEntries s'.ubds d' v = getEntries s.ubds d' v := by
  rcases Pay.pay_cases ok with ⟨_, rfl⟩ | ok
  · rfl
  · exact Pay.walk_frame_entries d _ u x s s' (Pay.alld_sorted _ _) ok d' v hd

/-- Other delegators' queue pairs stay, in order (the slice of one pair deleted wholesale is the delegator's own: this needs Q1). -/
theorem pay_frame_queue (s s' : State) (d : String) (u x : Int) (h : Inv s) (ok : payFromAllUnbondings s d u x = .ok s')
    (d' : String) (hd : d' ≠ d) (t : Int) :
    (getSlice s'.queue t).filter (fun pr => pr.1 == d') = (getSlice s.queue t).filter (fun pr => pr.1 == d') :=
  Pay.reach_frame_queue (Pay.pay_reach s s' d u x h.toWF ok) h d' hd t

/-- No completion time changes and balances only shrink. -/
theorem pay_times (s s' : State) (d : String) (u x : Int) (h : WF s) (ok : payFromAllUnbondings s d u x = .ok s') (v : String)
    (e' : Entry) (he : e' ∈ getEntries s'.ubds d v) : ∃ e ∈ getEntries s.ubds d v, e.t = e'.t ∧ e'.bal ≤ e.bal :=
  Pay.reach_times (Pay.pay_reach s s' d u x h ok) v e' he

/-- **Exactly the used-up entries are removed.** With positive balances before, all balances are positive afterwards. -/
theorem pay_no_empty_entry (s s' : State) (d : String) (u x : Int) (h : WF s) (hu : 0 ≤ u)
    (hpos : ∀ v, ∀ e ∈ getEntries s.ubds d v, 0 < e.bal) (ok : payFromAllUnbondings s d u x = .ok s') (v : String) :
    ∀ e ∈ getEntries s'.ubds d v, 0 < e.bal :=
  Pay.reach_pos (Pay.reach_mono (fun _ => hu) (Pay.pay_reach s s' d u x h ok)) hpos v

/-- One call of `PayFromUnbondings` on a stored entry keeps the invariant. -/
theorem payOne_inv (s s' : State) (d v : String) (e0 : Entry) (x : Int) (h : Inv s) (hm : e0 ∈ getEntries s.ubds d v)
    (ok : payFromUnbondings s d v e0 x = .ok s') : Inv s' := Pay.payOne_inv s s' d v e0 x h hm ok

/-- One call of `PayFromUnbondings` on a stored entry takes exactly `x` from the delegator's entries. -/
theorem payOne_exact (s s' : State) (d v : String) (e0 : Entry) (x : Int) (h : WF s) (hm : e0 ∈ getEntries s.ubds d v)
    (ok : payFromUnbondings s d v e0 x = .ok s') : outstanding s'.ubds d = outstanding s.ubds d - x :=
  Pay.payOne_exact s s' d v e0 x h hm ok

example : Inv (run {} (hist.take 6)) ∧ (payFromAllUnbondings (run {} (hist.take 6)) "p" 0 9).toOption = some (run {} (hist.take 7))
    ∧ outstanding (run {} (hist.take 6)).ubds "p" = 19 ∧ outstanding (run {} (hist.take 7)).ubds "p" = 10 :=
  ⟨inv_reachable _, by decide +kernel, by decide +kernel, by decide +kernel⟩

/-- **On time, never early.** After the end-blocker at `now`, every pair keeps exactly its entries that complete after `now`, in order. -/
theorem endBlock_entries (s : State) (now : Int) (h : Inv s) (d v : String) :
    getEntries (endBlock s now).1.ubds d v = (getEntries s.ubds d v).filter (fun e => !e.isMature now) :=
  Block.endBlock_entries s now h d v

/-- After the end-blocker at `now` no entry with completion time ≤ now is left. -/
theorem endBlock_no_mature (s : State) (now : Int) (h : Inv s) (d v : String) (e : Entry)
    (he : e ∈ getEntries (endBlock s now).1.ubds d v) : now < e.t := by
  rw [endBlock_entries s now h, List.mem_filter] at he
  have := he.2
  simp only [Entry.isMature, Bool.not_eq_true', decide_eq_false_iff_not] at this
  omega

set_option linter.unusedVariables false in
/-- The slices up to `now` are gone, the later ones untouched. The proof does not use `WF s`. -/
theorem endBlock_queue (s : State) (now : Int) (h : WF s) (t : Int) :
    getSlice (endBlock s now).1.queue t = if t ≤ now then [] else getSlice s.queue t := Block.endBlock_queue s now t

/-- **Exactly once.** What the end-blocker pays back is exactly the mature entries, each as often as it is stored (also when the
    pair is dequeued twice). -/
theorem endBlock_paid (s : State) (now : Int) (h : Inv s) (d v : String) (e : Entry) :
    ((endBlock s now).2).count (d, v, e) = ((getEntries s.ubds d v).filter (·.isMature now)).count e := by
  show (completeAll now (dequeueAllMature s.queue now).1 s.ubds []).2.count (d, v, e) = _
  rw [Block.completeAll_log]
  split
  · simp
  · rename_i hn
    rw [← Block.immature_of_not_dequeued s now h d v hn, Block.filter_mature_filter_immature]
    simp

/-- What is outstanding afterwards plus what was paid back is what was outstanding before. -/
theorem endBlock_conservation (s : State) (now : Int) (h : Inv s) :
    total (endBlock s now).1.ubds + paidSum (endBlock s now).2 = total s.ubds :=
  (Block.completeAll_sum (fun _ _ e => e.bal) now (dequeueAllMature s.queue now).1 s.ubds [] h.keys).trans (Int.add_zero _)

/-- An undelegation adds its balance, and its entry at the end of the pair's list. -/
theorem undelegate_total (s : State) (d v : String) (t bal : Int) (h : WF s) :
    total (undelegate s d v t bal).ubds = total s.ubds + bal := by
  simpa [total_eq_sumE, wsum] using (Store.undelegate_step s d v t bal h).edit.sum h.keys (fun _ _ e => e.bal)

/-- **After every history** (undelegations, delays, payouts, end-blocks in any order) the next end-block at `now` pays back
    exactly the entries completing at or before `now`, each once, and keeps all the others. So an entry — also one that was
    postponed, whose time is then the delayed time — is paid back at the first end-block at or after its completion time, not
    before, and only once (it is gone afterwards). -/
theorem completes_on_time (ops : List Op) (now : Int) (d v : String) :
    getEntries (endBlock (run {} ops) now).1.ubds d v = (getEntries (run {} ops).ubds d v).filter (fun e => !e.isMature now)
    ∧ ∀ e, ((endBlock (run {} ops) now).2).count (d, v, e) = ((getEntries (run {} ops).ubds d v).filter (·.isMature now)).count e :=
  ⟨endBlock_entries _ now (inv_reachable ops) d v, fun e => endBlock_paid _ now (inv_reachable ops) d v e⟩

example : (endBlock (run {} (hist.take 6)) 99).2 = [("p", "v", ⟨50, 4⟩), ("p", "v", ⟨90, 1⟩), ("b", "v", ⟨90, 7⟩)]
    ∧ getEntries (endBlock (run {} (hist.take 6)) 99).1.ubds "p" "v" = [⟨100, 5⟩] := by decide +kernel

/-- Without Q1 the end-blocker loses a mature entry for ever: its pair is not queued, nothing will complete it. -/
example : ∃ s : State, WF s ∧ ∃ e ∈ getEntries (endBlock s 100).1.ubds "p" "v", e.t ≤ 100 :=
  ⟨{ ubds := [⟨"p", "v", [⟨50, 4⟩]⟩], queue := [] }, ⟨by decide +kernel, by decide +kernel⟩, ⟨50, 4⟩, by decide +kernel, by decide +kernel⟩

end Shentu.Props.C09q

#print axioms Shentu.Props.C09q.inv_empty
#print axioms Shentu.Props.C09q.inv_step
#print axioms Shentu.Props.C09q.inv_run
#print axioms Shentu.Props.C09q.inv_reachable
#print axioms Shentu.Props.C09q.entry_queued
#print axioms Shentu.Props.C09q.queued_pair_has_entry
#print axioms Shentu.Props.C09q.entry_queued_run
#print axioms Shentu.Props.C09q.queued_pair_has_entry_run
#print axioms Shentu.Props.C09q.delay_frame_entries
#print axioms Shentu.Props.C09q.delay_frame_queue
#print axioms Shentu.Props.C09q.delay_entries
#print axioms Shentu.Props.C09q.delayed_never_earlier
#print axioms Shentu.Props.C09q.delay_error
#print axioms Shentu.Props.C09q.delay_noop
#print axioms Shentu.Props.C09q.delay_eq_spec
#print axioms Shentu.Props.C09q.delay_inv
#print axioms Shentu.Props.C09q.delay_keeps_sorted
#print axioms Shentu.Props.C09q.delay_covered_fails
#print axioms Shentu.Props.C09q.delay_panics_fails
#print axioms Shentu.Props.C09q.delay_ok_of_covered_fails
#print axioms Shentu.Props.C09q.delay_covered_partial
#print axioms Shentu.Props.C09q.delay_panics_partial
#print axioms Shentu.Props.C09q.delay_ok_of_covered_partial
#print axioms Shentu.Props.C09q.delay_latest_first
#print axioms Shentu.Props.C09q.pay_exact
#print axioms Shentu.Props.C09q.pay_inv
#print axioms Shentu.Props.C09q.pay_frame_entries
#print axioms Shentu.Props.C09q.pay_frame_queue
#print axioms Shentu.Props.C09q.pay_times
#print axioms Shentu.Props.C09q.pay_no_empty_entry
#print axioms Shentu.Props.C09q.payOne_inv
#print axioms Shentu.Props.C09q.payOne_exact
#print axioms Shentu.Props.C09q.endBlock_entries
#print axioms Shentu.Props.C09q.endBlock_no_mature
#print axioms Shentu.Props.C09q.endBlock_queue
#print axioms Shentu.Props.C09q.endBlock_paid
#print axioms Shentu.Props.C09q.endBlock_conservation
#print axioms Shentu.Props.C09q.undelegate_total
#print axioms Shentu.Props.C09q.completes_on_time
