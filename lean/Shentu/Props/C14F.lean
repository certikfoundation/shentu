import Shentu.Proofs.C14FSteps
import Shentu.Props.C15H
/-
  C14 / C15, the module-account statement at the level of histories — the oracle module account always covers what the
  module owes, and the recorded total collateral is the sum of the operators' collateral.

  **What is proved.**  `owed s d` is, in the denomination `d`, the sum over all operators of their collateral, plus the sum
  over all pending withdrawals of their amount, plus the sum over all operators of their accumulated rewards, plus the sum
  over all PENDING tasks (status 1) of their bounty.  `Funded m l s` says `owed s d ≤` balance of `m` in `l`, for every `d`.
  `TotalIsSum s` says that `s.total` and the sum of the operators' collateral agree in every denomination.  Both hold in the
  empty state, every operation of `Oracle.Op` keeps them (`step_preserves`), a refused operation changes nothing
  (`refused_changes_nothing`), hence they hold after every history (`reachable_funded`, `reachable_total_is_sum`): any list
  of `(Env × Op)`, of any length, each operation in its own environment, heights in any order.

  **What is assumed** (`Hyp m bond ops`).  All environments carry the module address `m` and the bond denomination `bond`.
  No `createOperator`, `addCollateral` or `createTask` is signed by `m` itself.  The last hypothesis is needed:
  `funded_fails_when_module_pays` is a history in which `m` creates a task, the bank moves the bounty from `m` to `m`, and
  the rewards credited for it are then paid out of an operator's collateral until the begin-blocker halts.  On the chain a
  module account has no key and signs nothing.  The start state must be well-formed (`WF bond s`): positive `eps1`, `eps2`,
  non-negative collateral in the bond denomination, valid bounties, scores in [0, 100], distinct operator addresses, distinct
  task keys.  The empty state is well-formed (`empty_wf`) and every operation keeps it (`step_preserves`).  For the empty
  state to be funded the module account must not be overdrawn at the start (`empty_funded`; the posting ledger of the model
  allows negative balances, `empty_funded_negative_balance_fails`).

  **Which tasks hold their bounty.**  Exactly the pending ones.  The end-blocker takes a task out of `pending` and in the same
  step credits at most its bounty as rewards (`end_block_never_raises_debt`, `end_one_releases_at_most_the_bounty`).  What is
  not credited stays in the module account and is owed to nobody any more: the rounding remainder of a distribution, the
  whole bounty of a task that failed (no eligible response), the bounty of a pending task that its creator deletes after a
  skipped closing block (`deleteTask_moves_no_coins`: nothing is returned to the creator), and what a task replaced by
  `createTask` still held (`createTask_exact`).  There is no message that takes such coins out again, so the inequality is
  `≤` and the gap only ever grows, by exactly these amounts.  The rounding remainder of one distribution is at most the
  number of the task's responses minus one, in every denomination of the bounty (`rounding_remainder_bound`); the history
  `histB` below attains this bound (two responses, one unit left over in each of the two denominations).

  **Without the hypothesis on the module address the statement is false** (`funded_fails_when_module_pays`); with it,
  it holds as stated.
-/
namespace Shentu.Props.C14F
open Shentu Shentu.Oracle Shentu.C14FH

/-- The empty oracle state with positive epsilons is well-formed, whatever the other parameters. -/
theorem empty_wf (bond : Denom) (p : Params) (h1 : 0 < p.eps1) (h2 : 0 < p.eps2) : WF bond (emptyS p) :=
  wf_empty bond p h1 h2

/-- The empty oracle state is funded in every ledger in which the module account is not overdrawn: it owes nothing. -/
theorem empty_funded (m : Addr) (l : Ledger) (p : Params) (h : ∀ d, 0 ≤ l.balOf m d) : Funded m l (emptyS p) := by
  intro d; rw [owed_empty]; exact h d

/-- In the empty oracle state the total collateral and the sum over the operators are both zero. -/
theorem empty_total_is_sum (p : Params) : TotalIsSum (emptyS p) := by
  intro d; simp [emptyS, C15HH.collSum]

/-- "The empty state with ANY ledger is funded" is false: the posting ledger allows an overdrawn module account. -/
theorem empty_funded_negative_balance_fails :
    ¬ (∀ (m : Addr) (l : Ledger) (p : Params), Funded m l (emptyS p)) := by
  intro h
  have := h "oracle" { posts := [("oracle", "uctk", -1)], supply := [] } default "uctk"
  rw [owed_empty] at this
  revert this
  decide

/-- **A refused operation changes nothing**: neither the ledger nor the oracle state. -/
theorem refused_changes_nothing (e : Env) (ls : Ledger × State) (op : Op) (x : Err)
    (h : stepE e ls.1 ls.2 op = .error x) : step e ls op = ls := by
  unfold step; rw [h]

/-- **Every accepted operation, in figures.**  In every denomination the debt grows by no more than the module account's
    balance grows, and the recorded total collateral changes by exactly as much as the sum of the operators' collateral.
    The state stays well-formed. -/
theorem operation_delta {m : Addr} {bond : Denom} {e : Env} {l l' : Ledger} {s s' : State} {op : Op} (hm : e.modAddr = m)
    (hb : e.bond = bond) (hp : OpPayer op ≠ some m) (hw : WF bond s) (h : stepE e l s op = .ok (l', s')) :
    (∀ d, owed s' d - owed s d ≤ l'.balOf m d - l.balOf m d) ∧
    (∀ d, Coins.amountOf s'.total d - Coins.amountOf s.total d = C15HH.collSum s'.ops d - C15HH.collSum s.ops d) ∧
    WF bond s' := by
  obtain ⟨a1, a2⟩ := stepE_facts hm hb hp hw h
  exact ⟨a1.owed, a1.total, a2⟩

/-- **Every operation keeps the module account funded, the total equal to the sum, and the state well-formed** — each of
    the eight messages, the begin-blocker and the end-blocker, accepted or refused. -/
theorem step_preserves {m : Addr} {bond : Denom} {e : Env} {ls : Ledger × State} {op : Op} (hm : e.modAddr = m)
    (hb : e.bond = bond) (hp : OpPayer op ≠ some m) (hw : WF bond ls.2) (hf : Funded m ls.1 ls.2) (ht : TotalIsSum ls.2) :
    WF bond (step e ls op).2 ∧ Funded m (step e ls op).1 (step e ls op).2 ∧ TotalIsSum (step e ls op).2 := by
  have := good_step (eo := (e, op)) hm hb hp ⟨hw, hf, ht⟩
  exact ⟨this.wf, this.funded, this.total⟩

/-- **C14/C15, module account.**  After every history that satisfies `Hyp`, from every well-formed funded start, the oracle
    module account holds at least the operators' collateral plus the pending withdrawals plus the accumulated rewards plus
    the bounties of the pending tasks, in every denomination. -/
theorem reachable_funded {m : Addr} {bond : Denom} (ops : List (Env × Op)) (ls : Ledger × State) (hh : Hyp m bond ops)
    (hw : WF bond ls.2) (hf : Funded m ls.1 ls.2) (ht : TotalIsSum ls.2) :
    Funded m (run ls ops).1 (run ls ops).2 :=
  (good_run ops hh ⟨hw, hf, ht⟩).funded

/-- **C14, total collateral.**  After every such history the recorded total collateral equals the sum of the operators'
    collateral, in every denomination. -/
theorem reachable_total_is_sum {m : Addr} {bond : Denom} (ops : List (Env × Op)) (ls : Ledger × State)
    (hh : Hyp m bond ops) (hw : WF bond ls.2) (hf : Funded m ls.1 ls.2) (ht : TotalIsSum ls.2) :
    TotalIsSum (run ls ops).2 :=
  (good_run ops hh ⟨hw, hf, ht⟩).total

/-- After every such history the state is still well-formed: the hypothesis of the two theorems above is an invariant. -/
theorem reachable_wf {m : Addr} {bond : Denom} (ops : List (Env × Op)) (ls : Ledger × State) (hh : Hyp m bond ops)
    (hw : WF bond ls.2) (hf : Funded m ls.1 ls.2) (ht : TotalIsSum ls.2) : WF bond (run ls ops).2 :=
  (good_run ops hh ⟨hw, hf, ht⟩).wf

/-- From genesis: the empty oracle state, any parameters with positive epsilons, any ledger in which the module account is
    not overdrawn.  Both statements hold after every history that satisfies `Hyp`. -/
theorem from_genesis {m : Addr} {bond : Denom} (ops : List (Env × Op)) (l : Ledger) (p : Params) (h1 : 0 < p.eps1)
    (h2 : 0 < p.eps2) (h0 : ∀ d, 0 ≤ l.balOf m d) (hh : Hyp m bond ops) :
    Funded m (run (l, emptyS p) ops).1 (run (l, emptyS p) ops).2 ∧ TotalIsSum (run (l, emptyS p) ops).2 :=
  ⟨reachable_funded ops _ hh (empty_wf bond p h1 h2) (empty_funded m l p h0) (empty_total_is_sum p),
   reachable_total_is_sum ops _ hh (empty_wf bond p h1 h2) (empty_funded m l p h0) (empty_total_is_sum p)⟩

/-- The same for the ghost run of `Props/C15H`, which carries the same ledger and state. -/
theorem module_funded {m : Addr} {bond : Denom} (ops : List (Env × Op)) (r0 : C15HH.Run) (hh : Hyp m bond ops)
    (hw : WF bond r0.s) (hf : Funded m r0.l r0.s) (ht : TotalIsSum r0.s) :
    Funded m (ops.foldl C15HH.runStep r0).l (ops.foldl C15HH.runStep r0).s ∧ TotalIsSum (ops.foldl C15HH.runStep r0).s := by
  have hg : Good m bond (ops.foldl (fun ls eo => step eo.1 ls eo.2) (r0.l, r0.s)) := good_run ops hh ⟨hw, hf, ht⟩
  rw [← C15HH.foldl_runStep_ls] at hg
  exact ⟨hg.funded, hg.total⟩

/-! ### where the bounty goes -/

/-- **The end-blocker never raises the debt.**  It moves no coins, leaves collateral, withdrawals and the recorded total
    alone, and in every denomination what it credits as rewards is at most the bounties of the tasks it takes out of
    `pending`. -/
theorem end_block_never_raises_debt {e : Env} {l l' : Ledger} {s s' : State} (hw : WF e.bond s)
    (h : stepE e l s .endBlock = .ok (l', s')) :
    l' = l ∧ (∀ d, owed s' d ≤ owed s d) ∧ (∀ d, C15HH.collSum s'.ops d = C15HH.collSum s.ops d) ∧ s'.total = s.total := by
  obtain ⟨rfl, hr⟩ := Except.map_pair_ok h
  have hs := endBlock_endSum hw hr
  exact ⟨rfl, hs.owed, hs.coll, hs.total⟩

/-- **One closing task releases at most its bounty.**  Handling one identifier in the end-blocker lowers the debt by at
    most what the task under that key held (its bounty if pending, nothing otherwise) and never raises it.  The difference
    between the two bounds is what was credited as rewards; the rest of the bounty stays in the account, owed to nobody. -/
theorem end_one_releases_at_most_the_bounty {bond : Denom} {s s' : State} {id : String × String} (hw : WF bond s)
    (h : endOne bond s id = .ok s') (d : Denom) :
    owed s d - heldUnder s (id.1 ++ id.2) d ≤ owed s' d ∧ owed s' d ≤ owed s d :=
  ⟨endOne_released hw h d, (endOne_endSum hw h).1.owed d⟩

/-- **The rounding remainder of one distribution.**  Handling one identifier in the end-blocker either credits nothing at
    all (no task, task not pending, or the task ends without an eligible response: the whole bounty stays in the account),
    or it distributes the bounty of the pending task under that key: then, in every denomination, the rewards credited are at
    most the bounty and at least the bounty minus (number of responses − 1) — every share is rounded down once. -/
theorem rounding_remainder_bound {bond : Denom} {s s' : State} {id : String × String} (hw : WF bond s)
    (h : endOne bond s id = .ok s') :
    (∀ d, C15HH.rewSum s'.ops d = C15HH.rewSum s.ops d) ∨
    ∃ t, findTask s (id.1 ++ id.2) = some t ∧ t.status = 1 ∧
      ∀ d, C15HH.rewSum s.ops d + Coins.amountOf t.bounty d - ((t.responses.length : Int) - 1) ≤ C15HH.rewSum s'.ops d ∧
           C15HH.rewSum s'.ops d ≤ C15HH.rewSum s.ops d + Coins.amountOf t.bounty d :=
  endOne_rewards hw h

/-- **`deleteTask` moves no coins.**  An accepted deletion leaves the ledger as it is: nothing goes back to the creator.
    The debt falls by what the deleted task still held, which is its whole bounty if it was still pending (possible only
    when the end-blocker of its closing block never ran), and nothing if it was finished. -/
theorem deleteTask_moves_no_coins {bond : Denom} {e : Env} {l l' : Ledger} {s s' : State} {ct fn : String} {fo : Bool}
    {dl : Addr} (hw : WF bond s) (h : stepE e l s (.deleteTask ct fn fo dl) = .ok (l', s')) :
    l' = l ∧ ∃ t, findTask s (ct ++ fn) = some t ∧ t.creator = dl ∧ t.closing < e.h ∧
      ∀ d, owed s' d = owed s d - holds t d := by
  obtain ⟨_, hev⟩ := stepE_taskEv (k := ct ++ fn) rfl h
  have ho := fun d => taskMsg_owed hev.msg hw.keysNodup d
  cases hev with
  | @delete _ _ _ _ t _ hl ht _ hcl hcr _ =>
    refine ⟨hl, t, ht, hcr, hcl, fun d => ?_⟩
    have := ho d
    rw [heldUnder_eq, ht] at this
    simpa using this

/-- **`createTask`, exactly.**  The bounty arrives in the module account.  The debt grows by the bounty and falls by what
    the task replaced under the same key still held: leftovers of a replaced task are not refunded and not carried over. -/
theorem createTask_exact {m : Addr} {bond : Denom} {e : Env} {l l' : Ledger} {s s' : State} {ct fn : String} {b : Coins}
    {cr : Addr} {w v : Int} (hm : e.modAddr = m) (hcr : cr ≠ m) (hw : WF bond s)
    (h : stepE e l s (.createTask ct fn b cr w v) = .ok (l', s')) :
    (∀ d, l'.balOf m d = l.balOf m d + Coins.amountOf b d) ∧
    (∀ d, owed s' d = owed s d + Coins.amountOf b d - heldUnder s (ct ++ fn) d) := by
  obtain ⟨_, hev⟩ := stepE_taskEv (k := ct ++ fn) rfl h
  have ho := fun d => taskMsg_owed hev.msg hw.keysNodup d
  cases hev with
  | create _ hsend _ _ _ =>
    refine ⟨fun d => bal_in (hm ▸ hsend) hcr d, fun d => ?_⟩
    have := ho d
    simp only [Keyed.val_some, holds, newTask, if_true] at this
    omega

/-! ### the hypothesis on the module address is needed -/

def ledgerM : Ledger := { posts := [("alice", "uctk", 1000)], supply := [] }

/-- alice puts up 100 as collateral; the module address itself creates a task with a bounty of 60 (the bank moves 60 from
    the module account to the module account); alice answers, is credited the 60, withdraws them and leaves -/
def histM : List (Env × Op) :=
  [ (C15H.env 1, .createOperator "alice" [("uctk", 100)] "alice"),
    (C15H.env 2, .createTask "ab" "c" [("uctk", 60)] "oracle" 3 0),
    (C15H.env 3, .respond "ab" "c" 80 "alice"),
    (C15H.env 5, .endBlock),
    (C15H.env 6, .withdrawReward "alice"),
    (C15H.env 6, .removeOperator "alice") ]

def atM (n : Nat) : Ledger × State := run (ledgerM, emptyS C15H.params0) (histM.take n)

/-- what the begin-blocker answers -/
def beginRefusal (e : Env) (ls : Ledger × State) : Option String :=
  match stepE e ls.1 ls.2 .beginBlock with
  | .error x => some x.kind
  | .ok _ => none

/-- the figures of `histM`: after the module's own `createTask` the account holds 100 against a debt of 160; the 60 of
    rewards are paid out of alice's collateral; when her withdrawal of 100 falls due the account holds 40 and the
    begin-blocker panics -/
theorem histM_figures :
    ((atM 1).1.balOf "oracle" "uctk", owed (atM 1).2 "uctk") = (100, 100) ∧
    ((atM 2).1.balOf "oracle" "uctk", owed (atM 2).2 "uctk") = (100, 160) ∧
    ((atM 4).1.balOf "oracle" "uctk", C15HH.rewSum (atM 4).2.ops "uctk") = (100, 60) ∧
    ((atM 6).1.balOf "oracle" "uctk", owed (atM 6).2 "uctk") = (40, 100) ∧
    beginRefusal (C15H.env 11) (atM 6) = some "panic:oracle:FinalizeMatureWithdraws-send" := by decide +kernel

/-- **Without "the module address signs no paying message" the statement is false**: every other hypothesis holds for the
    first two operations of `histM` (one module address, one bond denomination, a well-formed funded start), and the module
    account is not funded after them. -/
theorem funded_fails_when_module_pays :
    ¬ (∀ (m : Addr) (bond : Denom) (ops : List (Env × Op)) (ls : Ledger × State),
        (∀ eo ∈ ops, eo.1.modAddr = m ∧ eo.1.bond = bond) → WF bond ls.2 → Funded m ls.1 ls.2 → TotalIsSum ls.2 →
        Funded m (run ls ops).1 (run ls ops).2) := by
  intro h
  have := h "oracle" "uctk" (histM.take 2) (ledgerM, emptyS C15H.params0) (by decide)
    (empty_wf _ _ (by decide) (by decide)) (empty_funded _ _ _ (fun d => by simp [ledgerM, Ledger.balOf, Ledger.bal]))
    (empty_total_is_sum _) "uctk"
  have hf := histM_figures.2.1
  simp only [atM, Prod.mk.injEq] at hf
  rw [hf.1, hf.2] at this
  omega

/-! ### non-vacuity: the history of `Props/C15H` -/

/-- The 14-step history `hist` of `Props/C15H` (two operators, three `createTask`, five `respond`, two end-blockers, two
    `deleteTask`) and its variant `histB` satisfy the hypotheses of every theorem above, from the empty state over
    `ledger0`: one module address "oracle" that signs nothing, one bond denomination, positive epsilons, no overdraft. -/
example : Hyp "oracle" "uctk" C15H.hist ∧ Hyp "oracle" "uctk" C15H.histB ∧ 0 < C15H.params0.eps1 ∧ 0 < C15H.params0.eps2 ∧
    ∀ d, 0 ≤ C15H.ledger0.balOf "oracle" d :=
  ⟨by decide, by decide, by decide, by decide, fun d => by simp [C15H.ledger0, Ledger.balOf, Ledger.bal]⟩

/-- hence both statements hold at the end of `hist` -/
example : Funded "oracle" (run (C15H.ledger0, emptyS C15H.params0) C15H.hist).1 (run (C15H.ledger0, emptyS C15H.params0) C15H.hist).2 ∧
    TotalIsSum (run (C15H.ledger0, emptyS C15H.params0) C15H.hist).2 :=
  from_genesis (bond := "uctk") C15H.hist C15H.ledger0 C15H.params0 (by decide) (by decide)
    (fun d => by simp [C15H.ledger0, Ledger.balOf, Ledger.bal]) (by decide)

def endB : Ledger × State := run (C15H.ledger0, emptyS C15H.params0) C15H.histB

set_option maxRecDepth 100000 in
/-- both sides of the inequality at the end of `histB`, checked by the kernel: the account holds 490 uctk against 400 of
    collateral, no withdrawal, 89 of rewards and no pending bounty (one unit of rounding remainder of the 90 uctk bounty
    stays for good), and 40 uatom against 39 of rewards; the recorded total collateral is 400 -/
example :
    endB.1.balOf "oracle" "uctk" = 490 ∧ owed endB.2 "uctk" = 489 ∧
    (C15HH.collSum endB.2.ops "uctk", Halt.Orc.wdSum endB.2.wds "uctk", C15HH.rewSum endB.2.ops "uctk", bountySum endB.2.tasks "uctk") =
      (400, 0, 89, 0) ∧
    endB.1.balOf "oracle" "uatom" = 40 ∧ owed endB.2 "uatom" = 39 ∧ Coins.amountOf endB.2.total "uctk" = 400 := by decide +kernel

set_option maxRecDepth 100000 in
/-- non-vacuity of `rounding_remainder_bound` and `end_one_releases_at_most_the_bounty`, and the bound is attained: before
    the end-blocker of block 5 of `histB` the state is well-formed (`reachable_wf`) and the task "abc" is pending with two
    responses and a bounty of 90 uctk and 40 uatom; the end-blocker credits 89 and 39 -/
example :
    WF "uctk" (run (C15H.ledger0, emptyS C15H.params0) (C15H.histB.take 6)).2 ∧
    ((findTask (run (C15H.ledger0, emptyS C15H.params0) (C15H.histB.take 6)).2 "abc").map
      (fun t => (t.status, t.responses.length, Coins.amountOf t.bounty "uctk", Coins.amountOf t.bounty "uatom"))) = some (1, 2, 90, 40) ∧
    C15HH.rewSum (run (C15H.ledger0, emptyS C15H.params0) (C15H.histB.take 6)).2.ops "uctk" = 0 ∧
    (C15HH.rewSum (run (C15H.ledger0, emptyS C15H.params0) (C15H.histB.take 7)).2.ops "uctk",
     C15HH.rewSum (run (C15H.ledger0, emptyS C15H.params0) (C15H.histB.take 7)).2.ops "uatom") = (89, 39) :=
  ⟨reachable_wf (m := "oracle") (C15H.histB.take 6) _ (by decide) (empty_wf _ _ (by decide) (by decide))
      (empty_funded _ _ _ (fun d => by simp [C15H.ledger0, Ledger.balOf, Ledger.bal])) (empty_total_is_sum _),
   by decide +kernel⟩

def endH : Ledger × State := run (C15H.ledger0, emptyS C15H.params0) C15H.hist

/-! Both sides at the end of the 14-step `hist`, by evaluation (`#guard`; the kernel cannot unfold `String.startsWith`,
    which the end-blocker calls when the task "xy" fails): the account holds 497 uctk against a debt of 489 — the 7 uctk
    bounty of the failed task "xy" and one unit of rounding remainder stay in the account, owed to nobody. -/
#guard (endH.1.balOf "oracle" "uctk", owed endH.2 "uctk", endH.1.balOf "oracle" "uatom", owed endH.2 "uatom") = (497, 489, 40, 39)
#guard (C15HH.collSum endH.2.ops "uctk", Halt.Orc.wdSum endH.2.wds "uctk", C15HH.rewSum endH.2.ops "uctk",
        bountySum endH.2.tasks "uctk", Coins.amountOf endH.2.total "uctk") = (400, 0, 89, 0, 400)

/-- a pending task is deleted by its creator after a skipped closing block: the bounty of 7 stays in the account and leaves
    the debt (non-vacuity of `deleteTask_moves_no_coins` with a task that still held its bounty) -/
def histD : List (Env × Op) :=
  [ (C15H.env 2, .createTask "x" "y" [("uctk", 7)] "carol" 2 0),
    (C15H.env 6, .deleteTask "x" "y" true "carol") ]

set_option maxRecDepth 100000 in
example :
    ((run (C15H.ledger0, emptyS C15H.params0) (histD.take 1)).1.balOf "oracle" "uctk",
      owed (run (C15H.ledger0, emptyS C15H.params0) (histD.take 1)).2 "uctk") = (7, 7) ∧
    ((run (C15H.ledger0, emptyS C15H.params0) histD).1.balOf "oracle" "uctk",
      owed (run (C15H.ledger0, emptyS C15H.params0) histD).2 "uctk",
      (run (C15H.ledger0, emptyS C15H.params0) histD).1.balOf "carol" "uctk") = (7, 0, 493) := by decide +kernel

/-- the hypotheses of `deleteTask_moves_no_coins` and `createTask_exact` hold along `histD`: the creator "carol" is not the
    module address, the state before each of the two messages is well-formed, and both messages are accepted -/
example :
    WF "uctk" (emptyS C15H.params0) ∧ WF "uctk" (run (C15H.ledger0, emptyS C15H.params0) (histD.take 1)).2 ∧
    ("carol" : Addr) ≠ "oracle" ∧
    (run (C15H.ledger0, emptyS C15H.params0) (histD.take 1)).2.tasks.length = 1 ∧
    (run (C15H.ledger0, emptyS C15H.params0) histD).2.tasks.length = 0 :=
  ⟨empty_wf _ _ (by decide) (by decide),
   reachable_wf (m := "oracle") (histD.take 1) _ (by decide) (empty_wf _ _ (by decide) (by decide))
      (empty_funded _ _ _ (fun d => by simp [C15H.ledger0, Ledger.balOf, Ledger.bal])) (empty_total_is_sum _),
   by decide +kernel⟩

end Shentu.Props.C14F

#print axioms Shentu.Props.C14F.empty_wf
#print axioms Shentu.Props.C14F.empty_funded
#print axioms Shentu.Props.C14F.empty_total_is_sum
#print axioms Shentu.Props.C14F.empty_funded_negative_balance_fails
#print axioms Shentu.Props.C14F.refused_changes_nothing
#print axioms Shentu.Props.C14F.operation_delta
#print axioms Shentu.Props.C14F.step_preserves
#print axioms Shentu.Props.C14F.reachable_funded
#print axioms Shentu.Props.C14F.reachable_total_is_sum
#print axioms Shentu.Props.C14F.reachable_wf
#print axioms Shentu.Props.C14F.from_genesis
#print axioms Shentu.Props.C14F.module_funded
#print axioms Shentu.Props.C14F.end_block_never_raises_debt
#print axioms Shentu.Props.C14F.end_one_releases_at_most_the_bounty
#print axioms Shentu.Props.C14F.rounding_remainder_bound
#print axioms Shentu.Props.C14F.deleteTask_moves_no_coins
#print axioms Shentu.Props.C14F.createTask_exact
#print axioms Shentu.Props.C14F.histM_figures
#print axioms Shentu.Props.C14F.funded_fails_when_module_pays
