import Shentu.Proofs.ShieldPoolOps
import Shentu.Proofs.ShieldPoolExpire
import Shentu.Proofs.DecRound
import Shentu.Proofs.ShieldMachine
/-
  C03 (shield / pool / purchase / stake half) — "total shield equals the sum over pools and each pool's
  shield equals the sum of its purchases' remaining shield, and the staking pool equals the sum of
  individual stakes.  No amount is negative."

  `PoolInv` (Shentu/Proofs/ShieldPoolInv.lean) is this half of `BooksInv` together with the store
  well-formedness the model maintains.  This file: `PoolInv` gives the clauses of
  `BooksInv`, every successful operation of the model preserves `PoolInv`, and so does every history.
-/
namespace Shentu.Props.C03b
open Shentu Shentu.Shield Shentu.Shield.PoolLm

/-! ## `PoolInv` gives the shield / pool / purchase / stake clauses of `BooksInv` -/

/-- "total shield equals the sum over pools" (`BooksInv.shield`) -/
theorem books_shield {s : State} (h : PoolInv s) : s.totalShield = sumI (·.shield) s.pools := h.shield

/-- "each pool's shield equals the sum of its purchases' remaining shield" (`BooksInv.poolShield`) -/
theorem books_poolShield {s : State} (h : PoolInv s) : ∀ p ∈ s.pools, p.shield = sumI (·.shield) (entriesOf s p.id) :=
  h.poolShield

/-- no purchase with remaining shield is left in a closed pool (`BooksInv.listPool`); `PoolInv` has the stronger
    "every purchase list belongs to an existing pool" -/
theorem books_listPool {s : State} (h : PoolInv s) :
    ∀ l ∈ s.lists, ∀ e ∈ l.entries, e.shield ≠ 0 → ∃ p ∈ s.pools, p.id = l.pool :=
  fun l hl _ _ _ => h.listPool l hl

/-- "the staking pool equals the sum of individual stakes" (`BooksInv.stake`) -/
theorem books_stake {s : State} (h : PoolInv s) : s.stakingPool = sumStakes s := h.stake

/-- "no amount is negative": purchases (`BooksInv.entryNonneg`) -/
theorem books_entryNonneg {s : State} (h : PoolInv s) : ∀ l ∈ s.lists, ∀ e ∈ l.entries, 0 ≤ e.shield ∧ 0 ≤ e.fees.raw :=
  h.entryNonneg

/-- "no amount is negative": pools (`BooksInv.poolNonneg`) -/
theorem books_poolNonneg {s : State} (h : PoolInv s) : ∀ p ∈ s.pools, 0 ≤ p.shield := h.toShieldInv.poolNonneg

/-- "no amount is negative": stakes (`BooksInv.stakeNonneg`) -/
theorem books_stakeNonneg {s : State} (h : PoolInv s) : ∀ k ∈ s.stakes, 0 ≤ k.amount := h.stakeNonneg

/-- "no amount is negative": the two totals of this half (`BooksInv.nonneg`, third and fifth conjunct) -/
theorem books_totalsNonneg {s : State} (h : PoolInv s) : 0 ≤ s.totalShield ∧ 0 ≤ s.stakingPool :=
  ⟨h.toShieldInv.totalNonneg, h.toStakeInv.poolNonneg⟩

/-- all purchase ids in the store are pairwise distinct (across all lists) -/
theorem purchaseIds_distinct {s : State} (h : PoolInv s) : (s.lists.flatMap (fun l => l.entries.map (·.id))).Nodup :=
  h.toShieldInv.purchaseIds_nodup

/-- the invariant is not vacuous: the empty store (a store with one pool, two purchases of two holders and a stake: `demo_inv`) -/
example : PoolInv { (default : State) with nextPool := 1, nextPurchase := 1 } := by
  constructor <;> constructor <;> simp [sumI, sumStakes, entriesOf] <;> decide

/-- a small store with one pool, two holders, a stake and a provider (block time of the examples: 50) -/
def demo : State :=
  { (default : State) with
    admin := "ad",
    pools := [{ id := 1, shield := 70, limit := 1000, active := true, sponsor := "x", sponsorAddr := "aa" }],
    lists := [{ pool := 1, purchaser := "aa", entries := [{ id := 1, endTime := 100, delTime := 100, shield := 50, fees := Dec.ofInt 3 }] },
              { pool := 1, purchaser := "bb", entries := [{ id := 2, endTime := 200, delTime := 200, shield := 20, fees := Dec.zero }] }],
    stakes := [{ pool := 1, purchaser := "bb", amount := 40, requested := 0 }],
    totalShield := 70, stakingPool := 40, nextPool := 2, nextPurchase := 3,
    totalCollateral := 1000, serviceFees := Dec.ofInt 3, remaining := Dec.ofInt 3, lastUpdate := 40,
    providers := [{ addr := "cc", collateral := 1000, withdrawing := 0, bonded := 1000, rewards := Dec.zero }],
    params := { protection := 1000, withdrawPeriod := 10, feesRate := Dec.one, poolLimit := Dec.one, minPurchase := 1,
                stakingRate := Dec.ofInt 2, payoutPeriod := 10 } }

def demoEnv : Env := { t := 50, bond := "uctk", modAddr := "mod" }
def demoLedger : Ledger := { posts := [("aa", "uctk", 1000), ("bb", "uctk", 1000), ("ad", "uctk", 1000)], supply := [("uctk", 3000)] }

/-- `demo` has consistent books: the hypotheses of the preservation theorems are satisfiable -/
theorem demo_inv : PoolInv demo := by
  constructor <;> constructor <;> simp [demo, sumI, sumStakes, entriesOf, Dec.ofInt, Dec.zero, Dec.prec] <;> decide

/-- the common purchase path: a new entry is appended to the holder's (existing or new) list; the pool and the total grow
    by the same amount; a staked purchase grows `stakingPool` and the stake record together.
    Hypothesis: the shield bought is not negative (`purchase`, `createPool`, `updatePool` establish it). -/
theorem purchaseCore_preserves {e : Env} {l l' : Ledger} {s s' : State} {poolID : Nat} {shield : Coins} {purchaser : Addr}
    {fees staking : Coins} (h : purchaseCore e l s poolID shield purchaser fees staking = .ok (l', s'))
    (hinv : PoolInv s) (hamt : 0 ≤ Coins.amountOf shield e.bond) : PoolInv s' := by
  rcases purchaseCore_ok h with ⟨pool, s1, hfp, _, _, hpaid, rfl⟩
  rw [pcFinish_paid hpaid]
  exact ⟨hinv.toShieldInv.addEntry (entry := pcEntry e s shield fees) hfp rfl ⟨hamt, pcEntry_fees_nonneg hpaid shield⟩
      rfl rfl rfl rfl rfl,
    (pcPaid_stakeInv hpaid hinv.toStakeInv).congr rfl rfl⟩

/-- `MsgPurchaseShield` / `MsgStakeForShield`, given that the shield bought is not negative -/
theorem purchase_preserves {e : Env} {l l' : Ledger} {s s' : State} {poolID : Nat} {shield : Coins} {purchaser : Addr}
    {staking : Bool} (h : purchase e l s poolID shield purchaser staking = .ok (l', s'))
    (hinv : PoolInv s) (hamt : 0 ≤ Coins.amountOf shield e.bond) : PoolInv s' :=
  purchaseCore_preserves (purchase_ok h).2.2 hinv hamt

/-- `MsgPurchaseShield` / `MsgStakeForShield` with the hypothesis on the parameters instead of on the message:
    with a non-negative minimum purchase, a successful purchase never has a negative shield amount
    (the paid path's `ValidateBasic` demands valid, hence all-positive, coins; the staked path is caught by the
    minimum-purchase check). -/
theorem purchase_preserves_of_minPurchase {e : Env} {l l' : Ledger} {s s' : State} {poolID : Nat} {shield : Coins}
    {purchaser : Addr} {staking : Bool} (h : purchase e l s poolID shield purchaser staking = .ok (l', s'))
    (hinv : PoolInv s) (hmin : 0 ≤ s.params.minPurchase) : PoolInv s' := by
  apply purchase_preserves h hinv
  have ⟨_, hguard, hcore⟩ := purchase_ok h
  have ⟨_, _, _, _, hz, _⟩ := purchaseCore_ok hcore
  by_cases hlt : s.params.minPurchase > Coins.amountOf shield e.bond
  · have := hguard hz hlt; omega
  · omega

/-- `MsgCreatePool`: a new pool with a fresh id, then the purchase path (the message demands an all-positive shield) -/
theorem createPool_preserves {e : Env} {l l' : Ledger} {s s' : State} {creator : Addr} {shield fees : Coins} {sponsor : String}
    {sponsorAddr : Addr} {limit : Int} (h : createPool e l s creator shield fees sponsor sponsorAddr limit = .ok (l', s'))
    (hinv : PoolInv s) : PoolInv s' := by
  have ⟨hpos, _, h⟩ := createPool_ok h
  refine purchaseCore_preserves h ?_ (Coins.amountOf_nonneg_of_allPositive _ hpos _)
  exact { toShieldInv := hinv.toShieldInv.newPool (np := { id := s.nextPool, shield := 0, limit := limit, active := true, sponsor := sponsor, sponsorAddr := sponsorAddr })
            rfl rfl rfl rfl rfl rfl rfl,
          toStakeInv := hinv.toStakeInv.congr rfl rfl }

/-- `MsgUpdatePool`: the limit may change, then the purchase path or a plain fee payment
    (the message rejects negative shield amounts) -/
theorem updatePool_preserves {e : Env} {l l' : Ledger} {s s' : State} {updater : Addr} {poolID : Nat} {shield fees : Coins}
    {limit : Int} (h : updatePool e l s updater poolID shield fees limit = .ok (l', s')) (hinv : PoolInv s) : PoolInv s' := by
  obtain ⟨hneg, _, pool, s1, hfp, rfl, h⟩ := updatePool_ok h
  have h1 : PoolInv (setPool s (if limit != 0 then { pool with limit := limit } else pool)) := by
    refine { toShieldInv := hinv.toShieldInv.setPool_meta hfp ?_ ?_, toStakeInv := hinv.toStakeInv.congr rfl rfl }
    · split <;> rfl
    · split <;> rfl
  rcases h with h | ⟨_, ⟨_, rfl⟩ | ⟨_, rfl⟩⟩
  · exact purchaseCore_preserves h h1 (Coins.amountOf_nonneg_of_not_anyNegative _ hneg _)
  · exact h1.frame (.of_writes rfl)
  · exact h1

/-- `MsgPausePool` / `MsgResumePool` -/
theorem pausePool_preserves {s s' : State} {updater : Addr} {poolID : Nat} {active : Bool}
    (h : pausePool s updater poolID active = .ok s') (hinv : PoolInv s) : PoolInv s' := by
  obtain ⟨pool, hfp, rfl⟩ := Limit.pausePool_ok h
  exact { toShieldInv := hinv.toShieldInv.setPool_meta hfp rfl rfl, toStakeInv := hinv.toStakeInv.congr rfl rfl }

/-- `MsgUpdateSponsor` -/
theorem updateSponsor_preserves {s s' : State} {updater : Addr} {poolID : Nat} {sponsor : String} {sponsorAddr : Addr}
    (h : updateSponsor s updater poolID sponsor sponsorAddr = .ok s') (hinv : PoolInv s) : PoolInv s' := by
  obtain ⟨pool, hfp, rfl⟩ := Limit.updateSponsor_ok h
  exact { toShieldInv := hinv.toShieldInv.setPool_meta hfp rfl rfl, toStakeInv := hinv.toStakeInv.congr rfl rfl }

/-- `MsgUnstakeFromShield`: only `requested` changes -/
theorem unstake_preserves {e : Env} {s s' : State} {poolID : Nat} {purchaser : Addr} {coins : Coins}
    (h : unstake e s poolID purchaser coins = .ok s') (hinv : PoolInv s) : PoolInv s' := by
  obtain ⟨k, hfs, rfl⟩ := Limit.unstake_ok h
  have hkey := findStake_key hfs
  refine { toShieldInv := hinv.toShieldInv.congr (setStake_pools _ _) (setStake_lists _ _) (setStake_totalShield _ _)
             (setStake_nextPool _ _) (setStake_nextPurchase _ _), toStakeInv := ?_ }
  apply StakeInv.upsert (s := s) (k := { k with requested := k.requested + Coins.amountOf coins e.bond }) (d := 0) hinv.toStakeInv
  · show k.amount = Keyed.val (·.amount) (findStake s k.pool k.purchaser) + 0
    rw [hkey.1, hkey.2, hfs, Keyed.val_some, Int.add_zero]
  · exact Int.le_refl 0
  · rfl
  · rw [setStake_stakingPool]; omega

/-- `SecureCollaterals` (a claim is submitted): the purchase, its pool and the total drop by `loss` together.
    No hypothesis on `loss` is needed for this half of the books: the function checks `loss ≤ purchase.shield`,
    and a negative `loss` would raise all three together. -/
theorem secureCollaterals_preserves {e : Env} {s s' : State} {poolID : Nat} {purchaser : Addr} {purchaseID : Nat} {loss dur : Int}
    (h : secureCollaterals e s poolID purchaser purchaseID loss dur = .ok s') (hinv : PoolInv s) : PoolInv s' := by
  rcases secureCollaterals_ok h with ⟨pool, lst, pu, q, hfp, _, _, hfl, htgt, hle, rfl⟩
  have hsh := hinv.toShieldInv.shifted (f := fun _ => lockedEntry e pu loss dur) (d := -loss) hfp hfl (lockTarget_find htgt)
    (fun _ ha => ha.symm) (show pu.shield - loss = pu.shield + -loss by omega) (show 0 ≤ pu.shield - loss by omega) rfl
  exact ⟨hsh.congr rfl rfl rfl rfl rfl, hinv.toStakeInv.congr rfl rfl⟩

/-- `RestoreShield` (a claim was rejected): purchase, pool and total grow by `loss`, or nothing changes -/
theorem restoreShield_preserves {s : State} {poolID : Nat} {purchaser : Addr} {id : Nat} {loss : Int}
    (hinv : PoolInv s) (hloss : 0 ≤ loss) : PoolInv (restoreShield s poolID purchaser id loss) := by
  obtain h | ⟨pool, lst, en, hfp, hfl, hen, h⟩ := restoreShield_cases s poolID purchaser id loss <;> rw [h]
  · exact hinv
  · have := (hinv.entryNonneg lst (findList_mem hfl) en (List.mem_of_find?_eq_some hen)).1
    exact ⟨hinv.toShieldInv.shifted hfp hfl hen (fun _ _ => rfl) rfl (show 0 ≤ en.shield + loss by omega) rfl,
      hinv.toStakeInv.congr rfl rfl⟩

theorem claimEnd_preserves {s : State} {loss : Int} (hinv : PoolInv s) : PoolInv (claimEnd s loss) :=
  hinv.frame' rfl rfl rfl rfl rfl rfl rfl

/-- `CreateReimbursement` (a claim is paid): pools, purchases, stakes and their totals are not touched -/
theorem createReimbursement_preserves {e : Env} {l l' : Ledger} {s s' : State} {pid : Nat} {amount : Int} {b : Addr}
    (h : createReimbursement e l s pid amount b = .ok (l', s')) (hinv : PoolInv s) : PoolInv s' := by
  rw [createReimbursement_writes h]
  exact hinv.frame' rfl rfl rfl rfl rfl rfl rfl

/-- the end of a claim proposal, whatever the outcome; a rejected claim gives a non-negative `loss` back -/
theorem claimEnds_preserves {e : Env} {l l' : Ledger} {s s' : State} {pid poolID : Nat} {restoreTo beneficiary : Addr}
    {purchaseID : Nat} {loss : Int} {o : ClaimOutcome}
    (h : claimEnds e l s pid poolID restoreTo beneficiary purchaseID loss o = .ok (l', s'))
    (hinv : PoolInv s) (hloss : o = .rejected → 0 ≤ loss) : PoolInv s' := by
  unfold claimEnds at h
  cases o with
  | vetoed => cases h; exact claimEnd_preserves hinv
  | rejected => cases h; exact claimEnd_preserves (restoreShield_preserves hinv (hloss rfl))
  | paid => exact createReimbursement_preserves h hinv
  | failed => cases h; exact hinv

/-- the expiry loop, for any queue content: with the running total written back the books stay consistent.
    `duePairs` may name the same list several times; the statement holds for an arbitrary list of pairs. -/
theorem expireLoop_preserves {now : Int} {ps : List (Nat × Addr)} {acc acc' : ExpAcc}
    (h : expireLoop now ps acc = .ok acc') (hinv : PoolInv (accState acc)) : PoolInv (accState acc') := by
  have ⟨h1, f⟩ := expireLoop_inv now ps acc acc' h hinv.toShieldInv
  exact { toShieldInv := h1, toStakeInv := hinv.toStakeInv.congr f.stakes f.stakingPool }

/-- one purchase list met in the queue: what is removed plus what stays is what was there -/
theorem expireEntries_conserves (now lu per : Int) (es : List Purchase) (f tf : Dec) (r : Int) :
    (expireEntries now lu per es (f, tf, r)).2.2.2 + sumI (·.shield) (expireEntries now lu per es (f, tf, r)).1
      = r + sumI (·.shield) es :=
  (expireEntries_facts now lu per es f tf r).sum

/-- `RemoveExpiredPurchasesAndDistributeFees`: the shield of removed entries leaves pool and total together -/
theorem expireAndDistribute_preserves {e : Env} {s s' : State} (h : expireAndDistribute e s = .ok s') (hinv : PoolInv s) :
    PoolInv s' := by
  rcases expireAndDistribute_steps h with rfl | ⟨acc, hloop, hdist⟩
  · exact hinv
  · obtain ⟨_, provs, rem, _, rfl⟩ := distributeFees_ok hdist
    exact (expireLoop_preserves hloop (hinv.frame' rfl rfl rfl rfl rfl rfl rfl)).frame' rfl rfl rfl rfl rfl rfl rfl

/-- `ClosePools`: only pools without shield and without purchase lists are dropped -/
theorem closePools_preserves {s : State} (hinv : PoolInv s) : PoolInv (closePools s) :=
  { toShieldInv := hinv.toShieldInv.closePools, toStakeInv := hinv.toStakeInv.congr rfl rfl }

theorem endBlock_preserves {e : Env} {s s' : State} (h : endBlock e s = .ok s') (hinv : PoolInv s) : PoolInv s' := by
  obtain ⟨s1, s2, h1, h2, rfl⟩ := endBlock_ok h
  exact closePools_preserves ((expireAndDistribute_preserves h1 hinv).frame (.of_chain (completeWithdrawals_chain h2)))

/-- `MsgWithdrawRewards` -/
theorem withdrawRewards_preserves {e : Env} {l l' : Ledger} {s s' : State} {a : Addr}
    (h : withdrawRewards e l s a = .ok (l', s')) (hinv : PoolInv s) : PoolInv s' := hinv.frame (.of_writes (by rw [withdrawRewards_writes h]))
/-- `MsgWithdrawReimbursement` -/
theorem withdrawReimbursement_preserves {e : Env} {l l' : Ledger} {s s' : State} {pid : Nat} {a : Addr}
    (h : withdrawReimbursement e l s pid a = .ok (l', s')) (hinv : PoolInv s) : PoolInv s' :=
  hinv.frame (.of_writes (by rw [withdrawReimbursement_writes h]))
/-- `FundShieldBlockRewards` -/
theorem fundBlockRewards_preserves (e : Env) (l : Ledger) (s : State) (a : Addr) (amt : Int) (hinv : PoolInv s) :
    PoolInv (fundBlockRewards e l s a amt).2 := hinv.frame (.of_writes rfl)

/-- the inputs the proofs need: a purchase does not buy a negative amount of shield
    (`createPool` and `updatePool` check it themselves; for `purchase` it follows from a non-negative
    `minPurchase` parameter, see `purchase_preserves_of_minPurchase`), and a restored loss is not negative -/
def Op.wf : Op → Prop
  | .purchaseCore e _ sh _ _ _ => 0 ≤ Coins.amountOf sh e.bond
  | .purchase e _ sh _ _ => 0 ≤ Coins.amountOf sh e.bond
  | .restoreShield _ _ _ loss => 0 ≤ loss
  | .claimEnds _ _ _ _ _ _ loss o => o = .rejected → 0 ≤ loss
  | _ => True

theorem orKeep_inv {ls : Ledger × State} {r : Except Err (Ledger × State)} (hinv : PoolInv ls.2)
    (h : ∀ l' s', r = .ok (l', s') → PoolInv s') : PoolInv (orKeep ls r).2 :=
  orKeep_pred hinv h

theorem orKeepS_inv {ls : Ledger × State} {r : Except Err State} (hinv : PoolInv ls.2)
    (h : ∀ s', r = .ok s' → PoolInv s') : PoolInv (orKeepS ls r).2 :=
  orKeepS_pred hinv h

/-- one step of a history preserves `PoolInv` -/
theorem step_preserves (ls : Ledger × State) (op : Op) (hwf : op.wf) (hinv : PoolInv ls.2) : PoolInv (step ls op).2 := by
  -- the operations on the collateral book (`MsgDepositCollateral`, `MsgWithdrawCollateral`, `Keeper.WithdrawCollateral`, the
  -- staking hooks, the delay of withdrawals, `DequeueCompletedWithdrawQueue`) write nothing the pool books read
  cases hc : op.onColl with
  | true => exact hinv.frame (.of_chain (step_chain ls op hc))
  | false =>
  unfold step
  cases op with
  | purchaseCore e p sh a f st => exact orKeep_inv hinv (fun _ _ h => purchaseCore_preserves h hinv hwf)
  | purchase e p sh a st => exact orKeep_inv hinv (fun _ _ h => purchase_preserves h hinv hwf)
  | createPool e c sh f sp spa lim => exact orKeep_inv hinv (fun _ _ h => createPool_preserves h hinv)
  | updatePool e u p sh f lim => exact orKeep_inv hinv (fun _ _ h => updatePool_preserves h hinv)
  | pausePool u p act => exact orKeepS_inv hinv (fun _ h => pausePool_preserves h hinv)
  | updateSponsor u p sp spa => exact orKeepS_inv hinv (fun _ h => updateSponsor_preserves h hinv)
  | unstake e p a c => exact orKeepS_inv hinv (fun _ h => unstake_preserves h hinv)
  | withdrawRewards e a => exact orKeep_inv hinv (fun _ _ h => withdrawRewards_preserves h hinv)
  | withdrawReimbursement e pid a => exact orKeep_inv hinv (fun _ _ h => withdrawReimbursement_preserves h hinv)
  | secureCollaterals e p a id loss dur => exact orKeepS_inv hinv (fun _ h => secureCollaterals_preserves h hinv)
  | claimEnd loss => exact claimEnd_preserves hinv
  | restoreShield p a id loss => exact restoreShield_preserves hinv hwf
  | createReimbursement e pid amt b => exact orKeep_inv hinv (fun _ _ h => createReimbursement_preserves h hinv)
  | claimEnds e pid p r b id loss o => exact orKeep_inv hinv (fun _ _ h => claimEnds_preserves h hinv hwf)
  | expireAndDistribute e => exact orKeepS_inv hinv (fun _ h => expireAndDistribute_preserves h hinv)
  | closePools => exact closePools_preserves hinv
  | endBlock e => exact orKeepS_inv hinv (fun _ h => endBlock_preserves h hinv)
  | fundBlockRewards e a amt => exact fundBlockRewards_preserves e ls.1 ls.2 a amt hinv
  | _ => cases hc

/-- **C03, shield / pool / purchase / stake half, over histories**: from a store with consistent books, after any
    interleaving of the model's operations (each with its own block time and hook inputs; a failing step leaves the
    state unchanged) the books are consistent again. -/
theorem reachable_poolInv (ls : Ledger × State) (ops : List Op) (hwf : ∀ op ∈ ops, op.wf) (hinv : PoolInv ls.2) :
    PoolInv (ops.foldl step ls).2 :=
  List.foldlRecOn (motive := fun ls => PoolInv ls.2) ops step hinv (fun ls h op ho => step_preserves ls op (hwf op ho) h)

/-- in particular the C03 clauses of this half hold in every reachable state of a chain that starts empty -/
theorem reachable_books (l0 : Ledger) (s0 : State) (hp : s0.pools = []) (hl : s0.lists = []) (hk : s0.stakes = [])
    (ht : s0.totalShield = 0) (hs : s0.stakingPool = 0) (ops : List Op) (hwf : ∀ op ∈ ops, op.wf) :
    let s := (ops.foldl step (l0, s0)).2
    s.totalShield = sumI (·.shield) s.pools ∧ (∀ p ∈ s.pools, p.shield = sumI (·.shield) (entriesOf s p.id)) ∧
    s.stakingPool = sumStakes s ∧ (∀ p ∈ s.pools, 0 ≤ p.shield) ∧ (∀ k ∈ s.stakes, 0 ≤ k.amount) ∧
    (∀ l ∈ s.lists, ∀ e ∈ l.entries, 0 ≤ e.shield ∧ 0 ≤ e.fees.raw) ∧ 0 ≤ s.totalShield ∧ 0 ≤ s.stakingPool := by
  intro s
  have h0 : PoolInv s0 := by
    constructor <;> constructor <;> simp [hp, hl, hk, ht, hs, sumStakes, entriesOf]
  have h := reachable_poolInv (l0, s0) ops hwf h0
  exact ⟨books_shield h, books_poolShield h, books_stake h, books_poolNonneg h, books_stakeNonneg h, books_entryNonneg h,
    (books_totalsNonneg h).1, (books_totalsNonneg h).2⟩

/-! ### the same over histories, with the hypothesis on purchases discharged from the parameters -/

theorem step_params (ls : Ledger × State) (op : Op) : (step ls op).2.params = ls.2.params := by
  cases h : toA op with
  | some op' => exact (step_untouched h ls).params
  | none =>
    obtain ⟨e, p, sh, a, f, st, rfl⟩ := toA_none h
    exact orKeep_pred (P := fun s => s.params = ls.2.params) rfl (fun _ _ h => by rw [purchaseCore_writes h])

/-- the inputs that remain hypotheses once `minPurchase ≥ 0`: the internal purchase path called directly, and the loss
    handed back by a rejected claim (in the chain it is the `loss` of the proposal that was locked) -/
def Op.wf' : Op → Prop
  | .purchaseCore e _ sh _ _ _ => 0 ≤ Coins.amountOf sh e.bond
  | .restoreShield _ _ _ loss => 0 ≤ loss
  | .claimEnds _ _ _ _ _ _ loss o => o = .rejected → 0 ≤ loss
  | _ => True

/-- **C03, this half, over histories of messages**: with a non-negative `minPurchase` parameter no hypothesis on purchase
    messages is needed — arbitrary `MsgPurchaseShield`, `MsgStakeForShield`, `MsgCreatePool`, `MsgUpdatePool` inputs included -/
theorem reachable_poolInv' (ls : Ledger × State) (ops : List Op) (hwf : ∀ op ∈ ops, op.wf')
    (hmin : 0 ≤ ls.2.params.minPurchase) (hinv : PoolInv ls.2) : PoolInv (ops.foldl step ls).2 := by
  refine (List.foldlRecOn (motive := fun ls => PoolInv ls.2 ∧ 0 ≤ ls.2.params.minPurchase) ops step ⟨hinv, hmin⟩ ?_).1
  intro ls ⟨hinv, hmin⟩ op ho
  have hw := hwf op ho
  refine ⟨?_, by rw [step_params ls op]; exact hmin⟩
  cases op with
  | purchase e p sh a st =>
    exact orKeep_inv hinv (fun _ _ h => purchase_preserves_of_minPurchase h hinv hmin)
  | purchaseCore e p sh a f st => exact step_preserves ls _ hw hinv
  | restoreShield p a id loss => exact step_preserves ls _ hw hinv
  | claimEnds e pid p r b id loss o => exact step_preserves ls _ hw hinv
  | _ => exact step_preserves ls _ trivial hinv

/-! ## non-vacuity: concrete successful steps from `demo` (which satisfies `PoolInv`, see `demo_inv`) -/

/-- what the examples look at: total shield, staking pool, (pool, shield), (pool, holder, (purchase, shield)), stakes, next ids -/
structure View where
  totalShield : Int
  stakingPool : Int
  pools : List (Nat × Int)
  lists : List (Nat × Addr × List (Nat × Int))
  stakes : List (Nat × Addr × Int)
  nextPool : Nat
  nextPurchase : Nat
  deriving DecidableEq

def view (s : State) : View :=
  ⟨s.totalShield, s.stakingPool, s.pools.map (fun p => (p.id, p.shield)),
   s.lists.map (fun l => (l.pool, l.purchaser, l.entries.map (fun e => (e.id, e.shield)))),
   s.stakes.map (fun k => (k.pool, k.purchaser, k.amount)), s.nextPool, s.nextPurchase⟩

/-- a paid purchase: new entry 3 in the existing list of "aa"; pool and total grow by 10 -/
example : (purchase demoEnv demoLedger demo 1 [("uctk", 10)] "aa" false).toOption.map (fun x => view x.2) =
    some ⟨80, 40, [(1, 80)], [(1, "aa", [(1, 50), (3, 10)]), (1, "bb", [(2, 20)])], [(1, "bb", 40)], 2, 4⟩ := by decide +kernel

/-- a staked purchase: the stake record and the staking pool grow by 20 together -/
example : (purchase demoEnv demoLedger demo 1 [("uctk", 10)] "bb" true).toOption.map (fun x => view x.2) =
    some ⟨80, 60, [(1, 80)], [(1, "aa", [(1, 50)]), (1, "bb", [(2, 20), (3, 10)])], [(1, "bb", 60)], 2, 4⟩ := by decide +kernel

/-- a new pool with a fresh id and its first purchase in a new list: the two halves of `createPool`
    (its own guard uses `String.trimAscii`, which `decide` cannot evaluate) -/
example : (purchaseCore demoEnv demoLedger
      { demo with pools := demo.pools ++ [{ id := 2, shield := 0, limit := 500, active := true, sponsor := "acme", sponsorAddr := "dd" }],
                  nextPool := 3 }
      2 [("uctk", 5)] "ad" [("uctk", 1)] []).toOption.map (fun x => view x.2) =
    some ⟨75, 40, [(1, 70), (2, 5)], [(1, "aa", [(1, 50)]), (1, "bb", [(2, 20)]), (2, "ad", [(3, 5)])], [(1, "bb", 40)], 3, 4⟩ := by
  decide +kernel

/-- a claim lock of 10 against purchase 1 -/
example : (secureCollaterals demoEnv demo 1 "aa" 1 10 100).toOption.map view =
    some ⟨60, 40, [(1, 60)], [(1, "aa", [(1, 40)]), (1, "bb", [(2, 20)])], [(1, "bb", 40)], 2, 3⟩ := by decide +kernel

/-- the end-blocker at time 150: purchase 1 (deletion time 100) expires, its list is deleted, pool and total drop by 50 -/
example : (endBlock { demoEnv with t := 150 } demo).toOption.map view =
    some ⟨20, 40, [(1, 20)], [(1, "bb", [(2, 20)])], [(1, "bb", 40)], 2, 3⟩ := by decide +kernel

/-- a history: purchase, claim lock, rejection, staked purchase, expiry of the two old purchases, admin purchase -/
example : view ([Op.purchase demoEnv 1 [("uctk", 10)] "aa" false, .secureCollaterals demoEnv 1 "aa" 1 10 100,
      .claimEnds demoEnv 7 1 "aa" "aa" 1 10 .rejected, .purchase demoEnv 1 [("uctk", 10)] "bb" true,
      .endBlock { demoEnv with t := 250 },
      .updatePool demoEnv "ad" 1 [("uctk", 5)] [("uctk", 1)] 2000].foldl step (demoLedger, demo)).2 =
    ⟨25, 60, [(1, 25)], [(1, "aa", [(3, 10)]), (1, "bb", [(4, 10)]), (1, "ad", [(5, 5)])], [(1, "bb", 60)], 2, 6⟩ := by
  decide +kernel

end Shentu.Props.C03b
