import Shentu.Proofs.ReimbSplit
import Shentu.Props.C04
/-!
  C04r — the proportional split of an approved claim's loss over the collateral providers
  (`Shield.reimburseLoop` / `Shield.createReimbursement`).

  What one would like to have: "an approved claim within the books (shield sold plus loss within total collateral) is
  always paid".  This is FALSE of the code.  The split gives every provider its truncated share of the loss plus at most
  one unit, and the extra unit is only taken while the provider's collateral exceeds its two shares.  The shares can add
  up to less than the loss.  Then the Go code panics "not enough payout made" (the model returns the error
  `panic:shield:not-enough-payout`).

  What is proved here.
  * `split_short_at_full_utilisation`: two providers of 3, shield 4, loss 2 (shield plus loss equals the collateral):
    the model's payout panics, one unit short.  The same for three providers of 100000000.
  * `slack_of_one_unit_per_provider_fails`: being below full utilisation by one unit per provider is not enough.
    Providers of 1, 1 and 9 with shield 2 and loss 6 are still one unit short; this is the smallest such case.
    `split_short_below_full_utilisation` shows the same panic on the model for that state.
  * `payout_succeeds_only_if_split_complete`: the payout succeeds only if the pure split `splitLeft` leaves nothing.
  * `split_pays_in_full_with_two_spare_units` (alias `split_pays_in_full_below_full_utilisation_partial`), the
    strongest version proved: the payout succeeds when every provider's share of the UNUSED collateral
    (total collateral minus shield minus loss) is at least two units, `2·T ≤ c·(T − shield − loss)`.  Providers whose
    collateral is zero (they withdrew everything) are exempt: they are asked for nothing and pay nothing.
    `split_pays_in_full_with_two_spare_units_spare` has the sharper hypothesis `SpareTwo`: every provider that has collateral
    keeps two units beyond its two truncated shares.
  * `approved_claim_is_paid_in_full_with_two_spare_units`: under these hypotheses the payout succeeds, the module
    account gains exactly the loss, total collateral and the providers' collateral drop by exactly the loss, no
    collateral goes negative, and the reimbursement is recorded for the beneficiary.

  What is assumed: the collateral books are consistent (`Coll.CollInv`, an invariant of the shield model), there is
  collateral and it is below 10^18 units, the shield sold is not negative, the loss is positive, and the staking hooks
  report no negative stake.

  What is missing compared with "an approved claim within the books is always paid": the split is not complete.
  It can fall short by a unit whenever some provider has fewer than two spare units.  At exactly full utilisation
  every provider with a fractional share is in that situation.  The hypothesis of two spare units per provider cannot
  be replaced by one unit of slack per provider (second theorem).
-/
namespace Shentu.Props.C04r
open Shentu Shentu.Shield Shentu.Shield.Fund Shentu.ReimbSplit

section Short

def shParams : Params :=
  { protection := 1000, withdrawPeriod := 100, feesRate := ⟨10000000000000000⟩, poolLimit := ⟨500000000000000000⟩,
    minPurchase := 1, stakingRate := ⟨2000000000000000000⟩, payoutPeriod := 50 }

def prov (a : Addr) (c : Int) : Provider := { addr := a, collateral := c, withdrawing := 0, bonded := c, rewards := Dec.zero }

/-- a state with the given providers (no queued withdrawals), shield sold and loss locked -/
def shState (ps : List Provider) (total shield claimed : Int) : State :=
  { admin := "admin", pools := [{ id := 1, shield := shield, limit := 1000, active := true, sponsor := "sp", sponsorAddr := "spa" }],
    lists := [], providers := ps, withdraws := [], stakes := [], origStakings := [], reimbs := [],
    totalCollateral := total, totalWithdrawing := 0, totalShield := shield, totalClaimed := claimed, serviceFees := Dec.zero,
    remaining := Dec.zero, blockFees := Dec.zero, stakingPool := 0, lastUpdate := zeroTime, nextPool := 2, nextPurchase := 2,
    params := shParams }

def shEnv : Env := { t := 1200, bond := "uctk", modAddr := "shield", bondedPool := "bonded" }

def shLedger (n : Int) : Ledger := { posts := [("bonded", "uctk", n)], supply := [("uctk", n)] }

/-- two providers of 3; shield 4 and loss 2: exactly full utilisation -/
def shSmall : State := shState [prov "alice" 3, prov "bob" 3] 6 4 2

/-- three providers of 100000000; shield 199999999 and loss 100000001: exactly full utilisation -/
def shBig : State :=
  shState [prov "alice" 100000000, prov "bob" 100000000, prov "carol" 100000000] 300000000 199999999 100000001

/-- providers of 1, 1 and 9; shield 2 and loss 6: three units below full utilisation -/
def shSlack : State := shState [prov "alice" 1, prov "bob" 1, prov "carol" 9] 11 2 6

/-- the error kind of a result (`"ok"` when there is none) -/
def kindOf {α} (r : Except Err α) : String := match r with | .error x => x.kind | .ok _ => "ok"

/-- the collateral books of the three example states are consistent -/
theorem short_states_consistent : Coll.CollInv shSmall ∧ Coll.CollInv shBig ∧ Coll.CollInv shSlack := by
  refine ⟨?_, ?_, ?_⟩ <;> constructor <;> decide

/-- **The split falls short at full utilisation.**  Two providers of 3, shield 4, loss 2: the books are consistent and
    shield plus loss equals the collateral.  The payout of the approved claim panics "not enough payout": the split leaves
    one unit unpaid.  The same happens with three providers of 100000000, shield 199999999 and loss 100000001. -/
theorem split_short_at_full_utilisation :
    kindOf (createReimbursement shEnv (shLedger 6) shSmall 7 2 "admin") = "panic:shield:not-enough-payout" ∧
    splitLeft (Dec.quo (Dec.ofInt 4) (Dec.ofInt 6)) (Dec.quo (Dec.ofInt 2) (Dec.ofInt 6)) shSmall.providers 4 2 = 1 ∧
    shSmall.totalShield + 2 = shSmall.totalCollateral ∧
    kindOf (createReimbursement shEnv (shLedger 300000000) shBig 7 100000001 "admin") = "panic:shield:not-enough-payout" ∧
    splitLeft (Dec.quo (Dec.ofInt 199999999) (Dec.ofInt 300000000)) (Dec.quo (Dec.ofInt 100000001) (Dec.ofInt 300000000))
      shBig.providers 199999999 100000001 = 1 ∧
    shBig.totalShield + 100000001 = shBig.totalCollateral := by
  decide +kernel

/-- **One unit of slack per provider is not enough.**  The claim "if all collaterals are positive, the shield is not
    negative, the loss is positive and shield plus loss plus one unit per provider is within the collateral, then the
    split leaves nothing" is false.  Providers of 1, 1 and 9 with shield 2 and loss 6 leave one unit unpaid (smallest
    total collateral among all lists of up to three providers with collaterals up to 12 and of four providers with
    collaterals up to 8). -/
theorem slack_of_one_unit_per_provider_fails :
    ¬ (∀ (ps : List Provider) (ts a : Int), (∀ p ∈ ps, 0 < p.collateral) → 0 ≤ ts → 0 < a →
        ts + a + ps.length ≤ sumI (·.collateral) ps →
        splitLeft (Dec.quo (Dec.ofInt ts) (Dec.ofInt (sumI (·.collateral) ps)))
          (Dec.quo (Dec.ofInt a) (Dec.ofInt (sumI (·.collateral) ps))) ps ts a ≤ 0) := by
  intro h
  exact absurd (h shSlack.providers 2 6 (by decide) (by decide) (by decide) (by decide)) (by decide)

/-- The same on the model: with consistent books, providers of 1, 1 and 9, shield 2 and loss 6 (three units below full
    utilisation) the payout panics "not enough payout", one unit short. -/
theorem split_short_below_full_utilisation :
    kindOf (createReimbursement shEnv (shLedger 11) shSlack 7 6 "admin") = "panic:shield:not-enough-payout" ∧
    splitLeft (Dec.quo (Dec.ofInt 2) (Dec.ofInt 11)) (Dec.quo (Dec.ofInt 6) (Dec.ofInt 11)) shSlack.providers 2 6 = 1 ∧
    shSlack.totalShield + 6 + shSlack.providers.length ≤ shSlack.totalCollateral := by
  decide +kernel

end Short

/-- **The payout succeeds only if the pure split leaves nothing.**  `splitLeft` (the two shares of every provider, in
    store order) is exactly what the model's loop leaves unpaid. -/
theorem payout_succeeds_only_if_split_complete (e : Env) (l l' : Ledger) (s s' : State) (pid : Nat) (amount : Int) (b : Addr)
    (h : createReimbursement e l s pid amount b = .ok (l', s')) :
    splitLeft (Dec.quo (Dec.ofInt s.totalShield) (Dec.ofInt s.totalCollateral))
      (Dec.quo (Dec.ofInt amount) (Dec.ofInt s.totalCollateral)) s.providers s.totalShield amount ≤ 0 := by
  obtain ⟨left, s1, _, hl, hleft, _⟩ := createReimbursement_ok e l l' s s' pid amount b h
  rw [← reimburseLoop_left e _ _ _ _ _ _ _ _ _ _ hl]
  exact hleft

/-- **The split pays in full when every provider keeps two spare units** (sharper hypothesis).  Assumed: consistent
    collateral books, collateral positive and below 10^18, shield not negative, loss positive, no negative stake reported
    by the staking hooks, and every provider either has no collateral at all (it withdrew everything; it is asked for
    nothing) or its collateral exceeds its two truncated shares by at least two units.
    Then the payout of the approved claim does not panic. -/
theorem split_pays_in_full_with_two_spare_units_spare (e : Env) (l : Ledger) (s : State) (pid : Nat) (amount : Int) (b : Addr)
    (hi : Coll.CollInv s) (hT : 0 < s.totalCollateral) (hTP : s.totalCollateral < Dec.prec) (hsh : 0 ≤ s.totalShield)
    (hamt : 0 < amount) (hb : ∀ a x, e.bondedAfter a = some x → 0 ≤ x)
    (hsp : ∀ p ∈ s.providers, p.collateral = 0 ∨
      SpareTwo (Dec.quo (Dec.ofInt s.totalShield) (Dec.ofInt s.totalCollateral))
        (Dec.quo (Dec.ofInt amount) (Dec.ofInt s.totalCollateral)) p) :
    ∃ l' s', createReimbursement e l s pid amount b = .ok (l', s') :=
  Halt.createReimbursement_total e l s pid amount b hi (by omega) hsh (by omega) hb
    (feasible_of_books s amount hi hT hTP (by omega) hsh hsp)

/-- **The split pays in full when every provider's share of the unused collateral is at least two units.**
    This is the form in which "an approved claim within the books is always paid" is proved; the
    statement without the last hypothesis is false (`split_short_at_full_utilisation`), and so is the statement with
    one unit of slack per provider instead (`slack_of_one_unit_per_provider_fails`).
    Assumed: consistent collateral books, collateral positive and below 10^18, shield not negative, loss positive, no
    negative stake reported by the staking hooks, and `2·T ≤ c·(T − shield − loss)` for every provider's collateral `c`
    that is not zero (`T` the total collateral; providers without collateral are exempt).  Then the payout of the approved claim does not panic. -/
theorem split_pays_in_full_with_two_spare_units (e : Env) (l : Ledger) (s : State) (pid : Nat) (amount : Int) (b : Addr)
    (hi : Coll.CollInv s) (hT : 0 < s.totalCollateral) (hTP : s.totalCollateral < Dec.prec) (hsh : 0 ≤ s.totalShield)
    (hamt : 0 < amount) (hb : ∀ a x, e.bondedAfter a = some x → 0 ≤ x)
    (hshare : ∀ p ∈ s.providers, p.collateral = 0 ∨
      2 * s.totalCollateral ≤ p.collateral * (s.totalCollateral - s.totalShield - amount)) :
    ∃ l' s', createReimbursement e l s pid amount b = .ok (l', s') :=
  split_pays_in_full_with_two_spare_units_spare e l s pid amount b hi hT hTP hsh hamt hb
    (spareTwo_of_books s amount hi hT hTP hsh (by omega) hshare)

/-- The same theorem under the name that says what it is: the partial version of "an approved claim below full
    utilisation is paid in full".  Missing: the cases where some provider has fewer than two spare units. -/
theorem split_pays_in_full_below_full_utilisation_partial (e : Env) (l : Ledger) (s : State) (pid : Nat) (amount : Int)
    (b : Addr) (hi : Coll.CollInv s) (hT : 0 < s.totalCollateral) (hTP : s.totalCollateral < Dec.prec)
    (hsh : 0 ≤ s.totalShield) (hamt : 0 < amount) (hb : ∀ a x, e.bondedAfter a = some x → 0 ≤ x)
    (hshare : ∀ p ∈ s.providers, p.collateral = 0 ∨
      2 * s.totalCollateral ≤ p.collateral * (s.totalCollateral - s.totalShield - amount)) :
    ∃ l' s', createReimbursement e l s pid amount b = .ok (l', s') :=
  split_pays_in_full_with_two_spare_units e l s pid amount b hi hT hTP hsh hamt hb hshare

/-- **An approved claim is paid in full when every provider keeps two spare units.**  Under the hypotheses above and
    with the bonded pool distinct from the module account: the payout succeeds.  The module account gains exactly the
    loss and nobody else's balance moves except the bonded pool's.  Total collateral and the locked amount drop by
    exactly the loss.  The providers' collateral drops by exactly the loss in total and none goes negative.  The
    reimbursement of the loss for the beneficiary is recorded and is the only record under that proposal id. -/
theorem approved_claim_is_paid_in_full_with_two_spare_units (e : Env) (l : Ledger) (s : State) (pid : Nat) (amount : Int)
    (b : Addr) (hi : Coll.CollInv s) (hT : 0 < s.totalCollateral) (hTP : s.totalCollateral < Dec.prec)
    (hsh : 0 ≤ s.totalShield) (hamt : 0 < amount) (hb : ∀ a x, e.bondedAfter a = some x → 0 ≤ x)
    (hbp : e.bondedPool ≠ e.modAddr)
    (hshare : ∀ p ∈ s.providers, p.collateral = 0 ∨
      2 * s.totalCollateral ≤ p.collateral * (s.totalCollateral - s.totalShield - amount)) :
    ∃ l' s', createReimbursement e l s pid amount b = .ok (l', s') ∧
      l'.balOf e.modAddr e.bond = l.balOf e.modAddr e.bond + amount ∧
      (∀ a d, a ≠ e.bondedPool → a ≠ e.modAddr → l'.balOf a d = l.balOf a d) ∧
      s'.totalCollateral = s.totalCollateral - amount ∧ s'.totalClaimed = s.totalClaimed - amount ∧
      sumI (·.collateral) s'.providers = sumI (·.collateral) s.providers - amount ∧
      (∀ q ∈ s'.providers, 0 ≤ q.collateral) ∧
      C04.record e s pid amount b ∈ s'.reimbs ∧
      (∀ r' ∈ s'.reimbs, r'.pid = pid → r' = C04.record e s pid amount b) := by
  obtain ⟨l', s', h⟩ := split_pays_in_full_with_two_spare_units e l s pid amount b hi hT hTP hsh hamt hb hshare
  have hc : ∀ p ∈ s.providers, 0 ≤ p.collateral := fun p hp => (hi.provNonneg p hp).1
  have hle : amount ≤ s.totalCollateral := by
    have := amount_le_of_share s amount hi hT hshare
    omega
  obtain ⟨hbal, hothers⟩ := C04.createReimbursement_coins_arrive e l l' s s' pid amount b h hbp (by omega)
  obtain ⟨ht1, ht2, _, _, _, _, _, hsum⟩ :=
    C04.createReimbursement_collateral_exact e l l' s s' pid amount b h hi.nodup (by omega) (by omega) hc
  obtain ⟨_, _, _, _, hnn⟩ := C04.createReimbursement_each_bounded e l l' s s' pid amount b h hi.nodup (by omega) hle hsh hc
  obtain ⟨_, hrec, honly, _⟩ := C04.createReimbursement_records e l l' s s' pid amount b h
  exact ⟨l', s', h, hbal, hothers, ht1, ht2, hsum, hnn, hrec, honly⟩

/-- The example of `Props/C04.lean` (alice 500, bob 300 with 290 queued for withdrawal, shield 200, loss 77) meets every
    hypothesis of the theorems above: the books are consistent, and the smaller provider's share of the unused
    collateral is 300 · 523 / 800 = 196 units. -/
example : Coll.CollInv C04.exBefore.2 ∧ 0 < C04.exBefore.2.totalCollateral ∧ C04.exBefore.2.totalCollateral < Dec.prec ∧
    0 ≤ C04.exBefore.2.totalShield ∧ (0 : Int) < 77 ∧ (∀ a x, (C04.exEnv 1200).bondedAfter a = some x → 0 ≤ x) ∧
    (C04.exEnv 1200).bondedPool ≠ (C04.exEnv 1200).modAddr ∧
    (∀ p ∈ C04.exBefore.2.providers, p.collateral = 0 ∨ 2 * C04.exBefore.2.totalCollateral ≤
      p.collateral * (C04.exBefore.2.totalCollateral - C04.exBefore.2.totalShield - 77)) ∧
    (∀ p ∈ C04.exBefore.2.providers, p.collateral = 0 ∨ SpareTwo (Dec.quo (Dec.ofInt C04.exBefore.2.totalShield) (Dec.ofInt C04.exBefore.2.totalCollateral))
      (Dec.quo (Dec.ofInt 77) (Dec.ofInt C04.exBefore.2.totalCollateral)) p) ∧
    (createReimbursement (C04.exEnv 1200) C04.exBefore.1 C04.exBefore.2 7 77 "admin").toOption.isSome = true := by
  refine ⟨by constructor <;> decide, by decide, by decide, by decide, by decide, ?_, by decide, by decide, by decide, by decide +kernel⟩
  intro a x h
  unfold C04.exEnv at h
  dsimp only at h
  split at h <;> (injection h with h; omega)

/-- providers of 0, 500, 0 and 300 (two of them withdrew everything); shield 200 and loss 77 -/
def exZeros : State := shState [prov "a" 0, prov "alice" 500, prov "b" 0, prov "bob" 300] 800 200 77

/-- A state with providers that have no collateral left meets every hypothesis too, and is paid in full. -/
example : Coll.CollInv exZeros ∧ 0 < exZeros.totalCollateral ∧ exZeros.totalCollateral < Dec.prec ∧
    0 ≤ exZeros.totalShield ∧ (∀ a x, shEnv.bondedAfter a = some x → 0 ≤ x) ∧ shEnv.bondedPool ≠ shEnv.modAddr ∧
    (∀ p ∈ exZeros.providers, p.collateral = 0 ∨ 2 * exZeros.totalCollateral ≤
      p.collateral * (exZeros.totalCollateral - exZeros.totalShield - 77)) ∧
    (createReimbursement shEnv (shLedger 800) exZeros 7 77 "admin").toOption.isSome = true ∧
    splitLeft (Dec.quo (Dec.ofInt 200) (Dec.ofInt 800)) (Dec.quo (Dec.ofInt 77) (Dec.ofInt 800)) exZeros.providers 200 77 = 0 := by
  refine ⟨by constructor <;> decide, by decide, by decide, by decide, ?_, by decide, by decide, by decide +kernel, by decide +kernel⟩
  intro a x h
  cases h

/-- The hypothesis of two spare units fails in the short examples, as it must. -/
example : (¬ ∀ p ∈ shSmall.providers, p.collateral = 0 ∨
      SpareTwo (Dec.quo (Dec.ofInt 4) (Dec.ofInt 6)) (Dec.quo (Dec.ofInt 2) (Dec.ofInt 6)) p) ∧
    (¬ ∀ p ∈ shSlack.providers, p.collateral = 0 ∨
      SpareTwo (Dec.quo (Dec.ofInt 2) (Dec.ofInt 11)) (Dec.quo (Dec.ofInt 6) (Dec.ofInt 11)) p) := by
  decide +kernel

end Shentu.Props.C04r

#print axioms Shentu.Props.C04r.short_states_consistent
#print axioms Shentu.Props.C04r.split_short_at_full_utilisation
#print axioms Shentu.Props.C04r.slack_of_one_unit_per_provider_fails
#print axioms Shentu.Props.C04r.split_short_below_full_utilisation
#print axioms Shentu.Props.C04r.payout_succeeds_only_if_split_complete
#print axioms Shentu.Props.C04r.split_pays_in_full_with_two_spare_units_spare
#print axioms Shentu.Props.C04r.split_pays_in_full_with_two_spare_units
#print axioms Shentu.Props.C04r.split_pays_in_full_below_full_utilisation_partial
#print axioms Shentu.Props.C04r.approved_claim_is_paid_in_full_with_two_spare_units
