import Shentu.Proofs.ShieldFundMoney
/-
  C02 — Shield pool is exactly funded: module balance equals what it owes.

  "At every block boundary the shield module account holds exactly the native coins it owes:
   undistributed service fees plus providers' unclaimed rewards plus coins staked for shield plus
   approved-but-unwithdrawn reimbursements plus block rewards awaiting distribution, with no
   fractional remainder.  Consequently every reward withdrawal, stake refund and reimbursement can
   be paid, and fees are never credited without the payer's coins arriving."

  Property theorems only; the work is in `Shentu/Proofs/ShieldFund*.lean`.

  The invariant is `Shield.FundInv (l.balOf e.modAddr e.bond) s` (defined in the model).  It is
  carried through histories together with `Shield.Fund.Keyed s`: the keys of the provider, stake and
  reimbursement stores are unique.  A KV store gives this for free; the list model has to say it,
  because `setProvider` / `setStake` / the reimbursement filter act on *every* record with the key.
-/
namespace Shentu.Props.C02
open Shentu Shentu.Shield Shentu.Shield.Fund

/-- the side conditions of a paid claim -/
def PaidSide (e : Env) (s : State) (pid : Nat) (loss : Int) : Prop :=
  e.bondedPool ≠ e.modAddr ∧ 0 ≤ loss ∧ ∀ r ∈ s.reimbs, r.pid ≠ pid

/-- fee distribution moves fees from `remaining` to the providers' `rewards` without changing their sum:
    nothing is created, nothing is lost, whatever the rounding of the individual shares -/
theorem distribute_conserves (total : Int) (fees : Dec) (ps : List Provider) (rem : Dec) :
    sumI (fun p => p.rewards.raw) (distributeLoop total fees ps rem).1 + (distributeLoop total fees ps rem).2.raw =
      sumI (fun p => p.rewards.raw) ps + rem.raw := by
  rw [distributeLoop_sum]; omega

/-- every operation of the model, with its arguments -/
inductive Op where
  | purchaseCore (poolID : Nat) (shield : Coins) (purchaser : Addr) (fees staking : Coins)
  | purchase (poolID : Nat) (shield : Coins) (purchaser : Addr) (staking : Bool)
  | createPool (creator : Addr) (shield fees : Coins) (sponsor : String) (sponsorAddr : Addr) (limit : Int)
  | updatePool (updater : Addr) (poolID : Nat) (shield fees : Coins) (limit : Int)
  | withdrawRewards (a : Addr)
  | withdrawReimbursement (pid : Nat) (a : Addr)
  | fundBlockRewards (sender : Addr) (amount : Int)
  | createReimbursement (pid : Nat) (amount : Int) (beneficiary : Addr)
  | claimEnds (pid poolID : Nat) (restoreTo beneficiary : Addr) (purchaseID : Nat) (loss : Int) (o : ClaimOutcome)
  | endBlock
  | deposit (from_ : Addr) (coins : Coins)
  | withdraw (from_ : Addr) (coins : Coins)
  | withdrawCollateral (from_ : Addr) (amount : Int)
  | stakingHook (a : Addr) (staked : Int)
  | stakingChanged (a : Addr)
  | unstake (poolID : Nat) (purchaser : Addr) (coins : Coins)
  | pausePool (updater : Addr) (poolID : Nat) (active : Bool)
  | updateSponsor (updater : Addr) (poolID : Nat) (sponsor : String) (sponsorAddr : Addr)
  | secureCollaterals (poolID : Nat) (purchaser : Addr) (purchaseID : Nat) (loss duration : Int)
  | restoreShield (poolID : Nat) (purchaser : Addr) (id : Nat) (loss : Int)
  | claimEnd (loss : Int)

/-- an operation that does not touch the ledger -/
def keepLedger (l : Ledger) (r : Except Err State) : Except Err (Ledger × State) :=
  match r with
  | .ok s => .ok (l, s)
  | .error x => .error x

/-- one step of a history: the model function the operation names, in the environment of that step -/
def step (e : Env) (c : Ledger × State) : Op → Except Err (Ledger × State)
  | .purchaseCore poolID shield purchaser fees staking => Shield.purchaseCore e c.1 c.2 poolID shield purchaser fees staking
  | .purchase poolID shield purchaser staking => Shield.purchase e c.1 c.2 poolID shield purchaser staking
  | .createPool creator shield fees sponsor sponsorAddr limit => Shield.createPool e c.1 c.2 creator shield fees sponsor sponsorAddr limit
  | .updatePool updater poolID shield fees limit => Shield.updatePool e c.1 c.2 updater poolID shield fees limit
  | .withdrawRewards a => Shield.withdrawRewards e c.1 c.2 a
  | .withdrawReimbursement pid a => Shield.withdrawReimbursement e c.1 c.2 pid a
  | .fundBlockRewards sender amount => .ok (Shield.fundBlockRewards e c.1 c.2 sender amount)
  | .createReimbursement pid amount b => Shield.createReimbursement e c.1 c.2 pid amount b
  | .claimEnds pid poolID restoreTo b purchaseID loss o => Shield.claimEnds e c.1 c.2 pid poolID restoreTo b purchaseID loss o
  | .endBlock => keepLedger c.1 (Shield.endBlock e c.2)
  | .deposit a coins => keepLedger c.1 (Shield.deposit e c.2 a coins)
  | .withdraw a coins => keepLedger c.1 (Shield.withdraw e c.2 a coins)
  | .withdrawCollateral a amount => keepLedger c.1 (Shield.withdrawCollateral e c.2 a amount)
  | .stakingHook a staked => keepLedger c.1 (Shield.stakingHook e c.2 a staked)
  | .stakingChanged a => keepLedger c.1 (Shield.stakingChanged e c.2 a)
  | .unstake poolID a coins => keepLedger c.1 (Shield.unstake e c.2 poolID a coins)
  | .pausePool u poolID active => keepLedger c.1 (Shield.pausePool c.2 u poolID active)
  | .updateSponsor u poolID sp spa => keepLedger c.1 (Shield.updateSponsor c.2 u poolID sp spa)
  | .secureCollaterals poolID a purchaseID loss duration => keepLedger c.1 (Shield.secureCollaterals e c.2 poolID a purchaseID loss duration)
  | .restoreShield poolID a id loss => .ok (c.1, Shield.restoreShield c.2 poolID a id loss)
  | .claimEnd loss => .ok (c.1, Shield.claimEnd c.2 loss)

/-- the side conditions of a step: the user account that pays or is paid is not the module account itself;
    a paid claim comes from a bonded pool that is not the module account, with a non-negative loss and a
    proposal id that has no unwithdrawn reimbursement -/
def Op.side (e : Env) (s : State) : Op → Prop
  | .purchaseCore _ _ purchaser _ _ => purchaser ≠ e.modAddr
  | .purchase _ _ purchaser _ => purchaser ≠ e.modAddr
  | .createPool creator _ _ _ _ _ => creator ≠ e.modAddr
  | .updatePool updater _ _ _ _ => updater ≠ e.modAddr
  | .withdrawRewards a => a ≠ e.modAddr
  | .withdrawReimbursement _ a => a ≠ e.modAddr
  | .fundBlockRewards sender _ => sender ≠ e.modAddr
  | .createReimbursement pid amount _ => PaidSide e s pid amount
  | .claimEnds pid _ _ _ _ loss o => o = .paid → PaidSide e s pid loss
  | _ => True

theorem keepLedger_ok {l : Ledger} {r : Except Err State} {c' : Ledger × State} (h : keepLedger l r = .ok c') :
    c'.1 = l ∧ r = .ok c'.2 := by
  unfold keepLedger at h
  split at h
  · injection h with h; subst h; exact ⟨rfl, rfl⟩
  · cases h

/-- Sentence 1, step by step: whatever a successful step does, the module's account and what the module owes move in step.
    The purchases (`purchaseShield`, the common path of paid, staked and admin purchases; `MsgPurchaseShield` /
    `MsgStakeForShield`; `MsgCreatePool`; `MsgUpdatePool`) bring fee and stake.  `MsgWithdrawRewards` pays the whole coins,
    the fractional change goes back to `remaining`; `MsgWithdrawReimbursement` pays the record.  `FundShieldBlockRewards`
    brings whole coins that wait as block fees.  `CreateReimbursement`, the payout of an approved claim, and with it the
    end of a claim proposal in governance's end-blocker (all four outcomes): the coins arrive exactly; the side conditions
    are that the bonded pool is not the module account, the loss is not negative, and the proposal id has no unwithdrawn
    reimbursement yet (a second record under the same id would overwrite the first).  `EndBlocker`, "at every block
    boundary" (expiry and fee distribution; completed withdrawals; pool closing), touches neither the ledger nor the owed
    total: block fees move into `remaining`.  All the others owe and move nothing: `MsgDepositCollateral`,
    `MsgWithdrawCollateral`, `Keeper.WithdrawCollateral`, the staking hooks (also as they fire for a staking message),
    `MsgUnstakeFromShield` (the request; the stake stays in the module account), `MsgPausePool` / `MsgResumePool`,
    `MsgUpdateSponsor`, `SecureCollaterals` (submission of a claim proposal), `RestoreShield`, `ClaimEnd`. -/
theorem step_inStep (e : Env) (c c' : Ledger × State) (op : Op) (h : step e c op = .ok c') (hs : op.side e c.2) :
    InStep e c.1 c'.1 c.2 c'.2 := by
  obtain ⟨l, s⟩ := c
  obtain ⟨l', s'⟩ := c'
  cases op <;> simp only [step] at h
  case purchaseCore => exact .of_paid (purchaseCore_spec e _ _ _ _ _ _ _ _ _ h hs)
  case purchase => exact .of_paid (purchase_spec e _ _ _ _ _ _ _ _ h hs)
  case createPool => exact .of_paid (createPool_spec e _ _ _ _ _ _ _ _ _ _ h hs)
  case updatePool => exact .of_paid (updatePool_spec e _ _ _ _ _ _ _ _ _ h hs)
  case withdrawRewards => exact withdrawRewards_inStep e _ _ _ _ _ h hs
  case withdrawReimbursement => exact withdrawReimbursement_inStep e _ _ _ _ _ _ h hs
  case fundBlockRewards => cases h; exact fundBlockRewards_inStep e _ _ _ _ hs
  case createReimbursement => exact createReimbursement_inStep e _ _ _ _ _ _ _ h hs.1 hs.2.1 hs.2.2
  case claimEnds => exact claimEnds_inStep e _ _ _ _ _ _ _ _ _ _ _ h hs
  case restoreShield => cases h; exact (Frame.of_writes (by rw [restoreShield_writes])).same.inStep e l
  case claimEnd loss => cases h; exact (Frame.of_writes (s := s) (s' := claimEnd s loss) rfl).same.inStep e l
  -- the remaining operations leave the ledger alone
  all_goals
    obtain ⟨h1, h2⟩ := keepLedger_ok h
    cases h1
  case endBlock => exact endBlock_inStep h2 _
  case deposit => exact (Same.of_chain (deposit_chain h2)).inStep e _
  case withdraw => exact (Same.of_chain (withdraw_chain h2)).inStep e _
  case withdrawCollateral => exact (Same.of_chain (withdrawCollateral_chain h2)).inStep e _
  case stakingHook => exact (Same.of_chain (stakingHook_chain h2)).inStep e _
  case stakingChanged => exact (Same.of_chain (stakingChanged_chain h2)).inStep e _
  case unstake => exact (unstake_same e _ _ _ _ _ h2).inStep e _
  case pausePool => exact (Frame.of_writes (by rw [pausePool_writes h2])).same.inStep e _
  case updateSponsor => exact (Frame.of_writes (by rw [updateSponsor_writes h2])).same.inStep e _
  case secureCollaterals => exact (Frame.of_writes (by rw [secureCollaterals_writes h2])).same.inStep e _

theorem step_funded (e : Env) (c c' : Ledger × State) (op : Op) (h : step e c op = .ok c') (hs : op.side e c.2)
    (hf : FundInv (c.1.balOf e.modAddr e.bond) c.2) (hk : Keyed c.2) :
    FundInv (c'.1.balOf e.modAddr e.bond) c'.2 ∧ Keyed c'.2 :=
  (step_inStep e c c' op h hs).fund hk hf

/-- run a history: each step comes with its own environment (block time, the staking module's answers);
    a step that succeeds advances the state, a step that fails leaves it unchanged -/
def run (c : Ledger × State) : List (Env × Op) → Ledger × State
  | [] => c
  | (e, op) :: rest =>
    match step e c op with
    | .ok c' => run c' rest
    | .error _ => run c rest

/-- the history is played against one module account and one bond denomination, and every step that succeeds
    meets its side conditions -/
def Admissible (mod : Addr) (bond : Denom) : Ledger × State → List (Env × Op) → Prop
  | _, [] => True
  | c, (e, op) :: rest =>
    e.modAddr = mod ∧ e.bond = bond ∧
      match step e c op with
      | .ok c' => op.side e c.2 ∧ Admissible mod bond c' rest
      | .error _ => Admissible mod bond c rest

/-- Sentence 1 over histories ("at every block boundary", for all sequences of shield, staking, governance and bank
    transactions with arbitrary amounts and arbitrary block-time gaps): from any exactly funded state, after any list
    of steps — each of which succeeds or fails — the module account holds exactly what it owes. -/
theorem reachable_funded (mod : Addr) (bond : Denom) (steps : List (Env × Op)) :
    ∀ (c : Ledger × State), FundInv (c.1.balOf mod bond) c.2 → Keyed c.2 → Admissible mod bond c steps →
      FundInv ((run c steps).1.balOf mod bond) (run c steps).2 ∧ Keyed (run c steps).2 := by
  induction steps with
  | nil => intro c hf hk _; exact ⟨hf, hk⟩
  | cons x rest ih =>
    intro c hf hk ha
    obtain ⟨e, op⟩ := x
    simp only [Admissible] at ha
    obtain ⟨hm, hb, ha⟩ := ha
    simp only [run]
    cases hstep : step e c op with
    | error x =>
      simp only [hstep] at ha ⊢
      exact ih c hf hk ha
    | ok c' =>
      simp only [hstep] at ha ⊢
      subst hm hb
      have := step_funded e c c' op hstep ha.1 hf hk
      exact ih c' this.1 this.2 ha.2

/-- the same at every intermediate point of the history (every block boundary on the way) -/
theorem reachable_funded_prefix (mod : Addr) (bond : Denom) (steps : List (Env × Op)) (n : Nat) :
    ∀ (c : Ledger × State), FundInv (c.1.balOf mod bond) c.2 → Keyed c.2 → Admissible mod bond c steps →
      FundInv ((run c (steps.take n)).1.balOf mod bond) (run c (steps.take n)).2 := by
  intro c hf hk ha
  refine (reachable_funded mod bond (steps.take n) c hf hk ?_).1
  clear hf hk
  induction steps generalizing c n with
  | nil => simp [Admissible]
  | cons x rest ih =>
    cases n with
    | zero => simp [Admissible]
    | succ n =>
      obtain ⟨e, op⟩ := x
      simp only [List.take_succ_cons, Admissible] at ha ⊢
      obtain ⟨hm, hb, ha⟩ := ha
      refine ⟨hm, hb, ?_⟩
      cases hstep : step e c op with
      | error x => simp only [hstep] at ha ⊢; exact ih n c ha
      | ok c' => simp only [hstep] at ha ⊢; exact ⟨ha.1, ih n c' ha.2⟩

/-- the empty store is exactly funded by an empty account: the histories have a starting point -/
theorem genesis_funded (l : Ledger) (s : State) (mod : Addr) (bond : Denom)
    (h0 : l.balOf mod bond = 0) (hp : s.providers = []) (hs : s.stakes = []) (hr : s.reimbs = [])
    (h1 : s.remaining = Dec.zero) (h2 : s.blockFees = Dec.zero) :
    FundInv (l.balOf mod bond) s ∧ Keyed s := by
  refine ⟨?_, ⟨by simp [hp], by simp [hs], by simp [hr]⟩⟩
  simp [FundInv, owedRaw, sumRewards, sumStakes, sumReimbs, h0, hp, hs, hr, h1, h2, Dec.zero]

/-- Sentence 2, "every reward withdrawal can be paid": in an exactly funded state whose owed parts are non-negative,
    a provider's `MsgWithdrawRewards` never fails (in particular not for lack of funds). -/
theorem withdrawRewards_payable (e : Env) (l : Ledger) (s : State) (a : Addr) (p : Provider)
    (hp : findProvider s a = some p) (hf : FundInv (l.balOf e.modAddr e.bond) s) (hn : OwedNonneg s) :
    ∃ l' s', withdrawRewards e l s a = .ok (l', s') := by
  obtain ⟨h0, hb⟩ := rewards_covered _ s hf hn p (Coll.findProvider_some hp).1
  unfold withdrawRewards
  simp only [hp]
  split
  · exact ⟨_, _, rfl⟩
  · rw [Ledger.send_single l e.modAddr a e.bond _ h0, if_pos hb]
    exact ⟨_, _, rfl⟩

/-- Sentence 2, "every reimbursement can be paid": a recorded reimbursement whose payout time has come can be withdrawn
    by its beneficiary, in any exactly funded state whose owed parts are non-negative. -/
theorem withdrawReimbursement_payable (e : Env) (l : Ledger) (s : State) (pid : Nat) (a : Addr) (r : Reimb)
    (hr : s.reimbs.find? (·.pid == pid) = some r) (hb : r.beneficiary = a) (ht : r.payoutTime ≤ e.t)
    (hf : FundInv (l.balOf e.modAddr e.bond) s) (hn : OwedNonneg s) :
    ∃ l' s', withdrawReimbursement e l s pid a = .ok (l', s') := by
  obtain ⟨h0, hc⟩ := reimb_covered _ s hf hn r (List.mem_of_find?_eq_some hr)
  exact withdrawReimbursement_accept e l s pid a r hr hb ht h0 hc

/-- Sentence 2, "every stake refund can be paid": the module account covers each recorded stake for shield
    (the refund itself happens in the purchase-expiry path the model rejects as `unmodelled:stake-expiry`). -/
theorem stake_refund_covered (e : Env) (l : Ledger) (s : State) (k : Stake) (hk : k ∈ s.stakes)
    (hf : FundInv (l.balOf e.modAddr e.bond) s) (hn : OwedNonneg s) :
    ∃ l', l.send e.modAddr k.purchaser [(e.bond, k.amount)] = .ok l' := by
  obtain ⟨h0, hc⟩ := stake_covered _ s hf hn k hk
  exact (Ledger.send_single_succeeds_iff l e.modAddr k.purchaser e.bond _).mpr ⟨h0, hc⟩

/-- Sentence 2, "fees are never credited without the payer's coins arriving": whatever a successful `purchaseShield`
    adds to `serviceFees` / `remaining` (`f` whole coins) or to the stakes (`k` coins), the module balance grew by. -/
theorem fees_need_payment (e : Env) (l l' : Ledger) (s s' : State) (poolID : Nat) (shield : Coins) (purchaser : Addr)
    (fees staking : Coins) (h : purchaseCore e l s poolID shield purchaser fees staking = .ok (l', s'))
    (hne : purchaser ≠ e.modAddr) (hk : Keyed s) :
    ∃ f k : Int, (f = 0 ∨ k = 0) ∧
      s'.serviceFees.raw = s.serviceFees.raw + f * Dec.prec ∧ s'.remaining.raw = s.remaining.raw + f * Dec.prec ∧
      sumStakes s' = sumStakes s + k ∧ l'.balOf e.modAddr e.bond = l.balOf e.modAddr e.bond + f + k := by
  obtain ⟨f, k, hp⟩ := purchaseCore_spec e l l' s s' poolID shield purchaser fees staking h hne hk.stake
  exact ⟨f, k, hp.one, by rw [hp.serviceFees]; rfl, by rw [hp.remaining]; rfl, hp.stakes, hp.bal⟩

/-- the same for `MsgUpdatePool` (the admin's additional service fees) -/
theorem fees_need_payment_updatePool (e : Env) (l l' : Ledger) (s s' : State) (updater : Addr) (poolID : Nat)
    (shield fees : Coins) (limit : Int) (h : updatePool e l s updater poolID shield fees limit = .ok (l', s'))
    (hne : updater ≠ e.modAddr) (hk : Keyed s) :
    ∃ f k : Int, (f = 0 ∨ k = 0) ∧
      s'.serviceFees.raw = s.serviceFees.raw + f * Dec.prec ∧ s'.remaining.raw = s.remaining.raw + f * Dec.prec ∧
      sumStakes s' = sumStakes s + k ∧ l'.balOf e.modAddr e.bond = l.balOf e.modAddr e.bond + f + k := by
  obtain ⟨f, k, hp⟩ := updatePool_spec e l l' s s' updater poolID shield fees limit h hne hk.stake
  exact ⟨f, k, hp.one, by rw [hp.serviceFees]; rfl, by rw [hp.remaining]; rfl, hp.stakes, hp.bal⟩

section Example

/-- Boolean form of the side conditions (for the concrete history below) -/
def paidSideB (e : Env) (s : State) (pid : Nat) (loss : Int) : Bool :=
  e.bondedPool != e.modAddr && decide (0 ≤ loss) && s.reimbs.all (fun r => r.pid != pid)

def Op.sideB (e : Env) (s : State) : Op → Bool
  | .purchaseCore _ _ purchaser _ _ => purchaser != e.modAddr
  | .purchase _ _ purchaser _ => purchaser != e.modAddr
  | .createPool creator _ _ _ _ _ => creator != e.modAddr
  | .updatePool updater _ _ _ _ => updater != e.modAddr
  | .withdrawRewards a => a != e.modAddr
  | .withdrawReimbursement _ a => a != e.modAddr
  | .fundBlockRewards sender _ => sender != e.modAddr
  | .createReimbursement pid amount _ => paidSideB e s pid amount
  | .claimEnds pid _ _ _ _ loss o => o != .paid || paidSideB e s pid loss
  | _ => true

def admissibleB (mod : Addr) (bond : Denom) : Ledger × State → List (Env × Op) → Bool
  | _, [] => true
  | c, (e, op) :: rest =>
    e.modAddr == mod && e.bond == bond &&
      match step e c op with
      | .ok c' => op.sideB e c.2 && admissibleB mod bond c' rest
      | .error _ => admissibleB mod bond c rest

theorem paidSideB_sound (e : Env) (s : State) (pid : Nat) (loss : Int) (h : paidSideB e s pid loss = true) :
    PaidSide e s pid loss := by
  simp only [paidSideB, Bool.and_eq_true, bne_iff_ne, ne_eq, decide_eq_true_eq, List.all_eq_true] at h
  exact ⟨h.1.1, h.1.2, h.2⟩

theorem sideB_sound (e : Env) (s : State) (op : Op) (h : op.sideB e s = true) : op.side e s := by
  cases op <;> simp only [Op.sideB, Op.side, bne_iff_ne, ne_eq, Bool.or_eq_true] at h ⊢ <;> try exact h
  · exact paidSideB_sound _ _ _ _ h
  · intro ho
    rcases h with h | h
    · exact absurd ho h
    · exact paidSideB_sound _ _ _ _ h

theorem admissibleB_sound (mod : Addr) (bond : Denom) (steps : List (Env × Op)) :
    ∀ c, admissibleB mod bond c steps = true → Admissible mod bond c steps := by
  induction steps with
  | nil => intro c _; trivial
  | cons x rest ih =>
    intro c h
    obtain ⟨e, op⟩ := x
    simp only [admissibleB, Bool.and_eq_true, beq_iff_eq] at h
    simp only [Admissible]
    refine ⟨h.1.1, h.1.2, ?_⟩
    cases hstep : step e c op with
    | error x => simp only [hstep] at h ⊢; exact ih c h.2
    | ok c' =>
      simp only [hstep, Bool.and_eq_true] at h ⊢
      exact ⟨sideB_sound _ _ _ h.2.1, ih c' h.2.2⟩

def exParams : Params :=
  { protection := 1000, withdrawPeriod := 100, feesRate := ⟨10000000000000000⟩, poolLimit := ⟨500000000000000000⟩,
    minPurchase := 1, stakingRate := ⟨2000000000000000000⟩, payoutPeriod := 50 }

/-- one open pool, nobody has deposited or bought anything yet -/
def exState : State :=
  { admin := "admin", pools := [{ id := 1, shield := 0, limit := 1000, active := true, sponsor := "sp", sponsorAddr := "spa" }],
    lists := [], providers := [], withdraws := [], stakes := [], origStakings := [], reimbs := [],
    totalCollateral := 0, totalWithdrawing := 0, totalShield := 0, totalClaimed := 0, serviceFees := Dec.zero,
    remaining := Dec.zero, blockFees := Dec.zero, stakingPool := 0, lastUpdate := zeroTime, nextPool := 2, nextPurchase := 1,
    params := exParams }

def exLedger : Ledger :=
  { posts := [("alice", "uctk", 1000), ("admin", "uctk", 1000), ("bob", "uctk", 1000), ("bonded", "uctk", 5000)],
    supply := [("uctk", 8000)] }

def exEnv (t : Int) : Env :=
  { t := t, bond := "uctk", modAddr := "shield", bondedPool := "bonded", bondedAfter := fun _ => some 500 }

/-- deposit; a paid and a staked purchase; block rewards; a block half-way through the protection period (fees stream to
    the provider); the provider takes her rewards; a withdrawal by a non-provider fails; a claim is secured and paid;
    withdrawing it too early fails; a later block; the beneficiary withdraws; a second withdrawal fails. -/
def exHistory : List (Env × Op) :=
  [ (exEnv 1000, .deposit "alice" [("uctk", 500)]),
    (exEnv 1000, .purchase 1 [("uctk", 200)] "admin" false),
    (exEnv 1000, .purchase 1 [("uctk", 10)] "bob" true),
    (exEnv 1000, .fundBlockRewards "mint" 3),
    (exEnv 1500, .endBlock),
    (exEnv 1500, .withdrawRewards "alice"),
    (exEnv 1500, .withdrawRewards "carol"),
    (exEnv 1600, .secureCollaterals 1 "admin" 1 50 100),
    (exEnv 1700, .claimEnds 7 1 "admin" "admin" 1 50 .paid),
    (exEnv 1710, .withdrawReimbursement 7 "admin"),
    (exEnv 1750, .endBlock),
    (exEnv 1760, .withdrawReimbursement 7 "admin"),
    (exEnv 1770, .withdrawReimbursement 7 "admin") ]

/-- which steps succeed, and the module balance after each -/
def exTrace (c : Ledger × State) : List (Env × Op) → List (Bool × Int)
  | [] => []
  | (e, op) :: rest =>
    match step e c op with
    | .ok c' => (true, c'.1.balOf "shield" "uctk") :: exTrace c' rest
    | .error _ => (false, c.1.balOf "shield" "uctk") :: exTrace c rest

/-- the hypotheses of `reachable_funded` hold for the concrete history … -/
example : FundInv (exLedger.balOf "shield" "uctk") exState ∧ Keyed exState ∧
    Admissible "shield" "uctk" (exLedger, exState) exHistory := by
  refine ⟨(genesis_funded exLedger exState "shield" "uctk" (by decide +kernel) rfl rfl rfl rfl rfl).1,
    (genesis_funded exLedger exState "shield" "uctk" (by decide +kernel) rfl rfl rfl rfl rfl).2,
    admissibleB_sound _ _ _ _ (by decide +kernel)⟩

/-- … ten of its steps succeed, three fail, and coins really move (2 of fees, 20 staked, 3 of block rewards, 2 of rewards
    paid out, 50 of reimbursement in and out) … -/
example : exTrace (exLedger, exState) exHistory =
    [(true, 0), (true, 2), (true, 22), (true, 25), (true, 25), (true, 23), (false, 23), (true, 23), (true, 73),
     (false, 73), (true, 73), (true, 23), (false, 23)] := by decide +kernel

/-- … and the conclusion is checked independently by evaluation: 23 coins held = 20 staked + 3 of fees and rewards. -/
example : fundInvB ((run (exLedger, exState) exHistory).1.balOf "shield" "uctk") (run (exLedger, exState) exHistory).2 = true ∧
    (run (exLedger, exState) exHistory).1.balOf "shield" "uctk" = 23 ∧
    sumStakes (run (exLedger, exState) exHistory).2 = 20 := by decide +kernel

/-- the state before the reward withdrawal (after five steps) satisfies the hypotheses of `withdrawRewards_payable`
    with a provider who has whole coins to take -/
example : (∃ p, findProvider (run (exLedger, exState) (exHistory.take 5)).2 "alice" = some p ∧ Dec.truncateInt p.rewards = 2) ∧
    OwedNonneg (run (exLedger, exState) (exHistory.take 5)).2 :=
  ⟨⟨_, rfl, by decide⟩, ⟨by decide, by decide, by decide, by decide, by decide⟩⟩

/-- the state after the second end-blocker (eleven steps) satisfies the hypotheses of `withdrawReimbursement_payable`:
    the record of proposal 7 is there, its beneficiary asks, the payout time has come -/
example : (∃ r, (run (exLedger, exState) (exHistory.take 11)).2.reimbs.find? (·.pid == 7) = some r ∧
      r.beneficiary = "admin" ∧ r.payoutTime ≤ (exEnv 1760).t ∧ r.amount = 50) ∧
    OwedNonneg (run (exLedger, exState) (exHistory.take 11)).2 :=
  ⟨⟨_, rfl, by decide, by decide, by decide⟩, ⟨by decide, by decide, by decide, by decide, by decide⟩⟩

/-- The side condition `0 ≤ amount` of `CreateReimbursement` in `step_inStep` (`createReimbursement_inStep`) is needed,
    and the model does not enforce it: after the claim has been secured (eight steps), `CreateReimbursement` with a loss
    of -5 succeeds, records a reimbursement of -5 and moves no coins, so the account no longer holds what the books say.
    (In the Go code the keeper function checks nothing; the guard is `ShieldClaimProposal.ValidateBasic`, which refuses
    a loss that is not a valid coin amount.) -/
example : fundInvB ((run (exLedger, exState) (exHistory.take 8)).1.balOf "shield" "uctk") (run (exLedger, exState) (exHistory.take 8)).2 = true ∧
    (createReimbursement (exEnv 1700) (run (exLedger, exState) (exHistory.take 8)).1 (run (exLedger, exState) (exHistory.take 8)).2
      7 (-5) "admin").toOption.map (fun c => (fundInvB (c.1.balOf "shield" "uctk") c.2, c.2.reimbs.map (·.amount))) =
      some (false, [-5]) := by decide +kernel

/-- The side condition "no unwithdrawn reimbursement under this proposal id" is needed as well: paying proposal 7 a second
    time (here with a loss of 0) overwrites the record of 50 while the 50 coins stay in the account.  Governance ends every
    proposal once, so no history of real transactions does this. -/
example : fundInvB ((run (exLedger, exState) (exHistory.take 9)).1.balOf "shield" "uctk") (run (exLedger, exState) (exHistory.take 9)).2 = true ∧
    (createReimbursement (exEnv 1700) (run (exLedger, exState) (exHistory.take 9)).1 (run (exLedger, exState) (exHistory.take 9)).2
      7 0 "admin").toOption.map (fun c => (fundInvB (c.1.balOf "shield" "uctk") c.2, c.2.reimbs.map (·.amount))) =
      some (false, [0]) := by decide +kernel

end Example

end Shentu.Props.C02
