import Shentu.Props.C16m
import Shentu.Proofs.C16m2Gas
/-
  C16 (machine instructions), on top of `Shentu/Props/C16m.lean`.

  1. `mstore_then_mload`: at the level of the interpreter model, in every mode (in particular `Quirks.spec` and
     `Quirks.impl`): MSTORE(o, w) followed by MLOAD(o) pushes `w mod 2^256`, and the memory keeps representing the
     specification memory after the store.  Chained from `mstore_refines`, `mload_refines`, `spec_mload_mstore`.
  2. CALLDATACOPY / CODECOPY as implemented (`readBeyondErr`): a source offset beyond the data raises InputOutOfBounds and
     writes nothing (recorded deviation `read_beyond_data`); a source offset within the data gives the specification's
     zero-padded copy.  From `subslice_behaviour`; the agreeing case is `copy_fetch_refines`, as `copy_refines` is.
  3. JUMP / JUMPI as implemented (`dataOffsetU64`) with a destination of 2^64 or more: IntegerOverflow is raised; JUMP, whose
     destination is read with `Pop64`, then still attempts the jump to position 0 (the program counter becomes 0 when
     position 0 is a valid destination); JUMPI attempts no jump.  Either way the frame ends at the next iteration with
     IntegerOverflow (`pending_error_stops`).  Next to `C16m.jump_huge` for the specification (InvalidJumpDest).

  4. The link between the gas side and the memory side.  `stepBody` runs `gasLookUp`, charges its first component and hands its
     second component to `expandMemory` (`expansion_follows_charge`: only when the charge succeeded).  For every opcode with a
     memory operand, a lookup that ends without a pending error reports exactly `memNeed offset length` of the operands that
     stand where the instruction then pops them — the size C16m's `*_refines` theorems expand by — or, in specification mode
     only, answers with the cost that no gas allowance covers (`Charged`).  One theorem per family: MLOAD / MSTORE / MSTORE8,
     the copy family (CALLDATACOPY, CODECOPY, RETURNDATACOPY, EXTCODECOPY), SHA3 / LOG0-4 / RETURN / REVERT, the two windows
     of the call family (the larger of the input window and the output window), CREATE / CREATE2.
     The operand positions on the instruction side are proved for MLOAD / MSTORE / MSTORE8, CALLDATACOPY / CODECOPY and
     RETURNDATACOPY (C16m `*_refines`, whose statements run `expandMemory (memNeed o len)` in front of the instruction on the
     same stack); for the other families they are read off the instruction bodies in `EVM/Impl.lean` (`execRegular` 0x20,
     `freeRest` LOG, `haltBody0`, `callRest`, `createRest`, `execQuery` 0x3c) and stated in the hypotheses' stack shapes —
     a body lemma for those is NOT proved here.  The amount charged for the expansion is C17's subject, not this file's.

  Assumed in the statements (each one explicit): the bounds of `mstore_refines` / `mload_refines` / `copy_refines` (the access
  ends at or below the memory cap, the frame has the gas for its stack operations, no error is pending); for the copy
  instructions as implemented, offset and length below 2^64 (larger words make `Pop64` raise IntegerOverflow first).
-/
namespace Shentu.Props.C16m2
open Shentu Shentu.EVM Shentu.EVM.MemSpec Shentu.C16mH Shentu.C16mJ Shentu.C16m2H

/-- Specification: MLOAD at the offset of a preceding MSTORE does not change the memory, not even its size. -/
theorem spec_mload_after_mstore_mem (m : Mem) (o v : Nat) : ((m.mstore o v).mload o).2 = m.mstore o v := by
  simp only [Mem.mload, Mem.read, Mem.mstore, Mem.write, Mem.touch, length_wordBytes]
  have h32 : ¬ (32 = 0) := by decide
  simp only [h32, if_false, Mem.mk.injEq, true_and]
  omega

/-- **MSTORE then MLOAD, model level, every mode.**  MSTORE(o, v) runs without error and pops its operands.
    The memory then represents the specification memory after the store.
    Whatever runs in between, as long as it leaves the memory alone, raises no error and puts `o` on the stack: MLOAD then
    pushes `v mod 2^256`, and the memory still represents the specification memory after the store. -/
theorem mstore_then_mload (child : ChildFn) (env : Env) (s : Frame) (m : Mem) (o v : Nat) (r : List Nat)
    (hr : Rep s.mem m) (he : s.err = none) (hs : s.stack = o :: v :: r) (hg : 2 ≤ s.gas) (hcap : o + 32 ≤ memCap) :
    ∃ s1, ((expandMemory (memNeed o 32) >>= fun _ => execRegular child env 0x52) s).val = (some Ctl.next, s1) ∧
      Rep s1.mem (m.mstore o v) ∧ s1.stack = r ∧ s1.err = none ∧
      ∀ (s1' : Frame) (r' : List Nat), s1'.mem = s1.mem → s1'.err = none → s1'.stack = o :: r' → 2 ≤ s1'.gas →
        ∃ s2, ((expandMemory (memNeed o 32) >>= fun _ => execRegular child env 0x51) s1').val = (some Ctl.next, s2) ∧
          s2.stack = v % 2 ^ 256 :: r' ∧ Rep s2.mem (m.mstore o v) ∧ s2.err = none := by
  obtain ⟨s1, h1, h2, h3, h4⟩ := C16m.mstore_refines child env s m o v r hr he hs hg hcap
  refine ⟨s1, h1, h2, h3, h4, ?_⟩
  intro s1' r' hm he' hs' hg'
  obtain ⟨s2, g1, g2, g3, g4⟩ := C16m.mload_refines child env s1' (m.mstore o v) o r' (hm ▸ h2) he' hs' hg' hcap
  refine ⟨s2, g1, ?_, ?_, g4⟩
  · rw [g2, C16m.spec_mload_mstore]
  · rw [spec_mload_after_mstore_mem] at g3; exact g3

/-- The same, spelled out for the two named modes: the specification mode and the implementation mode. -/
theorem mstore_then_mload_both_modes (child : ChildFn) (env : Env) (s : Frame) (m : Mem) (o v : Nat) (r : List Nat)
    (hr : Rep s.mem m) (he : s.err = none) (hs : s.stack = o :: v :: r) (hg : 2 ≤ s.gas) (hcap : o + 32 ≤ memCap) :
    ∀ q, q = Quirks.spec ∨ q = Quirks.impl →
    ∃ s1, ((expandMemory (memNeed o 32) >>= fun _ => execRegular child { env with q := q } 0x52) s).val = (some Ctl.next, s1) ∧
      Rep s1.mem (m.mstore o v) ∧ s1.stack = r ∧ s1.err = none ∧
      ∀ (s1' : Frame) (r' : List Nat), s1'.mem = s1.mem → s1'.err = none → s1'.stack = o :: r' → 2 ≤ s1'.gas →
        ∃ s2, ((expandMemory (memNeed o 32) >>= fun _ => execRegular child { env with q := q } 0x51) s1').val =
            (some Ctl.next, s2) ∧
          s2.stack = v % 2 ^ 256 :: r' ∧ Rep s2.mem (m.mstore o v) ∧ s2.err = none :=
  fun q _ => mstore_then_mload child { env with q := q } s m o v r hr he hs hg hcap

/-- CALLDATACOPY / CODECOPY body as implemented, source offset beyond the data (recorded deviation `read_beyond_data`):
    the three operands are popped, InputOutOfBounds is raised, and nothing else changes — the memory is not written. -/
theorem copy_impl_beyond (q : Quirks) (src : ByteArray) (s : Frame) (memOff off len : Nat) (r : List Nat)
    (hq1 : q.readBeyondErr = true) (hz : q.zeroLenGrows = false) (hs : s.stack = memOff :: off :: len :: r)
    (hg : 3 ≤ s.gas) (he : s.err = none) (h64 : off < U64) (hl64 : len < U64) (hoff : src.size < off) :
    (copyToMem q src s).val =
      (some Ctl.next, { s with gas := s.gas - 3, stack := r, err := some .inputOutOfBounds }) := by
  rw [copyToMem_impl q src s memOff off len r hq1 hs hg h64 hl64, subslice_err src off len hoff]
  exact (bind_val_some (pushErr_none _ { s with gas := s.gas - 3, stack := r } he)).trans
    (bind_val_some (memWrite_zero_spec q memOff .empty _ hz rfl))

/-- The same with the memory expansion the cost lookup asks for in front, as the interpreter runs the instruction: the memory
    afterwards represents the specification memory with the same bytes (only the active words have grown, and that growth
    was charged); the specification would have written `len` zero-padded bytes here. -/
theorem copy_impl_beyond_run (q : Quirks) (src : ByteArray) (s : Frame) (m : Mem) (memOff off len : Nat) (r : List Nat)
    (hq1 : q.readBeyondErr = true) (hz : q.zeroLenGrows = false) (hr : Rep s.mem m) (hs : s.stack = memOff :: off :: len :: r)
    (hg : 3 ≤ s.gas) (he : s.err = none) (h64 : off < U64) (hoff : src.size < off) (hl : 0 < len)
    (hcap : memOff + len ≤ memCap) :
    ∃ s', ((expandMemory (memNeed memOff len) >>= fun _ => copyToMem q src) s).val = (some Ctl.next, s') ∧
      Rep s'.mem (m.touch memOff len) ∧ (∀ i, byteAt s'.mem i = m.byte i) ∧ s'.stack = r ∧
      s'.err = some .inputOutOfBounds := by
  have hc := memCap_val
  have hU := U64_val
  obtain ⟨e, hrun, hrep, _, hst, hgas, herr, _⟩ := expand_access (copyToMem q src) s m memOff len hr he hl hcap
  rw [hrun, copy_impl_beyond q src e memOff off len r hq1 hz (hst.trans hs) (hgas ▸ hg) herr h64 (by omega) hoff]
  exact ⟨_, rfl, hrep, fun i => (hrep.2 i).trans (congrFun (touch_byte m memOff len) i), rfl, rfl⟩

/-- CALLDATACOPY / CODECOPY as implemented, source offset within the data (or at its end): the instruction agrees with the
    specification — the memory afterwards represents the specification's `copyIn`, bytes beyond the end of the data are zeros. -/
theorem copy_impl_agrees (q : Quirks) (src : ByteArray) (s : Frame) (m : Mem) (memOff off len : Nat) (r : List Nat)
    (hq1 : q.readBeyondErr = true) (hr : Rep s.mem m) (he : s.err = none)
    (hs : s.stack = memOff :: off :: len :: r) (hg : 3 ≤ s.gas) (hl : 0 < len) (hcap : memOff + len ≤ memCap)
    (hoff : off ≤ src.size) (h64 : off + len < U64) :
    ∃ s', ((expandMemory (memNeed memOff len) >>= fun _ => copyToMem q src) s).val = (some Ctl.next, s') ∧
      Rep s'.mem (m.copyIn memOff (bl src) off len) ∧ s'.stack = r ∧ s'.err = none :=
  copy_fetch_refines q src s m memOff off len r (Or.inr ⟨hq1, hoff, h64⟩) hr he hs hg hl hcap

/-- CALLDATACOPY (0x37) and CODECOPY (0x39) in implementation mode, source offset beyond the call data resp. the code:
    InputOutOfBounds, nothing written. -/
theorem calldatacopy_codecopy_impl_fail (child : ChildFn) (env : Env) (s : Frame) (memOff off len : Nat) (r : List Nat)
    (hq : env.q = Quirks.impl) (hs : s.stack = memOff :: off :: len :: r) (hg : 3 ≤ s.gas) (he : s.err = none)
    (h64 : off < U64) (hl64 : len < U64) :
    (env.input.size < off → (execRegular child env 0x37 s).val =
      (some Ctl.next, { s with gas := s.gas - 3, stack := r, err := some .inputOutOfBounds })) ∧
    (env.code.size < off → (execRegular child env 0x39 s).val =
      (some Ctl.next, { s with gas := s.gas - 3, stack := r, err := some .inputOutOfBounds })) := by
  have h1 : env.q.readBeyondErr = true := by rw [hq]; rfl
  have h2 : env.q.zeroLenGrows = false := by rw [hq]; rfl
  rw [(C16m.copy_instructions child env).1, (C16m.copy_instructions child env).2]
  exact ⟨copy_impl_beyond env.q env.input s memOff off len r h1 h2 hs hg he h64 hl64,
    copy_impl_beyond env.q env.code s memOff off len r h1 h2 hs hg he h64 hl64⟩

/-- CALLDATACOPY (0x37) and CODECOPY (0x39) in implementation mode, source offset within the call data resp. the code: the
    specification's zero-padded copy. -/
theorem calldatacopy_codecopy_impl_agree (child : ChildFn) (env : Env) (s : Frame) (m : Mem) (memOff off len : Nat)
    (r : List Nat) (hq : env.q = Quirks.impl) (hr : Rep s.mem m) (he : s.err = none)
    (hs : s.stack = memOff :: off :: len :: r) (hg : 3 ≤ s.gas) (hl : 0 < len) (hcap : memOff + len ≤ memCap)
    (h64 : off + len < U64) :
    (off ≤ env.input.size →
      ∃ s', ((expandMemory (memNeed memOff len) >>= fun _ => execRegular child env 0x37) s).val = (some Ctl.next, s') ∧
        Rep s'.mem (m.copyIn memOff (bl env.input) off len) ∧ s'.stack = r ∧ s'.err = none) ∧
    (off ≤ env.code.size →
      ∃ s', ((expandMemory (memNeed memOff len) >>= fun _ => execRegular child env 0x39) s).val = (some Ctl.next, s') ∧
        Rep s'.mem (m.copyIn memOff (bl env.code) off len) ∧ s'.stack = r ∧ s'.err = none) := by
  have h1 : env.q.readBeyondErr = true := by rw [hq]; rfl
  rw [(C16m.copy_instructions child env).1, (C16m.copy_instructions child env).2]
  exact ⟨fun ho => copy_impl_agrees env.q env.input s m memOff off len r h1 hr he hs hg hl hcap ho h64,
    fun ho => copy_impl_agrees env.q env.code s m memOff off len r h1 hr he hs hg hl hcap ho h64⟩

/-- JUMP as implemented with a destination of 2^64 or more (recorded deviation `data_offset_uint64`): `Pop64` raises
    IntegerOverflow and reads the word as 0, and the jump to position 0 is still attempted.
    When position 0 is a valid destination the program counter becomes 0; otherwise nothing else changes (the
    InvalidJumpDest of the attempt is dropped, the error sink keeps the first error). -/
theorem jump_huge_impl (child : ChildFn) (env : Env) (s : Frame) (to : Nat) (r : List Nat)
    (hob : env.opBits = opcodeBits env.code) (hsz : env.code.size < 2 ^ 64) (hs : s.stack = to :: r)
    (hg : 1 ≤ s.gas) (h64 : U64 ≤ to) (hq : env.q.dataOffsetU64 = true) (he : s.err = none) :
    (ValidJump (bl env.code) 0 → (execRegular child env 0x56 s).val =
      (some Ctl.jumped, { s with gas := s.gas - 1, stack := r, err := some .integerOverflow, pc := 0 })) ∧
    (¬ ValidJump (bl env.code) 0 → (execRegular child env 0x56 s).val =
      (some Ctl.jumped, { s with gas := s.gas - 1, stack := r, err := some .integerOverflow })) := by
  rw [jump_pop child env s to r hs hg]
  have hw := bind_congr_val (f := fun _ => pure Ctl.jumped)
    (jumpWord_huge_impl env to true { s with gas := s.gas - 1, stack := r } h64 hq he)
  constructor
  · intro hv
    exact hw.trans (bind_val_some (jumpTo_valid env _ 0 hob hsz hv))
  · intro hv
    exact hw.trans (bind_val_some ((jumpTo_invalid env _ 0 hob hsz hv).trans (pushErr_some _ .integerOverflow _ rfl)))

/-- JUMPI as implemented with a non-zero condition and a destination of 2^64 or more: IntegerOverflow, and no jump is
    attempted (the destination is not read with `Pop64`): the program counter stays. -/
theorem jumpi_huge_impl (child : ChildFn) (env : Env) (s : Frame) (to c : Nat) (r : List Nat) (hs : s.stack = to :: c :: r)
    (hg : 2 ≤ s.gas) (hc : c ≠ 0) (h64 : U64 ≤ to) (hq : env.q.dataOffsetU64 = true) (he : s.err = none) :
    (execRegular child env 0x57 s).val =
      (some Ctl.jumped, { s with gas := s.gas - 2, stack := r, err := some .integerOverflow }) := by
  rw [jumpi_pop child env s to c r hs hg, if_pos (by simpa using hc)]
  exact bind_val_some (jumpWord_huge_impl env to false _ h64 hq he)

/-- A frame with a pending error ends at the top of the next iteration with that error, whatever the program counter is:
    after `jump_huge_impl` / `jumpi_huge_impl` the frame fails with IntegerOverflow. -/
theorem pending_error_stops (child : ChildFn) (env : Env) (s : Frame) (e : Err) (he : s.err = some e) :
    (step child env s).val = (some (.done .empty (some e)), s) :=
  step_of_err child env he

/-- **Memory is expanded only after the expansion has been charged.**  One iteration of the interpreter looks the cost up,
    and only if the frame can pay it, expands the memory — by exactly the size the lookup reported — and goes on.
    If the frame cannot pay, it stops with InsufficientGas and the memory is left as the lookup left it. -/
theorem expansion_follows_charge (child : ChildFn) (env : Env) (op : Nat) (s : Frame) (cm : Nat × Nat) (s1 : Frame)
    (h1 : ((noteSeen op >>= fun _ => gasLookUp env.q env.callee (opInfo op)) s).val = (some cm, s1)) :
    (cm.1 ≤ s1.gas → (stepBody child env op s).val =
      ((expandMemory cm.2 >>= fun _ => getF >>= fun s =>
          match s.err with
          | some e => pure (Step.done .empty (some e))
          | none => exec child env op >>= finish) { s1 with gas := s1.gas - cm.1 }).val) ∧
    (s1.gas < cm.1 → (stepBody child env op s).val = (some (.done .empty (some .insufficientGas)), s1)) :=
  ⟨fun h => (stepBody_of_lookup h1).trans (if_pos h), fun h => (stepBody_of_lookup h1).trans (if_neg (Nat.not_le.2 h))⟩

/-- MLOAD, MSTORE (32 bytes) and MSTORE8 (1 byte) with the offset `o` on top of the stack: the lookup reports
    `memNeed o 32` resp. `memNeed o 1` — what `mload_refines` / `mstore_refines` / `mstore8_refines` expand by. -/
theorem charged_size_word_access (q : Quirks) (self : Nat) (s : Frame) (o : Nat) (r : List Nat) (hs : s.stack = o :: r)
    (hg : 3 ≤ s.gas) (cost mem : Nat) (s' : Frame) (he : s'.err = none) :
    ((gasLookUp q self (opInfo 0x51) s).val = (some (cost, mem), s') → Charged q cost mem (memNeed o 32)) ∧
    ((gasLookUp q self (opInfo 0x52) s).val = (some (cost, mem), s') → Charged q cost mem (memNeed o 32)) ∧
    ((gasLookUp q self (opInfo 0x53) s).val = (some (cost, mem), s') → Charged q cost mem (memNeed o 1)) := by
  have h0 : s.stack[0]? = some o := hs ▸ rfl
  rw [opInfo_eq_infoOf 0x51 (by decide), opInfo_eq_infoOf 0x52 (by decide), opInfo_eq_infoOf 0x53 (by decide)]
  exact ⟨fun h => charged_memUint64 q self _ s 0 32 o (by decide) (by decide) (by decide) h0 hg cost mem s' h he,
    fun h => charged_memUint64 q self _ s 0 32 o (by decide) (by decide) (by decide) h0 hg cost mem s' h he,
    fun h => charged_memUint64 q self _ s 0 1 o (by decide) (by decide) (by decide) h0 hg cost mem s' h he⟩

/-- CALLDATACOPY (0x37), CODECOPY (0x39), RETURNDATACOPY (0x3e) with memory offset, data offset and length on the stack:
    the lookup reports `memNeed memOff len` — what `copy_refines` / `returndatacopy_refines` expand by. -/
theorem charged_size_copy (q : Quirks) (self : Nat) (op : Nat) (hop : op = 0x37 ∨ op = 0x39 ∨ op = 0x3e) (s : Frame)
    (memOff off len : Nat) (r : List Nat) (hs : s.stack = memOff :: off :: len :: r) (hg : 6 ≤ s.gas)
    (cost mem : Nat) (s' : Frame) (h : (gasLookUp q self (opInfo op) s).val = (some (cost, mem), s')) (he : s'.err = none) :
    Charged q cost mem (memNeed memOff len) := by
  rcases hop with rfl | rfl | rfl
  all_goals (
    rw [opInfo_eq_infoOf _ (by decide)] at h
    exact charged_mem64 q self _ s 0 2 memOff len (by decide) (by decide) (hs ▸ rfl) (hs ▸ rfl) hg cost mem s' h he)

/-- EXTCODECOPY (0x3c): the address comes first, then memory offset, code offset and length. -/
theorem charged_size_extcodecopy (q : Quirks) (self : Nat) (s : Frame) (addr memOff off len : Nat) (r : List Nat)
    (hs : s.stack = addr :: memOff :: off :: len :: r) (hg : 6 ≤ s.gas)
    (cost mem : Nat) (s' : Frame) (h : (gasLookUp q self (opInfo 0x3c) s).val = (some (cost, mem), s')) (he : s'.err = none) :
    Charged q cost mem (memNeed memOff len) := by
  rw [opInfo_eq_infoOf _ (by decide)] at h
  exact charged_mem64 q self _ s 1 3 memOff len (by decide) (by decide) (hs ▸ rfl) (hs ▸ rfl) hg cost mem s' h he

/-- SHA3 (0x20), LOG0 … LOG4 (0xa0 … 0xa4), RETURN (0xf3), REVERT (0xfd) with offset and length on top of the stack: the
    lookup reports `memNeed o l`, the size of the `memRead o l` these instructions then perform. -/
theorem charged_size_read_window (q : Quirks) (self : Nat) (op : Nat)
    (hop : op = 0x20 ∨ op = 0xa0 ∨ op = 0xa1 ∨ op = 0xa2 ∨ op = 0xa3 ∨ op = 0xa4 ∨ op = 0xf3 ∨ op = 0xfd) (s : Frame)
    (o l : Nat) (r : List Nat) (hs : s.stack = o :: l :: r) (hg : 6 ≤ s.gas)
    (cost mem : Nat) (s' : Frame) (h : (gasLookUp q self (opInfo op) s).val = (some (cost, mem), s')) (he : s'.err = none) :
    Charged q cost mem (memNeed o l) := by
  rcases hop with rfl | rfl | rfl | rfl | rfl | rfl | rfl | rfl
  all_goals (
    rw [opInfo_eq_infoOf _ (by decide)] at h
    exact charged_mem64 q self _ s 0 1 o l (by decide) (by decide) (hs ▸ rfl) (hs ▸ rfl) hg cost mem s' h he)

/-- CALL (0xf1) and CALLCODE (0xf2): gas, address, value, input window, output window.  The lookup reports the larger of the
    needs of the two windows, so both the `memRead` of the input and the `memWrite` of the output lie within what was charged. -/
theorem charged_size_call (q : Quirks) (self : Nat) (op : Nat) (hop : op = 0xf1 ∨ op = 0xf2) (s : Frame)
    (g addr value inOff inSize retOff retSize : Nat) (r : List Nat)
    (hs : s.stack = g :: addr :: value :: inOff :: inSize :: retOff :: retSize :: r) (hg : 12 ≤ s.gas)
    (cost mem : Nat) (s' : Frame) (h : (gasLookUp q self (opInfo op) s).val = (some (cost, mem), s')) (he : s'.err = none) :
    Charged q cost mem (max (memNeed retOff retSize) (memNeed inOff inSize)) := by
  rcases hop with rfl | rfl
  all_goals (
    rw [opInfo_eq_infoOf _ (by decide)] at h
    exact charged_mem64Comp q self _ s 5 6 3 4 retOff retSize inOff inSize (by decide) (by decide) (hs ▸ rfl) (hs ▸ rfl)
      (hs ▸ rfl) (hs ▸ rfl) hg cost mem s' h he)

/-- DELEGATECALL (0xf4) and STATICCALL (0xfa): the same without the value operand. -/
theorem charged_size_call_novalue (q : Quirks) (self : Nat) (op : Nat) (hop : op = 0xf4 ∨ op = 0xfa) (s : Frame)
    (g addr inOff inSize retOff retSize : Nat) (r : List Nat)
    (hs : s.stack = g :: addr :: inOff :: inSize :: retOff :: retSize :: r) (hg : 12 ≤ s.gas)
    (cost mem : Nat) (s' : Frame) (h : (gasLookUp q self (opInfo op) s).val = (some (cost, mem), s')) (he : s'.err = none) :
    Charged q cost mem (max (memNeed retOff retSize) (memNeed inOff inSize)) := by
  rcases hop with rfl | rfl
  all_goals (
    rw [opInfo_eq_infoOf _ (by decide)] at h
    exact charged_mem64Comp q self _ s 4 5 2 3 retOff retSize inOff inSize (by decide) (by decide) (hs ▸ rfl) (hs ▸ rfl)
      (hs ▸ rfl) (hs ▸ rfl) hg cost mem s' h he)

/-- CREATE (0xf0) and CREATE2 (0xf5): endowment, then offset and size of the init code in memory. The lookup reports
    `memNeed off size`, the size of the `memRead off size` that fetches the init code. -/
theorem charged_size_create (q : Quirks) (self : Nat) (op : Nat) (hop : op = 0xf0 ∨ op = 0xf5) (s : Frame)
    (value off size : Nat) (r : List Nat) (hs : s.stack = value :: off :: size :: r) (hg : 6 ≤ s.gas)
    (cost mem : Nat) (s' : Frame) (h : (gasLookUp q self (opInfo op) s).val = (some (cost, mem), s')) (he : s'.err = none) :
    Charged q cost mem (memNeed off size) := by
  rcases hop with rfl | rfl
  all_goals (
    rw [opInfo_eq_infoOf _ (by decide)] at h
    exact charged_mem64 q self _ s 1 2 off size (by decide) (by decide) (hs ▸ rfl) (hs ▸ rfl) hg cost mem s' h he)

/-- In implementation mode the second alternative of `Charged` is impossible: the lookup reports exactly the need. -/
theorem charged_impl (cost mem need : Nat) (h : Charged Quirks.impl cost mem need) : mem = need := by
  rcases h with h | ⟨h, _⟩
  · exact h
  · cases h

/-- `mstore_then_mload`: a fresh frame with gas and the operands 64 and 0xabcd -/
example : ∃ (s : Frame) (m : Mem), Rep s.mem m ∧ s.err = none ∧ s.stack = 64 :: 0xabcd :: [] ∧ 2 ≤ s.gas ∧ 64 + 32 ≤ memCap :=
  ⟨{ gas := 10, stack := [64, 0xabcd] }, Mem.empty, rep_empty, rfl, rfl, by decide, by decide⟩

/-- the mode hypotheses: `Quirks.impl` reads beyond the data as an error, pops offsets with `Pop64`, and (since the repair) a
    zero-length write touches nothing -/
example : Quirks.impl.readBeyondErr = true ∧ Quirks.impl.dataOffsetU64 = true ∧ Quirks.impl.zeroLenGrows = false := by decide

/-- `copy_impl_beyond` / `copy_impl_beyond_run`: four bytes of data, source offset 9, three bytes to memory offset 0 -/
example : ∃ (s : Frame) (m : Mem) (src : ByteArray), Rep s.mem m ∧ s.stack = 0 :: 9 :: 3 :: [] ∧ 3 ≤ s.gas ∧ s.err = none ∧
    9 < U64 ∧ 3 < U64 ∧ src.size < 9 ∧ 0 + 3 ≤ memCap :=
  ⟨{ gas := 10, stack := [0, 9, 3] }, Mem.empty, ⟨#[1, 2, 3, 4]⟩, rep_empty, rfl, by decide, rfl, by decide, by decide,
    by decide, by decide⟩

/-- `copy_impl_agrees`: the same data, source offset 2, three bytes (one of them padding) -/
example : ∃ (s : Frame) (m : Mem) (src : ByteArray), Rep s.mem m ∧ s.stack = 0 :: 2 :: 3 :: [] ∧ 3 ≤ s.gas ∧ s.err = none ∧
    2 ≤ src.size ∧ 2 + 3 < U64 ∧ 0 + 3 ≤ memCap :=
  ⟨{ gas := 10, stack := [0, 2, 3] }, Mem.empty, ⟨#[1, 2, 3, 4]⟩, rep_empty, rfl, by decide, rfl, by decide, by decide, by decide⟩

/-- the specification's copy in that situation: bytes 3, 4 and a zero -/
example : readPad [1, 2, 3, 4] 2 3 = [3, 4, 0] := by decide

/-- `jump_huge_impl`: both cases occur — position 0 of the code 5b is a valid destination, position 0 of PUSH1 5b; JUMPDEST is not -/
example : ValidJump [0x5b] 0 ∧ ¬ ValidJump (bl exCode) 0 ∧ U64 ≤ 2 ^ 64 := by
  refine ⟨⟨by decide, by decide, IsInstr.zero⟩, ?_, by decide⟩
  intro h
  exact absurd h.2.1 (by decide)

/-- part 4, non-vacuity: the stack and gas hypotheses hold for a frame about to run MSTORE, the table rows name the rules the
    theorems use, and `memNeed 64 32` is 96 (three words) -/
example : ∃ s : Frame, s.stack = 64 :: [0xabcd] ∧ 3 ≤ s.gas ∧ s.err = none ∧
    (infoOf 0x52).mem = .memUint64 0 32 ∧ (infoOf 0x37).mem = .mem64 0 2 ∧ (infoOf 0xf1).mem = .mem64Comp 5 6 3 4 ∧
    (infoOf 0xf0).mem = .mem64 1 2 ∧ memNeed 64 32 = 96 :=
  ⟨{ gas := 100, stack := [64, 0xabcd] }, rfl, by decide, rfl, by decide, by decide, by decide, by decide, by decide⟩

end Shentu.Props.C16m2

#print axioms Shentu.Props.C16m2.spec_mload_after_mstore_mem
#print axioms Shentu.Props.C16m2.mstore_then_mload
#print axioms Shentu.Props.C16m2.mstore_then_mload_both_modes
#print axioms Shentu.Props.C16m2.copy_impl_beyond
#print axioms Shentu.Props.C16m2.copy_impl_beyond_run
#print axioms Shentu.Props.C16m2.copy_impl_agrees
#print axioms Shentu.Props.C16m2.calldatacopy_codecopy_impl_fail
#print axioms Shentu.Props.C16m2.calldatacopy_codecopy_impl_agree
#print axioms Shentu.Props.C16m2.jump_huge_impl
#print axioms Shentu.Props.C16m2.jumpi_huge_impl
#print axioms Shentu.Props.C16m2.pending_error_stops
#print axioms Shentu.Props.C16m2.expansion_follows_charge
#print axioms Shentu.Props.C16m2.charged_size_word_access
#print axioms Shentu.Props.C16m2.charged_size_copy
#print axioms Shentu.Props.C16m2.charged_size_extcodecopy
#print axioms Shentu.Props.C16m2.charged_size_read_window
#print axioms Shentu.Props.C16m2.charged_size_call
#print axioms Shentu.Props.C16m2.charged_size_call_novalue
#print axioms Shentu.Props.C16m2.charged_size_create
#print axioms Shentu.Props.C16m2.charged_impl
