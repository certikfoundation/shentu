import Shentu.Proofs.ShieldFundMoney
import Shentu.Proofs.ShieldFundPayout
/-
  C04 — An approved claim is paid exactly once, in full, out of providers' stake.

  "When a shield claim proposal passes, a reimbursement for exactly the approved loss is recorded for the
   proposer, total collateral and the providers' collateral drop by exactly that amount in total (each
   provider by at most its own collateral, taken from its bonded or unbonding stake), and the coins arrive
   in the shield module account.  The beneficiary - and nobody else - can withdraw it once, only after the
   payout period, receiving exactly that amount; a claim that does not pass pays nothing."

  Property theorems only; the work is in `Shentu/Proofs/ShieldFund*.lean`.
-/
namespace Shentu.Props.C04
open Shentu Shentu.Shield Shentu.Shield.Fund

/-- the record `CreateReimbursement` writes -/
def record (e : Env) (s : State) (pid : Nat) (amount : Int) (b : Addr) : Reimb :=
  { pid := pid, amount := amount, beneficiary := b, payoutTime := e.t + s.params.payoutPeriod }

/-- Sentence 1, "a reimbursement for exactly the approved loss is recorded for the proposer": on success the record
    `{pid, amount, beneficiary, payoutTime := now + payoutPeriod}` is in the store, it is the only one under that
    proposal id, and every record under another id is unchanged. -/
theorem createReimbursement_records (e : Env) (l l' : Ledger) (s s' : State) (pid : Nat) (amount : Int) (b : Addr)
    (h : createReimbursement e l s pid amount b = .ok (l', s')) :
    s'.reimbs = s.reimbs.filter (·.pid != pid) ++ [record e s pid amount b] ∧
    record e s pid amount b ∈ s'.reimbs ∧
    (∀ r' ∈ s'.reimbs, r'.pid = pid → r' = record e s pid amount b) ∧
    (∀ r', r'.pid ≠ pid → (r' ∈ s'.reimbs ↔ r' ∈ s.reimbs)) := by
  obtain ⟨left, s1, _, hl, _, hs'⟩ := createReimbursement_ok e l l' s s' pid amount b h
  have hsame := Same.of_chain (reimburseLoop_chain hl)
  have hre : s'.reimbs = s.reimbs.filter (·.pid != pid) ++ [record e s pid amount b] := by
    rw [hs', ← hsame.reimbs]; rfl
  have hmem : ∀ r', r' ∈ s'.reimbs ↔ r' ∈ s.reimbs ∧ r'.pid ≠ pid ∨ r' = record e s pid amount b :=
    fun r' => hre ▸ Keyed.mem_refile Reimb.pid
  refine ⟨hre, (hmem _).mpr (.inr rfl), fun r' hr' hp => ((hmem r').mp hr').resolve_left fun h1 => h1.2 hp, fun r' hp => ?_⟩
  exact (hmem r').trans ⟨fun h1 => h1.elim (·.1) fun h2 => absurd (h2 ▸ rfl) hp, fun h1 => .inl ⟨h1, hp⟩⟩

/-- Sentence 1, "total collateral … drop[s] by exactly that amount": the two totals. -/
theorem createReimbursement_totals (e : Env) (l l' : Ledger) (s s' : State) (pid : Nat) (amount : Int) (b : Addr)
    (h : createReimbursement e l s pid amount b = .ok (l', s')) :
    s'.totalCollateral = s.totalCollateral - amount ∧ s'.totalClaimed = s.totalClaimed - amount := by
  obtain ⟨left, s1, _, hl, _, hs'⟩ := createReimbursement_ok e l l' s s' pid amount b h
  have ht := Tot.of_req (reimburseLoop_writes hl)
  subst hs'
  exact ⟨rfl, by show s1.totalClaimed - amount = _; rw [ht.claimed]⟩

/-- Sentence 1, "total collateral and the providers' collateral drop by exactly that amount in total": the totals drop by
    `amount`, and there is a list of payments, one per provider in store order and none negative, that adds up to exactly
    `amount`; each provider's collateral drops by its own payment (addresses and order unchanged), so the sum of the
    providers' collateral drops by exactly `amount`.
    Hypotheses: provider addresses unique (a KV store), the loss and the collaterals not negative. -/
theorem createReimbursement_collateral_exact (e : Env) (l l' : Ledger) (s s' : State) (pid : Nat) (amount : Int) (b : Addr)
    (h : createReimbursement e l s pid amount b = .ok (l', s'))
    (hn : (s.providers.map (·.addr)).Nodup) (hamt : 0 ≤ amount) (hT : 0 ≤ s.totalCollateral)
    (hc : ∀ p ∈ s.providers, 0 ≤ p.collateral) :
    s'.totalCollateral = s.totalCollateral - amount ∧ s'.totalClaimed = s.totalClaimed - amount ∧
    ∃ pays : List Int, pays.length = s.providers.length ∧ pays.sum = amount ∧ (∀ x ∈ pays, 0 ≤ x) ∧
      collView s'.providers = paidView s.providers pays ∧
      sumI (·.collateral) s'.providers = sumI (·.collateral) s.providers - amount := by
  obtain ⟨ht1, ht2⟩ := createReimbursement_totals e l l' s s' pid amount b h
  obtain ⟨hT0, hv, hsum⟩ := createReimbursement_coll e l l' s s' pid amount b h hn
  have hyr := Dec.quo_ofInt_nonneg amount s.totalCollateral hamt (by omega)
  have hlen := payList_length (Dec.quo (Dec.ofInt s.totalShield) (Dec.ofInt s.totalCollateral))
    (Dec.quo (Dec.ofInt amount) (Dec.ofInt s.totalCollateral)) s.providers s.totalShield amount
  refine ⟨ht1, ht2, _, hlen, hsum hamt, payList_nonneg _ _ hyr s.providers hc _ _, hv, ?_⟩
  rw [sumI_collView, hv, sum_paidView _ _ hlen, hsum hamt]

/-- Sentence 1, "(each provider by at most its own collateral …)": when the loss does not exceed the total collateral,
    every provider's payment lies between nothing and its own collateral (so no collateral goes negative).
    Hypotheses as above plus `0 ≤ totalShield`. -/
theorem createReimbursement_each_bounded (e : Env) (l l' : Ledger) (s s' : State) (pid : Nat) (amount : Int) (b : Addr)
    (h : createReimbursement e l s pid amount b = .ok (l', s'))
    (hn : (s.providers.map (·.addr)).Nodup) (hamt : 0 ≤ amount) (hle : amount ≤ s.totalCollateral)
    (hsh : 0 ≤ s.totalShield) (hc : ∀ p ∈ s.providers, 0 ≤ p.collateral) :
    ∃ pays : List Int, pays.length = s.providers.length ∧
      collView s'.providers = paidView s.providers pays ∧
      (∀ x ∈ List.zip s.providers pays, 0 ≤ x.2 ∧ x.2 ≤ x.1.collateral) ∧
      (∀ q ∈ s'.providers, 0 ≤ q.collateral) := by
  obtain ⟨hT0, hv, _⟩ := createReimbursement_coll e l l' s s' pid amount b h hn
  have hTpos : 0 < s.totalCollateral := by omega
  have hpr := Dec.quo_ofInt_nonneg s.totalShield s.totalCollateral hsh hTpos
  have hyr := Dec.quo_ofInt_nonneg amount s.totalCollateral hamt hTpos
  have hyr1 := Dec.quo_ofInt_le_one amount s.totalCollateral hamt hTpos hle
  have hb := payList_bounded _ _ hpr hyr hyr1 s.providers hc s.totalShield amount hsh
  refine ⟨_, payList_length _ _ _ _ _, hv, hb, ?_⟩
  intro q hq
  have hq' : (q.addr, q.collateral) ∈ collView s'.providers := List.mem_map_of_mem (f := fun q : Provider => (q.addr, q.collateral)) hq
  rw [hv] at hq'
  obtain ⟨x, hx, hxe⟩ := mem_paidView _ _ _ hq'
  have := hb x hx
  simp only [Prod.mk.injEq] at hxe
  omega

/-- Sentence 1, "and the coins arrive in the shield module account": the module balance grows by exactly the loss;
    the coins come out of the bonded pool, nobody else's balance moves. -/
theorem createReimbursement_coins_arrive (e : Env) (l l' : Ledger) (s s' : State) (pid : Nat) (amount : Int) (b : Addr)
    (h : createReimbursement e l s pid amount b = .ok (l', s'))
    (hbp : e.bondedPool ≠ e.modAddr) (hamt : 0 ≤ amount) :
    l'.balOf e.modAddr e.bond = l.balOf e.modAddr e.bond + amount ∧
    (∀ a d, a ≠ e.bondedPool → a ≠ e.modAddr → l'.balOf a d = l.balOf a d) := by
  obtain ⟨left, s1, _, hl, hleft, _⟩ := createReimbursement_ok e l l' s s' pid amount b h
  obtain ⟨_, hbal, hnn⟩ := reimburseLoop_spec e _ _ hbp _ _ _ _ _ _ _ _ hl
  have := hnn hamt
  exact ⟨by rw [hbal]; omega, reimburseLoop_ledger e _ _ _ _ _ _ _ _ _ _ hl⟩

/-- Sentence 2, "the beneficiary - and nobody else - can withdraw it …, only after the payout period": the withdrawal
    succeeds iff a record under the proposal id exists, the caller is its beneficiary, the payout time has come and the
    module account can pay (the amount is not negative and is covered). -/
theorem withdrawReimbursement_ok_iff (e : Env) (l : Ledger) (s : State) (pid : Nat) (a : Addr) :
    (∃ l' s', withdrawReimbursement e l s pid a = .ok (l', s')) ↔
      ∃ r, s.reimbs.find? (·.pid == pid) = some r ∧ r.beneficiary = a ∧ r.payoutTime ≤ e.t ∧
        0 ≤ r.amount ∧ r.amount ≤ l.balOf e.modAddr e.bond := by
  constructor
  · rintro ⟨l', s', h⟩
    obtain ⟨r, hr, hb, ht, hs, _⟩ := withdrawReimbursement_iff.mp h
    exact ⟨r, hr, hb, ht, (Ledger.send_single_succeeds_iff l e.modAddr a e.bond r.amount).mp ⟨l', hs⟩⟩
  · rintro ⟨r, hr, hb, ht, h0, hc⟩
    exact withdrawReimbursement_accept e l s pid a r hr hb ht h0 hc

/-- Sentence 2, "… receiving exactly that amount": on success the coins are one move of the recorded amount from the
    module account to the caller (whose balance grows by exactly that amount), the record is gone and every record under
    another id is unchanged. -/
theorem withdrawReimbursement_pays (e : Env) (l l' : Ledger) (s s' : State) (pid : Nat) (a : Addr)
    (h : withdrawReimbursement e l s pid a = .ok (l', s')) :
    ∃ r, s.reimbs.find? (·.pid == pid) = some r ∧ r.beneficiary = a ∧ r.payoutTime ≤ e.t ∧
      l' = l.move e.modAddr a [(e.bond, r.amount)] ∧
      (a ≠ e.modAddr → l'.balOf a e.bond = l.balOf a e.bond + r.amount) ∧
      s'.reimbs = s.reimbs.filter (·.pid != pid) ∧
      (∀ r' ∈ s'.reimbs, r'.pid ≠ pid) ∧
      (∀ r', r'.pid ≠ pid → (r' ∈ s'.reimbs ↔ r' ∈ s.reimbs)) := by
  obtain ⟨r, hr, hb, ht, hs, rfl⟩ := withdrawReimbursement_iff.mp h
  have hmove := Ledger.send_ok _ _ _ _ _ hs
  refine ⟨r, hr, hb, ht, hmove, ?_, rfl, ?_, ?_⟩
  · intro hne
    rw [hmove, move_in _ _ _ _ _ (Ne.symm hne), Coins.amountOf_single_cons, if_pos rfl]
  · intro r' hr'
    have := (List.mem_filter.mp hr').2
    simpa using this
  · intro r' hp
    constructor
    · intro hr'; exact (List.mem_filter.mp hr').1
    · intro hr'; exact List.mem_filter.mpr ⟨hr', by simpa using hp⟩

/-- Sentence 2, "… can withdraw it once": after a successful withdrawal, any further withdrawal under the same proposal id —
    by anybody, at any time, from any ledger — fails: the record is gone. -/
theorem withdraw_twice_fails (e : Env) (l l' : Ledger) (s s' : State) (pid : Nat) (a : Addr)
    (h : withdrawReimbursement e l s pid a = .ok (l', s')) (e2 : Env) (l2 : Ledger) (a2 : Addr) :
    withdrawReimbursement e2 l2 s' pid a2 = err "shield:reimbursement-not-found" := by
  obtain ⟨_, _, _, _, _, _, hre, _, _⟩ := withdrawReimbursement_pays e l l' s s' pid a h
  unfold withdrawReimbursement
  rw [hre, show (s.reimbs.filter (·.pid != pid)).find? (·.pid == pid) = none from
    (Keyed.find_remove Reimb.pid pid pid _).trans (if_pos rfl)]

/-- Sentence 3, "a claim that does not pass pays nothing": when a claim proposal is vetoed, rejected or fails, no
    reimbursement is recorded or changed and no coin moves. -/
theorem unpaid_claim_pays_nothing (e : Env) (l l' : Ledger) (s s' : State) (pid poolID : Nat) (restoreTo beneficiary : Addr)
    (purchaseID : Nat) (loss : Int) (o : ClaimOutcome) (ho : o ≠ .paid)
    (h : claimEnds e l s pid poolID restoreTo beneficiary purchaseID loss o = .ok (l', s')) :
    l' = l ∧ s'.reimbs = s.reimbs := by
  cases o with
  | paid => exact absurd rfl ho
  | vetoed =>
    simp only [claimEnds] at h
    injection h with h; injection h with h1 h2; subst h1 h2
    exact ⟨rfl, rfl⟩
  | rejected =>
    simp only [claimEnds] at h
    injection h with h; injection h with h1 h2; subst h1 h2
    exact ⟨rfl, by rw [claimEnd, restoreShield_writes]⟩
  | failed =>
    simp only [claimEnds] at h
    injection h with h; injection h with h1 h2; subst h1 h2
    exact ⟨rfl, rfl⟩

section Example

def exParams : Params :=
  { protection := 1000, withdrawPeriod := 100, feesRate := ⟨10000000000000000⟩, poolLimit := ⟨500000000000000000⟩,
    minPurchase := 1, stakingRate := ⟨2000000000000000000⟩, payoutPeriod := 50 }

def exState0 : State :=
  { admin := "admin", pools := [{ id := 1, shield := 0, limit := 1000, active := true, sponsor := "sp", sponsorAddr := "spa" }],
    lists := [], providers := [], withdraws := [], stakes := [], origStakings := [], reimbs := [],
    totalCollateral := 0, totalWithdrawing := 0, totalShield := 0, totalClaimed := 0, serviceFees := Dec.zero,
    remaining := Dec.zero, blockFees := Dec.zero, stakingPool := 0, lastUpdate := zeroTime, nextPool := 2, nextPurchase := 1,
    params := exParams }

def exLedger0 : Ledger :=
  { posts := [("alice", "uctk", 1000), ("admin", "uctk", 1000), ("bob", "uctk", 1000), ("bonded", "uctk", 5000)],
    supply := [("uctk", 8000)] }

def exEnv (t : Int) : Env :=
  { t := t, bond := "uctk", modAddr := "shield", bondedPool := "bonded",
    bondedAfter := fun a => if a == "alice" then some 500 else some 300 }

def okL (c : Ledger × State) (r : Except Err (Ledger × State)) : Ledger × State := r.toOption.getD c
def okS (c : Ledger × State) (r : Except Err State) : Ledger × State := (c.1, r.toOption.getD c.2)

/-- alice deposits 500, bob 300; the admin buys 200 of shield; bob queues a withdrawal of 290; a claim of 77 is secured -/
def exBefore : Ledger × State :=
  let c1 := okS (exLedger0, exState0) (deposit (exEnv 1000) exState0 "alice" [("uctk", 500)])
  let c2 := okS c1 (deposit (exEnv 1000) c1.2 "bob" [("uctk", 300)])
  let c3 := okL c2 (purchase (exEnv 1000) c2.1 c2.2 1 [("uctk", 200)] "admin" false)
  let c4 := okS c3 (withdrawCollateral (exEnv 1000) c3.2 "bob" 290)
  okS c4 (secureCollaterals (exEnv 1100) c4.2 1 "admin" 1 77 100)

/-- the claim passes at time 1200 -/
def exAfter : Ledger × State :=
  okL exBefore (createReimbursement (exEnv 1200) exBefore.1 exBefore.2 7 77 "admin")

/-- the state before the payout meets every hypothesis of the payout theorems, and the payout succeeds -/
example : (createReimbursement (exEnv 1200) exBefore.1 exBefore.2 7 77 "admin").toOption.isSome = true ∧
    (exBefore.2.providers.map (·.addr)).Nodup ∧ (0 : Int) ≤ 77 ∧ 77 ≤ exBefore.2.totalCollateral ∧
    0 ≤ exBefore.2.totalShield ∧ (∀ p ∈ exBefore.2.providers, 0 ≤ p.collateral) ∧
    (exEnv 1200).bondedPool ≠ (exEnv 1200).modAddr := by decide +kernel

/-- what the theorems say about it, checked by evaluation: the totals (800 → 723, claimed 77 → 0), the providers'
    collateral (500, 300 → 451, 272: payments 49 + 28 = 77, bob's partly out of his queued withdrawal),
    the coins (2 of fees → 79), the record -/
example : exBefore.2.totalCollateral = 800 ∧ exBefore.2.totalClaimed = 77 ∧
    collView exBefore.2.providers = [("alice", 500), ("bob", 300)] ∧ exBefore.1.balOf "shield" "uctk" = 2 ∧
    exAfter.2.totalCollateral = 723 ∧ exAfter.2.totalClaimed = 0 ∧
    collView exAfter.2.providers = [("alice", 451), ("bob", 272)] ∧ exAfter.1.balOf "shield" "uctk" = 79 ∧
    exAfter.1.balOf "bonded" "uctk" = 4923 ∧
    exAfter.2.reimbs = [{ pid := 7, amount := 77, beneficiary := "admin", payoutTime := 1250 }] ∧
    exAfter.2.withdraws.map (·.amount) = [262] := by decide +kernel

/-- the withdrawal: too early it fails, somebody else fails, the beneficiary succeeds after the payout period and
    receives 77, a second attempt fails -/
example :
    (withdrawReimbursement (exEnv 1249) exAfter.1 exAfter.2 7 "admin").toOption.isSome = false ∧
    (withdrawReimbursement (exEnv 1250) exAfter.1 exAfter.2 7 "bob").toOption.isSome = false ∧
    (withdrawReimbursement (exEnv 1250) exAfter.1 exAfter.2 7 "admin").toOption.isSome = true ∧
    (okL exAfter (withdrawReimbursement (exEnv 1250) exAfter.1 exAfter.2 7 "admin")).1.balOf "admin" "uctk" =
      exAfter.1.balOf "admin" "uctk" + 77 ∧
    (withdrawReimbursement (exEnv 1300) (okL exAfter (withdrawReimbursement (exEnv 1250) exAfter.1 exAfter.2 7 "admin")).1
      (okL exAfter (withdrawReimbursement (exEnv 1250) exAfter.1 exAfter.2 7 "admin")).2 7 "admin").toOption.isSome = false := by
  decide +kernel

/-- a claim that is rejected: the shield is restored, nothing is recorded, no coin moves -/
example : (claimEnds (exEnv 1200) exBefore.1 exBefore.2 7 1 "admin" "admin" 1 77 .rejected).toOption.map
    (fun c => (c.1.balOf "shield" "uctk", c.2.reimbs, c.2.totalClaimed, c.2.totalShield)) = some (2, [], 0, 200) := by decide +kernel

end Example

end Shentu.Props.C04
