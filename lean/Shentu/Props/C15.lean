import Shentu.Proofs.OracleEffect
import Shentu.Proofs.DecRound
/-
  C15 — Oracle tasks are scored once, fairly weighted, and never overpay the bounty.
  Property theorems only; the model consumes the guards and formulas regenerated from
  x/oracle/keeper/task.go, msg_server.go, operator.go (`Shentu/Gen/Oracle.lean`).
-/
namespace Shentu.Props.C15
open Shentu Shentu.Oracle

theorem tie_sites : Gen.Oracle.allFound = true := by decide

/-- every reward coin is built in the denomination of the bounty coin being distributed -/
theorem tie_reward_denoms : Gen.Oracle.rewardDenoms = ["bounty.Denom", "bounty.Denom", "bounty.Denom"] := rfl

/-- A response is accepted exactly when the signer is a current operator, the task exists, the closing
    block has not passed, the operator has not responded before and the score is in [0,100]. -/
theorem respond_iff (e : Env) (s : State) (c f : String) (score : Int) (op : Addr) :
    (∃ s', respond e s c f score op = .ok s') ↔
      isOp s op = true ∧ ∃ t, findTask s (c ++ f) = some t ∧ e.h ≤ t.closing ∧
        t.responses.any (·.op == op) = false ∧ 0 ≤ score ∧ score ≤ 100 := by
  constructor
  · rintro ⟨_, h⟩
    obtain ⟨hop, t, ht, hcl, hdup, h0, h100, _⟩ := respond_ok_iff.mp h
    exact ⟨hop, t, ht, hcl, hdup, h0, h100⟩
  · rintro ⟨hop, t, ht, hcl, hdup, h0, h100⟩
    exact ⟨_, respond_ok_iff.mpr ⟨hop, t, ht, hcl, hdup, h0, h100, rfl⟩⟩

/-- an accepted response appends exactly one entry for that operator -/
theorem respond_appends (e : Env) (s s' : State) (c f : String) (score : Int) (op : Addr)
    (h : respond e s c f score op = .ok s') :
    ∃ t, findTask s (c ++ f) = some t ∧
      s' = setTask s { t with responses := t.responses ++ [{ op := op, score := score, weight := 0, reward := [] }] } := by
  obtain ⟨_, t, ht, _, _, _, _, hs⟩ := respond_ok_iff.mp h
  exact ⟨t, ht, hs⟩

/-- A task is removed exactly when it exists, the signer is its creator, its closing block has passed,
    and it has expired unless the removal is forced. -/
theorem delete_iff (e : Env) (s : State) (c f : String) (force : Bool) (deleter : Addr) :
    (∃ s', deleteTask e s c f force deleter = .ok s') ↔
      ∃ t, findTask s (c ++ f) = some t ∧ (force = true ∨ t.expiration < e.t) ∧ t.closing < e.h ∧ t.creator = deleter := by
  constructor
  · rintro ⟨_, h⟩
    obtain ⟨t, ht, h1, h2, h3, _⟩ := deleteTask_ok_iff.mp h
    exact ⟨t, ht, h1, h2, h3⟩
  · rintro ⟨t, ht, h1, h2, h3⟩
    exact ⟨_, deleteTask_ok_iff.mpr ⟨t, ht, h1, h2, h3, rfl⟩⟩

/-! ### Creation: a task always closes in the future of its creation and cannot be replaced before it closed -/

/-- creation is refused for a negative waiting period and while an earlier task under the same key has not
    been closed by the end-blocker of its closing block -/
theorem create_guards (e : Env) (l l' : Ledger) (s s' : State) (c f : String) (b : Coins) (cr : Addr) (w v : Int)
    (h : createTask e l s c f b cr w v = .ok (l', s')) :
    0 ≤ (if w = 0 then s.params.window else w) ∧ ∀ old, findTask s (c ++ f) = some old → old.closing < e.h := by
  obtain ⟨_, _, _, rfl, hpre, hw, _⟩ := createTask_ok h
  refine ⟨by simpa only [Gen.Oracle.waitIsDefault, beq_iff_eq] using hw, fun old ho => ?_⟩
  rcases hpre with ⟨hn, _⟩ | ⟨old', ho', hc, _⟩
  · rw [hn] at ho; cases ho
  · rw [ho'] at ho; cases ho; exact hc

/-! ### Aggregation happens once -/

/-- only a pending task can be aggregated … -/
theorem aggregate_requires_pending (bond : Denom) (s s' : State) (key : String) (h : aggregate bond s key = .ok s') :
    ∃ t, findTask s key = some t ∧ t.status = 1 := by
  obtain ⟨t, _, ht, hp, _⟩ := aggregate_ok h
  exact ⟨t, ht, hp⟩

/-- … and aggregation leaves it succeeded or failed, so a second aggregation of the same record is refused -/
theorem aggregate_finalises (bond : Denom) (s s' : State) (key : String) (h : aggregate bond s key = .ok s') :
    ∃ t t', findTask s key = some t ∧ s' = setTask s t' ∧ t'.contract = t.contract ∧ t'.function = t.function ∧
      (t'.status = 2 ∨ t'.status = 3) ∧ t'.bounty = t.bounty ∧ t'.closing = t.closing := by
  obtain ⟨t, t', ht, _, hfin, rfl⟩ := aggregate_ok h
  exact ⟨t, t', ht, rfl, hfin.contract, hfin.function, hfin.status, hfin.bounty, hfin.closing⟩

/-- with no usable response (no responder is a current operator with positive collateral) the task fails
    and keeps the default result -/
theorem no_usable_response_fails (bond : Denom) (s s' : State) (key : String) (t : Task) (a : Agg)
    (ht : findTask s key = some t) (hp : t.status = 1)
    (ha : aggFold bond s t.responses { result := Gen.Oracle.aggInit s.params.aggRes, total := 0, minC := 0, rs := [] } = .ok a)
    (hz : a.total ≤ 0) (h : aggregate bond s key = .ok s') :
    s' = setTask s { t with responses := a.rs, result := s.params.aggRes, status := 3 } := by
  rw [aggregate_eq_pure, ht] at h
  dsimp only at h
  rw [if_neg (by rw [Gen.Oracle.aggPending_iff]; omega)] at h
  obtain rfl : aggPure bond s t.responses (aggStart s) = a := Except.ok.inj ((aggFold_eq bond s _ _).symm.trans ha)
  cases h
  unfold finishTask
  rw [if_neg (by rw [Gen.Oracle.aggHasCollateral_iff]; omega)]
  rfl

/-- the accumulated numerator and denominator of the aggregation fold -/
theorem aggFold_sums (bond : Denom) (s : State) :
    ∀ (rs : List Response) (a a' : Agg), aggFold bond s rs a = .ok a' →
      ∃ ws : List (Int × Int), a'.total = a.total + (ws.map (·.2)).sum ∧
        a'.result = a.result + (ws.map (fun e => e.1 * e.2)).sum ∧
        ∀ e ∈ ws, ∃ r ∈ rs, e.1 = r.score ∧ collateralAmount bond s r.op = .ok (some e.2) := by
  intro rs
  induction rs with
  | nil => intro a a' h; simp only [aggFold] at h; injection h with h; subst h; exact ⟨[], by simp, by simp, by simp⟩
  | cons r rest ih =>
    intro a a' h
    unfold aggFold at h
    split at h
    · cases h
    · obtain ⟨ws, h1, h2, h3⟩ := ih _ _ h
      refine ⟨ws, h1, h2, fun e he => ?_⟩
      obtain ⟨r', hr', hh⟩ := h3 e he
      exact ⟨r', List.mem_cons_of_mem _ hr', hh⟩
    · rename_i amt hc
      dsimp only at h
      obtain ⟨ws, h1, h2, h3⟩ := ih _ _ h
      refine ⟨(r.score, amt) :: ws, ?_, ?_, ?_⟩
      · simp only [List.map_cons, List.sum_cons] at *; rw [h1]; omega
      · simp only [List.map_cons, List.sum_cons] at *; rw [h2]; unfold Gen.Oracle.aggAccum; omega
      · intro e he
        rcases List.mem_cons.mp he with h | h
        · subst h; exact ⟨r, List.mem_cons_self, rfl, hc⟩
        · obtain ⟨r', hr', hh⟩ := h3 e h
          exact ⟨r', List.mem_cons_of_mem _ hr', hh⟩

/-- **Fair weighting.** Outside the minimum-score regime the stored result is the truncated quotient of
    Σ scoreᵢ·collateralᵢ by Σ collateralᵢ: it lies within one unit of the collateral-weighted mean. -/
theorem mean_within_one (S W : Int) (hW : 0 < W) (hS : 0 ≤ S) :
    let r := Gen.Oracle.aggMean (Gen.Oracle.aggInit 0 + S) W
    r * W ≤ S ∧ S < (r + 1) * W := by
  unfold Gen.Oracle.aggMean Gen.Oracle.aggInit
  simp only [Int.zero_add]
  exact ⟨DecRound.tdiv_mul_le S W hS hW, DecRound.lt_tdiv_succ_mul S W hS hW⟩

/-- the starting value of the sum does not depend on the default result (it is zero) -/
theorem aggInit_zero (aggRes : Int) : Gen.Oracle.aggInit aggRes = 0 := rfl

/-! ### The bounty is never overpaid -/

/-- Arithmetic core: integer shares `⌊b·wᵢ/W⌋` of a bounty `b` over non-negative weights summing to `W` never add up to more than `b`. -/
theorem shares_bounded (b W : Int) (ws : List Int) (hb : 0 ≤ b) (hW : 0 < W) (hws : ∀ w ∈ ws, 0 ≤ w) (hsum : ws.sum ≤ W) :
    (ws.map (fun w => Int.tdiv (b * w) W)).sum ≤ b :=
  Int.le_of_mul_le_mul_right
    (Int.le_trans (DecRound.tdiv_shares b W hb hW ws hws).1 (Int.mul_le_mul_of_nonneg_left hsum hb)) hW

/-- the three payout formulas of `DistributeBounty` are exactly `⌊bounty · weight / total⌋` with the weight that
    `TotalValidTaskCollateral` summed — the two copies in the source agree -/
theorem payout_uses_summed_weight (b c sc e1 e2 tv : Int) :
    Gen.Oracle.dbAmountMin b c tv = Int.tdiv (b * Gen.Oracle.tvWeightMin c) tv ∧
    Gen.Oracle.dbAmountLow b c sc e1 tv = Int.tdiv (b * Gen.Oracle.tvWeightLow c sc e1) tv ∧
    Gen.Oracle.dbAmountHigh b c sc e2 tv = Int.tdiv (b * Gen.Oracle.tvWeightHigh c sc e2) tv :=
  ⟨rfl, rfl, rfl⟩

/-- … and select the same branch and the same responders -/
theorem payout_same_selection (s : State) (t : Task) (b : Nat) (r : Response) :
    branchDB s t = branch s t ∧ eligibleDB s b r = eligible s b r :=
  ⟨rfl, eligibleDB_eq s b r⟩

/-- weights are non-negative for scores in range and non-negative collateral -/
theorem weights_nonneg (c sc e1 e2 : Int) (hc : 0 ≤ c) (h0 : 0 ≤ sc) (h100 : sc ≤ 100) (he1 : 0 ≤ e1) (he2 : 0 ≤ e2) :
    0 ≤ Gen.Oracle.tvWeightMin c ∧ 0 ≤ Gen.Oracle.tvWeightLow c sc e1 ∧ 0 ≤ Gen.Oracle.tvWeightHigh c sc e2 := by
  unfold Gen.Oracle.tvWeightMin Gen.Oracle.tvWeightLow Gen.Oracle.tvWeightHigh Gen.Oracle.amplifier Gen.Oracle.maxScore
  refine ⟨hc, Int.tdiv_nonneg (Int.mul_nonneg (by decide) hc) (by omega), Int.tdiv_nonneg (Int.mul_nonneg (by decide) hc) (by omega)⟩

example : (([3, 5, 7] : List Int).map (fun w => Int.tdiv (10 * w) 15)).sum ≤ 10 := by decide

end Shentu.Props.C15

#print axioms Shentu.Props.C15.respond_iff
#print axioms Shentu.Props.C15.delete_iff
#print axioms Shentu.Props.C15.create_guards
#print axioms Shentu.Props.C15.aggregate_finalises
#print axioms Shentu.Props.C15.mean_within_one
#print axioms Shentu.Props.C15.shares_bounded
