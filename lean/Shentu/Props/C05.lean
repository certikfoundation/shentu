import Shentu.Proofs.ShieldPoolClaim
import Shentu.Props.C03b
/-
  C05 — Claims are admitted only against live protection, and locks are undone.

  "A shield claim proposal is accepted only if the proposer holds the referenced purchase in the referenced pool,
   that purchase's protection has not ended, its remaining shield covers the loss, and the initial deposit is at
   least the larger of the minimum claim deposit and the deposit rate times the loss.  On acceptance exactly the
   loss is moved from that purchase, its pool and the total shield into the amount locked for claims; when the
   proposal ends the locked amount is released, and unless the claim was paid or vetoed the shield is restored to
   that same purchase."

  Property theorems only.  `findPurchase s pool holder id` (Shentu/Proofs/ShieldPoolClaim.lean) is what a client
  reads: the first entry with that id in the holder's list for the pool.
-/
namespace Shentu.Props.C05
open Shentu Shentu.Shield Shentu.Shield.PoolLm

/-- **Admission rule** (first sentence of C05), with the model's `find?` semantics: the claim is admitted iff the holder
    has a purchase list in that pool whose first entry with the purchase id has its protection not ended
    (`endTime ≥ now`), has at least `loss` of shield left, and the deposit is at least the minimum claim deposit and
    at least rate × loss (`Dec` comparison as the keeper makes it). -/
theorem admitted_iff (s : State) (now : Int) (holder : Addr) (pool purchase : Nat) (loss deposit : Int) :
    claimAdmissible s now holder pool purchase loss deposit = none ↔
      ∃ l en, findList s pool holder = some l ∧ l.entries.find? (·.id == purchase) = some en ∧
        en.endTime ≥ now ∧ en.shield ≥ loss ∧ deposit ≥ s.params.claimMinDeposit ∧
        Dec.lt (Dec.ofInt deposit) (Dec.mul (Dec.ofInt loss) s.params.claimDepositRate) = false := by
  unfold claimAdmissible
  rw [guard_none]
  cases findList s pool holder with
  | none => simp only [reduceCtorEq, and_false, false_and, exists_const]
  | some l =>
    simp only [Option.some.injEq, exists_and_left, exists_eq_left']
    cases l.entries.find? (·.id == purchase) with
    | none => simp only [reduceCtorEq, and_false, false_and, exists_const]
    | some en =>
      simp only [guard_none, Option.some.injEq, exists_eq_left', and_true, Bool.or_eq_true, decide_eq_true_eq, not_or,
        Bool.not_eq_true, Bool.not_eq_true', decide_eq_false_iff_not, Decidable.not_not, Int.not_lt, ge_iff_le]
      exact ⟨fun ⟨⟨h1, h2⟩, h3, h4⟩ => ⟨h4, h3, h2, h1⟩, fun ⟨h4, h3, h2, h1⟩ => ⟨⟨h1, h2⟩, h3, h4⟩⟩

/-- the same rule read through `findPurchase`, with the deposit condition spelled out on the 18-digit representation:
    "the initial deposit is at least the larger of the minimum claim deposit and the deposit rate times the loss" -/
theorem admitted_iff' (s : State) (now : Int) (holder : Addr) (pool purchase : Nat) (loss deposit : Int) :
    claimAdmissible s now holder pool purchase loss deposit = none ↔
      ∃ en, findPurchase s pool holder purchase = some en ∧ now ≤ en.endTime ∧ loss ≤ en.shield ∧
        s.params.claimMinDeposit ≤ deposit ∧
        (Dec.mul (Dec.ofInt loss) s.params.claimDepositRate).raw ≤ (Dec.ofInt deposit).raw := by
  rw [admitted_iff]
  constructor
  · rintro ⟨l, en, hl, hen, h1, h2, h3, h4⟩
    refine ⟨en, (findPurchase_some_iff _ _ _ _ _).mpr ⟨l, hl, hen⟩, h1, h2, h3, ?_⟩
    simpa [Dec.lt] using h4
  · rintro ⟨en, hf, h1, h2, h3, h4⟩
    rcases (findPurchase_some_iff _ _ _ _ _).mp hf with ⟨l, hl, hen⟩
    exact ⟨l, en, hl, hen, h1, h2, h3, by simpa [Dec.lt] using h4⟩

/-- "the proposer holds the referenced purchase in the referenced pool": an admitted claim names a purchase record that
    is stored in a list of that pool owned by the holder and carries the purchase id -/
theorem admitted_holds (s : State) (now : Int) (holder : Addr) (pool purchase : Nat) (loss deposit : Int)
    (h : claimAdmissible s now holder pool purchase loss deposit = none) :
    ∃ l ∈ s.lists, l.pool = pool ∧ l.purchaser = holder ∧ ∃ en ∈ l.entries, en.id = purchase ∧ now ≤ en.endTime ∧ loss ≤ en.shield := by
  rcases (admitted_iff _ _ _ _ _ _ _).mp h with ⟨l, en, hl, hen, h1, h2, _, _⟩
  have hk := findList_key hl
  exact ⟨l, findList_mem hl, hk.1, hk.2, en, List.mem_of_find?_eq_some hen, (Keyed.of_find (κ := fun x : Purchase => x.id) hen).2, h1, h2⟩

/-- in a store with consistent books (`PoolInv`: purchase ids are unique) the admitted purchase is the only record with
    that id anywhere: a foreign purchase id (held by somebody else, or in another pool) is never admitted -/
theorem foreign_purchase_rejected {s : State} (hinv : PoolInv s) (now : Int) (holder : Addr) (pool purchase : Nat) (loss deposit : Int)
    {l' : PList} (hl' : l' ∈ s.lists) (hother : ¬(l'.pool = pool ∧ l'.purchaser = holder))
    {en' : Purchase} (hen' : en' ∈ l'.entries) (hid : en'.id = purchase) :
    claimAdmissible s now holder pool purchase loss deposit ≠ none := by
  intro h
  rcases admitted_holds _ _ _ _ _ _ _ h with ⟨l, hl, hp, ha, en, hen, hide, _, _⟩
  have hne : l ≠ l' := by
    intro hc; subst hc; exact hother ⟨hp, ha⟩
  exact hinv.toShieldInv.apart hl hl' hne en hen en' hen' (hide.trans hid.symm)

/-- non-vacuity on `C03b.demo` at time 50 (minimum deposit 0, rate 0): purchase 1 of "aa" in pool 1 is admitted for a
    loss of 10; rejected are a foreign purchase id (2 belongs to "bb"), a non-existent id, a wrong pool, a loss above the
    remaining shield, and a claim after the protection ended -/
example : claimAdmissible C03b.demo 50 "aa" 1 1 10 0 = none := by decide +kernel
example : claimAdmissible C03b.demo 50 "aa" 1 2 10 0 = some "purchase-not-held" := by decide +kernel
example : claimAdmissible C03b.demo 50 "aa" 1 9 10 0 = some "purchase-not-held" := by decide +kernel
example : claimAdmissible C03b.demo 50 "aa" 2 1 10 0 = some "no-purchase-list" := by decide +kernel
example : claimAdmissible C03b.demo 50 "aa" 1 1 51 0 = some "shield-below-loss" := by decide +kernel
example : claimAdmissible C03b.demo 101 "aa" 1 1 10 0 = some "protection-ended" := by decide +kernel
/-- with a minimum deposit of 5 and a rate of 1/2: deposit 5 covers loss 10, deposit 4 does not, deposit 5 does not cover loss 12 -/
example : let s := { C03b.demo with params := { C03b.demo.params with claimMinDeposit := 5, claimDepositRate := ⟨Dec.half⟩ } }
    claimAdmissible s 50 "aa" 1 1 10 5 = none ∧ claimAdmissible s 50 "aa" 1 1 10 4 = some "deposit-too-small" ∧
    claimAdmissible s 50 "aa" 1 1 12 5 = some "deposit-too-small" := by decide +kernel

/-- **On acceptance exactly the loss is moved** (second sentence): the exact post-state of `secureCollaterals` when the
    holder's list contains the purchase id.  The first entry with that id loses `loss` of shield and its deletion time
    becomes `max delTime (e.t + dur)` (`lockedEntry`); the pool and `totalShield` lose `loss`; `totalClaimed` gains `loss`;
    every other field of the store — providers (collateral, withdrawing, bonded, rewards), stakes, reimbursements,
    fees, the other totals — is unchanged, except that the withdrawal queue `q` may have been re-arranged by delays. -/
theorem lock_exact {e : Env} {s s' : State} {pool : Nat} {holder : Addr} {purchase : Nat} {loss dur : Int}
    (h : secureCollaterals e s pool holder purchase loss dur = .ok s')
    {lst : PList} (hl : findList s pool holder = some lst) {en : Purchase}
    (hen : lst.entries.find? (·.id == purchase) = some en) :
    ∃ p q, findPool s pool = some p ∧ loss ≤ en.shield ∧ loss ≤ p.shield ∧
      s' = { s with
             withdraws := q,
             lists := s.lists.map (fun x => if x.pool == pool && x.purchaser == holder then
               { pool := pool, purchaser := holder,
                 entries := replaceFirst (·.id == purchase) (fun _ => lockedEntry e en loss dur) lst.entries } else x),
             pools := s.pools.map (fun x => if x.id == pool then { p with shield := p.shield - loss } else x),
             totalShield := s.totalShield - loss, totalClaimed := s.totalClaimed + loss } := by
  rcases secureCollaterals_exact h hl hen with ⟨p, q, h1, h2, h3, _, h5⟩
  exact ⟨p, q, h1, h2, h3, h5⟩

/-- the locked purchase record: `loss` less shield, deletion time `max delTime (e.t + dur)`, everything else as before -/
theorem lockedEntry_fields (e : Env) (en : Purchase) (loss dur : Int) :
    (lockedEntry e en loss dur).shield = en.shield - loss ∧
    (lockedEntry e en loss dur).delTime = max en.delTime (e.t + dur) ∧
    (lockedEntry e en loss dur).id = en.id ∧ (lockedEntry e en loss dur).endTime = en.endTime ∧
    (lockedEntry e en loss dur).fees = en.fees :=
  ⟨rfl, lockedEntry_delTime e en loss dur, rfl, rfl, rfl⟩

/-- the lock as a reader of the store sees it: that purchase becomes `lockedEntry`, every other
    (pool, holder, purchase id) reads as before; that pool loses `loss`, every other pool reads as before;
    `totalShield` drops and `totalClaimed` grows by exactly `loss` -/
theorem lock_exact_reads {e : Env} {s s' : State} {pool : Nat} {holder : Addr} {purchase : Nat} {loss dur : Int}
    (h : secureCollaterals e s pool holder purchase loss dur = .ok s')
    {en : Purchase} (hen : findPurchase s pool holder purchase = some en) :
    findPurchase s' pool holder purchase = some (lockedEntry e en loss dur) ∧
    (∀ pool' holder' id', ¬(pool' = pool ∧ holder' = holder ∧ id' = purchase) →
      findPurchase s' pool' holder' id' = findPurchase s pool' holder' id') ∧
    (∃ p, findPool s pool = some p ∧ findPool s' pool = some { p with shield := p.shield - loss }) ∧
    (∀ pool', pool' ≠ pool → findPool s' pool' = findPool s pool') ∧
    s'.totalShield = s.totalShield - loss ∧ s'.totalClaimed = s.totalClaimed + loss := by
  rcases (findPurchase_some_iff _ _ _ _ _).mp hen with ⟨lst, hl, hen'⟩
  rcases lock_exact h hl hen' with ⟨p, q, hfp, _, _, hs⟩
  have hr := reads_replace (s' := s') (f := fun _ => lockedEntry e en loss dur) (p' := { p with shield := p.shield - loss })
    hl (fun _ _ => (Keyed.of_find (κ := fun x : Purchase => x.id) hen').2) hfp rfl (by rw [hs]) (by rw [hs])
  rw [hen] at hr
  exact ⟨hr.1, hr.2.1, ⟨p, hfp, hr.2.2.1⟩, hr.2.2.2, by rw [hs], by rw [hs]⟩

/-- the lock leaves providers, stakes, reimbursements, fees and the collateral totals alone -/
theorem lock_exact_frame {e : Env} {s s' : State} {pool : Nat} {holder : Addr} {purchase : Nat} {loss dur : Int}
    (h : secureCollaterals e s pool holder purchase loss dur = .ok s') :
    s'.providers = s.providers ∧ s'.stakes = s.stakes ∧ s'.stakingPool = s.stakingPool ∧ s'.origStakings = s.origStakings ∧
    s'.reimbs = s.reimbs ∧ s'.serviceFees = s.serviceFees ∧ s'.remaining = s.remaining ∧ s'.blockFees = s.blockFees ∧
    s'.totalCollateral = s.totalCollateral ∧ s'.totalWithdrawing = s.totalWithdrawing ∧ s'.params = s.params ∧
    s'.nextPool = s.nextPool ∧ s'.nextPurchase = s.nextPurchase ∧ s'.lastUpdate = s.lastUpdate ∧ s'.admin = s.admin := by
  rcases secureCollaterals_ok h with ⟨_, _, _, _, _, _, _, _, _, _, rfl⟩
  exact ⟨rfl, rfl, rfl, rfl, rfl, rfl, rfl, rfl, rfl, rfl, rfl, rfl, rfl, rfl, rfl⟩

/-- an admitted claim is locked against exactly the admitted purchase (admission and lock run on the same state in
    the same transaction): the fallback of `secureCollaterals` to the first entry of the list is never taken -/
theorem admitted_lock_exact {e : Env} {s s' : State} {pool : Nat} {holder : Addr} {purchase : Nat} {loss dur deposit : Int}
    (hadm : claimAdmissible s e.t holder pool purchase loss deposit = none)
    (h : secureCollaterals e s pool holder purchase loss dur = .ok s') :
    ∃ en, findPurchase s pool holder purchase = some en ∧ e.t ≤ en.endTime ∧ loss ≤ en.shield ∧
      findPurchase s' pool holder purchase = some (lockedEntry e en loss dur) ∧
      s'.totalShield = s.totalShield - loss ∧ s'.totalClaimed = s.totalClaimed + loss := by
  rcases (admitted_iff' _ _ _ _ _ _ _).mp hadm with ⟨en, hf, h1, h2, _, _⟩
  have := lock_exact_reads h hf
  exact ⟨en, hf, h1, h2, this.1, this.2.2.2.2.1, this.2.2.2.2.2⟩

/-- non-vacuity: the lock of 10 against purchase 1 of "aa" on `C03b.demo` succeeds, and reads as the theorems say -/
example : (secureCollaterals C03b.demoEnv C03b.demo 1 "aa" 1 10 100).toOption.map
      (fun s' => [[s'.totalShield, s'.totalClaimed], ((findPool s' 1).map (·.shield)).toList,
                  ((findPurchase s' 1 "aa" 1).map (fun x => [x.shield, x.delTime])).getD [],
                  ((findPurchase s' 1 "bb" 2).map (fun x => [x.shield, x.delTime])).getD []]) =
    some [[60, 10], [60], [40, 150], [20, 200]] := by decide +kernel

/-- **"when the proposal ends the locked amount is released"**: vetoed, rejected or paid, `totalClaimed` drops by exactly
    `loss` (for `paid` through `createReimbursement`) -/
theorem release_on_end {e : Env} {l l' : Ledger} {s s' : State} {pid pool : Nat} {restoreTo beneficiary : Addr} {purchase : Nat}
    {loss : Int} {o : ClaimOutcome}
    (h : claimEnds e l s pid pool restoreTo beneficiary purchase loss o = .ok (l', s')) (ho : o ≠ .failed) :
    s'.totalClaimed = s.totalClaimed - loss := by
  unfold claimEnds at h
  cases o with
  | vetoed => cases h; rfl
  | rejected =>
    cases h
    -- `restoreShield` writes pools, lists and the total shield only
    show (restoreShield s pool restoreTo purchase loss).totalClaimed - loss = _
    rw [restoreShield_writes]
  | paid => exact createReimbursement_claimed h
  | failed => exact absurd rfl ho

/-- the outcome `failed` (the proposal passed but its handler returned an error) releases nothing: the model mirrors
    governance's end-blocker, which discards the handler's writes and calls neither `ClaimEnd` nor `RestoreShield` -/
theorem failed_keeps_lock {e : Env} {l l' : Ledger} {s s' : State} {pid pool : Nat} {restoreTo beneficiary : Addr} {purchase : Nat}
    {loss : Int} (h : claimEnds e l s pid pool restoreTo beneficiary purchase loss .failed = .ok (l', s')) : s' = s ∧ l' = l := by
  unfold claimEnds at h; cases h; exact ⟨rfl, rfl⟩

/-- **"unless the claim was paid or vetoed the shield is restored to that same purchase"**, purchase still there: the exact
    post-state of a rejected claim.  The first entry with the purchase id in the holder's list, its pool and `totalShield`
    gain exactly `loss`; `totalClaimed` drops by `loss`; nothing else in the store changes. -/
theorem rejected_restores {e : Env} {l l' : Ledger} {s s' : State} {pid pool : Nat} {holder beneficiary : Addr} {purchase : Nat}
    {loss : Int} (h : claimEnds e l s pid pool holder beneficiary purchase loss .rejected = .ok (l', s'))
    {p : Pool} (hfp : findPool s pool = some p) {lst : PList} (hl : findList s pool holder = some lst) {en : Purchase}
    (hen : lst.entries.find? (·.id == purchase) = some en) :
    l' = l ∧
    s' = { s with
           totalShield := s.totalShield + loss, totalClaimed := s.totalClaimed - loss,
           pools := s.pools.map (fun x => if x.id == pool then { p with shield := p.shield + loss } else x),
           lists := s.lists.map (fun x => if x.pool == pool && x.purchaser == holder then
             { pool := pool, purchaser := holder,
               entries := replaceFirst (·.id == purchase) (fun x => { x with shield := x.shield + loss }) lst.entries } else x) } := by
  unfold claimEnds at h
  cases h
  rw [restoreShield_some hfp hl hen, shifted_exact hfp hl]
  exact ⟨rfl, rfl⟩

/-- a rejected claim as a reader of the store sees it -/
theorem rejected_restores_reads {e : Env} {l l' : Ledger} {s s' : State} {pid pool : Nat} {holder beneficiary : Addr} {purchase : Nat}
    {loss : Int} (h : claimEnds e l s pid pool holder beneficiary purchase loss .rejected = .ok (l', s'))
    {p : Pool} (hfp : findPool s pool = some p) {en : Purchase} (hen : findPurchase s pool holder purchase = some en) :
    findPurchase s' pool holder purchase = some { en with shield := en.shield + loss } ∧
    (∀ pool' holder' id', ¬(pool' = pool ∧ holder' = holder ∧ id' = purchase) →
      findPurchase s' pool' holder' id' = findPurchase s pool' holder' id') ∧
    findPool s' pool = some { p with shield := p.shield + loss } ∧
    (∀ pool', pool' ≠ pool → findPool s' pool' = findPool s pool') ∧
    s'.totalShield = s.totalShield + loss ∧ s'.totalClaimed = s.totalClaimed - loss := by
  rcases (findPurchase_some_iff _ _ _ _ _).mp hen with ⟨lst, hl, hen'⟩
  rcases rejected_restores h hfp hl hen' with ⟨_, hs⟩
  have hr := reads_replace (s' := s') (f := fun x => { x with shield := x.shield + loss }) (p' := { p with shield := p.shield + loss })
    hl (fun _ ha => ha) hfp rfl (by rw [hs]) (by rw [hs])
  rw [hen] at hr
  exact ⟨hr.1, hr.2.1, hr.2.2.1, hr.2.2.2, by rw [hs], by rw [hs]⟩

/-- a rejected claim whose pool or purchase no longer exists (closed pool, expired purchase): only the lock is released;
    nothing about purchases, pools or `totalShield` changes -/
theorem rejected_restores_absent {e : Env} {l l' : Ledger} {s s' : State} {pid pool : Nat} {holder beneficiary : Addr} {purchase : Nat}
    {loss : Int} (h : claimEnds e l s pid pool holder beneficiary purchase loss .rejected = .ok (l', s'))
    (habs : findPool s pool = none ∨ findPurchase s pool holder purchase = none) :
    l' = l ∧ s' = { s with totalClaimed := s.totalClaimed - loss } := by
  unfold claimEnds at h
  cases h
  have : restoreShield s pool holder purchase loss = s := by
    apply restoreShield_none
    rcases habs with h1 | h1
    · exact Or.inl h1
    · exact Or.inr ((findPurchase_none_iff _ _ _ _).mp h1)
  rw [this]
  exact ⟨rfl, rfl⟩

/-- a vetoed claim: only the lock is released; the shield is not restored; nothing else changes -/
theorem vetoed_restores_nothing {e : Env} {l l' : Ledger} {s s' : State} {pid pool : Nat} {holder beneficiary : Addr} {purchase : Nat}
    {loss : Int} (h : claimEnds e l s pid pool holder beneficiary purchase loss .vetoed = .ok (l', s')) :
    l' = l ∧ s' = { s with totalClaimed := s.totalClaimed - loss } := by
  unfold claimEnds at h
  cases h
  exact ⟨rfl, rfl⟩

/-- a paid claim does not touch purchases, pools, stakes or `totalShield` either: the shield stays consumed -/
theorem paid_restores_nothing {e : Env} {l l' : Ledger} {s s' : State} {pid pool : Nat} {holder beneficiary : Addr} {purchase : Nat}
    {loss : Int} (h : claimEnds e l s pid pool holder beneficiary purchase loss .paid = .ok (l', s')) :
    s'.pools = s.pools ∧ s'.lists = s.lists ∧ s'.totalShield = s.totalShield ∧ s'.totalClaimed = s.totalClaimed - loss := by
  unfold claimEnds at h
  refine ⟨?_, ?_, ?_, createReimbursement_claimed h⟩ <;> rw [createReimbursement_writes h]

/-- **Round trip**: a lock followed by the rejection of the same claim — with the purchase lists, pools and the two totals
    as the lock left them (no expiry in between; anything else may have happened) — gives back the original `totalShield`,
    `totalClaimed`, the pool record, and the purchase with its original shield (only its deletion time keeps the
    extension); every other purchase and pool reads as before the lock. -/
theorem lock_then_reject_roundtrip {e e' : Env} {l l' : Ledger} {s s1 s1' s2 : State} {pid pool : Nat} {holder beneficiary : Addr}
    {purchase : Nat} {loss dur : Int}
    (h1 : secureCollaterals e s pool holder purchase loss dur = .ok s1)
    {en : Purchase} (hen : findPurchase s pool holder purchase = some en)
    (hlists : s1'.lists = s1.lists) (hpools : s1'.pools = s1.pools)
    (hts : s1'.totalShield = s1.totalShield) (htc : s1'.totalClaimed = s1.totalClaimed)
    (h2 : claimEnds e' l s1' pid pool holder beneficiary purchase loss .rejected = .ok (l', s2)) :
    s2.totalShield = s.totalShield ∧ s2.totalClaimed = s.totalClaimed ∧
    findPool s2 pool = findPool s pool ∧
    findPurchase s2 pool holder purchase = some { en with delTime := max en.delTime (e.t + dur) } ∧
    (∀ pool' holder' id', ¬(pool' = pool ∧ holder' = holder ∧ id' = purchase) →
      findPurchase s2 pool' holder' id' = findPurchase s pool' holder' id') ∧
    (∀ pool', findPool s2 pool' = findPool s pool') := by
  obtain ⟨r1, r2, ⟨p, hfp, r3⟩, r4, r5, r6⟩ := lock_exact_reads h1 hen
  obtain ⟨q1, q2, q3, q4, q5, q6⟩ := rejected_restores_reads h2
    ((findPool_congr hpools _).trans r3) ((findPurchase_congr hlists ..).trans r1)
  have hpool : findPool s2 pool = findPool s pool := by rw [q3, hfp, pool_restored]
  refine ⟨by omega, by omega, hpool, by rw [q1, lockedEntry_restored],
    fun a b c hne => by rw [q2 a b c hne, findPurchase_congr hlists, r2 a b c hne], fun pool' => ?_⟩
  by_cases hp : pool' = pool
  · subst hp; exact hpool
  · rw [q4 pool' hp, findPool_congr hpools]; exact r4 pool' hp

/-- non-vacuity of the round trip on `C03b.demo`: lock 10 against purchase 1, reject: totals, pool and purchase are back
    (the deletion time keeps the extension to 150) -/
example :
    (match secureCollaterals C03b.demoEnv C03b.demo 1 "aa" 1 10 100 with
     | .ok s1 =>
       match claimEnds C03b.demoEnv C03b.demoLedger s1 7 1 "aa" "aa" 1 10 .rejected with
       | .ok (_, s2) => some [[s2.totalShield, s2.totalClaimed], ((findPool s2 1).map (·.shield)).toList,
                              ((findPurchase s2 1 "aa" 1).map (fun x => [x.shield, x.delTime])).getD []]
       | .error _ => none
     | .error _ => none) = some [[70, 0], [70], [50, 150]] := by decide +kernel

/-- non-vacuity of `release_on_end` for a paid claim: the lock of 10 is released and a reimbursement of 10 created -/
example :
    (match secureCollaterals C03b.demoEnv C03b.demo 1 "aa" 1 10 100 with
     | .ok s1 =>
       match claimEnds C03b.demoEnv C03b.demoLedger s1 7 1 "aa" "aa" 1 10 .paid with
       | .ok (_, s2) => some [[s1.totalClaimed, s2.totalClaimed, s2.totalShield], s2.reimbs.map (·.amount)]
       | .error _ => none
     | .error _ => none) = some [[10, 0, 60], [10]] := by decide +kernel

end Shentu.Props.C05
