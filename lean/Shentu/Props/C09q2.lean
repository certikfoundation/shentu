import Shentu.Props.C09q
import Shentu.Proofs.C09q2Ledger
/-
  C09 for the unbonding queue, history level — "no coin of an unbonding entry disappears or is counted twice".

  `Shentu/Props/C09q.lean` says what each single operation of `Model/UbdQueue.lean` does to the balances: an undelegation
  adds its balance (`undelegate_total`), a delay changes no balance (`delay_entries`), a payout takes exactly its amount
  (`pay_exact`), an end-block pays back exactly what leaves (`endBlock_conservation`).  Here the same facts, for the total and
  for the number of entries (`undelegate_sums`, `delay_sums`, `pay_sums`, `endBlock_sums` of Proofs/C09q2Ledger.lean), are
  assembled into ONE statement about every history of operations from the empty state.

  The ghost log (`Ghost`, Proofs/C09q2Ledger.lean) is kept beside the state and never read by it (`ghost_is_silent`):
  `made` lists every entry an undelegation created, `outs` every successful payout with its amount (the coins that go to the
  shield module), `back` every entry an end-block paid back with the balance it then had, `consumed` counts the entries that
  payouts used up.  A call that panics (a failed transaction or proposal) changes neither the state nor the log.

  Proved for ALL histories, of any length, from the empty state (`ledger_history`), and from any state that satisfies the
  book-keeping invariant `Ledger` (`ledger_preserved`; `ledger_initial`: the empty state with the empty log satisfies it):
   * coins: the sum of all outstanding entry balances = the sum created − the sum taken by payouts − the sum paid back;
   * entries: the number of entries created = the number still stored + the number paid back + the number used up by payouts;
   * every entry still stored is queued in the slice of its completion time, and every queued pair has such an entry
     (the queue invariant `Inv`), so the end-blocker will reach each of them.
  `paid_back_once`: an end-block after any history appends to `back` exactly the stored entries that are mature, each as often
  as it is stored, and none of them is stored afterwards — no later end-block or payout can count it again.
  `consumed_counts_removals`: a successful payout after any history never adds an entry, so `consumed` grows by the number of
  entries that left; every entry that stays keeps its completion time and does not grow.

  What this file does NOT say.  The model's entries carry no identity (an entry is a completion time and a balance; two
  undelegations can create equal entries, a delay changes the time and a payout the balance), so "every entry ever created is,
  at the end, in exactly one of the three classes" is stated as the two sums above (balances and numbers), not as a map from
  created entries to their fate.  Stating it per entry needs entry identifiers in the model, which it does not have.
  Nothing is assumed about signs of balances or amounts.
-/
namespace Shentu.Props.C09q2
open Shentu.UbdQueue Shentu.C09q2H

/-- The ghost log is silent: running with the log gives the same states as running without it. -/
theorem ghost_is_silent (sg : State × Ghost) (ops : List Op) : (grun sg ops).1 = run sg.1 ops :=
  (List.foldl_hom (fun sg : State × Ghost => sg.1) (fun sg op => (gstep_state sg op).symm)).symm

theorem ledger_initial : Ledger (({} : State), ({} : Ghost)) :=
  ⟨Store.inv_empty, rfl, rfl⟩

/-- Every operation preserves the book-keeping invariant. A panicking call changes neither state nor log. -/
theorem ledger_preserved (sg : State × Ghost) (ops : List Op) (h : Ledger sg) : Ledger (grun sg ops) :=
  List.foldlRecOn (motive := Ledger) ops gstep h (fun sg h op _ => ledger_step sg op h)

/-- **The ledger after every history from the empty state.**
    Coins: what is outstanding in all entries is what undelegations created, minus what successful payouts took, minus what
    end-blocks paid back.
    Entries: the entries created are as many as those still stored plus those paid back plus those used up by payouts.
    Every stored entry is queued at its completion time, and every queued pair has an entry completing then. -/
theorem ledger_history (ops : List Op) :
    let r := grun ({}, {}) ops
    r.1 = run {} ops ∧
    total r.1.ubds = paidSum r.2.made - outSum r.2.outs - paidSum r.2.back ∧
    numEntries r.1.ubds + r.2.back.length + r.2.consumed = r.2.made.length ∧
    (∀ d v e, e ∈ getEntries r.1.ubds d v → (d, v) ∈ getSlice r.1.queue e.t) ∧
    (∀ d v t, (d, v) ∈ getSlice r.1.queue t → ∃ e ∈ getEntries r.1.ubds d v, e.t = t) := by
  have h := ledger_preserved ({}, {}) ops ledger_initial
  exact ⟨ghost_is_silent _ ops, h.coins, h.entries, fun d v e he => C09q.entry_queued _ h.inv d v e he,
    fun d v t hq => C09q.queued_pair_has_entry _ h.inv d v t hq⟩

/-- **Paid back exactly once.** After any history, an end-block at `now` appends to the log exactly what it pays back.
    That is every stored entry completing at or before `now`, as often as it is stored.
    Afterwards each pair keeps exactly its entries completing after `now`, so a paid-back entry is not stored any more. -/
theorem paid_back_once (ops : List Op) (now : Int) :
    let r := grun ({}, {}) ops
    let r' := grun ({}, {}) (ops ++ [.endBlock now])
    r'.2.back = r.2.back ++ (endBlock r.1 now).2 ∧ r'.2.made = r.2.made ∧ r'.2.outs = r.2.outs ∧ r'.2.consumed = r.2.consumed ∧
    (∀ d v e, ((endBlock r.1 now).2).count (d, v, e) = ((getEntries r.1.ubds d v).filter (·.isMature now)).count e) ∧
    (∀ d v, getEntries r'.1.ubds d v = (getEntries r.1.ubds d v).filter (fun e => !e.isMature now)) := by
  have h := ledger_preserved ({}, {}) ops ledger_initial
  have hr : grun ({}, {}) (ops ++ [.endBlock now]) = gstep (grun ({}, {}) ops) (.endBlock now) := by
    simp [grun, List.foldl_append]
  simp only [hr]
  exact ⟨rfl, rfl, rfl, rfl, fun d v e => C09q.endBlock_paid _ now h.inv d v e, fun d v => C09q.endBlock_entries _ now h.inv d v⟩

/-- **What a payout uses up.** After any history, a successful payout of `x` from the delegator `d` is logged with its amount.
    It never adds an entry, so `consumed` grows by exactly the number of entries that left.
    The total outstanding shrinks by exactly `x`.
    Every entry of `d` that stays has the completion time of an entry that was there, and not more balance. -/
theorem consumed_counts_removals (ops : List Op) (d : String) (u x : Int) (s' : State)
    (ok : payFromAllUnbondings (grun ({}, {}) ops).1 d u x = .ok s') :
    let r := grun ({}, {}) ops
    let r' := grun ({}, {}) (ops ++ [.pay d u x])
    r'.1 = s' ∧ r'.2.outs = r.2.outs ++ [(d, x)] ∧ r'.2.made = r.2.made ∧ r'.2.back = r.2.back ∧
    numEntries s'.ubds + (r'.2.consumed - r.2.consumed) = numEntries r.1.ubds ∧
    total s'.ubds = total r.1.ubds - x ∧
    (∀ v e', e' ∈ getEntries s'.ubds d v → ∃ e ∈ getEntries r.1.ubds d v, e.t = e'.t ∧ e'.bal ≤ e.bal) := by
  have h := ledger_preserved ({}, {}) ops ledger_initial
  have hr : grun ({}, {}) (ops ++ [.pay d u x]) = gstep (grun ({}, {}) ops) (.pay d u x) := by
    simp [grun, List.foldl_append]
  obtain ⟨h1, h2⟩ := pay_sums _ _ _ _ _ h.inv.toWF ok
  simp only [hr, gstep, ok]
  refine ⟨trivial, trivial, trivial, trivial, by omega, h1, fun v e' he => C09q.pay_times _ _ _ _ _ h.inv.toWF ok v e' he⟩

/-- A panicking payout or delay leaves state and log as they were. -/
theorem failed_call_changes_nothing (sg : State × Ghost) :
    (∀ d u x msg, payFromAllUnbondings sg.1 d u x = .error msg → gstep sg (.pay d u x) = sg) ∧
    (∀ p a dl msg, delayUnbonding sg.1 p a dl = .error msg → gstep sg (.delay p a dl) = sg) := by
  refine ⟨fun d u x msg h => by simp only [gstep, h], fun p a dl msg h => ?_⟩
  simp only [gstep, step, h]

/-- A delay, successful or not, writes nothing into the log and changes neither the total nor the number of entries. -/
theorem delay_moves_no_coin (sg : State × Ghost) (p : String) (a dl : Int) (h : Ledger sg) :
    (gstep sg (.delay p a dl)).2 = sg.2 ∧ total (gstep sg (.delay p a dl)).1.ubds = total sg.1.ubds ∧
    numEntries (gstep sg (.delay p a dl)).1.ubds = numEntries sg.1.ubds := by
  refine ⟨rfl, ?_⟩
  show total (step sg.1 (.delay p a dl)).ubds = _ ∧ numEntries (step sg.1 (.delay p a dl)).ubds = _
  cases hd : delayUnbonding sg.1 p a dl with
  | error e =>
    have : step sg.1 (.delay p a dl) = sg.1 := by simp only [step, hd]
    rw [this]; exact ⟨rfl, rfl⟩
  | ok s' =>
    have : step sg.1 (.delay p a dl) = s' := by simp only [step, hd]
    rw [this]; exact (delay_sums _ _ _ _ _ h.inv hd).2

/-! ## non-vacuity: the history `hist` of C09q (five undelegations, a delay, a payout, an end-block) -/

/-- the ghost log of `hist`: five entries created (26 coins), one payout of 9, one entry (4 coins) paid back, one entry used up -/
example : grun ({}, {}) C09q.hist =
    ({ ubds := [⟨"b", "v", [⟨90, 7⟩]⟩, ⟨"p", "v", [⟨90, 1⟩]⟩, ⟨"p", "w", [⟨100, 5⟩]⟩],
       queue := [(90, [("p", "v"), ("b", "v")]), (100, [("p", "w")])] },
     { made := [("p", "v", ⟨50, 4⟩), ("p", "v", ⟨90, 5⟩), ("p", "v", ⟨90, 1⟩), ("b", "v", ⟨90, 7⟩), ("p", "w", ⟨100, 9⟩)],
       outs := [("p", 9)], back := [("p", "v", ⟨50, 4⟩)], consumed := 1 }) := by decide +kernel

/-- … and the two identities of `ledger_history` on it: 13 = 26 − 9 − 4 and 3 + 1 + 1 = 5 -/
example : total (grun ({}, {}) C09q.hist).1.ubds = 13 ∧ paidSum (grun ({}, {}) C09q.hist).2.made = 26 ∧
    outSum (grun ({}, {}) C09q.hist).2.outs = 9 ∧ paidSum (grun ({}, {}) C09q.hist).2.back = 4 ∧
    numEntries (grun ({}, {}) C09q.hist).1.ubds = 3 := by decide +kernel

/-- the hypothesis of `consumed_counts_removals` holds for the payout of `hist` after its first six operations -/
example : ∃ s', payFromAllUnbondings (grun ({}, {}) (C09q.hist.take 6)).1 "p" 0 9 = .ok s' ∧
    numEntries (grun ({}, {}) (C09q.hist.take 6)).1.ubds = 5 ∧ numEntries s'.ubds = 4 := by
  exact ⟨(grun ({}, {}) (C09q.hist.take 7)).1, by decide +kernel⟩

/-- the hypothesis of `ledger_preserved` / `delay_moves_no_coin`: a non-empty state with its log satisfies `Ledger` -/
example : Ledger (grun ({}, {}) (C09q.hist.take 5)) ∧ (grun ({}, {}) (C09q.hist.take 5)).2.made.length = 5 :=
  ⟨ledger_preserved _ _ ledger_initial, by decide⟩

end Shentu.Props.C09q2

#print axioms Shentu.Props.C09q2.ghost_is_silent
#print axioms Shentu.Props.C09q2.ledger_initial
#print axioms Shentu.Props.C09q2.ledger_preserved
#print axioms Shentu.Props.C09q2.ledger_history
#print axioms Shentu.Props.C09q2.paid_back_once
#print axioms Shentu.Props.C09q2.consumed_counts_removals
#print axioms Shentu.Props.C09q2.failed_call_changes_nothing
#print axioms Shentu.Props.C09q2.delay_moves_no_coin
