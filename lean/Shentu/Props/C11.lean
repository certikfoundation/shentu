import Shentu.Proofs.GovLemmas
import Shentu.Proofs.BankLemmas
/-
  C11 — Governance deposits are held in escrow and returned or burned exactly once.
-/
namespace Shentu.Props.C11
open Shentu Shentu.Gov

theorem tie_sites : Gen.Gov.allFound = true := rfl
/-- the early-approval branch of the certifier round refunds the deposits like every other non-vetoed outcome -/
theorem tie_early_pass_refunds : Gen.Gov.earlyPassRefunds = true := rfl

/-- escrow recorded for a proposal, per depositor and denomination -/
def recOf (ds : List Deposit) (pid : Nat) (a : Addr) (d : Denom) : Int :=
  ((ds.filter (fun x => x.pid == pid && x.depositor == a)).map (fun x => Coins.amountOf x.amount d)).sum
/-- … and for a proposal as a whole -/
def recAll (ds : List Deposit) (pid : Nat) (d : Denom) : Int :=
  ((ds.filter (fun x => x.pid == pid)).map (fun x => Coins.amountOf x.amount d)).sum

theorem recOf_upsert (pid : Nat) (a : Addr) (amt : Coins) (ds : List Deposit) (pid' : Nat) (a' : Addr) (d : Denom) :
    recOf (upsertDeposit pid a amt ds) pid' a' d =
      recOf ds pid' a' d + (if pid == pid' && a == a' then Coins.amountOf amt d else 0) :=
  sum_upsertDeposit (fun p b => p == pid' && b == a') pid a amt d ds

/-- **Escrow on deposit.** A successful deposit moves exactly the deposited coins from the depositor into the module
    account, records them under (proposal, depositor) and adds them to the proposal's total. -/
theorem deposit_escrows (e : Env) (w w' : World) (pid : Nat) (a : Addr) (amt : Coins)
    (h : addDeposit e w pid a amt = .ok w') :
    w'.l = w.l.move a e.modAddr amt ∧
    (∀ pid' a' d, recOf w'.g.deposits pid' a' d = recOf w.g.deposits pid' a' d + (if pid == pid' && a == a' then Coins.amountOf amt d else 0)) ∧
    ∃ p, findP w.g pid = some p ∧ p.status = 1 ∧ p.isCouncil = false := by
  obtain ⟨p, l1, g2, hp, hs, hc, hsend, hg2, rfl⟩ := addDeposit_ok h
  have hd : g2.deposits = w.g.deposits := by rcases hg2 with rfl | rfl <;> simp
  refine ⟨Ledger.send_ok _ _ _ _ _ hsend, fun pid' a' d => ?_, p, hp, hs, hc⟩
  show recOf (upsertDeposit pid a amt g2.deposits) pid' a' d = _
  rw [hd]; exact recOf_upsert ..

theorem refund_go_bal (e : Env) : ∀ (ds : List Deposit) (l l' : Ledger), refundDeposits.go e ds l = .ok l' →
    ∀ a d, a ≠ e.modAddr → l'.balOf a d = l.balOf a d + ((ds.filter (·.depositor == a)).map (fun x => Coins.amountOf x.amount d)).sum := by
  intro ds l l' h a d ha
  rw [(refund_go_ok e ds l l' h).1, Ledger.balOf_paid, if_neg (by simpa using Ne.symm ha)]; omega

theorem refund_go_supply (e : Env) : ∀ (ds : List Deposit) (l l' : Ledger), refundDeposits.go e ds l = .ok l' →
    l'.supply = l.supply ∧ ∀ d, l'.total d = l.total d := by
  intro ds l l' h
  rw [(refund_go_ok e ds l l' h).1]; exact ⟨Ledger.supply_paid .., fun d => Ledger.total_paid ..⟩

/-- **Refund.** When a proposal is dropped, rejected, fails or passes, every depositor gets back exactly what is recorded
    for them, nothing is minted or burned, and no record of the proposal remains (so nothing can be paid twice). -/
theorem refund_exact (e : Env) (w w' : World) (pid : Nat) (h : refundDeposits e w pid = .ok w') :
    (∀ a d, a ≠ e.modAddr → w'.l.balOf a d = w.l.balOf a d + recOf w.g.deposits pid a d) ∧
    w'.l.supply = w.l.supply ∧
    (∀ x ∈ w'.g.deposits, x.pid ≠ pid) ∧ (∀ x ∈ w.g.deposits, x.pid ≠ pid → x ∈ w'.g.deposits) := by
  obtain ⟨l1, hgo, rfl⟩ := refundDeposits_ok h
  refine ⟨?_, (refund_go_supply e _ _ _ hgo).1, ?_, ?_⟩
  · intro a d ha
    rw [refund_go_bal e _ _ _ hgo a d ha]
    simp only [recOf, List.filter_filter]
    congr 3
    apply List.filter_congr
    intro x _
    exact Bool.and_comm _ _
  · intro x hx; have := (List.mem_filter.mp hx).2; simpa using this
  · intro x hx hne; exact List.mem_filter.mpr ⟨hx, by simpa using hne⟩

/-- **Veto.** Exactly the recorded deposits of the proposal are burned: the supply and the module account drop by their
    sum, nobody is paid, and no record remains. -/
theorem burn_exact (e : Env) (w w' : World) (pid : Nat) (h : burnDeposits e w pid = .ok w') :
    (∀ d, Coins.amountOf w'.l.supply d = Coins.amountOf w.l.supply d - recAll w.g.deposits pid d) ∧
    (∀ a d, a ≠ e.modAddr → w'.l.balOf a d = w.l.balOf a d) ∧
    (∀ d, w'.l.balOf e.modAddr d = w.l.balOf e.modAddr d - recAll w.g.deposits pid d) ∧
    (∀ x ∈ w'.g.deposits, x.pid ≠ pid) := by
  rw [burnDeposits_ok h]
  dsimp only
  refine ⟨?_, ?_, ?_, ?_⟩
  · intro d
    rw [Ledger.supply_burn, Coins.amountOf_sub, amountOf_foldl_amounts]; rfl
  · intro a d ha
    rw [Ledger.balOf_burn]
    have hm : (e.modAddr == a) = false := by simpa using Ne.symm ha
    simp [hm]
  · intro d
    rw [Ledger.balOf_burn, amountOf_foldl_amounts]; simp [recAll]
  · intro x hx; have := (List.mem_filter.mp hx).2; simpa using this

/-- deposits are refused once a proposal has left its deposit period, and for council-member proposals (which never
    collect a deposit) -/
theorem deposit_refused (e : Env) (w : World) (pid : Nat) (a : Addr) (amt : Coins) (p : Proposal)
    (hp : findP w.g pid = some p) (h : p.status ≠ 1 ∨ p.isCouncil = true) : ∃ x, addDeposit e w pid a amt = .error x := by
  unfold addDeposit
  rw [hp]; dsimp only
  have : Gen.Gov.depositRefused (p.status : Int) p.isCouncil = true :=
    Gen.Gov.depositRefused_iff.mpr (h.imp (fun h => by omega) id)
  rw [this]; exact ⟨_, rfl⟩

end Shentu.Props.C11

#print axioms Shentu.Props.C11.deposit_escrows
#print axioms Shentu.Props.C11.refund_exact
#print axioms Shentu.Props.C11.burn_exact
