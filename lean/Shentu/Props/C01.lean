import Shentu.Gen.CvmBridge
import Shentu.Proofs.VestingLemmas
import Shentu.Proofs.OracleLemmas
import Shentu.Proofs.OracleStep
import Shentu.Proofs.GovLemmas
import Shentu.Props.C11
/-
  C01 — Coins are conserved: balances always add up to the recorded supply.

  `Ledger.Inv l` : for every denomination, the sum of all postings equals the recorded supply.
  Every operation of every model is a composition of `move` (a transfer), `mint` and `burn`
  (which change balances and the recorded supply together); the theorems below say so model by model.
-/
namespace Shentu.Props.C01
open Shentu

theorem inv_transfer (l : Ledger) (a b : Addr) (c : Coins) (h : l.Inv) : (l.move a b c).Inv := Ledger.inv_move l a b c h
/-! ## the bridge between the VM's account cache and the bank, tied to the source (regenerated on every run) -/

/-- `State.UpdateAccount`: the write-back of one cached account sets the BOND-denomination balance only (`SetBalance`, every other
    denomination is left alone), refuses to raise the balance of a blocked (module) address, and creates the auth account if there
    is none -/
theorem tie_write_back : Gen.CvmBridge.allFound = true ∧ Gen.CvmBridge.updateAccount =
    ["if updatedAccount == nil", "call s.ak.GetAccount(s.ctx, address)", "if account == nil",
     "call s.ak.NewAccountWithAddress(s.ctx, address)", "if len(updatedAccount.WASMCode) > 0",
     "call s.store.Set(types.CodeStoreKey(updatedAccount.Address), s.cdc.MustMarshalBinaryBare(&cvmCode))",
     "if s.bk.BlockedAddr(address) && updatedAccount.Balance > s.bk.GetBalance(s.ctx, address, bondDenom).Amount.Uint64()",
     "call s.bk.BlockedAddr(address)", "call s.bk.GetBalance(s.ctx, address, bondDenom)",
     "call s.bk.SetBalance(s.ctx, address, sdk.NewInt64Coin(bondDenom, int64(updatedAccount.Balance)))",
     "call s.ak.SetAccount(s.ctx, account)", "return s.SetAddressMeta(updatedAccount.Address, updatedAccount.ContractMeta)",
     "call s.SetAddressMeta(updatedAccount.Address, updatedAccount.ContractMeta)"] := ⟨rfl, rfl⟩

/-- `State.RemoveAccount` (SELFDESTRUCT): code, ABI and metadata are deleted and the destroyed account's bond balance is set to zero
    (the VM has credited the beneficiary in its cache) -/
theorem tie_remove_account : Gen.CvmBridge.removeAccount =
    ["call s.ak.GetAccount(s.ctx, address.Bytes())", "if account == nil", "call s.store.Delete(types.CodeStoreKey(address))",
     "call s.store.Delete(types.AbiStoreKey(address))", "call s.store.Delete(types.AddressMetaStoreKey(address))",
     "return s.bk.SetBalance(s.ctx, address.Bytes(), sdk.NewInt64Coin(s.sk.BondDenom(s.ctx), 0))",
     "call s.bk.SetBalance(s.ctx, address.Bytes(), sdk.NewInt64Coin(s.sk.BondDenom(s.ctx), 0))"] := rfl

/-- the bank wrapper: a send to an address with code goes through the VM (`cvmk.Send`), any other through the SDK keeper; a
    multi-send to an address with code is refused -/
theorem tie_bank_routing :
    Gen.CvmBridge.bankSend = ["call k.GetCode(ctx, toAddr)", "if len(code) > 0", "return k.cvmk.Send(ctx, fromAddr, toAddr, amt)",
      "call k.cvmk.Send(ctx, fromAddr, toAddr, amt)", "return k.BaseKeeper.SendCoins(ctx, fromAddr, toAddr, amt)",
      "call k.BaseKeeper.SendCoins(ctx, fromAddr, toAddr, amt)"] ∧
    Gen.CvmBridge.bankMultiSend = ["call k.GetCode(ctx, outAddr)", "if len(code) > 0", "return types.ErrCodeExists",
      "return k.BaseKeeper.InputOutputCoins(ctx, inputs, outputs)", "call k.BaseKeeper.InputOutputCoins(ctx, inputs, outputs)"] := ⟨rfl, rfl⟩

theorem inv_mint (l : Ledger) (a : Addr) (c : Coins) (h : l.Inv) : (l.mint a c).Inv := Ledger.inv_mint l a c h
theorem inv_burn (l : Ledger) (a : Addr) (c : Coins) (h : l.Inv) : (l.burn a c).Inv := Ledger.inv_burn l a c h

/-- a transfer moves exactly the coins it was given, in every denomination: the sender loses them, the recipient gets them,
    nobody else is touched -/
theorem transfer_exact (l : Ledger) (a b : Addr) (c : Coins) (hab : a ≠ b) (x : Addr) (d : Denom) :
    (l.move a b c).balOf x d = l.balOf x d - (if x = a then Coins.amountOf c d else 0) + (if x = b then Coins.amountOf c d else 0) := by
  rw [Ledger.balOf_move']; simp only [eq_comm]

/-- crediting and then debiting the same amount elsewhere (locked send) is a transfer as far as the invariant goes -/
theorem inv_credit_debit (l : Ledger) (a b : Addr) (c : Coins) (h : l.Inv) : ((l.credit b c).debit a c).Inv := by
  intro d
  rw [Ledger.total_debit, Ledger.total_credit, Ledger.supply_debit, Ledger.supply_credit, h d]; omega

theorem oracle_payWithdraws (e : Oracle.Env) : ∀ (ws : List Oracle.Withdraw) (l l' : Ledger), l.Inv → Oracle.payWithdraws e ws l = .ok l' → l'.Inv :=
  fun ws l l' hi h => (Oracle.payWithdraws_ok e ws l l' h).1 ▸ Ledger.inv_paid _ _ _ ws l hi

/-- every oracle operation (messages, BeginBlock payouts, EndBlock aggregation) conserves coins -/
theorem oracle_step (e : Oracle.Env) (l l' : Ledger) (s s' : Oracle.State) (op : Oracle.Op) (hi : l.Inv)
    (h : Oracle.stepE e l s op = .ok (l', s')) : l'.Inv := by
  cases Oracle.stepE_accepted h with
  | operator _ hm => exact hm.paid.inv hi
  | task hev =>
    cases hev with
    | respond _ hl _ _ _ _ _ _ _ => rw [hl]; exact hi
    | delete _ hl _ _ _ _ _ => rw [hl]; exact hi
    | create _ hsend _ _ _ => exact Ledger.inv_send _ _ _ _ _ hi hsend
  | beginBlock hp _ => exact oracle_payWithdraws e _ _ _ hi hp
  | endBlock hl _ _ => rw [hl]; exact hi

theorem gov_deposit (e : Gov.Env) (w w' : Gov.World) (pid : Nat) (a : Addr) (amt : Coins) (hi : w.l.Inv)
    (h : Gov.addDeposit e w pid a amt = .ok w') : w'.l.Inv := by
  rw [(Props.C11.deposit_escrows e w w' pid a amt h).1]
  exact Ledger.inv_move _ _ _ _ hi

theorem gov_refund_go (e : Gov.Env) : ∀ (ds : List Gov.Deposit) (l l' : Ledger), l.Inv → Gov.refundDeposits.go e ds l = .ok l' → l'.Inv :=
  fun ds l l' hi h => (Gov.refund_go_ok e ds l l' h).1 ▸ Ledger.inv_paid _ _ _ ds l hi

theorem gov_refund (e : Gov.Env) (w w' : Gov.World) (pid : Nat) (hi : w.l.Inv) (h : Gov.refundDeposits e w pid = .ok w') : w'.l.Inv := by
  obtain ⟨l1, hgo, rfl⟩ := Gov.refundDeposits_ok h
  exact gov_refund_go e _ _ _ hi hgo

/-- burning vetoed deposits lowers balances and the recorded supply together -/
theorem gov_burn (e : Gov.Env) (w w' : Gov.World) (pid : Nat) (hi : w.l.Inv) (h : Gov.burnDeposits e w pid = .ok w') : w'.l.Inv := by
  rw [Gov.burnDeposits_ok h]
  exact Ledger.inv_burn _ _ _ hi

theorem bank_send (l l' : Ledger) (vs : Vesting.Accounts) (a b : Addr) (c : Coins) (hi : l.Inv) (h : Vesting.send l vs a b c = .ok l') : l'.Inv := by
  obtain ⟨_, rfl⟩ := Vesting.send_ok h
  exact Ledger.inv_move _ _ _ _ hi

theorem bank_lockedSend (l l' : Ledger) (vs vs' : Vesting.Accounts) (f : Addr → Bool) (a b u : Addr) (c : Coins) (hi : l.Inv)
    (h : Vesting.lockedSend l vs f a b u c = .ok (l', vs')) : l'.Inv := by
  obtain ⟨_, _, _, _, rfl, _⟩ := Vesting.lockedSend_ok h
  exact inv_credit_debit _ _ _ _ hi

theorem cvm_runKind (bond : Denom) : ∀ (depth : Nat) (kind : String) (l l' : Ledger) (s s' : Cvm.State) (caller callee : Addr) (v : Int)
    (d0 : String) (z : Bool) (t : Addr), l.Inv → Cvm.runKind bond kind l s caller callee v d0 z t depth = .ok (l', s') → l'.Inv := by
  intro depth
  induction depth using Nat.strongRecOn with
  | _ depth ih =>
    intro kind l l' s s' caller callee v d0 z t hi h
    rcases Cvm.runKind_ok h with ⟨rfl, _⟩ | ⟨_, dst, rfl, _⟩ | ⟨_, n, rfl, hr⟩ | ⟨n, l2, s2, rfl, hr, rfl, _⟩
    · exact hi
    · exact Ledger.inv_move _ _ _ _ hi
    · exact ih n (Nat.lt_succ_self n) _ _ _ _ _ _ _ _ _ _ _ (Ledger.inv_move _ _ _ _ hi) hr
    · rcases hr with hr | hr
      · cases hr; exact hi
      · exact ih n (Nat.lt_succ_self n) _ _ _ _ _ _ _ _ _ _ _ hi hr

theorem cvm_call (bond : Denom) (l l' : Ledger) (vs : Vesting.Accounts) (s s' : Cvm.State) (caller callee : Addr) (v : Int)
    (d0 : String) (z : Bool) (t : Addr) (hd : Bool) (hi : l.Inv) (h : Cvm.call bond l vs s caller callee v d0 z t hd = .ok (l', s')) : l'.Inv := by
  exact cvm_runKind bond _ _ _ _ _ _ _ _ _ _ _ _ (Ledger.inv_move _ _ _ _ hi) (Cvm.call_ok h).2

/-! ### The VM write-back (x/cvm/keeper/state.go) -/

/-- `UpdateAccount`/`RemoveAccount`: for every account the execution touched, only the bond-denomination balance is
    rewritten (to the cached value, or to zero for a destroyed account). -/
def writeBack (bond : Denom) (l : Ledger) : List (Addr × Int) → Ledger
  | [] => l
  | (a, newBal) :: rest => writeBack bond (l.credit a [(bond, newBal - l.balOf a bond)]) rest

theorem writeBack_total (bond : Denom) : ∀ (ups : List (Addr × Int)) (l : Ledger) (hnd : (ups.map (·.1)).Nodup) (d : Denom),
    (writeBack bond l ups).total d = l.total d + (if bond == d then (ups.map (·.2)).sum - (ups.map (fun u => l.balOf u.1 bond)).sum else 0) ∧
    (writeBack bond l ups).supply = l.supply := by
  intro ups
  induction ups with
  | nil => intro l _ d; simp [writeBack]
  | cons u rest ih =>
    intro l hnd d
    obtain ⟨a, nb⟩ := u
    simp only [List.map_cons, List.nodup_cons] at hnd
    have := ih (l.credit a [(bond, nb - l.balOf a bond)]) hnd.2 d
    simp only [writeBack]
    rw [this.1, this.2, Ledger.total_credit]
    refine ⟨?_, rfl⟩
    -- balances of the remaining touched accounts are not changed by crediting `a`
    have hrest : (rest.map (fun u => (l.credit a [(bond, nb - l.balOf a bond)]).balOf u.1 bond)) = rest.map (fun u => l.balOf u.1 bond) := by
      apply List.map_congr_left
      intro u hu
      rw [Ledger.balOf_credit]
      have : (a == u.1) = false := by
        cases hx : a == u.1 with
        | false => rfl
        | true => exact absurd (List.mem_map.mpr ⟨u, hu, (beq_iff_eq.mp hx).symm⟩) hnd.1
      simp [this]
    rw [hrest]
    by_cases hb : bond == d
    · simp only [hb, if_true, Coins.amountOf_cons, Coins.amountOf_nil, List.map_cons, List.sum_cons]; omega
    · have hb' : (bond == d) = false := by simpa using hb
      simp [hb']

/-- **Write-back conserves coins** as long as the VM's own bookkeeping does: if the cached balances of the touched accounts add up
    to what those accounts held before (`Props.C01tx.finalCache_conserves`), the ledger invariant survives the write-back — whatever other
    denominations the touched accounts hold. -/
theorem writeBack_inv (bond : Denom) (l : Ledger) (ups : List (Addr × Int)) (hnd : (ups.map (·.1)).Nodup)
    (hsum : (ups.map (·.2)).sum = (ups.map (fun u => l.balOf u.1 bond)).sum) (hi : l.Inv) : (writeBack bond l ups).Inv := by
  intro d
  obtain ⟨h1, h2⟩ := writeBack_total bond ups l hnd d
  rw [h1, h2, hi d, hsum]
  split <;> omega

/-- the write-back leaves every other denomination of every account alone -/
theorem writeBack_other_denoms (bond : Denom) : ∀ (ups : List (Addr × Int)) (l : Ledger) (x : Addr) (d : Denom), d ≠ bond →
    (writeBack bond l ups).balOf x d = l.balOf x d := by
  intro ups
  induction ups with
  | nil => intro l x d _; rfl
  | cons u rest ih =>
    intro l x d hd
    obtain ⟨a, nb⟩ := u
    simp only [writeBack]
    rw [ih _ x d hd, Ledger.balOf_credit]
    have : (bond == d) = false := by simpa using Ne.symm hd
    split <;> simp [this]

example : (writeBack "uctk" { posts := [("a", "uctk", 10), ("a", "foo", 5), ("c", "uctk", 1)], supply := [("uctk", 11), ("foo", 5)] } [("a", 3), ("c", 8)]).invB = true := by decide

end Shentu.Props.C01

#print axioms Shentu.Props.C01.oracle_step
#print axioms Shentu.Props.C01.cvm_runKind
#print axioms Shentu.Props.C01.writeBack_inv
