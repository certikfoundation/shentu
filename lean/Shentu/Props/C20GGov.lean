import Shentu.Proofs.C20GGovImport
import Shentu.Proofs.C20GGovInv
import Shentu.Props.C11H
/-
  C20 for x/gov — export the governance state, import it into a fresh chain: observably the same chain; proposals in
  progress complete with the same amounts, recipients and outcomes.

  The model of export and import is `Shentu/Model/GenesisGov.lean` (`exportGenesis`, `initGenesis` in the order of
  x/gov/genesis.go).  `ExportGenesis` lists deposits and votes grouped by proposal.  The model keeps them in insertion
  order.  So the import changes the ORDER of the two record lists (`normalise`); it changes nothing else.

  What is proved, for ALL governance states that satisfy the invariant `WFG` (keys of the three stores are keys, every
  deposit and vote record belongs to a stored proposal):

   * `reimport_same`, `normalise_idem`, `normalise_import`: import after export is exactly the grouping `normalise`.
     Grouping twice is grouping once.  `reimport_identity_fails`: it is NOT the identity on the model state, because
     the model's lists remember how records of different proposals were interleaved.  The Go store does not hold that
     order (records are keyed by proposal first), so this is a difference of representation only.
   * `reexport_same`: exporting the imported state gives the same genesis file again.
   * `rebuilt_queues_same_as_running`, `rebuilt_queues_sorted`, `rebuilt_queues_content`,
     `rebuilt_queues_order_independent`, `endBlock_walks_rebuilt_inactive`, `endBlock_walks_rebuilt_active`,
     `endBlock_walks_rebuilt_all`: the two queues that `InitGenesis` rebuilds entry by entry are exactly the queues a
     running node holds.  They are in (time, id) order and contain exactly the proposals in deposit period, resp. in a
     voting period.  They do not depend on the order of the proposals in the genesis file.  The id sequences that the
     model's end blocker walks are the due entries of the rebuilt queues.  These hold for all states (no hypothesis).
   * `equiv_normalised`, `equiv_is_equivalence`: a state and its grouped form are `Equiv` (same proposals, counter,
     parameters; per proposal the same deposit records in the same order and the same vote records in the same order).
   * `vote_same`, `deposit_same`, `submit_same`, `endBlock_same`: every operation on two equivalent worlds gives the
     same error, or succeeds on both with equivalent worlds; equivalent worlds have EQUAL ledgers and EQUAL
     certification states.  So refunds go to the same depositors in the same order with the same amounts, burns are
     the same, tallies and outcomes are the same.
   * `continuation_same`: the same holds for every history (arbitrary list of operations, no bound).
     `continuation_reimported`, `reachable_continuation_same`: in particular for a state and its re-import, at any
     point of any history from an initial world.
   * `invariant_reimported`, `history_invariant_reimported`, `escrow_reimported`: `WFG`, the history invariant `WFH`
     and the escrow invariant of C11 hold for the re-imported state when they hold for the original.
   * `wf_init`, `wf_step`, `wf_reachable`: the invariant `WFH` (which contains `WFG`) holds in every initial world and
     is kept by every step, hence holds after every history.

  What is assumed.  Nothing beyond `WFG`, which is proved for every reachable state.  An initial world here has no
  proposal, no deposit record, an empty module account (`C11H.Init`) and no vote record.  The last condition is needed:
  `orphan_vote_breaks_equiv` shows that a vote record without a proposal is lost by the export.  Within one proposal the
  model keeps the records in insertion order on both sides; the Go store iterates them in address order on both sides.
-/
namespace Shentu.Props.C20GGov
open Shentu Shentu.Gov Shentu.Genesis.Gov Shentu.C20GGovH
open Shentu.C11H (Ctx env Op stepW runW Init EscrowInv)

/-- Importing the export of a well-formed state gives the state with deposits and votes grouped by proposal.
    Proposals, counter and parameters are unchanged. -/
theorem reimport_same (g : State) (h : WFG g) : initGenesis (exportGenesis g) = normalise g :=
  initGenesis_export g h

/-- Grouping a grouped state changes nothing. -/
theorem normalise_idem (g : State) (h : WFG g) : normalise (normalise g) = normalise g :=
  normalise_normalise g h.ids

/-- A state that was imported from an export is already grouped. -/
theorem normalise_import (g : State) (h : WFG g) :
    normalise (initGenesis (exportGenesis g)) = initGenesis (exportGenesis g) := by
  rw [initGenesis_export g h]; exact normalise_normalise g h.ids

/-- Exporting the re-imported state gives the same genesis file. -/
theorem reexport_same (g : State) (h : WFG g) :
    exportGenesis (initGenesis (exportGenesis g)) = exportGenesis g := by
  rw [initGenesis_export g h]; exact export_normalise g h.ids

/-- The queues that the import rebuilds entry by entry are the queues of the running node. -/
theorem rebuilt_queues_same_as_running (g : State) : rebuildQueues (exportGenesis g).proposals = queuesOf g :=
  rebuild_eq_queuesOf g

/-- Both rebuilt queues are in (time, id) order. -/
theorem rebuilt_queues_sorted (ps : List Proposal) :
    (rebuildQueues ps).inactive.Pairwise (fun a b => keyLE a b = true) ∧
    (rebuildQueues ps).active.Pairwise (fun a b => keyLE a b = true) :=
  ⟨rebuild_inactive_sorted ps, rebuild_active_sorted ps⟩

/-- The rebuilt inactive queue holds exactly the (deposit end, id) of the proposals in deposit period.  The rebuilt
    active queue holds exactly the (voting end, id) of the proposals in one of the two voting periods. -/
theorem rebuilt_queues_content (ps : List Proposal) :
    (rebuildQueues ps).inactive.Perm ((ps.filter (fun p => p.status == 1)).map inactiveKey) ∧
    (rebuildQueues ps).active.Perm ((ps.filter (fun p => p.status == 2 || p.status == 3)).map activeKey) :=
  ⟨rebuild_inactive_perm ps, rebuild_active_perm ps⟩

/-- The rebuilt queues depend on the set of proposals only, not on the order in which they are inserted. -/
theorem rebuilt_queues_order_independent {ps ps' : List Proposal} (h : ps.Perm ps') :
    rebuildQueues ps = rebuildQueues ps' := rebuild_perm h

/-- The proposals whose deposit period is over, in the order the end blocker drops them, are the due entries of the
    rebuilt inactive queue. -/
theorem endBlock_walks_rebuilt_inactive (g : State) (t : Int) :
    (sortByKey (·.depositEnd) (g.proposals.filter (fun p => p.status == 1 && p.depositEnd ≤ t))).map (·.id)
      = dueIds (rebuildQueues (exportGenesis g).proposals).inactive t := endBlock_inactive_ids g t

/-- The proposals whose voting period is over, in the order the end blocker tallies them, are the due entries of the
    rebuilt active queue. -/
theorem endBlock_walks_rebuilt_active (g : State) (t : Int) :
    (sortByKey (·.votingEnd) (g.proposals.filter (fun p => (p.status == 2 || p.status == 3) && p.votingEnd ≤ t))).map (·.id)
      = dueIds (rebuildQueues (exportGenesis g).proposals).active t := endBlock_active_ids g t

/-- The early decision of the certifier round walks the whole rebuilt active queue. -/
theorem endBlock_walks_rebuilt_all (g : State) :
    (sortByKey (·.votingEnd) (g.proposals.filter (fun p => p.status == 2 || p.status == 3))).map (·.id)
      = (rebuildQueues (exportGenesis g).proposals).active.map (·.2) := endBlock_all_ids g

/-- A well-formed state and its grouped form are equivalent. -/
theorem equiv_normalised (g : State) (h : WFG g) : Equiv g (normalise g) := equiv_normalise g h

/-- `Equiv` is reflexive, symmetric and transitive. -/
theorem equiv_is_equivalence :
    (∀ a : State, Equiv a a) ∧ (∀ a b : State, Equiv a b → Equiv b a) ∧
    (∀ a b c : State, Equiv a b → Equiv b c → Equiv a c) :=
  ⟨equiv_refl, fun _ _ h => equiv_symm h, fun _ _ _ h k => equiv_trans h k⟩

/-- A vote on two equivalent worlds fails with the same error on both, or succeeds on both with equivalent worlds. -/
theorem vote_same (a b : World) (h : EquivW a b) (pid : Nat) (v : Addr) (o : Nat) :
    RelE (vote a pid v o) (vote b pid v o) := vote_equiv h pid v o

/-- A deposit on two equivalent worlds fails with the same error on both, or succeeds on both with equivalent worlds
    (in particular with equal ledgers). -/
theorem deposit_same (e : Env) (a b : World) (h : EquivW a b) (pid : Nat) (d : Addr) (amt : Coins) :
    RelE (addDeposit e a pid d amt) (addDeposit e b pid d amt) := addDeposit_equiv e h pid d amt

/-- A submission on two equivalent worlds fails with the same error on both, or succeeds on both with equivalent
    worlds. -/
theorem submit_same (e : Env) (a b : World) (h : EquivW a b) (pr : Addr) (p0 : Proposal) (dep : Coins) :
    RelE (submit e a pr p0 dep) (submit e b pr p0 dep) := submit_equiv e h pr p0 dep

/-- The end blocker on two equivalent worlds halts with the same error on both, or succeeds on both with equivalent
    worlds.  Equal ledgers afterwards: the same refunds to the same depositors and the same burns.  Equal proposal
    stores afterwards: the same outcomes and tallies. -/
theorem endBlock_same (e : Env) (a b : World) (h : EquivW a b) : RelE (endBlock e a) (endBlock e b) :=
  endBlock_equiv e h

/-- Every history leads two equivalent worlds to equivalent worlds. -/
theorem continuation_same (m : Addr) (a b : World) (h : EquivW a b) (ops : List Op) :
    EquivW (runW m a ops) (runW m b ops) := runW_equiv m ops h

/-- What equivalence of worlds gives an observer: the same balances and supply, the same certification state, the
    same proposals (status, tally, total deposit, times), the same counter and parameters. -/
theorem equiv_observably_same (a b : World) (h : EquivW a b) :
    a.l = b.l ∧ a.c = b.c ∧ a.g.proposals = b.g.proposals ∧ a.g.nextId = b.g.nextId ∧ a.g.params = b.g.params :=
  ⟨h.l, h.c, h.g.proposals, h.g.nextId, h.g.params⟩

/-- Export and re-import the governance state of a well-formed world, then run any history on both: the resulting
    worlds are equivalent. -/
theorem continuation_reimported (m : Addr) (w : World) (h : WFG w.g) (ops : List Op) :
    EquivW (runW m w ops) (runW m { w with g := initGenesis (exportGenesis w.g) } ops) := by
  apply runW_equiv m ops
  rw [initGenesis_export w.g h]
  exact ⟨rfl, rfl, equiv_normalise w.g h⟩

/-- The history invariant holds in every state without proposals, deposit records and vote records. -/
theorem wf_init (g : State) (hp : g.proposals = []) (hd : g.deposits = []) (hv : g.votes = []) : WFH g :=
  WFH.init hp hd hv

/-- Every step keeps the history invariant. -/
theorem wf_step (m : Addr) (w : World) (op : Op) (h : WFH w.g) : WFH (stepW m w op).g := WFH.step m w op h

/-- The history invariant, hence `WFG`, holds after every history from an initial world without votes. -/
theorem wf_reachable (m : Addr) (w : World) (h : Init m w) (hv : w.g.votes = []) (ops : List Op) :
    WFH (runW m w ops).g := WFH.run m w ops (WFH.init h.noProposal h.noDeposit hv)

/-- At any point of any history from an initial world: export and re-import the governance state, then continue with
    any history on both.  The resulting worlds are equivalent. -/
theorem reachable_continuation_same (m : Addr) (w : World) (h : Init m w) (hv : w.g.votes = []) (ops1 ops2 : List Op) :
    EquivW (runW m (runW m w ops1) ops2)
      (runW m { runW m w ops1 with g := initGenesis (exportGenesis (runW m w ops1).g) } ops2) :=
  continuation_reimported m _ (wf_reachable m w h hv ops1).toWFG ops2

/-- The re-imported state is well-formed when the original is. -/
theorem invariant_reimported (g : State) (h : WFG g) : WFG (initGenesis (exportGenesis g)) := by
  rw [initGenesis_export g h]; exact WFG_normalise g h

/-- The re-imported state satisfies the history invariant when the original does. -/
theorem history_invariant_reimported (g : State) (h : WFH g) : WFH (initGenesis (exportGenesis g)) := by
  rw [initGenesis_export g h.toWFG]; exact WFH_normalise g h

/-- The escrow invariant of C11 holds for the world with the re-imported governance state when it holds for the
    original: the module account still holds exactly the sum of the deposit records. -/
theorem escrow_reimported (m : Addr) (w : World) (hw : WFG w.g) (h : EscrowInv m w) :
    EscrowInv m { w with g := initGenesis (exportGenesis w.g) } := by
  rw [initGenesis_export w.g hw]; exact escrow_normalise m w hw h

/-- After every history from an initial world the world with the re-imported governance state satisfies both
    invariants. -/
theorem reachable_reimported (m : Addr) (w : World) (h : Init m w) (hv : w.g.votes = []) (ops : List Op) :
    WFH (initGenesis (exportGenesis (runW m w ops).g)) ∧
    EscrowInv m { runW m w ops with g := initGenesis (exportGenesis (runW m w ops).g) } :=
  ⟨history_invariant_reimported _ (wf_reachable m w h hv ops),
   escrow_reimported m _ (wf_reachable m w h hv ops).toWFG (Shentu.Props.C11H.reachable_escrow m w h ops)⟩

namespace Demo

def tp : TallyParams := { quorum := Dec.zero, threshold := Dec.zero, veto := Dec.zero }
def params : Params :=
  { minInitial := [], minDeposit := [("uctk", 100)], depositPeriod := 10, votingPeriod := 10, «default» := tp,
    security := tp, certStake := tp }
def mkP (id status : Nat) (dEnd vEnd : Int) : Proposal :=
  { id := id, kind := "text", status := status, isCouncil := false, proposer := "alice", totalDeposit := [],
    submitTime := 0, depositEnd := dEnd, votingStart := 0, votingEnd := vEnd, tally := ⟨0, 0, 0, 0⟩ }
/-- proposal 1 in deposit period, 2 in certifier voting, 3 in validator voting; alice and bob deposited on them in
    turn; three votes -/
def g3 : State :=
  { proposals := [mkP 1 1 30 0, mkP 2 2 5 20, mkP 3 3 7 15]
    deposits := [⟨1, "alice", [("uctk", 10)]⟩, ⟨2, "alice", [("uctk", 20)]⟩, ⟨1, "bob", [("uctk", 5)]⟩,
                 ⟨3, "bob", [("uctk", 7)]⟩, ⟨2, "bob", [("uctk", 1)]⟩]
    votes := [⟨3, "val1", 1⟩, ⟨2, "cert1", 1⟩, ⟨3, "alice", 3⟩]
    nextId := 4
    params := params }
def w3 : World :=
  { l := { posts := [("gov", "uctk", 43)], supply := [("uctk", 43)] }, g := g3,
    c := { certifiers := [], aliasIdx := [], certs := [], nextId := 1, platforms := [] } }

theorem g3_wf : WFG g3 := by
  refine ⟨?_, ?_, ?_, ?_, ?_⟩ <;> decide +kernel

theorem g3_wfh : WFH g3 := by
  refine { toWFG := g3_wf, fresh := ?_, voteStarted := ?_ } <;> decide +kernel

/-- the demo world with the governance state exported and imported again -/
def w3r : World := { w3 with g := initGenesis (exportGenesis g3) }
/-- one bonded validator with all the stake -/
def sv : StakeView := { vals := [("val1", 1000, Dec.ofInt 1000)], dels := [], totalBonded := 1000 }
def cx (t : Int) : Ctx := { t := t, bond := "uctk", stake := sv }
/-- the postings of the end blocker at time 40: proposal 1 is dropped (alice 10, bob 5 back), proposal 3 is tallied
    (bob 7 back), the certifier round of proposal 2 ends (alice 20, bob 1 back) -/
def postsAfter : List Posting :=
  [("gov", "uctk", 43), ("gov", "uctk", -10), ("alice", "uctk", 10), ("gov", "uctk", -5), ("bob", "uctk", 5),
   ("gov", "uctk", -7), ("bob", "uctk", 7), ("gov", "uctk", -20), ("alice", "uctk", 20), ("gov", "uctk", -1),
   ("bob", "uctk", 1)]

end Demo

/-- non-vacuity of `WFG` and `WFH`: the demo state satisfies them -/
example : WFG Demo.g3 ∧ WFH Demo.g3 := ⟨Demo.g3_wf, Demo.g3_wfh⟩

/-- the import of the demo state's export has the deposits grouped by proposal … -/
example : (initGenesis (exportGenesis Demo.g3)).deposits.map (fun d => (d.pid, d.depositor))
    = [(1, "alice"), (1, "bob"), (2, "alice"), (2, "bob"), (3, "bob")] := by decide +kernel
/-- … and the votes grouped by proposal -/
example : (initGenesis (exportGenesis Demo.g3)).votes.map (fun v => (v.pid, v.voter, v.option))
    = [(2, "cert1", 1), (3, "val1", 1), (3, "alice", 3)] := by decide +kernel
/-- the original order is the interleaved one -/
example : Demo.g3.deposits.map (fun d => (d.pid, d.depositor))
    = [(1, "alice"), (2, "alice"), (1, "bob"), (3, "bob"), (2, "bob")] := by decide +kernel
/-- the rebuilt queues of the demo state: proposal 1 waits for its deposit end at 30; proposal 3 (voting end 15)
    comes before proposal 2 (voting end 20) -/
example : rebuildQueues (exportGenesis Demo.g3).proposals = ⟨[(30, 1)], [(15, 3), (20, 2)]⟩ := by decide +kernel
/-- at time 17 only proposal 3 is due -/
example : dueIds (rebuildQueues (exportGenesis Demo.g3).proposals).active 17 = [3] := by decide +kernel
/-- non-vacuity of the hypothesis of `continuation_same`: the demo world and its re-import are equivalent and are
    different worlds -/
example : EquivW Demo.w3 { Demo.w3 with g := normalise Demo.g3 } := ⟨rfl, rfl, equiv_normalise _ Demo.g3_wf⟩
/-- a concrete continuation: the end blocker at time 40 on the demo world makes these refunds, in this order, and
    leaves proposal 2 rejected and proposal 3 passed … -/
example : (runW "gov" Demo.w3 [.endBlock (Demo.cx 40)]).l.posts = Demo.postsAfter ∧
    (runW "gov" Demo.w3 [.endBlock (Demo.cx 40)]).g.proposals.map (fun p => (p.id, p.status)) = [(2, 5), (3, 4)] := by
  decide +kernel
/-- … and so it does on the re-imported world -/
example : (runW "gov" Demo.w3r [.endBlock (Demo.cx 40)]).l.posts = Demo.postsAfter ∧
    (runW "gov" Demo.w3r [.endBlock (Demo.cx 40)]).g.proposals.map (fun p => (p.id, p.status)) = [(2, 5), (3, 4)] := by
  decide +kernel
/-- non-vacuity of `Init` with no votes: the demo world of C11H -/
example : Init Shentu.Props.C11H.Demo.m Shentu.Props.C11H.Demo.w0 ∧ Shentu.Props.C11H.Demo.w0.g.votes = [] :=
  ⟨Shentu.Props.C11H.Demo.w0_init, rfl⟩

/-- Import after export is not the identity on the model's state: on the demo state (which is well-formed) the
    deposit list comes back in a different order.  The Go store has no such order, records being keyed by proposal
    first; the observable behaviour is the same (`continuation_reimported`). -/
theorem reimport_identity_fails : ¬ (∀ g : State, WFG g → initGenesis (exportGenesis g) = g) := by
  intro h
  have h1 := congrArg (fun s : State => s.deposits.map (fun d => (d.pid, d.depositor))) (h Demo.g3 Demo.g3_wf)
  revert h1
  decide +kernel

/-- The clause of `WFG` that every vote belongs to a stored proposal is needed: a vote record without a proposal is
    not exported, so the re-imported state is not equivalent to the original.  (`C11H.Init` alone does not exclude such
    records, hence the extra hypothesis "no vote record" on initial worlds; no history creates one, `wf_reachable`.) -/
theorem orphan_vote_breaks_equiv :
    ¬ Equiv { Demo.g3 with proposals := [], deposits := [], votes := [⟨1, "val1", 1⟩] }
        (initGenesis (exportGenesis { Demo.g3 with proposals := [], deposits := [], votes := [⟨1, "val1", 1⟩] })) := by
  intro h
  have h1 := congrArg List.length (h.votes 1)
  revert h1
  decide

#print axioms reimport_same
#print axioms normalise_idem
#print axioms normalise_import
#print axioms reexport_same
#print axioms rebuilt_queues_same_as_running
#print axioms rebuilt_queues_sorted
#print axioms rebuilt_queues_content
#print axioms rebuilt_queues_order_independent
#print axioms endBlock_walks_rebuilt_inactive
#print axioms endBlock_walks_rebuilt_active
#print axioms endBlock_walks_rebuilt_all
#print axioms equiv_normalised
#print axioms equiv_is_equivalence
#print axioms vote_same
#print axioms deposit_same
#print axioms submit_same
#print axioms endBlock_same
#print axioms continuation_same
#print axioms equiv_observably_same
#print axioms continuation_reimported
#print axioms wf_init
#print axioms wf_step
#print axioms wf_reachable
#print axioms reachable_continuation_same
#print axioms invariant_reimported
#print axioms history_invariant_reimported
#print axioms escrow_reimported
#print axioms reachable_reimported
#print axioms reimport_identity_fails
#print axioms orphan_vote_breaks_equiv
