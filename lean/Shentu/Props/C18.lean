import Shentu.Gen.CvmBridge
import Shentu.Proofs.VestingLemmas
/-
  C18 — Failed contract calls change nothing and are reported as failures.

  Chain-level statements over the message path `Keeper.Tx`/`Call` and the library of programs the chain engine
  deploys (their EVM meaning is fixed by construction, see harness/sim/gen_bankvm.go); the interpreter-level statements
  (a failing frame leaves the caller's cache untouched) are in Shentu/Props/C18vm.lean and the VM engine.
-/
namespace Shentu.Props.C18
open Shentu Shentu.Cvm

/-- the message path: the result is either the new state, or a reported failure with the state as it was -/
def tx (bond : Denom) (l : Ledger) (vs : Vesting.Accounts) (s : State) (caller callee : Addr) (value : Int)
    (d0 : String) (z : Bool) (t : Addr) (hd : Bool) : (Ledger × State) × Bool :=
  match call bond l vs s caller callee value d0 z t hd with
  | .ok r => (r, true)
  | .error _ => ((l, s), false)

/-- `Keeper.Call` hands the execution's error on: after `k.Tx` the error branch returns the error, and the result is returned with
    `nil` only past it (a `return res, nil` straight after the call would report a failed execution as a success) -/
theorem tie_call_hands_error_on : Gen.CvmBridge.call_found = true ∧ Gen.CvmBridge.call =
    ["return []byte{}, err", "return []byte{}, err",
     "call k.Tx(ctx, callerAddr, calleeAddr, msg.Value, msg.Data, []*payload.ContractMeta{}, view, false, false)",
     "return []byte{}, err", "return res, nil"] := ⟨rfl, rfl⟩

/-- a failure is reported, and a reported failure has changed nothing -/
theorem failed_call_changes_nothing (bond : Denom) (l : Ledger) (vs : Vesting.Accounts) (s : State) (caller callee : Addr) (v : Int)
    (d0 : String) (z : Bool) (t : Addr) (hd : Bool) :
    (tx bond l vs s caller callee v d0 z t hd).2 = false → (tx bond l vs s caller callee v d0 z t hd).1 = (l, s) := by
  unfold tx; split <;> simp

theorem failure_reported (bond : Denom) (l : Ledger) (vs : Vesting.Accounts) (s : State) (caller callee : Addr) (v : Int)
    (d0 : String) (z : Bool) (t : Addr) (hd : Bool) :
    (tx bond l vs s caller callee v d0 z t hd).2 = false ↔ ∃ x, call bond l vs s caller callee v d0 z t hd = .error x := by
  unfold tx; split <;> simp_all

/-- programs that revert, abort or loop fail whatever they did before (their earlier SSTORE / LOG included) -/
theorem failing_programs_fail (bond : Denom) (kind : String) (hk : kind ∈ ["revert", "storeRevert", "logRevert", "loop", "invalid", "storeInvalid"])
    (l : Ledger) (s : State) (caller callee : Addr) (v : Int) (d0 : String) (z : Bool) (t : Addr) (depth : Nat) :
    ∃ x, runKind bond kind l s caller callee v d0 z t depth = .error x := by
  simp only [List.mem_cons, List.mem_nil_iff, or_false] at hk
  rcases hk with h | h | h | h | h | h <;> subst h <;> (unfold runKind; exact ⟨_, rfl⟩)

/-- **An inner call that reverts leaves no trace when the outer call succeeds**: the forwarding contract keeps the value, no
    storage of anybody changes. -/
theorem inner_revert_no_trace_forward (bond : Denom) (l : Ledger) (s : State) (caller callee target : Addr) (v : Int) (d0 : String) (z : Bool)
    (n : Nat) (hk : kindAt s target ∈ ["revert", "storeRevert", "logRevert"]) :
    runKind bond "forward" l s caller callee v d0 z target (n + 1) = .ok (l, s) := by
  simp only [List.mem_cons, List.mem_nil_iff, or_false] at hk
  unfold runKind
  simp only
  rcases hk with h | h | h <;> (rw [h]; unfold runKind; simp [err])

/-- … and for the contract that calls and then records completion: only its own completion slot changes -/
theorem inner_revert_no_trace_innerCall (bond : Denom) (l : Ledger) (s : State) (caller callee target : Addr) (v : Int) (d0 : String) (z : Bool)
    (n : Nat) (hk : kindAt s target ∈ ["revert", "storeRevert", "logRevert"]) :
    runKind bond "innerCall" l s caller callee v d0 z target (n + 1) = .ok (l, setStorage s callee slot1 "1" false) := by
  simp only [List.mem_cons, List.mem_nil_iff, or_false] at hk
  unfold runKind
  simp only
  rcases hk with h | h | h <;> (rw [h]; unfold runKind; simp [err])

/-- **A successful value transfer debits the sender and credits the recipient by exactly the value** -/
theorem transfer_exact (bond : Denom) (l l' : Ledger) (vs : Vesting.Accounts) (s s' : State) (caller callee : Addr) (v : Int)
    (d0 : String) (z : Bool) (t : Addr) (hk : kindAt s callee = "stop")
    (h : call bond l vs s caller callee v d0 z t false = .ok (l', s')) :
    l' = l.move caller callee [(bond, v)] ∧ s' = s := by
  have hr := (call_ok h).2
  rw [hk] at hr
  unfold runKind at hr
  simp only at hr
  cases hr
  exact ⟨rfl, rfl⟩

theorem transfer_moves_exactly (bond : Denom) (l : Ledger) (caller callee : Addr) (v : Int) (hne : caller ≠ callee) :
    (l.move caller callee [(bond, v)]).balOf caller bond = l.balOf caller bond - v ∧
    (l.move caller callee [(bond, v)]).balOf callee bond = l.balOf callee bond + v := by
  constructor <;> rw [Ledger.balOf_move1] <;> simp [hne, Ne.symm hne]

end Shentu.Props.C18

#print axioms Shentu.Props.C18.failed_call_changes_nothing
#print axioms Shentu.Props.C18.inner_revert_no_trace_forward
#print axioms Shentu.Props.C18.transfer_exact
