import Shentu.Gen.EVM
import Shentu.Arith.Spec
import Shentu.Proofs.EVMLemmas
/-
  C16 (arithmetic core) — Contracts compute what the EVM specification says:
  "Arithmetic, comparison, bitwise, shift ... instructions all wrap, truncate and sign-extend as 256-bit EVM words."

  `Gen.EVM.op_X w0 w1 ..` is what the `case X:` of `vm/contract.go` `execute` leaves on top of the stack when
  the words `w0 w1 ..` are popped in that order (regenerated from the Go AST on every run, see translator/evm.go;
  `Option Nat` when the case uses a primitive that can panic or raise an error, `none` being that failure).
  `Spec.x` is the Yellow Paper / execution-specs semantics on `BitVec 256` (Shentu/Arith/Spec.lean).
  Each `refines_X` holds for ALL 256-bit operands.  (In the code before the `fix:` commits 986ee65 / 35da036 SIGNEXTEND and
  BYTE deviate for index operands ≥ 2^64; before 4014336 EXP is not modular.)
-/
namespace Shentu.Props.C16
open Shentu Shentu.Arith Shentu.Gen.EVM

theorem tie_sites : Gen.EVM.allFound = true := rfl

theorem refines_ADD (x y : BitVec 256) : op_ADD x.toNat y.toNat = (Spec.add x y).toNat :=
  pushBigInt_eq (by rw [BitVec.ofInt_add, ofInt_bigOfWord, ofInt_bigOfWord]; rfl)

theorem refines_MUL (x y : BitVec 256) : op_MUL x.toNat y.toNat = (Spec.mul x y).toNat :=
  pushBigInt_eq (by rw [BitVec.ofInt_mul, ofInt_bigOfWord, ofInt_bigOfWord]; rfl)

theorem refines_SUB (x y : BitVec 256) : op_SUB x.toNat y.toNat = (Spec.sub x y).toNat :=
  pushBigInt_eq (by
    rw [Int.sub_eq_add_neg, BitVec.ofInt_add, BitVec.ofInt_neg, ofInt_bigOfWord, ofInt_bigOfWord, ← BitVec.sub_eq_add_neg]
    rfl)

theorem refines_LT (x y : BitVec 256) : op_LT x.toNat y.toNat = (Spec.lt x y).toNat := by
  simp only [op_LT, Spec.lt, Spec.ofBool, bigOfWord, bigCmp_lt, Int.ofNat_lt, decide_eq_true_eq]
  split <;> rfl

theorem refines_GT (x y : BitVec 256) : op_GT x.toNat y.toNat = (Spec.gt x y).toNat := by
  simp only [op_GT, Spec.gt, Spec.ofBool, bigOfWord, bigCmp_gt, gt_iff_lt, Int.ofNat_lt, decide_eq_true_eq]
  split <;> rfl

theorem refines_EQ (x y : BitVec 256) : op_EQ x.toNat y.toNat = (Spec.eq x y).toNat := by
  simp only [op_EQ, Spec.eq, Spec.ofBool, wordEq, beq_iff_eq, decide_eq_true_eq, BitVec.toNat_inj]
  split <;> rfl

theorem refines_ISZERO (x : BitVec 256) : op_ISZERO x.toNat = (Spec.iszero x).toNat := by
  simp only [op_ISZERO, Spec.iszero, Spec.ofBool, wordIsZero, beq_iff_eq, decide_eq_true_eq, toNat_eq_zero]
  split <;> rfl

theorem refines_AND (x y : BitVec 256) : op_AND x.toNat y.toNat = (Spec.and x y).toNat := by
  simp only [op_AND, Spec.and, BitVec.toNat_and, bytewise2_bitwise (· &&& ·) (fun _ _ => Nat.and_mod_two_pow) (fun _ _ => Nat.shiftRight_and_distrib), pow256_32]
  rw [Nat.mod_eq_of_lt (Nat.and_lt_two_pow _ y.isLt)]

theorem refines_OR (x y : BitVec 256) : op_OR x.toNat y.toNat = (Spec.or x y).toNat := by
  simp only [op_OR, Spec.or, BitVec.toNat_or, bytewise2_bitwise (· ||| ·) (fun _ _ => Nat.or_mod_two_pow) (fun _ _ => Nat.shiftRight_or_distrib), pow256_32]
  rw [Nat.mod_eq_of_lt (Nat.or_lt_two_pow x.isLt y.isLt)]

theorem refines_XOR (x y : BitVec 256) : op_XOR x.toNat y.toNat = (Spec.xor x y).toNat := by
  simp only [op_XOR, Spec.xor, BitVec.toNat_xor, bytewise2_bitwise (· ^^^ ·) (fun _ _ => Nat.xor_mod_two_pow) (fun _ _ => Nat.shiftRight_xor_distrib), pow256_32]
  rw [Nat.mod_eq_of_lt (Nat.xor_lt_two_pow x.isLt y.isLt)]

theorem refines_NOT (x : BitVec 256) : op_NOT x.toNat = (Spec.not x).toNat := by
  simp only [op_NOT, Spec.not, BitVec.toNat_not, bytewise1_not, pow256_32]
  rw [Nat.mod_eq_of_lt x.isLt]

theorem refines_DIV (x y : BitVec 256) : op_DIV x.toNat y.toNat = some (Spec.div x y).toNat := by
  refine (guarded_push (· / ·) x.toNat y.toNat).trans ?_
  simp only [Spec.div, apply_ite BitVec.toNat, Int.natCast_eq_zero, toNat_eq_zero, ← Int.natCast_ediv, u256_natCast,
    BitVec.toNat_ofNat]
  rfl

theorem refines_MOD (x y : BitVec 256) : op_MOD x.toNat y.toNat = some (Spec.mod x y).toNat := by
  refine (guarded_push (· % ·) x.toNat y.toNat).trans ?_
  simp only [Spec.mod, apply_ite BitVec.toNat, Int.natCast_eq_zero, toNat_eq_zero, ← Int.natCast_emod, u256_natCast,
    BitVec.toNat_ofNat]
  rfl

theorem refines_ADDMOD (x y z : BitVec 256) : op_ADDMOD x.toNat y.toNat z.toNat = some (Spec.addmod x y z).toNat := by
  refine (guarded_push (· % ·) (x.toNat + y.toNat) z.toNat).trans ?_
  simp only [Spec.addmod, apply_ite BitVec.toNat, Int.natCast_eq_zero, toNat_eq_zero, ← Int.natCast_add,
    ← Int.natCast_emod, u256_natCast, BitVec.toNat_ofNat]
  rfl

theorem refines_MULMOD (x y z : BitVec 256) : op_MULMOD x.toNat y.toNat z.toNat = some (Spec.mulmod x y z).toNat := by
  refine (guarded_push (· % ·) (x.toNat * y.toNat) z.toNat).trans ?_
  simp only [Spec.mulmod, apply_ite BitVec.toNat, Int.natCast_eq_zero, toNat_eq_zero, ← Int.natCast_mul,
    ← Int.natCast_emod, u256_natCast, BitVec.toNat_ofNat]
  rfl

/-- EXP is computed as `Exp(x, y, tt256)` with the package-level `tt256 = 1 << 256` (resolved from its declaration) -/
theorem refines_EXP (x y : BitVec 256) : op_EXP x.toNat y.toNat = some (Spec.exp x y).toNat := by
  simp only [op_EXP, Spec.exp, bigOfWord, bigExpMod_natCast, Option.bind_some, pushBigInt, BitVec.toNat_ofNat,
    u256_natCast, Nat.mod_mod]

theorem refines_SDIV (x y : BitVec 256) : op_SDIV x.toNat y.toNat = some (Spec.sdiv x y).toNat := by
  refine (guarded_push Int.tdiv _ _).trans ?_
  rw [bigOfWordSigned_toNat, bigOfWordSigned_toNat]
  by_cases h : y = 0
  · subst h; rfl
  · rw [if_neg (mt (toInt_eq_zero y).1 h), Spec.sdiv_eq_tdiv x y h, Spec.ofSigned, toNat_ofInt_eq_u256]

theorem refines_SMOD (x y : BitVec 256) : op_SMOD x.toNat y.toNat = some (Spec.smod x y).toNat := by
  refine (guarded_push Int.tmod _ _).trans ?_
  rw [bigOfWordSigned_toNat, bigOfWordSigned_toNat]
  by_cases h : y = 0
  · subst h; rfl
  · rw [if_neg (mt (toInt_eq_zero y).1 h), Spec.smod_eq_tmod x y h, Spec.ofSigned, toNat_ofInt_eq_u256]

theorem refines_SLT (x y : BitVec 256) : op_SLT x.toNat y.toNat = (Spec.slt x y).toNat := by
  simp only [op_SLT, Spec.slt, Spec.ofBool, bigOfWordSigned_toNat, bigCmp_lt, decide_eq_true_eq]
  split <;> rfl

theorem refines_SGT (x y : BitVec 256) : op_SGT x.toNat y.toNat = (Spec.sgt x y).toNat := by
  simp only [op_SGT, Spec.sgt, Spec.ofBool, bigOfWordSigned_toNat, bigCmp_gt, decide_eq_true_eq]
  split <;> rfl

theorem refines_SAR (s x : BitVec 256) : op_SAR s.toNat x.toNat = (Spec.sar s x).toNat := by
  unfold op_SAR
  refine (guarded_shift s.toNat (if bigSign (bigOfWordSigned x.toNat) < 0 then pushBigInt (-1) else pushBigInt 0)
    fun n => pushBigInt (bigRsh (bigOfWordSigned x.toNat) n)).trans ?_
  rw [bigOfWordSigned_toNat, Spec.sar, apply_ite BitVec.toNat]
  congr 1
  by_cases hx : x.toInt < 0
  · rw [if_pos ((bigSign_neg _).2 hx), if_neg (by omega)]; rfl
  · rw [if_neg (mt (bigSign_neg _).1 hx), if_pos (by omega)]; rfl

theorem refines_SIGNEXTEND (b x : BitVec 256) : op_SIGNEXTEND b.toNat x.toNat = (Spec.signextend b x).toNat := by
  unfold op_SIGNEXTEND
  refine (guarded_index b.toNat 31 (by omega)
    (fun n => pushBigInt (signExtend (bigOfWord x.toNat) (u64 (u64 (n + 1) * 8)))) x.toNat).trans ?_
  rw [Spec.signextend, apply_ite BitVec.toNat]
  by_cases hb : b.toNat < 31
  · have h2 : u64 (u64 (b.toNat + 1) * 8) = 8 * (b.toNat + 1) := by unfold u64; omega
    rw [if_pos hb, if_pos hb, h2]
    refine pushBigInt_eq (Eq.trans ?_ BitVec.ofInt_toInt)
    rw [bigOfWord, signExtend_eq_bmod _ _ (by omega), BitVec.toInt_signExtend_of_le (by omega), BitVec.toInt_setWidth]
  · rw [if_neg hb, if_neg hb]

theorem refines_SHL (s x : BitVec 256) : op_SHL s.toNat x.toNat = (Spec.shl s x).toNat := by
  refine (guarded_shift s.toNat (pushBigInt 0) fun n => pushBigInt (bigLsh (x.toNat : Int) n)).trans ?_
  rw [Spec.shl, apply_ite BitVec.toNat, BitVec.toNat_shiftLeft, Nat.shiftLeft_eq, ← u256_natCast, Int.natCast_mul,
    Int.natCast_pow]
  rfl

theorem refines_SHR (s x : BitVec 256) : op_SHR s.toNat x.toNat = (Spec.shr s x).toNat := by
  refine (guarded_shift s.toNat (pushBigInt 0) fun n => pushBigInt (bigRsh (x.toNat : Int) n)).trans ?_
  rw [Spec.shr, apply_ite BitVec.toNat, BitVec.toNat_ushiftRight, Nat.shiftRight_eq_div_pow,
    ← Nat.mod_eq_of_lt (Nat.lt_of_le_of_lt (Nat.div_le_self _ _) x.isLt), ← u256_natCast, Int.natCast_ediv, Int.natCast_pow]
  rfl

theorem refines_BYTE (i x : BitVec 256) : op_BYTE i.toNat x.toNat = some (Spec.byte i x).toNat := by
  unfold op_BYTE
  refine (guarded_index i.toNat 32 (by omega) (fun n => (wordByte x.toNat n).bind fun res => some (push64 res))
    (some (push64 0))).trans ?_
  rw [Spec.byte_toNat]
  by_cases hi : i.toNat < 32
  · rw [if_pos hi, if_pos hi, wordByte, if_pos hi]
    exact congrArg some (Nat.mod_eq_of_lt (Nat.lt_trans (Nat.mod_lt _ (by decide)) (by decide)))
  · rw [if_neg hi, if_neg hi]; rfl

/-- index operands ≥ 2^64 (where the code before 986ee65 / 35da036 deviates) follow the specification -/
example : op_SIGNEXTEND (2 ^ 64) 0xff = 0xff ∧ op_BYTE (2 ^ 64) 1 = some 0 := by decide

end Shentu.Props.C16

#print axioms Shentu.Props.C16.tie_sites
#print axioms Shentu.Props.C16.refines_ADD
#print axioms Shentu.Props.C16.refines_MUL
#print axioms Shentu.Props.C16.refines_SUB
#print axioms Shentu.Props.C16.refines_DIV
#print axioms Shentu.Props.C16.refines_SDIV
#print axioms Shentu.Props.C16.refines_MOD
#print axioms Shentu.Props.C16.refines_SMOD
#print axioms Shentu.Props.C16.refines_ADDMOD
#print axioms Shentu.Props.C16.refines_MULMOD
#print axioms Shentu.Props.C16.refines_EXP
#print axioms Shentu.Props.C16.refines_SIGNEXTEND
#print axioms Shentu.Props.C16.refines_LT
#print axioms Shentu.Props.C16.refines_GT
#print axioms Shentu.Props.C16.refines_SLT
#print axioms Shentu.Props.C16.refines_SGT
#print axioms Shentu.Props.C16.refines_EQ
#print axioms Shentu.Props.C16.refines_ISZERO
#print axioms Shentu.Props.C16.refines_AND
#print axioms Shentu.Props.C16.refines_OR
#print axioms Shentu.Props.C16.refines_XOR
#print axioms Shentu.Props.C16.refines_NOT
#print axioms Shentu.Props.C16.refines_BYTE
#print axioms Shentu.Props.C16.refines_SHL
#print axioms Shentu.Props.C16.refines_SHR
#print axioms Shentu.Props.C16.refines_SAR

