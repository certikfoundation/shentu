import Shentu.Proofs.C19HHistory
/-
  C19 over whole histories — "Locked coins stay locked until the designated unlocker releases them."

  `Props/C19.lean` proves the rules one operation at a time.  This file proves them for every history: any list of
  operations, of any length, in any order, signed by anybody, applied from any well-formed world.

  The operations (`C19H.Op`, defined in `Proofs/C19HDefs.lean`) are: plain send (to an account or to a contract), multi-send,
  fee payment, locked send (creating the vesting account or topping it up), unlock (by anybody), contract call and contract
  deployment carrying value, delegation.  `step` applies the model's own function and keeps the world when it reports an
  error.  `run` folds `step` over the history.  The models have no undelegation, so neither has `Op`.

  What is proved, for every history:
   (a) the unlocked total of every vesting account is between 0 and what was locked, in every denomination;
   (b) the unlocker of a vesting account never changes, and a vesting account stays one;
   (c) the still-locked coins of every vesting account are in its balance or among the coins the model records as delegated
       while locked (`dv`), in every denomination; hence also balance + everything delegated (`dv + df`) covers them, and the
       balance alone covers `LockedCoins` (what the bank refuses to spend);
   (d) the still-locked amount goes down only in an unlock signed by the account's unlocker and goes up only in a locked send to
       the account; over a history it changes by exactly the logged locked sends minus the logged unlocks (and separately: the
       locked total by the logged locked sends, the unlocked total by the logged unlocks), and every logged unlock was signed
       by the unlocker the account still has at the end.

  What is assumed: the start world is well-formed (`C19H.WF`).  That means: no negative balance; one record per vesting
  address; every record satisfies (a), has non-negative delegated amounts, and satisfies (c); no vesting account holds contract
  code.  The empty world, and every world without vesting accounts and without negative balances, is well-formed
  (`wf_empty`, `wf_without_vesting`), and every step keeps well-formedness (`step_keeps_wf`).  (b) and (d) need no assumption.

  The model tracks delegation by the two counters of the vesting account (`dv`, `df`), not by a staking store; (c) is stated
  with these counters.
-/
namespace Shentu.Props.C19H
open Shentu Shentu.Vesting Shentu.C19H

/-! ### Well-formedness: where histories may start, and that steps keep it -/

theorem wf_empty : WF World.empty := by
  refine ⟨?_, ?_, ?_, ?_⟩
  · intro a d; exact Int.le_refl 0
  · exact List.nodup_nil
  · intro a m h; cases h
  · intro a m h; cases h

/-- Every world without vesting accounts and without negative balances is well-formed.
    Contracts, known addresses and balances may be anything. -/
theorem wf_without_vesting (w : World) (hv : w.vs = []) (hn : ∀ a d, 0 ≤ w.l.balOf a d) : WF w := by
  refine ⟨hn, by rw [hv]; exact List.nodup_nil, ?_, ?_⟩
  · intro a m h; rw [hv] at h; cases h
  · intro a m h; rw [hv] at h; cases h

/-- One step keeps a well-formed world well-formed, whatever the operation and whoever signs it. -/
theorem step_keeps_wf (c : Cfg) (w : World) (op : Op) (hw : WF w) : WF (step c w op) := step_wf c w op hw

theorem run_keeps_wf (c : Cfg) (w : World) (ops : List Op) (hw : WF w) : WF (run c w ops) := run_wf c ops w hw

/-! ### (a) The unlocked total never exceeds what was locked -/

/-- After any history from a well-formed world, every vesting account has `0 ≤ unlocked ≤ locked` in every denomination. -/
theorem unlocked_within_original (c : Cfg) (w : World) (ops : List Op) (hw : WF w) :
    ∀ m ∈ (run c w ops).vs, ∀ d, 0 ≤ Coins.amountOf m.vested d ∧ Coins.amountOf m.vested d ≤ Coins.amountOf m.ov d := by
  intro m hm d
  have hr := run_wf c ops w hw
  have ho := hr.mem hm
  exact ⟨ho.vested_nonneg d, ho.vested_le d⟩

/-! ### (b) The unlocker never changes -/

/-- An address that is a vesting account stays one through any history, with the same unlocker.
    No assumption on the start world. -/
theorem unlocker_never_changes (c : Cfg) (w : World) (ops : List Op) (a : Addr) (m : MVA) (h : find w.vs a = some m) :
    ∃ m', find (run c w ops).vs a = some m' ∧ m'.unlocker = m.unlocker :=
  (run_effect c ops w).keep a m h

/-- The same between any two points of a history: what holds after `ops1` still holds after `ops1 ++ ops2`. -/
theorem unlocker_never_changes_later (c : Cfg) (w : World) (ops1 ops2 : List Op) (a : Addr) (m : MVA)
    (h : find (run c w ops1).vs a = some m) :
    ∃ m', find (run c w (ops1 ++ ops2)).vs a = some m' ∧ m'.unlocker = m.unlocker := by
  rw [run_append]; exact unlocker_never_changes c _ ops2 a m h

/-- The same for the records themselves: from a well-formed world, every record of the start has a record with the same
    address and the same unlocker at the end. -/
theorem unlocker_never_changes_mem (c : Cfg) (w : World) (ops : List Op) (hw : WF w) :
    ∀ m ∈ w.vs, ∃ m' ∈ (run c w ops).vs, m'.addr = m.addr ∧ m'.unlocker = m.unlocker := by
  intro m hm
  obtain ⟨m', hf, hu⟩ := unlocker_never_changes c w ops m.addr m (find_of_key hw.nodup hm)
  exact ⟨m', find_mem hf, find_addr hf, hu⟩

/-- An unlock signed by anybody but the recorded unlocker changes nothing. -/
theorem unlock_by_stranger_changes_nothing (c : Cfg) (w : World) (issuer a : Addr) (amt : Coins) (m : MVA)
    (hm : find w.vs a = some m) (hne : issuer ≠ m.unlocker) : step c w (.unlock issuer a amt) = w := by
  rcases step_cases c w (.unlock issuer a amt) with ⟨h, _⟩ | ⟨_, _, h, _⟩
  · exact h
  · cases h with
    | unlock hs =>
      obtain ⟨m', hm', hiss, _⟩ := unlock_ok hs
      rw [hm] at hm'; cases hm'
      exact absurd hiss hne

/-- A locked send that names an unlocker for an account that already is a vesting account changes nothing. -/
theorem lockedSend_naming_unlocker_changes_nothing (c : Cfg) (w : World) (src dst u : Addr) (amt : Coins) (m : MVA)
    (hm : find w.vs dst = some m) (hu : u ≠ "") : step c w (.lockedSend src dst u amt) = w := by
  rcases step_cases c w (.lockedSend src dst u amt) with ⟨h, _⟩ | ⟨_, _, h, _⟩
  · exact h
  · cases h with
    | lockedSend hs =>
      obtain ⟨m', hcase, _⟩ := lockedSend_ok hs
      rcases hcase with ⟨_, hu'⟩ | ⟨hn, _⟩
      · exact absurd hu' hu
      · rw [hm] at hn; cases hn

/-! ### (c) The still-locked coins are in the account or delegated -/

/-- After any history from a well-formed world, for every vesting account and every denomination:
    locked − unlocked ≤ balance + delegated-while-locked. -/
theorem locked_coins_present (c : Cfg) (w : World) (ops : List Op) (hw : WF w) :
    ∀ m ∈ (run c w ops).vs, ∀ d,
      Coins.amountOf m.ov d - Coins.amountOf m.vested d ≤ (run c w ops).l.balOf m.addr d + Coins.amountOf m.dv d := by
  intro m hm d
  exact ((run_wf c ops w hw).mem hm).present d

/-- Hence balance + everything the account has delegated (`dv + df`) covers the still-locked amount. -/
theorem locked_coins_present_or_delegated (c : Cfg) (w : World) (ops : List Op) (hw : WF w) :
    ∀ m ∈ (run c w ops).vs, ∀ d,
      Coins.amountOf m.ov d - Coins.amountOf m.vested d ≤
        (run c w ops).l.balOf m.addr d + (Coins.amountOf m.dv d + Coins.amountOf m.df d) := by
  intro m hm d
  have hr := run_wf c ops w hw
  have ho := hr.mem hm
  have := ho.present d
  have := ho.df_nonneg d
  unfold vestingAmt at *
  omega

/-- Hence the model's `LockInv` holds after every history: the balance alone covers `LockedCoins`, the amount the bank
    refuses to let out (still-locked minus what of it is delegated, never below zero). -/
theorem lockInv_always (c : Cfg) (w : World) (ops : List Op) (hw : WF w) : LockInv (run c w ops).l (run c w ops).vs := by
  intro m hm d
  have hr := run_wf c ops w hw
  have ho := hr.mem hm
  have := ho.present d
  have := hr.nonneg m.addr d
  unfold lockedAmt
  omega

/-! ### (d) Only the unlocker lowers the still-locked amount, only a locked send raises it -/

/-- If a step lowers the still-locked amount of `a`, the step is an unlock of `a` signed by the unlocker recorded for `a`. -/
theorem stillLocked_decreases_only_by_unlocker (c : Cfg) (w : World) (op : Op) (a : Addr) (d : Denom)
    (h : stillLocked (step c w op) a d < stillLocked w a d) :
    ∃ issuer amt m, op = .unlock issuer a amt ∧ find w.vs a = some m ∧ issuer = m.unlocker := by
  have he := step_effect c w op
  have hacct := he.acct a d
  rcases changeOf_cases c w op with h0 | ⟨src, dst, u, amt, _, h1⟩ | ⟨issuer, account, amt, m, hop, h1, hm, hiss⟩
  · rw [h0] at hacct; simp at hacct; omega
  · have hp := he.pos (.locked dst amt) (by rw [h1]; simp) d
    rw [h1, lockedIn_locked, unlockedOut_locked] at hacct
    simp only [Change.amt] at hp
    split at hacct <;> omega
  · rw [h1, lockedIn_unlocked, unlockedOut_unlocked] at hacct
    by_cases e : account = a
    · subst e; exact ⟨issuer, amt, m, hop, hm, hiss⟩
    · simp only [e, if_false] at hacct; omega

/-- If a step raises the still-locked amount of `a`, the step is a locked send to `a`. -/
theorem stillLocked_increases_only_by_lockedSend (c : Cfg) (w : World) (op : Op) (a : Addr) (d : Denom)
    (h : stillLocked w a d < stillLocked (step c w op) a d) :
    ∃ src u amt, op = .lockedSend src a u amt := by
  have he := step_effect c w op
  have hacct := he.acct a d
  rcases changeOf_cases c w op with h0 | ⟨src, dst, u, amt, hop, h1⟩ | ⟨issuer, account, amt, m, _, h1, _, _⟩
  · rw [h0] at hacct; simp at hacct; omega
  · rw [h1, lockedIn_locked, unlockedOut_locked] at hacct
    by_cases e : dst = a
    · subst e; exact ⟨src, u, amt, hop⟩
    · simp only [e, if_false] at hacct; omega
  · have hp := he.pos (.unlocked account issuer amt) (by rw [h1]; simp) d
    rw [h1, lockedIn_unlocked, unlockedOut_unlocked] at hacct
    simp only [Change.amt] at hp
    split at hacct <;> omega

/-- Over any history, from any world: the still-locked amount of `a` at the end is its value at the start, plus the logged
    locked sends to `a`, minus the logged unlocks of `a`.  (`stillLocked` is 0 for an address that is not a vesting account,
    so for an account created during the history the start value is 0.) -/
theorem stillLocked_accounting (c : Cfg) (w : World) (ops : List Op) (a : Addr) (d : Denom) :
    stillLocked (run c w ops) a d =
      stillLocked w a d + lockedIn (changes c w ops) a d - unlockedOut (changes c w ops) a d :=
  (run_effect c ops w).acct a d

/-- The two halves separately: what the account has received by locked sends is the start value plus the logged locked sends;
    what has been unlocked is the start value plus the logged unlocks.  Nothing else changes either of them. -/
theorem original_and_unlocked_accounting (c : Cfg) (w : World) (ops : List Op) (a : Addr) (d : Denom) :
    originalOf (run c w ops) a d = originalOf w a d + lockedIn (changes c w ops) a d ∧
    unlockedOf (run c w ops) a d = unlockedOf w a d + unlockedOut (changes c w ops) a d :=
  (run_effect c ops w).acct2 a d

/-- Every unlock in the log of a history was signed by the unlocker that the account has at the end of the history
    (which by (b) is the one it had when it was created). -/
theorem logged_unlocks_signed_by_unlocker (c : Cfg) (w : World) (ops : List Op) (a i : Addr) (amt : Coins)
    (h : Change.unlocked a i amt ∈ changes c w ops) :
    ∃ m, find (run c w ops).vs a = some m ∧ m.unlocker = i :=
  (run_effect c ops w).signer a i amt h

/-- Every logged amount is non-negative in every denomination: the two sums of the accounting have no cancelling terms. -/
theorem logged_amounts_nonneg (c : Cfg) (w : World) (ops : List Op) :
    ∀ e ∈ changes c w ops, ∀ d, 0 ≤ Coins.amountOf e.amt d :=
  (run_effect c ops w).pos

/-! ### Non-vacuity: a concrete history -/

namespace Demo

def cfg : Cfg := { bond := "uctk", feeCollector := "fees" }

/-- alice holds 1000, bob exists, there is one contract (of the kind that destroys itself and pays its caller) holding 5 -/
def w0 : World :=
  { l := { posts := [("alice", "uctk", 1000), ("c", "uctk", 5)], supply := [("uctk", 1005)] }
    vs := []
    cvm := { contracts := [{ addr := "c", code := "33FF", storage := [] }] }
    accts := ["alice", "bob", "c"] }

def uctk (x : Int) : Coins := [("uctk", x)]

/-- 1. alice locks 100 for `m`, unlocker `u`.  2. alice sends `m` 50 more, freely spendable. -/
def h2 : List Op := [.lockedSend "alice" "m" "u" (uctk 100), .send "alice" "m" (uctk 50)]
/-- 3. a stranger tries to unlock 30: refused.  4. the unlocker unlocks 30. -/
def h4 : List Op := h2 ++ [.unlock "x" "m" (uctk 30), .unlock "u" "m" (uctk 30)]
/-- 5. `m` tries to send 81 (80 are free): refused.  6. `m` sends the free 80. -/
def h6 : List Op := h4 ++ [.send "m" "bob" (uctk 81), .send "m" "bob" (uctk 80)]
/-- 7. `m` tries to call a contract with value 1, to deploy with value 1, to pay a fee of 1, and alice tries to name a new
    unlocker: all refused.  8. `m` delegates the locked 70: allowed. -/
def h8 : List Op := h6 ++ [.call "m" "c" 1 Cvm.slot0 true "" false, .deploy "m" "n" "00" 1, .fee "m" (uctk 1),
  .lockedSend "alice" "m" "v" (uctk 1), .delegate "m" "pool" "uctk" 70]

/-- did the operation go through in this world? -/
def accepted (w : World) (op : Op) : Bool := match stepE cfg w op with | .ok _ => true | .error _ => false
def refusedWith (w : World) (op : Op) (kind : String) : Bool :=
  match stepE cfg w op with | .ok _ => false | .error e => e.kind == kind

/-- the start world is well-formed (hypothesis of (a), (c), `run_keeps_wf`): it has balances and a contract -/
theorem w0_wf : WF w0 := wf_without_vesting w0 rfl (Ledger.balOf_nonneg_of_posts w0.l (by decide))

/-- a well-formed world WITH a vesting account holding locked, unlocked and free coins: `WF` is not only about empty lists -/
example : WF (run cfg w0 h6) ∧ (run cfg w0 h6).vs.length = 1 := ⟨run_keeps_wf cfg w0 h6 w0_wf, by decide +kernel⟩

-- 1–2: the locked send creates the account; 100 are locked, 150 are held
example : accepted w0 (.lockedSend "alice" "m" "u" (uctk 100)) = true := by decide +kernel
example : (find (run cfg w0 h2).vs "m").map (·.unlocker) = some "u" := by decide +kernel
example : (run cfg w0 h2).l.balOf "m" "uctk" = 150 ∧ stillLocked (run cfg w0 h2) "m" "uctk" = 100 := by decide +kernel
-- 3: the stranger is refused (hypotheses of `unlock_by_stranger_changes_nothing`: the account exists, "x" is not its unlocker)
example : refusedWith (run cfg w0 h2) (.unlock "x" "m" (uctk 30)) "auth:not-the-unlocker" = true := by decide +kernel
-- 4: the unlocker unlocks a part (hypothesis of `stillLocked_decreases_only_by_unlocker`)
example : stillLocked (step cfg (run cfg w0 h2) (.unlock "u" "m" (uctk 30))) "m" "uctk" < stillLocked (run cfg w0 h2) "m" "uctk" := by
  decide +kernel
example : stillLocked (run cfg w0 h4) "m" "uctk" = 70 := by decide +kernel
-- … but not more than what is locked
example : refusedWith (run cfg w0 h4) (.unlock "u" "m" (uctk 71)) "auth:unlock-exceeds-original" = true := by decide +kernel
-- hypothesis of `stillLocked_increases_only_by_lockedSend`
example : stillLocked w0 "m" "uctk" < stillLocked (step cfg w0 (.lockedSend "alice" "m" "u" (uctk 100))) "m" "uctk" := by decide +kernel
-- 5–6: the over-spend is refused, the free part goes out
example : refusedWith (run cfg w0 h4) (.send "m" "bob" (uctk 81)) "bank:insufficient-funds" = true := by decide +kernel
example : accepted (run cfg w0 h4) (.send "m" "bob" (uctk 80)) = true := by decide +kernel
example : (run cfg w0 h6).l.balOf "m" "uctk" = 70 ∧ (run cfg w0 h6).l.balOf "bob" "uctk" = 80 := by decide +kernel
-- 7: with only locked coins left, every way out is refused: call with value, deployment with value, fee, multi-send, send to a contract
example : refusedWith (run cfg w0 h6) (.call "m" "c" 1 Cvm.slot0 true "" false) "bank:insufficient-funds" = true := by decide +kernel
example : refusedWith (run cfg w0 h6) (.deploy "m" "n" "00" 1) "bank:insufficient-funds" = true := by decide +kernel
example : refusedWith (run cfg w0 h6) (.fee "m" (uctk 1)) "bank:insufficient-funds" = true := by decide +kernel
example : refusedWith (run cfg w0 h6) (.multiSend "m" [("bob", uctk 1)]) "bank:insufficient-funds" = true := by decide +kernel
example : refusedWith (run cfg w0 h6) (.send "m" "c" (uctk 1)) "bank:insufficient-funds" = true := by decide +kernel
-- … and a new unlocker cannot be named (hypotheses of `lockedSend_naming_unlocker_changes_nothing`)
example : refusedWith (run cfg w0 h6) (.lockedSend "alice" "m" "v" (uctk 1)) "bank:cannot-change-unlocker" = true := by decide +kernel
-- the same call without value is accepted: the contract destroys itself and pays `m`, which only adds to the account
example : accepted (run cfg w0 h6) (.call "m" "c" 0 Cvm.slot0 true "" false) = true := by decide +kernel
example : (step cfg (run cfg w0 h6) (.call "m" "c" 0 Cvm.slot0 true "" false)).l.balOf "m" "uctk" = 75 := by decide +kernel
-- 8: the locked coins can be delegated; they are then counted in `dv`
example : (run cfg w0 h8).l.balOf "m" "uctk" = 0 ∧ stillLocked (run cfg w0 h8) "m" "uctk" = 70 ∧
    (find (run cfg w0 h8).vs "m").map (fun m => Coins.amountOf m.dv "uctk") = some 70 := by decide +kernel
-- the log of the whole history (hypothesis of `logged_unlocks_signed_by_unlocker`) and its sums
example : Change.unlocked "m" "u" (uctk 30) ∈ changes cfg w0 h8 := by decide +kernel
example : changes cfg w0 h8 = [.locked "m" (uctk 100), .unlocked "m" "u" (uctk 30)] := by decide +kernel
example : lockedIn (changes cfg w0 h8) "m" "uctk" = 100 ∧ unlockedOut (changes cfg w0 h8) "m" "uctk" = 30 := by decide +kernel

/-! Why `WF` asks that no vesting account holds code, and why the value of a call is a `Nat`.
    Both are facts about the model functions taken alone; on the chain a vesting address cannot hold code (a deployment address is
    fresh, and a locked send to an account with code is refused) and the value is a `uint64`. -/

/-- a world where the vesting address `m` (100 locked, nothing unlocked) also holds self-destructing code -/
def wCode : World :=
  { l := { posts := [("m", "uctk", 100)], supply := [("uctk", 100)] }
    vs := [{ addr := "m", ov := uctk 100, vested := [], dv := [], df := [], unlocker := "u" }]
    cvm := { contracts := [{ addr := "m", code := "33FF", storage := [] }] }
    accts := ["m", "bob"] }
/-- anybody's call without value empties it: (c) is false for worlds outside `WF` -/
example : stillLocked wCode "m" "uctk" = 100 ∧ (step cfg wCode (.call "bob" "m" 0 Cvm.slot0 true "" false)).l.balOf "m" "uctk" = 0 := by
  decide +kernel
/-- the model's `Cvm.call` with a negative value takes the coins from the callee unchecked; `Op.call` cannot express it -/
example : (match Cvm.call "uctk" (run cfg w0 h2).l (run cfg w0 h2).vs (run cfg w0 h2).cvm "bob" "m" (-150) Cvm.slot0 true "" false with
    | .ok (l, _) => l.balOf "m" "uctk"
    | .error _ => -1) = 0 := by decide +kernel

end Demo

end Shentu.Props.C19H

#print axioms Shentu.Props.C19H.wf_empty
#print axioms Shentu.Props.C19H.wf_without_vesting
#print axioms Shentu.Props.C19H.step_keeps_wf
#print axioms Shentu.Props.C19H.run_keeps_wf
#print axioms Shentu.Props.C19H.unlocked_within_original
#print axioms Shentu.Props.C19H.unlocker_never_changes
#print axioms Shentu.Props.C19H.unlocker_never_changes_later
#print axioms Shentu.Props.C19H.unlocker_never_changes_mem
#print axioms Shentu.Props.C19H.unlock_by_stranger_changes_nothing
#print axioms Shentu.Props.C19H.lockedSend_naming_unlocker_changes_nothing
#print axioms Shentu.Props.C19H.locked_coins_present
#print axioms Shentu.Props.C19H.locked_coins_present_or_delegated
#print axioms Shentu.Props.C19H.lockInv_always
#print axioms Shentu.Props.C19H.stillLocked_decreases_only_by_unlocker
#print axioms Shentu.Props.C19H.stillLocked_increases_only_by_lockedSend
#print axioms Shentu.Props.C19H.stillLocked_accounting
#print axioms Shentu.Props.C19H.original_and_unlocked_accounting
#print axioms Shentu.Props.C19H.logged_unlocks_signed_by_unlocker
#print axioms Shentu.Props.C19H.logged_amounts_nonneg
#print axioms Shentu.Props.C19H.Demo.w0_wf
