import Shentu.Props.C03a
import Shentu.Props.C03b
import Shentu.Proofs.HaltShieldExpire
import Shentu.Proofs.HaltShieldOps
import Shentu.Proofs.HaltShieldPayout
import Shentu.Proofs.HaltOracleOps
import Shentu.Proofs.HaltGov
/-
  C08 — The chain never halts: block processing completes in every reachable state.

  "For every state the chain can reach through accepted transactions, beginning and ending the next block completes
   without a fatal error, whatever the block time and whatever proposals, expiries, withdrawals, payouts and task
   aggregations fall due in it.  A transaction can fail, but no transaction sequence can leave state that makes later
   block processing abort."

  In the models a Go panic is the error value `panicE site`; inside Begin/EndBlock it halts the chain.  The theorems
  below say: the block-level functions of the shield, oracle and governance models return `.ok` on every state that
  satisfies the invariants, and the invariants are kept by every operation (so by every history).

  Here stand the invariant `HaltInv`, the side conditions on the inputs (`adm`, `timeOk`, `AdmissibleT`), the tables over the
  25 operations that keep them, and the property theorems; the lemmas under them are in `Shentu/Proofs/Halt*.lean`.
-/
namespace Shentu.Props.C08
open Shentu Shentu.Shield Shentu.Shield.Coll Shentu.Shield.PoolLm Shentu.Halt

/-- site "unmodelled:stake-expiry": no purchase has both unstreamed fees and an original-staking record -/
theorem noFeeAndStake_def (s : State) :
    NoFeeAndStake s ↔ ∀ l ∈ s.lists, ∀ en ∈ l.entries, en.fees.raw > 0 →
      ¬ s.origStakings.any (fun o => o.1 == en.id && o.2 != 0) := Iff.rfl

/-- site "shield:negative-service-fees": the service-fee total covers the not-yet-streamed fees of all purchases.
    It is `≥`, not `=`: `MsgUpdatePool` with fees but without shield adds to the total without creating a purchase
    (and the model does not exclude that a purchase is deleted with fees that were never streamed).
    (That every entry's fees are non-negative is the clause `entryNonneg` of `PoolInv`.) -/
theorem feesInv_def (s : State) :
    FeesInv s ↔ sumI (fun l => sumI (fun en => en.fees.raw) l.entries) s.lists ≤ s.serviceFees.raw := Iff.rfl

/-- site "shield:expired-purchase-without-pool" (and every other failure of the expiry loop): under the books
    invariant the loop over the expiring-purchase queue completes, whatever pairs the queue names -/
theorem expireLoop_never_panics (now : Int) (ps : List (Nat × Addr)) (s : State) (hp : PoolInv s) :
    ∃ acc, expireLoop now ps { s := s, fees := Dec.zero, totalFees := s.serviceFees, totalShield := s.totalShield } = .ok acc :=
  expireLoop_total now ps _ (hp.toShieldInv.congr rfl rfl rfl rfl rfl)

/-- site "shield:negative-remaining" is unreachable: `distributeLoop` caps every share by what remains -/
theorem distribute_remaining_nonneg (total : Int) (fees : Dec) (ps : List Provider) (rem : Dec) (h : 0 ≤ rem.raw) :
    0 ≤ (distributeLoop total fees ps rem).2.raw := distributeLoop_rem_nonneg total fees ps rem h

/-- the first step of the end-blocker (`RemoveExpiredPurchasesAndDistributeFees`) completes -/
theorem expireAndDistribute_never_halts (e : Env) (s : State) (hp : PoolInv s) (hn : NoFeeAndStake s) (hf : FeesInv s)
    (hr : 0 ≤ s.remaining.raw) : ∃ s', expireAndDistribute e s = .ok s' :=
  expireAndDistribute_total e s hp.toShieldInv hn hf hr

/-- **"ending the next block completes without a fatal error" — x/shield's `EndBlocker`**, for every block time:
    expiry and fee distribution, completed withdrawals, pool closing.  All five panic / error sites are excluded:
    "expired-purchase-without-pool" by `PoolInv`, "unmodelled:stake-expiry" by `NoFeeAndStake`,
    "negative-service-fees" by `FeesInv`, "negative-remaining" by `0 ≤ remaining`,
    "withdrawal-without-provider" by `CollInv`. -/
theorem shield_endBlock_never_halts (e : Env) (s : State) (hc : CollInv s) (hp : PoolInv s) (hn : NoFeeAndStake s)
    (hf : FeesInv s) (hr : 0 ≤ s.remaining.raw) : ∃ s', Shield.endBlock e s = .ok s' := by
  rcases expireAndDistribute_never_halts e s hp hn hf hr with ⟨s1, h1⟩
  have hc1 := C03a.expireAndDistribute_preserves e s s1 hc h1
  rcases C03a.completeWithdrawals_never_panics e s1 hc1 with ⟨s2, h2⟩
  exact ⟨closePools s2, by unfold Shield.endBlock; rw [h1]; dsimp only; rw [h2]⟩

/-- everything the end-blocker needs (`books` = `NoFeeAndStake`, the id bound of the staking records, `FeesInv`,
    `0 ≤ remaining`, `0 ≤ blockFees`), with the parameter fact that keeps `PoolInv` invariant under arbitrary purchase
    messages (`x/shield/types/params.go` validates a valid, i.e. non-negative, `MinShieldPurchase`) -/
structure HaltInv (s : State) : Prop where
  coll : CollInv s
  pool : PoolInv s
  books : FeeBooks s
  minPurchase : 0 ≤ s.params.minPurchase

/-- The inputs the preservation proofs need: amounts handed directly to the keeper-level functions are not negative
    (the messages check this themselves; governance hands back the `loss` it locked; the mint module funds block rewards
    with `sdk.Coins`).  No condition on messages, block times or the staking view. -/
def adm : C03b.Op → Prop
  | .purchaseCore e _ sh _ _ _ => 0 ≤ Coins.amountOf sh e.bond
  | .restoreShield _ _ _ loss => 0 ≤ loss
  | .claimEnds _ _ _ _ _ _ loss _ => 0 ≤ loss
  | .createReimbursement _ _ amount _ => 0 ≤ amount
  | .withdrawCollateral _ _ amount => 0 ≤ amount
  | .fundBlockRewards _ _ amt => 0 ≤ amt
  | _ => True

/-- one step keeps the collateral books (C03a, re-assembled over the operations of C03b's histories) -/
theorem step_collInv (ls : Ledger × State) (op : C03b.Op) (hadm : adm op) (hc : CollInv ls.2) (hp : PoolInv ls.2) :
    CollInv (C03b.step ls op).2 := by
  cases h : C03b.toA op with
  | some op' =>
    -- the step is a step of the machine of C03a, where the theorem is proved
    rw [C03b.step_toA h]
    refine C03a.step_collInv op' ls hc ?_
    have htot : 0 ≤ ls.2.totalShield := hp.toShieldInv.totalNonneg
    cases op <;> cases h
    case withdrawCollateral.refl => exact hadm
    case createReimbursement.refl => exact ⟨hadm, htot⟩
    case claimEnds.refl => exact fun _ => ⟨hadm, htot⟩
    all_goals trivial
  | none =>
    obtain ⟨e, p, sh, a, f, st, rfl⟩ := C03b.toA_none h
    exact C03b.orKeep_pred hc (fun _ _ h => C03a.purchaseCore_preserves _ _ _ _ _ _ _ _ _ _ hc h)

/-- one step keeps the shield / pool / purchase / stake books (C03b) -/
theorem step_poolInv (ls : Ledger × State) (op : C03b.Op) (hadm : adm op) (hp : PoolInv ls.2)
    (hmin : 0 ≤ ls.2.params.minPurchase) : PoolInv (C03b.step ls op).2 := by
  cases op with
  | purchase e p sh a st => exact C03b.orKeep_inv hp (fun _ _ h => C03b.purchase_preserves_of_minPurchase h hp hmin)
  | purchaseCore e p sh a f st => exact C03b.step_preserves ls _ hadm hp
  | restoreShield p a id loss => exact C03b.step_preserves ls _ hadm hp
  | claimEnds e pid p r b id loss o => exact C03b.step_preserves ls _ (fun _ => hadm) hp
  | _ => exact C03b.step_preserves ls _ trivial hp

/-- one step keeps the fee books: `NoFeeAndStake`, the id bound of the staking records, `FeesInv`, and the signs of
    the two fee pots -/
theorem step_feeBooks (ls : Ledger × State) (op : C03b.Op) (hadm : adm op) (hp : PoolInv ls.2)
    (hb : FeeBooks ls.2) : FeeBooks (C03b.step ls op).2 := by
  have hsh := hp.toShieldInv
  cases hc : op.onColl with
  | true => exact hb.frameP (.of_chain (C03b.step_chain ls op hc))
  | false =>
  unfold C03b.step
  cases op with
  | purchaseCore e p sh a f st => exact C03b.orKeep_pred hb (fun _ _ h => purchaseCore_feeBooks h hsh hb)
  | purchase e p sh a st => exact C03b.orKeep_pred hb (fun _ _ h => purchase_feeBooks h hsh hb)
  | createPool e c sh f sp spa lim => exact C03b.orKeep_pred hb (fun _ _ h => createPool_feeBooks h hsh hb)
  | updatePool e u p sh f lim => exact C03b.orKeep_pred hb (fun _ _ h => updatePool_feeBooks h hsh hb)
  | pausePool u p act => exact C03b.orKeepS_pred hb (fun _ h => hb.frame (.of_writes (by rw [pausePool_writes h])))
  | updateSponsor u p sp spa => exact C03b.orKeepS_pred hb (fun _ h => hb.frame (.of_writes (by rw [updateSponsor_writes h])))
  | unstake e p a c => exact C03b.orKeepS_pred hb (fun _ h => hb.frame (.of_writes (by rw [unstake_writes h])))
  | withdrawRewards e a => exact C03b.orKeep_pred hb (fun _ _ h => withdrawRewards_feeBooks h hb)
  | withdrawReimbursement e pid a => exact C03b.orKeep_pred hb (fun _ _ h => hb.frame (.of_writes (by rw [withdrawReimbursement_writes h])))
  | secureCollaterals e p a id loss dur => exact C03b.orKeepS_pred hb (fun _ h => secureCollaterals_feeBooks h hsh hb)
  | claimEnd loss => exact hb.frame (.of_writes rfl)
  | restoreShield p a id loss => exact restoreShield_feeBooks hsh hb
  | createReimbursement e pid amt b => exact C03b.orKeep_pred hb (fun _ _ h => hb.frameP (createReimbursement_frameP h))
  | claimEnds e pid p r b id loss o => exact C03b.orKeep_pred hb (fun _ _ h => claimEnds_feeBooks h hsh hb)
  | expireAndDistribute e => exact C03b.orKeepS_pred hb (fun _ h => expireAndDistribute_feeBooks h hsh hb)
  | closePools => exact hb.frame (.of_writes rfl)
  | endBlock e => exact C03b.orKeepS_pred hb (fun _ h => endBlock_feeBooks h hsh hb)
  | fundBlockRewards e a amt => exact fundBlockRewards_feeBooks e ls.1 ls.2 a amt hadm hb
  | _ => cases hc

/-- "no transaction sequence can leave state that makes later block processing abort", one step: every operation of the
    model — message, hook, governance callback, block function; successful or failed — keeps `HaltInv` -/
theorem step_haltInv (ls : Ledger × State) (op : C03b.Op) (hadm : adm op) (hi : HaltInv ls.2) :
    HaltInv (C03b.step ls op).2 :=
  ⟨step_collInv ls op hadm hi.coll hi.pool, step_poolInv ls op hadm hi.pool hi.minPurchase,
   step_feeBooks ls op hadm hi.pool hi.books,
   by rw [C03b.step_params ls op]; exact hi.minPurchase⟩

theorem reachable_haltInv (ops : List C03b.Op) : ∀ (ls : Ledger × State), HaltInv ls.2 → (∀ op ∈ ops, adm op) →
    HaltInv (ops.foldl C03b.step ls).2 :=
  fun _ hi ha => List.foldlRecOn (motive := fun ls => HaltInv ls.2) ops C03b.step hi
    (fun ls h op ho => step_haltInv ls op (ha op ho) h)

/-- **C08 for x/shield**: "for every state the chain can reach through accepted transactions … ending the next block
    completes without a fatal error, whatever the block time": after any history of operations (each with its own block
    time and staking view; failing steps leave the state unchanged) from a state satisfying the invariants, the
    end-blocker succeeds for every environment `e` — in particular for every block time, however long the gap and
    however many purchases and withdrawals fall due together. -/
theorem shield_never_halts_reachable (ops : List C03b.Op) (ls : Ledger × State) (hi : HaltInv ls.2)
    (ha : ∀ op ∈ ops, adm op) (e : Env) : ∃ s', Shield.endBlock e (ops.foldl C03b.step ls).2 = .ok s' := by
  have h := reachable_haltInv ops ls hi ha
  exact shield_endBlock_never_halts e _ h.coll h.pool h.books.noFeeStake h.books.fees h.books.money.remaining

/-- the empty store of a fresh chain satisfies the invariants: the histories have a starting point -/
theorem genesis_haltInv (s : State) (hp : s.pools = []) (hl : s.lists = []) (hk : s.stakes = []) (hpr : s.providers = [])
    (hw : s.withdraws = []) (ho : s.origStakings = []) (h1 : s.totalShield = 0) (h2 : s.stakingPool = 0)
    (h3 : s.totalCollateral = 0) (h4 : s.totalWithdrawing = 0) (h5 : s.serviceFees = Dec.zero) (h6 : s.remaining = Dec.zero)
    (h7 : s.blockFees = Dec.zero) (hmin : 0 ≤ s.params.minPurchase) : HaltInv s := by
  refine ⟨?_, ?_, ⟨?_, ?_, ?_, ?_, ?_⟩, hmin⟩
  · constructor <;> simp [hpr, hw, h3, h4]
  · constructor <;> constructor <;> simp [hp, hl, hk, h1, h2, sumStakes, entriesOf]
  · intro l hl'; rw [hl] at hl'; cases hl'
  · intro o ho'; rw [ho] at ho'; cases ho'
  · unfold FeesInv feeSum; rw [hl, h5]; decide
  · rw [h6]; decide
  · rw [h7]; decide

/-! ## rewards are never negative

  `0 ≤ p.rewards` is the fourth conjunct of `BooksInv.provNonneg` (C03).  C08 does not rest on it: a negative reward could not
  make `remaining` negative, because `MsgWithdrawRewards` pays the whole part through the bank, which refuses negative
  amounts.  It needs what `HaltInv` does not: a positive protection period and block times that do
  not run backwards (otherwise the streamed block share `serviceFees · (t − lastUpdate) / protection` is negative). -/

/-- block time does not run backwards: a block does not end before the last fee update -/
def timeOk : C03b.Op → State → Prop
  | .expireAndDistribute e, s => s.lastUpdate ≤ e.t
  | .endBlock e, s => s.lastUpdate ≤ e.t
  | _, _ => True

theorem step_rewardsNonneg (ls : Ledger × State) (op : C03b.Op) (ht : timeOk op ls.2) (hi : HaltInv ls.2)
    (hper : 0 < ls.2.params.protection) (hr : RewardsNonneg ls.2) : RewardsNonneg (C03b.step ls op).2 := by
  have hsh := hi.pool.toShieldInv
  have hb := hi.books
  have hcoll : ∀ p ∈ ls.2.providers, 0 ≤ p.collateral := fun p hp' => (hi.coll.provNonneg p hp').1
  cases hc : op.onColl with
  | true => exact hr.frameP (.of_chain (C03b.step_chain ls op hc))
  | false =>
  cases ha : C03b.toA op with
  | none =>
    obtain ⟨e, p, sh, a, f, st, rfl⟩ := C03b.toA_none ha
    exact C03b.orKeep_pred hr (fun _ _ h => hr.congr (by rw [purchaseCore_writes h]))
  | some op' =>
  cases hw : op'.writesColl with
  | false => exact hr.congr ((C03b.step_untouched ha ls).coll hw).1
  | true =>
  -- left are the six operations that write the collateral book (`hw`) and other books with it (`hc`)
  unfold C03b.step
  cases op <;> cases ha
  case withdrawRewards.refl e a => exact C03b.orKeep_pred hr (fun _ _ h => withdrawRewards_rewards h hr)
  case secureCollaterals.refl e p a id loss dur =>
    exact C03b.orKeepS_pred hr (fun _ h => hr.congr (by rw [secureCollaterals_writes h]))
  case createReimbursement.refl e pid amt b => exact C03b.orKeep_pred hr (fun _ _ h => hr.frameP (createReimbursement_frameP h))
  case claimEnds.refl e pid p r b id loss o => exact C03b.orKeep_pred hr (fun _ _ h => claimEnds_rewards h hr)
  case expireAndDistribute.refl e => exact C03b.orKeepS_pred hr (fun _ h => expireAndDistribute_rewards h hsh hb hr hcoll hper ht)
  case endBlock.refl e => exact C03b.orKeepS_pred hr (fun _ h => endBlock_rewards h hsh hb hr hcoll hper ht)
  all_goals cases hc <;> cases hw

/-- every step of the history meets `adm`, and `timeOk` in the state it is run in -/
def AdmissibleT : List C03b.Op → Ledger × State → Prop
  | [], _ => True
  | op :: ops, ls => adm op ∧ timeOk op ls.2 ∧ AdmissibleT ops (C03b.step ls op)

/-- along histories with monotone block time and a positive protection period no provider's rewards turn negative -/
theorem reachable_rewardsNonneg (ops : List C03b.Op) : ∀ (ls : Ledger × State), HaltInv ls.2 → 0 < ls.2.params.protection →
    RewardsNonneg ls.2 → AdmissibleT ops ls → RewardsNonneg (ops.foldl C03b.step ls).2 :=
  fun ls hi hper hr ha =>
    (foldl_ind (fun ops ls => (HaltInv ls.2 ∧ 0 < ls.2.params.protection ∧ RewardsNonneg ls.2) ∧ AdmissibleT ops ls)
      (fun op _ ls ⟨⟨hi, hper, hr⟩, ha⟩ =>
        ⟨⟨step_haltInv ls op ha.1 hi, by rw [C03b.step_params ls op]; exact hper,
          step_rewardsNonneg ls op ha.2.1 hi hper hr⟩, ha.2.2⟩)
      ops ls ⟨⟨hi, hper, hr⟩, ha⟩).1.2.2

/-- **the payout of an approved claim (`CreateReimbursement`), partial.**  The state-machine panics are excluded by the
    collateral books: "shield:provider-not-found" and "shield:payout-from-withdrawals" by `CollInv` (every provider of the
    snapshot is still there, its queued withdrawals add up to its `withdrawing`), "shield:forced-withdraw" by the staking
    view reporting no negative stake.  What remains is arithmetic, and is a hypothesis:
    * `s.totalCollateral ≠ 0` (site "shield:division-by-zero"),
    * `feasible …`: in the schedule the loop computes from the snapshot, every provider's share of the covered shield plus
      its payment fits into its collateral (else "shield:payout-from-withdrawals"), and the payments add up to the loss
      (else "shield:not-enough-payout").
    These two are NOT invariants of the model: `secureCollaterals` checks `totalClaimed + loss ≤ totalCollateral` when the
    claim is filed, but collateral requested for withdrawal after that can leave before the claim is paid when the
    withdraw period is shorter than the claim's voting period (see the example below).  In the repository the proposal
    handler runs under a `recover` (`executeHandler`, `x/gov/endblocker.go`): a payout that panics fails the proposal and
    its lock is undone, the end-blocker goes on.  The harness draws three histories in four inside the module's design
    assumption (withdraw period ≥ protection period ≥ claim lock), where this cannot happen, and one in four outside it
    (`lib/props.py`). -/
theorem payout_never_halts_partial (e : Env) (l : Ledger) (s : State) (pid : Nat) (amount : Int) (b : Addr)
    (hi : CollInv s) (hT : s.totalCollateral ≠ 0) (hsh : 0 ≤ s.totalShield) (hamt : 0 ≤ amount)
    (hb : ∀ a x, e.bondedAfter a = some x → 0 ≤ x)
    (hfe : feasible (Dec.quo (Dec.ofInt s.totalShield) (Dec.ofInt s.totalCollateral))
      (Dec.quo (Dec.ofInt amount) (Dec.ofInt s.totalCollateral)) s.providers s.totalShield amount = true) :
    ∃ l' s', createReimbursement e l s pid amount b = .ok (l', s') :=
  createReimbursement_total e l s pid amount b hi hT hsh hamt hb hfe

/-- the other three outcomes of a claim proposal cannot fail at all -/
theorem claimEnds_other_never_halts (e : Env) (l : Ledger) (s : State) (pid poolID : Nat) (r b : Addr) (id : Nat) (loss : Int)
    (o : ClaimOutcome) (ho : o ≠ .paid) : ∃ l' s', claimEnds e l s pid poolID r b id loss o = .ok (l', s') := by
  cases o with
  | paid => exact absurd rfl ho
  | vetoed => exact ⟨_, _, rfl⟩
  | rejected => exact ⟨_, _, rfl⟩
  | failed => exact ⟨_, _, rfl⟩

/-- without collateral the payout panics -/
theorem payout_panics_without_collateral (e : Env) (l : Ledger) (s : State) (pid poolID : Nat) (r b : Addr) (id : Nat)
    (loss : Int) (h : s.totalCollateral = 0) :
    claimEnds e l s pid poolID r b id loss .paid = panicE "shield:division-by-zero" := by
  unfold claimEnds createReimbursement
  simp [h]

/-- `C03b.demo` with an original-staking record for the staked purchase 2 and block rewards waiting -/
def demo : State := { C03b.demo with origStakings := [(2, 40)], blockFees := Dec.ofInt 2 }

/-- the hypotheses of the theorems above are satisfiable by a store with a pool, a paid purchase with unstreamed fees, a
    staked purchase with its staking record, a provider, and fees in every pot -/
theorem demo_haltInv : HaltInv demo := by
  refine ⟨?_, C03b.demo_inv.frame' rfl rfl rfl rfl rfl rfl rfl, ⟨?_, ?_, ?_, ?_, ?_⟩, by decide +kernel⟩
  · constructor <;> decide +kernel
  · unfold NoFeeAndStake; decide +kernel
  · unfold OrigIdsLt; decide +kernel
  · unfold FeesInv feeSum feeOf; decide +kernel
  · decide +kernel
  · decide +kernel

/-- at time 150 purchase 1 expires and its fees stream: the end-blocker succeeds (as `shield_endBlock_never_halts` says) and
    moves fees into the provider's rewards -/
example : ((endBlock { C03b.demoEnv with t := 150 } demo).toOption.map
      (fun s => (s.lists.map (fun l => l.entries.map (·.id)), decide (0 < sumRewards s), s.blockFees.raw))) =
    some ([[2]], true, 0) := by decide +kernel

/-- a history: a paid and a staked purchase, block rewards, a block, a reward withdrawal, a claim lock -/
def hist : List C03b.Op :=
  [.purchase C03b.demoEnv 1 [("uctk", 10)] "aa" false, .purchase C03b.demoEnv 1 [("uctk", 10)] "bb" true,
   .fundBlockRewards C03b.demoEnv "mint" 5, .endBlock { C03b.demoEnv with t := 150 },
   .withdrawRewards { C03b.demoEnv with t := 150 } "cc",
   .secureCollaterals { C03b.demoEnv with t := 160 } 1 "aa" 3 4 100]

example : ∀ op ∈ hist, adm op := by
  intro op hop
  simp only [hist, List.mem_cons, List.mem_nil_iff, or_false] at hop
  rcases hop with rfl | rfl | rfl | rfl | rfl | rfl <;> simp [adm]

/-- checked independently by evaluation: the end-blocker succeeds in the state `hist` reaches, also after a long gap
    in which everything falls due together; the staked purchase 4 got a staking record and no fees, the paid purchase 3
    fees and no record -/
example : ((endBlock { C03b.demoEnv with t := 100000 } (hist.foldl C03b.step (C03b.demoLedger, demo)).2).toOption.isSome = true) ∧
    (hist.foldl C03b.step (C03b.demoLedger, demo)).2.origStakings = [(2, 40), (4, 20)] ∧
    (hist.foldl C03b.step (C03b.demoLedger, demo)).2.lists.map (fun l => l.entries.map (fun en => (en.id, decide (en.fees.raw > 0)))) =
      [[(3, false)], [(2, false), (4, false)]] := by decide +kernel

/-- `payout_never_halts_partial`: the hypotheses hold for the state and payout of C03a's example (two providers, one with
    queued withdrawals, a payout of 90 out of 150) -/
example : CollInv C03a.Ex.s0 ∧ C03a.Ex.s0.totalCollateral ≠ 0 ∧
    feasible (Dec.quo (Dec.ofInt C03a.Ex.s0.totalShield) (Dec.ofInt C03a.Ex.s0.totalCollateral))
      (Dec.quo (Dec.ofInt 90) (Dec.ofInt C03a.Ex.s0.totalCollateral)) C03a.Ex.s0.providers C03a.Ex.s0.totalShield 90 = true ∧
    (∀ a x, C03a.Ex.e60.bondedAfter a = some x → 0 ≤ x) := by
  refine ⟨by constructor <;> decide +kernel, by decide +kernel, by decide +kernel, ?_⟩
  intro a x h
  simp only [C03a.Ex.e60] at h
  split at h
  · cases h; decide
  · split at h
    · cases h; decide
    · cases h

/-- The hypothesis `totalCollateral ≠ 0` / `feasible` of `payout_never_halts_partial` is not an invariant of the
    unrestricted model: with a withdraw period (10) shorter than the claim's voting time, the only provider withdraws
    everything after a claim of 50 has been locked; the end-blocker at time 60 releases the collateral (correctly: all
    invariants still hold), and when the claim passes at time 150 the payout panics.  (Governance's end-blocker would
    halt if it did not run the handler under a `recover`; with it the proposal fails.) -/
def drain : List C03b.Op :=
  [.secureCollaterals C03b.demoEnv 1 "aa" 1 50 100, .withdraw C03b.demoEnv "cc" [("uctk", 1000)],
   .endBlock { C03b.demoEnv with t := 60 }]

example : (∀ op ∈ drain, adm op) ∧
    (drain.foldl C03b.step (C03b.demoLedger, demo)).2.totalCollateral = 0 ∧
    (drain.foldl C03b.step (C03b.demoLedger, demo)).2.totalClaimed = 50 := by
  refine ⟨?_, ?_, ?_⟩
  · intro op hop
    simp only [drain, List.mem_cons, List.mem_nil_iff, or_false] at hop
    rcases hop with rfl | rfl | rfl <;> simp [adm]
  · decide +kernel
  · decide +kernel

example : claimEnds { C03b.demoEnv with t := 150 } (drain.foldl C03b.step (C03b.demoLedger, demo)).1
      (drain.foldl C03b.step (C03b.demoLedger, demo)).2 7 1 "aa" "aa" 1 50 .paid = panicE "shield:division-by-zero" :=
  payout_panics_without_collateral _ _ _ _ _ _ _ _ _ (by decide +kernel)

section Oracle
open Shentu.Oracle Shentu.Halt.Orc

/-- **"beginning … the next block completes without a fatal error" — x/oracle's `BeginBlocker`** (payment of the mature
    withdrawals; site "oracle:FinalizeMatureWithdraws-send"), under the funding invariant `Funded`: every pending
    withdrawal is a valid amount and the module account covers all of them.  The invariant is kept by the block function
    itself.  (C14 proves conservation per operator but carries no invariant about the module account's balance; that
    `Funded` is kept by the other oracle operations is not proved here.) -/
theorem oracle_beginBlock_never_halts (e : Oracle.Env) (l : Ledger) (s : Oracle.State) (hf : Funded e l s) :
    ∃ l' s', Oracle.beginBlock e l s = .ok (l', s') ∧ Funded e l' s' := beginBlock_total e l s hf

/-- **x/oracle's `EndBlocker`** (aggregation and bounty distribution of the tasks that close): no panic
    ("oracle:quo-zero-eps1", "oracle:quo-zero-eps2", "oracle:negative-coin") and no other failure, under `EndInv`:
    the parameters `Epsilon1`, `Epsilon2` are positive (explicit hypothesis: with a zero epsilon a response with score 0
    resp. 100 divides by zero), operators' collateral is not negative, bounties are valid amounts, scores lie in [0, 100].
    The threshold parameter needs no hypothesis.  The invariant is kept. -/
theorem oracle_endBlock_never_halts (e : Oracle.Env) (s : Oracle.State) (hi : EndInv e.bond s) :
    ∃ s', Oracle.endBlock e s = .ok s' ∧ EndInv e.bond s' := endBlock_total e s hi

/-- every successful oracle operation keeps `EndInv` … -/
theorem oracle_step_endInv (e : Oracle.Env) (ls : Ledger × Oracle.State) (op : Oracle.Op) (hi : EndInv e.bond ls.2) :
    EndInv e.bond (Oracle.step e ls op).2 := step_endInv e ls op hi

/-- … so along every history of oracle operations and blocks (one bond denomination; each step with its own height and
    time; failed transactions leave the state unchanged) the end-blocker never halts -/
theorem oracle_endBlock_never_halts_reachable (bond : Denom) (steps : List (Oracle.Env × Oracle.Op)) :
    ∀ (ls : Ledger × Oracle.State), EndInv bond ls.2 → (∀ eo ∈ steps, eo.1.bond = bond) →
      ∀ e : Oracle.Env, e.bond = bond →
        ∃ s', Oracle.endBlock e (steps.foldl (fun ls eo => Oracle.step eo.1 ls eo.2) ls).2 = .ok s' :=
  fun _ hi hb e he => (oracle_endBlock_never_halts e _ (he ▸ run_endInv steps hi hb)).imp fun _ h => h.1

def oEnv : Oracle.Env := { h := 10, t := 1000, bond := "uctk", modAddr := "oracle" }
def oLedger : Ledger := { posts := [("oracle", "uctk", 200)], supply := [("uctk", 200)] }
/-- an operator, a mature withdrawal and a pending one, a task with one response that closes in block 10 -/
def oState : Oracle.State :=
  { ops := [{ addr := "op1", proposer := "op1", coll := [("uctk", 100)], rew := [] }],
    wds := [{ addr := "op1", amt := [("uctk", 5)], due := 10 }, { addr := "op2", amt := [("uctk", 7)], due := 30 }],
    total := [("uctk", 100)],
    tasks := [{ contract := "c", function := "f", begin := 5, bounty := [("uctk", 9)], expiration := 5000, creator := "u",
                responses := [{ op := "op1", score := 80, weight := 0, reward := [] }], result := 0, closing := 10,
                waiting := 5, status := 1 }],
    closing := [(10, [("c", "f")])],
    params := { lock := 2, minColl := 10, window := 5, aggRes := 50, threshold := 50, eps1 := 1, eps2 := 1, expDur := 100 } }

example : Funded oEnv oLedger oState := by
  refine ⟨by decide +kernel, ?_⟩
  intro d
  by_cases hd : d = "uctk"
  · subst hd; decide +kernel
  · have h1 : ("uctk" == d) = false := by simpa using fun h => hd h.symm
    simp [wdSum, oState, oEnv, oLedger, Ledger.balOf, Ledger.bal, h1]

example : EndInv oEnv.bond oState := by
  refine ⟨by decide +kernel, by decide +kernel, ?_, by unfold TasksOk; decide +kernel⟩
  intro a o h
  have hm := List.mem_of_find?_eq_some h
  simp only [oState, List.mem_singleton] at hm
  rw [hm]; decide +kernel

/-- the block functions evaluated: the mature withdrawal of 5 is paid, the task is aggregated (result 80) and the bounty
    of 9 goes to the only responder -/
example : ((Oracle.beginBlock oEnv oLedger oState).toOption.map (fun x => (x.1.balOf "op1" "uctk", x.2.wds.map (·.due)))) =
      some (5, [30]) ∧
    ((Oracle.endBlock oEnv oState).toOption.map (fun s => (s.tasks.map (fun t => (t.result, t.status)),
      s.ops.map (fun o => Coins.amountOf o.rew "uctk")))) = some ([(80, 2)], [9]) := by decide +kernel

end Oracle

section Gov
open Shentu.Gov Shentu.Halt.Gv

/-- **x/gov's `EndBlocker`** (sites "gov:RefundDeposits-send", "gov:DeleteDeposits-burn"): under the escrow invariant —
    every recorded deposit is a valid amount and the module account holds at least the sum of all recorded deposits —
    no proposal that ends (dropped, rejected, failed, passed, vetoed, decided early) can make the refund or the burn
    panic, whatever falls due together; the invariant is kept.  (C11 proves that refunds and burns are exact; it carries no
    invariant about the module balance, so the invariant is stated here.) -/
theorem gov_endBlock_never_halts (e : Gov.Env) (w : Gov.World) (h : Escrow e w) :
    ∃ w', Gov.endBlock e w = .ok w' ∧ Escrow e w' := endBlock_total e w h

/-- the messages keep the escrow invariant: a deposit moves its coins into the module account as it is recorded
    (side condition: the depositor / proposer is not the module account itself, which cannot sign) -/
theorem gov_messages_keep_escrow (e : Gov.Env) (w w' : Gov.World) :
    (∀ pid a amt, addDeposit e w pid a amt = .ok w' → a ≠ e.modAddr → Escrow e w → Escrow e w') ∧
    (∀ proposer p0 deposit, submit e w proposer p0 deposit = .ok w' → proposer ≠ e.modAddr → Escrow e w → Escrow e w') ∧
    (∀ pid voter option, vote w pid voter option = .ok w' → Escrow e w → Escrow e w') :=
  ⟨fun _ _ _ h hne hi => (addDeposit_atoms h).keep (fun t => atom_escrow hne t) hi,
   fun _ _ _ h hne hi => (submit_atoms h).keep (fun t => atom_escrow hne t) hi,
   fun _ _ _ h hi => by obtain ⟨_, _, _, _, _, _, rfl⟩ := vote_ok_iff.mp h; exact hi.congr rfl rfl⟩

def gEnv : Gov.Env := { t := 500, bond := "uctk", modAddr := "gov", stake := { vals := [], dels := [], totalBonded := 0 } }
/-- a proposal whose deposit period has ended, with two deposits in escrow -/
def gWorld : Gov.World :=
  { l := { posts := [("gov", "uctk", 30)], supply := [("uctk", 30)] },
    g := { proposals := [{ id := 1, kind := "text", status := 1, isCouncil := false, proposer := "u1", totalDeposit := [("uctk", 30)],
                           submitTime := 0, depositEnd := 100, votingStart := Gov.zeroTime, votingEnd := Gov.zeroTime,
                           tally := ⟨0, 0, 0, 0⟩ }],
           deposits := [{ pid := 1, depositor := "u1", amount := [("uctk", 10)] }, { pid := 1, depositor := "u2", amount := [("uctk", 20)] }],
           votes := [], nextId := 2,
           params := { minInitial := [], minDeposit := [("uctk", 100)], depositPeriod := 100, votingPeriod := 100,
                       default := ⟨Dec.zero, Dec.zero, Dec.zero⟩, security := ⟨Dec.zero, Dec.zero, Dec.zero⟩,
                       certStake := ⟨Dec.zero, Dec.zero, Dec.zero⟩ } },
    c := default }

example : Escrow gEnv gWorld := by
  refine ⟨by decide +kernel, ?_⟩
  intro d
  by_cases hd : d = "uctk"
  · subst hd; decide +kernel
  · have h1 : ("uctk" == d) = false := by simpa using fun h => hd h.symm
    simp [depSum, gWorld, gEnv, Ledger.balOf, Ledger.bal, h1]

/-- the end-blocker evaluated: the proposal is dropped and both depositors are refunded -/
example : ((Gov.endBlock gEnv gWorld).toOption.map (fun w => (w.l.balOf "u1" "uctk", w.l.balOf "u2" "uctk", w.l.balOf "gov" "uctk",
    w.g.deposits.length, w.g.proposals.length))) = some (10, 20, 0, 0, 0) := by decide +kernel

end Gov

end Shentu.Props.C08

#print axioms Shentu.Props.C08.shield_endBlock_never_halts
#print axioms Shentu.Props.C08.shield_never_halts_reachable
#print axioms Shentu.Props.C08.step_haltInv
#print axioms Shentu.Props.C08.genesis_haltInv
#print axioms Shentu.Props.C08.payout_never_halts_partial
#print axioms Shentu.Props.C08.payout_panics_without_collateral
#print axioms Shentu.Props.C08.oracle_beginBlock_never_halts
#print axioms Shentu.Props.C08.oracle_endBlock_never_halts
#print axioms Shentu.Props.C08.oracle_endBlock_never_halts_reachable
#print axioms Shentu.Props.C08.gov_endBlock_never_halts
#print axioms Shentu.Props.C08.gov_messages_keep_escrow
#print axioms Shentu.Props.C08.demo_haltInv
#print axioms Shentu.Props.C08.reachable_rewardsNonneg
