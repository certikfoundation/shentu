import Shentu.Proofs.C04HLemmas
/-!
  C04 at the level of histories — a passed shield claim is paid once, to its beneficiary, in full, after the payout period.

  "… The beneficiary - and nobody else - can withdraw it once, only after the payout period, receiving exactly that
   amount; a claim that does not pass pays nothing."

  `Shentu/Props/C04.lean` proves these sentences for one step.  This file proves them for every history.

  What a history is.  A list of `C03a.Op`, run by `C03a.run` (a failing step leaves the world unchanged).
  Every operation is allowed except the bare keeper function `createReimbursement` (`C04H.allowed`): in the chain it
  only runs inside `claimEnds … paid`.  The message-level operations (`C04H.isMsg`) are all allowed.
  Each operation carries its own environment, so block times are arbitrary (they need not even grow).

  The ghost log.  `C04H.grun` runs the same steps and keeps a log beside the world, newest entry first.
  A successful `claimEnds … paid` logs `created pid beneficiary amount payoutTime`, read from the record found in the
  new store.  A successful `withdrawReimbursement e pid a` logs `withdrawn pid a e.modAddr received left e.t`.
  `received` is what `a`'s balance gained and `left` what the module account's balance lost, both observed on the two
  ledgers in the bond denomination of that step.  Nothing else is logged.  `grun_world` says the world is that of `run`.
  In "`log = post ++ entry :: pre`" the part `pre` is what was logged before `entry`.

  What is proved, for every history that starts without reimbursement records and with an empty log:
   * (e) the reimbursement store is, at every point, exactly the open part of the log (`openRecs`);
   * (b) every withdrawal was preceded by the creation of a record under the same id for the same address;
     an id that no passed claim created is never withdrawn; creations come from `claimEnds … paid` only;
   * (c) the coins the withdrawal moved are the amount of that record, which is the loss of the passed claim;
   * (d) the withdrawal happened at or after the payout time of that record, which is the block time of the passed
     claim plus the payout period;
   * (a) with fresh proposal ids no id is withdrawn twice; without fresh ids this is false
     (`withdrawn_at_most_once_fails_on_reuse`);
   * (f) the coins that left the module account under withdrawals equal the amounts approved for the withdrawn ids;
     with fresh ids, everything ever approved is either paid out or still recorded, and a created claim that has not
     been withdrawn can be withdrawn by its beneficiary once the payout time has come.

  What is assumed.  Only (a), the second form of (e) and the second half of (f) assume anything: fresh proposal ids
  (`FreshHist`: no step pays a claim under an id that was paid before).  Governance numbers proposals consecutively
  and ends each one once.
  (c) and (f) speak about withdrawals whose caller is not the module account itself: a transfer from the module
  account to itself moves nothing (example at the end).
-/
namespace Shentu.Props.C04H
open Shentu Shentu.Shield Shentu.Props.C03a Shentu.C04H

/-- the log of a history started in the world `(l, s)` with an empty log -/
def logOf (ops : List Op) (l : Ledger) (s : State) : List Event := (grun ops ((l, s), [])).2

/-- every operation of the history is one a chain can perform -/
def Chain (ops : List Op) : Prop := ∀ op ∈ ops, allowed op = true

/-- a history made of message-level operations only is a chain history -/
theorem chain_of_messages (ops : List Op) (h : ∀ op ∈ ops, isMsg op = true) : Chain ops :=
  fun op hop => isMsg_allowed op (h op hop)

/-- the world beside the log is the world of the plain run -/
theorem world_of_run (ops : List Op) (l : Ledger) (s : State) : (grun ops ((l, s), [])).1 = run ops (l, s) :=
  grun_world ops _

/-! ## (e) the store is the open part of the log -/

/-- At every point of every chain history the reimbursement store is exactly the list of created-and-not-yet-withdrawn
    entries of the log, in the order of their creation.  A creation under an id that is still open replaces the
    older record (that is what `CreateReimbursement` does).  No freshness is assumed.  "At every point": every
    prefix of a history is a history. -/
theorem records_are_open_reimbursements (ops : List Op) (l : Ledger) (s : State) (h0 : s.reimbs = []) (hc : Chain ops) :
    (run ops (l, s)).2.reimbs = openRecs (logOf ops l s) := by
  rw [← world_of_run]
  exact (grun_inv ops _ hc (inv_init l s h0)).1

/-- With fresh proposal ids the store has a plain description: a record is in the store iff the log has a `created`
    entry with exactly its fields and no `withdrawn` entry under its id.  Freshness (`FreshHist`) is an assumption on
    the history; `fresh_of_distinct_ids` below gives it for histories that name no id twice. -/
theorem records_are_open_reimbursements_fresh (ops : List Op) (l : Ledger) (s : State) (h0 : s.reimbs = [])
    (hc : Chain ops) (hf : FreshHist ops ((l, s), [])) (r : Reimb) :
    r ∈ (run ops (l, s)).2.reimbs ↔
      Event.created r.pid r.beneficiary r.amount r.payoutTime ∈ logOf ops l s ∧ r.pid ∉ withdrawnPids (logOf ops l s) := by
  rw [records_are_open_reimbursements ops l s h0 hc]
  exact openRecs_iff _ (grun_inv ops _ hc (inv_init l s h0)).2 (grun_fresh ops _ (by simp) hf) r

/-- A history in which no two `claimEnds … paid` operations carry the same proposal id has fresh ids. -/
theorem fresh_of_distinct_ids (ops : List Op) (l : Ledger) (s : State) (hn : (paidPids ops).Nodup) :
    FreshHist ops ((l, s), []) :=
  fresh_of_nodup ops _ hn (by intro pid h; cases h)

/-! ## (b) nobody else, and nothing without a passed claim -/

/-- Every withdrawal in the log was preceded by a creation under the same id for the same address.
    So only the beneficiary withdraws, and only what a passed claim created. -/
theorem withdrawn_only_by_beneficiary (ops : List Op) (l : Ledger) (s : State) (h0 : s.reimbs = []) (hc : Chain ops)
    (post pre : List Event) (pid : Nat) (a m : Addr) (received left t : Int)
    (h : logOf ops l s = post ++ .withdrawn pid a m received left t :: pre) :
    ∃ amt pt, Event.created pid a amt pt ∈ pre := by
  obtain ⟨amt, pt, h1, _⟩ := withdrawn_spec _ post pre (grun_inv ops _ hc (inv_init l s h0)).2 pid a m received left t h
  exact ⟨amt, pt, h1⟩

/-- An id without a `created` entry has no `withdrawn` entry. -/
theorem never_created_never_withdrawn (ops : List Op) (l : Ledger) (s : State) (h0 : s.reimbs = []) (hc : Chain ops)
    (pid : Nat) (h : pid ∉ createdPids (logOf ops l s)) : pid ∉ withdrawnPids (logOf ops l s) :=
  fun hw => h (withdrawn_created _ (grun_inv ops _ hc (inv_init l s h0)).2 pid hw)

/-- Every `created` entry was written by a step `claimEnds e pid … beneficiary … loss paid` of the history.
    Its amount is the loss of that claim.  Its payout time is that step's block time plus the payout period in force
    at that step. -/
theorem created_only_by_passed_claim (ops : List Op) (l : Ledger) (s : State) (hc : Chain ops)
    (pid : Nat) (b : Addr) (amt pt : Int) (h : Event.created pid b amt pt ∈ logOf ops l s) :
    ∃ pre e poolID rt puid post, ops = pre ++ .claimEnds e pid poolID rt b puid amt .paid :: post ∧
      pt = e.t + (run pre (l, s)).2.params.payoutPeriod := by
  rcases log_origin ops _ _ h with h1 | ⟨pre, op, post, hops, hev⟩
  · cases h1
  · have ha : allowed op = true := hc op (by rw [hops]; simp)
    rw [grun_world] at hev
    obtain ⟨e, poolID, rt, puid, hop, hpt⟩ := events_created op (run pre (l, s)).1 (run pre (l, s)).2 ha pid b amt pt hev
    exact ⟨pre, e, poolID, rt, puid, post, by rw [hops, hop], hpt⟩

/-- "A claim that does not pass pays nothing", over histories: an id under which the history has no
    `claimEnds … paid` operation — its claim was rejected, vetoed, failed, or never ended — is never withdrawn. -/
theorem unpaid_pays_nothing (ops : List Op) (l : Ledger) (s : State) (h0 : s.reimbs = []) (hc : Chain ops)
    (pid : Nat) (h : pid ∉ paidPids ops) : pid ∉ withdrawnPids (logOf ops l s) := by
  apply never_created_never_withdrawn ops l s h0 hc
  intro hcr
  obtain ⟨b, amt, pt, hmem⟩ := mem_createdPids.mp hcr
  obtain ⟨pre, e, poolID, rt, puid, post, hops, _⟩ := created_only_by_passed_claim ops l s hc pid b amt pt hmem
  apply h
  rw [hops]
  exact List.mem_flatMap.mpr ⟨_, List.mem_append_right _ List.mem_cons_self, List.mem_singleton_self pid⟩

/-- Every `withdrawn` entry was written by a step `withdrawReimbursement e pid a` of the history; its time is that
    step's block time and its module account that step's module account. -/
theorem withdrawn_only_by_withdraw_message (ops : List Op) (l : Ledger) (s : State) (hc : Chain ops)
    (pid : Nat) (a m : Addr) (x y t : Int) (h : Event.withdrawn pid a m x y t ∈ logOf ops l s) :
    ∃ pre e post, ops = pre ++ .withdrawReimbursement e pid a :: post ∧ m = e.modAddr ∧ t = e.t := by
  rcases log_origin ops _ _ h with h1 | ⟨pre, op, post, hops, hev⟩
  · cases h1
  · have ha : allowed op = true := hc op (by rw [hops]; simp)
    obtain ⟨e, hop, hm, ht⟩ := events_withdrawn op (grun pre ((l, s), [])).1.1 (grun pre ((l, s), [])).1.2 ha pid a m x y t hev
    exact ⟨pre, e, post, by rw [hops, hop], hm, ht⟩

/-! ## (c) exactly the amount -/

/-- The coins a withdrawal moved are the amount of the record created before it under the same id for the same address:
    the caller's balance grew by it and the module account's balance shrank by it.  By `created_only_by_passed_claim`
    that amount is the loss of the passed claim.  The caller is assumed not to be the module account of that step. -/
theorem withdrawn_exactly_the_amount (ops : List Op) (l : Ledger) (s : State) (h0 : s.reimbs = []) (hc : Chain ops)
    (post pre : List Event) (pid : Nat) (a m : Addr) (received left t : Int)
    (h : logOf ops l s = post ++ .withdrawn pid a m received left t :: pre) (hne : a ≠ m) :
    ∃ amt pt, Event.created pid a amt pt ∈ pre ∧ received = amt ∧ left = amt := by
  obtain ⟨amt, pt, h1, _, h3⟩ := withdrawn_spec _ post pre (grun_inv ops _ hc (inv_init l s h0)).2 pid a m received left t h
  exact ⟨amt, pt, h1, (h3 hne).1, (h3 hne).2⟩

/-! ## (d) only after the payout period -/

/-- The time of a withdrawal is at or after the payout time of the record created before it under the same id for the
    same address.  By `created_only_by_passed_claim` that payout time is the block time of the passed claim plus the
    payout period. -/
theorem withdrawn_only_after_payout_period (ops : List Op) (l : Ledger) (s : State) (h0 : s.reimbs = []) (hc : Chain ops)
    (post pre : List Event) (pid : Nat) (a m : Addr) (received left t : Int)
    (h : logOf ops l s = post ++ .withdrawn pid a m received left t :: pre) :
    ∃ amt pt, Event.created pid a amt pt ∈ pre ∧ pt ≤ t := by
  obtain ⟨amt, pt, h1, h2, _⟩ := withdrawn_spec _ post pre (grun_inv ops _ hc (inv_init l s h0)).2 pid a m received left t h
  exact ⟨amt, pt, h1, h2⟩

/-- (b), (c) and (d) about one and the same creation entry. -/
theorem withdrawal_matches_one_creation (ops : List Op) (l : Ledger) (s : State) (h0 : s.reimbs = []) (hc : Chain ops)
    (post pre : List Event) (pid : Nat) (a m : Addr) (received left t : Int)
    (h : logOf ops l s = post ++ .withdrawn pid a m received left t :: pre) :
    ∃ amt pt, Event.created pid a amt pt ∈ pre ∧ pt ≤ t ∧ (a ≠ m → received = amt ∧ left = amt) :=
  withdrawn_spec _ post pre (grun_inv ops _ hc (inv_init l s h0)).2 pid a m received left t h

/-! ## (a) at most once -/

/-- With fresh proposal ids, no id occurs twice among the withdrawals of a history. -/
theorem withdrawn_at_most_once (ops : List Op) (l : Ledger) (s : State) (h0 : s.reimbs = []) (hc : Chain ops)
    (hf : FreshHist ops ((l, s), [])) : (withdrawnPids (logOf ops l s)).Nodup :=
  withdrawn_nodup _ (grun_inv ops _ hc (inv_init l s h0)).2 (grun_fresh ops _ (by simp) hf)

/-- The same for a history that names no proposal id twice among its `claimEnds … paid` operations. -/
theorem withdrawn_at_most_once_distinct_ids (ops : List Op) (l : Ledger) (s : State) (h0 : s.reimbs = []) (hc : Chain ops)
    (hn : (paidPids ops).Nodup) : (withdrawnPids (logOf ops l s)).Nodup :=
  withdrawn_at_most_once ops l s h0 hc (fresh_of_distinct_ids ops l s hn)

/-! ## (f) the ledger side -/

/-- Over every chain history, the coins that left the module account under reimbursement withdrawals, and the coins the
    callers received, both equal the sum of the amounts approved for the withdrawn ids (each as approved at the time of
    its withdrawal).  Withdrawals by the module account itself are left out of all three sums.  No freshness is assumed. -/
theorem paid_out_equals_approved (ops : List Op) (l : Ledger) (s : State) (h0 : s.reimbs = []) (hc : Chain ops) :
    paidOut (logOf ops l s) = owedOut (logOf ops l s) ∧ receivedTotal (logOf ops l s) = owedOut (logOf ops l s) :=
  paid_eq_owed _ (grun_inv ops _ hc (inv_init l s h0)).2

/-- With fresh proposal ids nothing approved is lost: over every chain history, the sum of all amounts ever approved
    equals the amounts approved for the withdrawn ids plus the amounts still recorded in the store (the term
    `sumReimbs` of what the module account owes, property C02). -/
theorem approved_is_drawn_or_open (ops : List Op) (l : Ledger) (s : State) (h0 : s.reimbs = []) (hc : Chain ops)
    (hf : FreshHist ops ((l, s), [])) :
    createdTotal (logOf ops l s) = drawnTotal (logOf ops l s) + sumReimbs (run ops (l, s)).2 := by
  unfold sumReimbs
  rw [records_are_open_reimbursements ops l s h0 hc]
  exact books_balance _ (grun_inv ops _ hc (inv_init l s h0)).2 (grun_fresh ops _ (by simp) hf)

/-- the module account never signs a `withdrawReimbursement` for itself -/
def NoSelfOps (ops : List Op) : Prop :=
  ∀ op ∈ ops, match op with
    | .withdrawReimbursement e _ a => a ≠ e.modAddr
    | _ => True

/-- The same in coins: when, in addition, no withdrawal is made by the module account itself, the sum of all amounts ever
    approved equals the coins that left the module account under withdrawals plus the amounts still recorded. -/
theorem approved_is_paid_or_open (ops : List Op) (l : Ledger) (s : State) (h0 : s.reimbs = []) (hc : Chain ops)
    (hf : FreshHist ops ((l, s), [])) (hs : NoSelfOps ops) :
    createdTotal (logOf ops l s) = paidOut (logOf ops l s) + sumReimbs (run ops (l, s)).2 := by
  have hno : NoSelf (logOf ops l s) := by
    intro pid a m x y t hmem
    obtain ⟨pre, e, post, hops, hm, _⟩ := withdrawn_only_by_withdraw_message ops l s hc pid a m x y t hmem
    have := hs (.withdrawReimbursement e pid a) (by rw [hops]; simp)
    rw [hm]; exact this
  rw [(paid_out_equals_approved ops l s h0 hc).1, owedOut_eq_drawn _ hno]
  exact approved_is_drawn_or_open ops l s h0 hc hf

/-- "The beneficiary … can withdraw it", over histories with fresh ids: after any chain history, a claim that was created
    and has not been withdrawn can be withdrawn by its beneficiary in any environment whose block time has reached the
    payout time, provided the amount is not negative and the module account holds it (property C02 says it does). -/
theorem open_claim_can_be_withdrawn (ops : List Op) (l : Ledger) (s : State) (h0 : s.reimbs = []) (hc : Chain ops)
    (hf : FreshHist ops ((l, s), [])) (pid : Nat) (b : Addr) (amt pt : Int)
    (hcr : Event.created pid b amt pt ∈ logOf ops l s) (hnw : pid ∉ withdrawnPids (logOf ops l s))
    (e : Env) (ht : pt ≤ e.t) (hpos : 0 ≤ amt) (hbal : amt ≤ (run ops (l, s)).1.balOf e.modAddr e.bond) :
    ∃ l' s', withdrawReimbursement e (run ops (l, s)).1 (run ops (l, s)).2 pid b = .ok (l', s') := by
  have hr : mkRec pid b amt pt ∈ (run ops (l, s)).2.reimbs :=
    (records_are_open_reimbursements_fresh ops l s h0 hc hf (mkRec pid b amt pt)).mpr ⟨hcr, hnw⟩
  have hnd : ((run ops (l, s)).2.reimbs.map (·.pid)).Nodup := by
    rw [records_are_open_reimbursements ops l s h0 hc]; exact openRecs_nodup _
  exact (Props.C04.withdrawReimbursement_ok_iff e _ _ pid b).mpr ⟨_, find_of_key hnd hr, rfl, ht, hpos, hbal⟩

/-! ## concrete histories (non-vacuity, and the counterexample for reused ids) -/

section Example
open Shentu.Props.C04

/-- alice and bob deposit, the admin buys shield, three claims are secured; claim 7 (77 for the admin) and claim 8
    (20 for carol) pass, claim 9 is rejected; the admin withdraws 7 in time; carol tries 8 too early, bob tries 8,
    the admin tries 9 — all refused; after the payout time carol withdraws 8; a second attempt is refused -/
def hist : List Op :=
  [.deposit (exEnv 1000) "alice" [("uctk", 500)], .deposit (exEnv 1000) "bob" [("uctk", 300)],
   .purchase (exEnv 1000) 1 [("uctk", 200)] "admin" false,
   .secureCollaterals (exEnv 1100) 1 "admin" 1 77 100, .secureCollaterals (exEnv 1100) 1 "admin" 1 20 100,
   .secureCollaterals (exEnv 1100) 1 "admin" 1 5 100,
   .claimEnds (exEnv 1200) 7 1 "admin" "admin" 1 77 .paid,
   .claimEnds (exEnv 1210) 8 1 "admin" "carol" 1 20 .paid,
   .claimEnds (exEnv 1220) 9 1 "admin" "admin" 1 5 .rejected,
   .withdrawReimbursement (exEnv 1250) 7 "admin",
   .withdrawReimbursement (exEnv 1255) 8 "carol",
   .withdrawReimbursement (exEnv 1270) 8 "bob",
   .withdrawReimbursement (exEnv 1270) 9 "admin",
   .endBlock (exEnv 1270),
   .withdrawReimbursement (exEnv 1270) 8 "carol",
   .withdrawReimbursement (exEnv 1300) 8 "carol"]

/-- the hypotheses of every theorem above hold of `hist`: no records at the start, message-level operations only,
    no proposal id paid twice -/
example : exState0.reimbs = [] ∧ (∀ op ∈ hist, isMsg op = true) ∧ (paidPids hist).Nodup := by decide +kernel

example : Chain hist := chain_of_messages hist (by decide +kernel)

/-- which steps of `hist` succeed: all but the four refused withdrawals (steps 10, 11, 12 and 15, counted from 0) -/
example : (List.range hist.length).map (fun k => match hist[k]? with
      | some op => (match op.apply (run (hist.take k) (exLedger0, exState0)) with | .ok _ => true | .error _ => false)
      | none => false) =
    [true, true, true, true, true, true, true, true, true, true, false, false, false, true, true, false] := by
  decide +kernel

/-- the log of `hist`, newest entry first: two creations, two withdrawals of exactly 77 and 20, each at or after its
    payout time; nothing for claim 9; after the two claims passed both records are in the store, at the end none -/
example : logOf hist exLedger0 exState0 =
      [.withdrawn 8 "carol" "shield" 20 20 1270, .withdrawn 7 "admin" "shield" 77 77 1250,
       .created 8 "carol" 20 1260, .created 7 "admin" 77 1250] ∧
    (run (hist.take 9) (exLedger0, exState0)).2.reimbs =
      [{ pid := 7, amount := 77, beneficiary := "admin", payoutTime := 1250 },
       { pid := 8, amount := 20, beneficiary := "carol", payoutTime := 1260 }] ∧
    (run hist (exLedger0, exState0)).2.reimbs = [] ∧
    paidOut (logOf hist exLedger0 exState0) = 97 ∧ createdTotal (logOf hist exLedger0 exState0) = 97 := by
  decide +kernel

/-- the hypothesis `logOf … = post ++ withdrawn … :: pre` of (b), (c), (d), for the admin's withdrawal in `hist`:
    `pre` holds the two creations, and the caller is not the module account -/
example : logOf hist exLedger0 exState0 =
    [.withdrawn 8 "carol" "shield" 20 20 1270] ++ .withdrawn 7 "admin" "shield" 77 77 1250 ::
      [.created 8 "carol" 20 1260, .created 7 "admin" 77 1250] ∧ ("admin" : Addr) ≠ "shield" := by decide +kernel

/-- the hypotheses of `open_claim_can_be_withdrawn` after the first nine steps of `hist`, for claim 8 at time 1260:
    created, not withdrawn, payout time reached, amount not negative and covered by the module account; and the
    withdrawal does succeed -/
example : Event.created 8 "carol" 20 1260 ∈ logOf (hist.take 9) exLedger0 exState0 ∧
    8 ∉ withdrawnPids (logOf (hist.take 9) exLedger0 exState0) ∧ (1260 : Int) ≤ (exEnv 1260).t ∧ (0 : Int) ≤ 20 ∧
    20 ≤ (run (hist.take 9) (exLedger0, exState0)).1.balOf (exEnv 1260).modAddr (exEnv 1260).bond ∧
    (paidPids (hist.take 9)).Nodup ∧
    (withdrawReimbursement (exEnv 1260) (run (hist.take 9) (exLedger0, exState0)).1
      (run (hist.take 9) (exLedger0, exState0)).2 8 "carol").toOption.isSome = true := by decide +kernel

/-- no step of `hist` is a withdrawal by the module account ("shield") itself -/
example : NoSelfOps hist := by
  unfold NoSelfOps hist
  simp only [List.forall_mem_cons, List.not_mem_nil, false_imp_iff, implies_true, and_true, true_and]
  decide

/-- a history that pays claim 7 twice: once 77, withdrawn, then again 10 under the same id, withdrawn again -/
def reuse : List Op :=
  [.deposit (exEnv 1000) "alice" [("uctk", 500)],
   .claimEnds (exEnv 1200) 7 1 "admin" "admin" 1 77 .paid,
   .withdrawReimbursement (exEnv 1250) 7 "admin",
   .claimEnds (exEnv 1300) 7 1 "admin" "admin" 1 10 .paid,
   .withdrawReimbursement (exEnv 1350) 7 "admin"]

/-- Without fresh proposal ids "at most once" is false of the model: `CreateReimbursement` does not check that the id
    is new, so in the message-level history `reuse` the id 7 is withdrawn twice.  The true statement is
    `withdrawn_at_most_once` (fresh ids assumed).  Each of the two withdrawals still has
    its own earlier creation, its amount and its payout time: (b), (c), (d), the first form of (e) and the first half
    of (f) do not need freshness. -/
theorem withdrawn_at_most_once_fails_on_reuse :
    ¬ ∀ (ops : List Op) (l : Ledger) (s : State), s.reimbs = [] → Chain ops → (withdrawnPids (logOf ops l s)).Nodup := by
  intro h
  have h1 := h reuse exLedger0 exState0 rfl (chain_of_messages reuse (by decide +kernel))
  have h2 : withdrawnPids (logOf reuse exLedger0 exState0) = [7, 7] := by decide +kernel
  rw [h2] at h1
  exact absurd h1 (by decide)

/-- the log of `reuse` -/
example : logOf reuse exLedger0 exState0 =
    [.withdrawn 7 "admin" "shield" 10 10 1350, .created 7 "admin" 10 1350,
     .withdrawn 7 "admin" "shield" 77 77 1250, .created 7 "admin" 77 1250] := by decide +kernel

/-- a history that pays claim 7 a second time while the first record is still open, and pays claim 8 to the module
    account itself -/
def overwrite : List Op :=
  [.deposit (exEnv 1000) "alice" [("uctk", 500)],
   .claimEnds (exEnv 1200) 7 1 "admin" "admin" 1 77 .paid,
   .claimEnds (exEnv 1300) 7 1 "admin" "bob" 1 10 .paid,
   .withdrawReimbursement (exEnv 1350) 7 "admin",
   .withdrawReimbursement (exEnv 1350) 7 "bob",
   .claimEnds (exEnv 1400) 8 1 "admin" "shield" 1 10 .paid,
   .withdrawReimbursement (exEnv 1450) 8 "shield"]

/-- What the model does on reuse of an id whose record is still open: the new record replaces the old one, so the 77
    approved first can no longer be withdrawn by anybody (the admin is refused) and only the 10 of the second approval
    are paid, to bob.  And a withdrawal by the module account itself succeeds but moves nothing: the observed amounts
    are 0, not 10 — the reason for `a ≠ m` in (c) and (f). -/
example : logOf overwrite exLedger0 exState0 =
    [.withdrawn 8 "shield" "shield" 0 0 1450, .created 8 "shield" 10 1450,
     .withdrawn 7 "bob" "shield" 10 10 1350, .created 7 "bob" 10 1350, .created 7 "admin" 77 1250] := by decide +kernel

/-- The hypothesis `a ≠ m` of `withdrawn_exactly_the_amount` cannot be dropped: in `overwrite` the module account is the
    beneficiary of claim 8, its withdrawal succeeds, and the observed coins are 0 while the amount created is 10.
    (Not reachable in the chain: a module account signs no messages.) -/
theorem withdrawn_exactly_the_amount_fails_for_module_account :
    ¬ ∀ (ops : List Op) (l : Ledger) (s : State), s.reimbs = [] → Chain ops →
      ∀ (post pre : List Event) (pid : Nat) (a m : Addr) (received left t : Int),
        logOf ops l s = post ++ .withdrawn pid a m received left t :: pre →
        ∃ amt pt, Event.created pid a amt pt ∈ pre ∧ received = amt ∧ left = amt := by
  intro h
  obtain ⟨amt, pt, hmem, h1, _⟩ := h overwrite exLedger0 exState0 rfl (chain_of_messages overwrite (by decide +kernel)) []
    [.created 8 "shield" 10 1450, .withdrawn 7 "bob" "shield" 10 10 1350, .created 7 "bob" 10 1350,
     .created 7 "admin" 77 1250] 8 "shield" "shield" 0 0 1450 (by decide +kernel)
  simp at hmem
  omega

end Example

end Shentu.Props.C04H

#print axioms Shentu.Props.C04H.chain_of_messages
#print axioms Shentu.Props.C04H.world_of_run
#print axioms Shentu.Props.C04H.records_are_open_reimbursements
#print axioms Shentu.Props.C04H.records_are_open_reimbursements_fresh
#print axioms Shentu.Props.C04H.fresh_of_distinct_ids
#print axioms Shentu.Props.C04H.withdrawn_only_by_beneficiary
#print axioms Shentu.Props.C04H.never_created_never_withdrawn
#print axioms Shentu.Props.C04H.created_only_by_passed_claim
#print axioms Shentu.Props.C04H.unpaid_pays_nothing
#print axioms Shentu.Props.C04H.withdrawn_only_by_withdraw_message
#print axioms Shentu.Props.C04H.withdrawn_exactly_the_amount
#print axioms Shentu.Props.C04H.withdrawn_only_after_payout_period
#print axioms Shentu.Props.C04H.withdrawal_matches_one_creation
#print axioms Shentu.Props.C04H.withdrawn_at_most_once
#print axioms Shentu.Props.C04H.withdrawn_at_most_once_distinct_ids
#print axioms Shentu.Props.C04H.paid_out_equals_approved
#print axioms Shentu.Props.C04H.approved_is_drawn_or_open
#print axioms Shentu.Props.C04H.approved_is_paid_or_open
#print axioms Shentu.Props.C04H.open_claim_can_be_withdrawn
#print axioms Shentu.Props.C04H.withdrawn_at_most_once_fails_on_reuse
#print axioms Shentu.Props.C04H.withdrawn_exactly_the_amount_fails_for_module_account
