import Shentu.Model.Genesis
import Shentu.Proofs.C20GLemmas
import Shentu.Proofs.C20GShieldSorted
import Shentu.Proofs.C20GOracleInv
/-!
  C20, export and re-import of x/shield and x/oracle (`Model/Genesis.lean` holds `exportGenesis` / `initGenesis`, written
  after the Go `ExportGenesis` / `InitGenesis` field by field and in the order of the Go writes).  x/cert and x/gov are in
  `Props/C20GCert.lean` and `Props/C20GGov.lean`.

  x/shield.  The genesis file carries every store except the block service fees; the withdraw queue is rebuilt by inserting
  the exported withdrawals one by one.
  * `Shield.reimport_partial` (no hypothesis): the re-imported state is the original state with the queue rebuilt and the block
    service fees set to zero.
  * `Shield.reimport_same` (G1): it is the original state when the queue is ordered by completion time and the block service
    fees are zero (`Exportable`).  Both clauses are needed: `reimport_same_fails_block_fees`, `reimport_same_fails_unsorted`.
  * `Shield.exportable_after_block`: `Exportable` holds after the end-blocker of every block of every history that starts from
    an ordered queue with fee distribution started (`lastUpdate ≠ zeroTime`) and whose end-blockers do not run at `time.Time{}`.
    Fee distribution is started by the first purchase or by a genesis `LastUpdateTime` (the default genesis stamps one).
  * `Shield.block_fees_lost_fails`: a chain whose fee distribution has NOT started keeps the minted block rewards in `blockFees`
    over the end-blocker; an export then drops them while the module account keeps the coins, and the fund identity C02 is
    false on the imported chain.  The Go code has the same behaviour (`ExportGenesis` never reads `GetBlockServiceFees`;
    `RemoveExpiredPurchasesAndDistributeFees` returns early when the last update time is zero).
  * `Shield.reexport_same` (G2), `Shield.continuation_same` (G3: same states, same ledgers, same outcomes for every further
    history), `Shield.invariants_reimported` (G4).
  The expiring-purchase queue is not part of the model's state (`Shield.duePairs` recomputes it from the purchase lists), so
  the import has nothing to rebuild for it; `Genesis.Shield.rebuildExpiring` only names what the Go import inserts.

  x/oracle.  The export at height `h` writes due blocks and waiting blocks relative to `h`; the import runs at the initial
  height of the new chain, `h + 1` (Tendermint's convention), and re-bases them there.  So the import is NOT the identity
  (`Oracle.reimport_identity_fails`): every withdrawal is due, and every task closes, one block later.
  * `Oracle.reimport_fields` (G1): field by field what the imported state is.  `Oracle.reimport_shift`: it is related to the
    original by `Shift (h + 1)` (same operators, total, parameters; same withdrawals due one block later; same tasks closing one
    block later; the closing index of block `k + 1` lists the tasks of the original index of block `k` in the same order).
    Hypothesis `Exportable h`: task keys are distinct and the closing index of every block after `h` lists exactly the tasks
    closing then, in the order of the task list.  `Oracle.exportable_after_blocks`: this holds after every block of every
    history of consecutive blocks (begin-blocker, any messages, end-blocker) from a state that has it, in particular from the
    empty state (`Oracle.exportable_from_genesis`), as long as no end-blocker halts (a halted chain exports nothing).
    `Oracle.continuation_after_blocks` puts the pieces together.
    In the Go code the export lists the tasks in store-key order, so the rebuilt index lists the tasks of a block in key order
    where the running node has them in creation order; `Props/C20order.lean` shows that this order does not matter.
  * `Oracle.reexport_same_fails`, `Oracle.reexport_partial` (G2): a second export differs from the first in one field, the
    stored closing block of each task (one later).  `Oracle.import_ignores_closing`: the import never reads that field.
    The Go code has the same difference.
  * `Oracle.continuation_same` (G3): feed the original chain any history at heights `> h` and the imported chain the same
    operations one height later: ledgers stay equal (same amounts to the same recipients), states stay `Shift`-related, and every
    operation succeeds or fails with the same error on both.  `Oracle.matures_one_block_later` states the single difference
    seen at equal heights.
  * `Oracle.accounting_reimported` (G4): collateral, pending amounts and total of C14 are those of the original.
-/
namespace Shentu.Props.C20G

namespace Shield
open Shentu Shentu.Shield Shentu.Genesis.Shield Shentu.Props.C20 Shentu.Props.C03a Shentu.C20GShieldH

/-- what an export relies on: the queue is ordered by completion time, and no block service fees are waiting -/
def Exportable (s : State) : Prop := sortedByTime s.withdraws ∧ s.blockFees = Dec.zero

/-- Exporting and importing rebuilds the withdraw queue and forgets the block service fees.  Everything else is unchanged. -/
theorem reimport_partial (s : State) :
    initGenesis (exportGenesis s) = { s with withdraws := rebuildQueue s.withdraws, blockFees := Dec.zero } := rfl

/-- (G1) An exportable state is re-imported as it was. -/
theorem reimport_same (s : State) (h : Exportable s) : initGenesis (exportGenesis s) = s := by
  rw [reimport_partial]
  have h1 : rebuildQueue s.withdraws = s.withdraws := rebuild_queue s.withdraws h.1
  rw [h1, ← h.2]

/-- (G2) Exporting the re-imported state gives the same genesis file.  The block service fees play no role: they are not in the file. -/
theorem reexport_same (s : State) (h : sortedByTime s.withdraws) :
    exportGenesis (initGenesis (exportGenesis s)) = exportGenesis s := by
  rw [reimport_partial]
  have h1 : rebuildQueue s.withdraws = s.withdraws := rebuild_queue s.withdraws h
  simp only [exportGenesis, h1]

/-- (G3) The chain started from the export runs every further history exactly as the original: same ledger, same state. -/
theorem continuation_same (l : Ledger) (s : State) (h : Exportable s) (ops : List Op) :
    run ops (l, initGenesis (exportGenesis s)) = run ops (l, s) := by rw [reimport_same s h]

/-- (G3) Every single operation answers the same on both chains (same error, or the same new ledger and state). -/
theorem continuation_same_outcome (l : Ledger) (s : State) (h : Exportable s) (op : Op) :
    op.apply (l, initGenesis (exportGenesis s)) = op.apply (l, s) := by rw [reimport_same s h]

/-- After the end-blocker of any block of any history the state is exportable.  The history starts from an ordered queue with
    fee distribution started, and no end-blocker runs at `time.Time{}`. -/
theorem exportable_after_block (ops : List Op) (w : World) (hs : sortedByTime w.2.withdraws) (hl : w.2.lastUpdate ≠ zeroTime)
    (ht : ∀ op ∈ ops, Op.timeOk op) (e : Env) (s' : State) (h : endBlock e (run ops w).2 = .ok s') : Exportable s' :=
  ⟨endBlock_sorted e _ s' (run_sorted ops w hs) h, run_endBlock_blockFees_zero ops w hl ht e s' h⟩

/-- Export after any block, import, continue: the same as never having stopped. -/
theorem continuation_after_block (ops more : List Op) (w : World) (hs : sortedByTime w.2.withdraws) (hl : w.2.lastUpdate ≠ zeroTime)
    (ht : ∀ op ∈ ops, Op.timeOk op) (e : Env) (s' : State) (h : endBlock e (run ops w).2 = .ok s') (l : Ledger) :
    run more (l, initGenesis (exportGenesis s')) = run more (l, s') :=
  continuation_same l s' (exportable_after_block ops w hs hl ht e s' h) more

/-- (G4) The accounting identities of C02 and C03 hold on the re-imported state when they hold on the original. -/
theorem invariants_reimported (s : State) (h : Exportable s) (m : Int) :
    (FundInv m s → FundInv m (initGenesis (exportGenesis s))) ∧ (BooksInv s → BooksInv (initGenesis (exportGenesis s))) ∧
    (Shentu.Shield.Coll.CollInv s → Shentu.Shield.Coll.CollInv (initGenesis (exportGenesis s))) := by
  rw [reimport_same s h]; exact ⟨id, id, id⟩

/-- a chain before its first purchase (`lastUpdate = zeroTime`) that has been paid 5 coins of block rewards -/
def early : State := { Ex.s0 with blockFees := Dec.ofInt 5 }
def earlyEnv : Env := { t := 60, bond := "uctk", modAddr := "shield" }

/-- the 5 coins survive the end-blocker: fee distribution has not started -/
theorem early_block_fees_stay : (match endBlock earlyEnv early with | .ok s => s.blockFees | .error _ => Dec.zero) = Dec.ofInt 5 := by
  decide

/-- Without "no block service fees" the import is not the identity: the fees are gone. -/
theorem reimport_same_fails_block_fees : ¬ ∀ s : State, sortedByTime s.withdraws → initGenesis (exportGenesis s) = s := by
  intro h
  have h1 := h early (by simp [early, Ex.s0, sortedByTime])
  have h2 := congrArg (fun s => s.blockFees.raw) h1
  revert h2; decide

/-- The fund identity C02 does not survive such an export.  The module account holds the 5 coins; the original state owes them
    (as block service fees); the imported state owes nothing. -/
theorem block_fees_lost_fails :
    FundInv 5 early ∧ ¬ FundInv 5 (initGenesis (exportGenesis early)) := by
  constructor
  · constructor <;> decide
  · intro h; have := h.1; revert this; decide

/-- Without an ordered queue the import is not the identity: the rebuilt queue is ordered. -/
theorem reimport_same_fails_unsorted : ¬ ∀ s : State, s.blockFees = Dec.zero → initGenesis (exportGenesis s) = s := by
  intro h
  have h1 := h { Ex.s0 with withdraws := [⟨"a", 20, 70⟩, ⟨"a", 10, 40⟩] } rfl
  have h2 := congrArg (fun s => s.withdraws.map (·.time)) h1
  revert h2; decide

/-! #### non-vacuity: two pools, purchases expiring at different times, a pending withdrawal, an open claim lock -/

def demo : State :=
  { admin := "adm",
    pools := [⟨1, 60, 100, true, "acme", "sp1"⟩, ⟨2, 20, 50, true, "bolt", "sp2"⟩],
    lists := [⟨1, "u1", [⟨1, 500, 500, 40, Dec.ofInt 4⟩, ⟨3, 900, 1200, 20, Dec.zero⟩]⟩, ⟨2, "u2", [⟨2, 700, 700, 20, Dec.ofInt 2⟩]⟩],
    providers := [⟨"a", 100, 30, 100, Dec.ofInt 1⟩, ⟨"b", 50, 0, 80, Dec.zero⟩],
    withdraws := [⟨"a", 10, 40⟩, ⟨"a", 20, 70⟩],
    stakes := [], origStakings := [], reimbs := [⟨7, 5, "u3", 300⟩],
    totalCollateral := 150, totalWithdrawing := 30, totalShield := 80, totalClaimed := 10,
    serviceFees := Dec.ofInt 6, remaining := Dec.ofInt 6, blockFees := Dec.zero, stakingPool := 0,
    lastUpdate := 10, nextPool := 3, nextPurchase := 4, params := Ex.params }

example : Exportable demo := ⟨by simp [demo, sortedByTime], rfl⟩
example : (initGenesis (exportGenesis demo)).withdraws = demo.withdraws := by decide +kernel
example : rebuildExpiring demo.lists = [(500, [(1, "u1")]), (700, [(2, "u2")]), (900, [(1, "u1")])] := by decide +kernel
example : dueInQueue (rebuildExpiring demo.lists) 700 = [(1, "u1"), (2, "u2")] := by decide +kernel
/-- the hypotheses of `exportable_after_block` hold for a concrete history -/
example : sortedByTime demo.withdraws ∧ demo.lastUpdate ≠ zeroTime ∧
    ∀ op ∈ [Op.withdraw earlyEnv "b" [("uctk", 5)], Op.endBlock earlyEnv], Op.timeOk op := by
  refine ⟨by simp [demo, sortedByTime], by decide, ?_⟩
  intro op hop
  simp only [List.mem_cons, List.not_mem_nil, or_false] at hop
  rcases hop with rfl | rfl
  · trivial
  · show earlyEnv.t ≠ zeroTime; decide

end Shield

namespace Oracle
open Shentu Shentu.Oracle Shentu.Genesis.Oracle Shentu.C20GH

/-- (G1) What the import at height `h + 1` makes of the export at height `h`, field by field.  Operators, total and parameters
    are copied.  Every withdrawal is due one block later.  Every task closes one block later and carries the waiting blocks
    that the export wrote.  The closing index of block `k` lists the tasks that were still open at the export and now close
    at `k`, in the order of the task list.  Needs only: task keys are distinct. -/
theorem reimport_fields (h : Int) (s : State) (hk : (s.tasks.map Task.key).Nodup) :
    (initGenesis (h + 1) (exportGenesis h s)).ops = s.ops ∧
    (initGenesis (h + 1) (exportGenesis h s)).wds = s.wds.map shiftWd ∧
    (initGenesis (h + 1) (exportGenesis h s)).total = s.total ∧
    (initGenesis (h + 1) (exportGenesis h s)).params = s.params ∧
    (initGenesis (h + 1) (exportGenesis h s)).tasks = s.tasks.map (impT h) ∧
    ∀ k, closingAt (initGenesis (h + 1) (exportGenesis h s)) k =
      ids (s.tasks.filter (fun t => decide (h < t.closing) && (t.closing + 1 == k))) :=
  import_fields h s hk

/-- (G1) The imported state is the exported state with every height-indexed deadline one block later. -/
theorem reimport_shift (h : Int) (s : State) (hx : Exportable h s) :
    Shift (h + 1) s (initGenesis (h + 1) (exportGenesis h s)) := import_shift h s hx

/-- The import is not the identity, even on exportable states: a pending withdrawal moves by one block. -/
theorem reimport_identity_fails :
    ¬ ∀ (h : Int) (s : State), Exportable h s → initGenesis (h + 1) (exportGenesis h s) = s := by
  intro hyp
  have h1 := hyp 100 { ops := [], wds := [⟨"op", [("uctk", 5)], 130⟩], total := [], tasks := [], closing := [], params := default }
    ⟨by simp, fun k _ => rfl⟩
  have h2 := congrArg (fun s => s.wds.map (·.due)) h1
  revert h2; decide

/-- the same genesis file with every task's stored closing block one later -/
def laterClosing (g : Genesis) : Genesis := { g with tasks := g.tasks.map (fun t => { t with closing := t.closing + 1 }) }

/-- (G2, what is true) A second export, taken from the imported chain at its own height, is the first export except for the
    stored closing block of each task, which is one later. -/
theorem reexport_partial (h : Int) (s : State) (hk : (s.tasks.map Task.key).Nodup) :
    exportGenesis (h + 1) (initGenesis (h + 1) (exportGenesis h s)) = laterClosing (exportGenesis h s) := by
  obtain ⟨i1, i2, i3, i4, i5, _⟩ := import_fields h s hk
  generalize initGenesis (h + 1) (exportGenesis h s) = s' at i1 i2 i3 i4 i5
  unfold exportGenesis laterClosing
  rw [i1, i2, i3, i4, i5]
  simp only [List.map_map]
  congr 1
  · apply List.map_congr_left
    intro w _
    show ({ w with due := w.due + 1 - (h + 1) } : Withdraw) = { w with due := w.due - h }
    have : w.due + 1 - (h + 1) = w.due - h := by omega
    rw [this]
  · apply List.map_congr_left
    intro t _
    show ({ t with closing := t.closing + 1, waiting := t.closing + 1 - (h + 1) } : Task) =
      { t with waiting := t.closing - h, closing := t.closing + 1 }
    have : t.closing + 1 - (h + 1) = t.closing - h := by omega
    rw [this]

/-- (G2 as asked is false) The second export is not the first one: the stored closing block of a task has moved. -/
theorem reexport_same_fails :
    ¬ ∀ (h : Int) (s : State), Exportable h s →
      exportGenesis (h + 1) (initGenesis (h + 1) (exportGenesis h s)) = exportGenesis h s := by
  intro hyp
  have h1 := hyp 100
    { ops := [], wds := [], total := [],
      tasks := [{ contract := "c", function := "f", begin := 90, bounty := [], expiration := 0, creator := "x", responses := [],
                  result := 0, closing := 105, waiting := 15, status := 1 }],
      closing := [(105, [("c", "f")])], params := default }
    ⟨by simp [Task.key], by
      intro k hk
      by_cases h5 : k = 105
      · subst h5; rfl
      · have : (105 == k) = false := by simp; omega
        simp [closingAt, idsAt, ids, this]⟩
  have h2 := congrArg (fun g => g.tasks.map (·.closing)) h1
  revert h2; decide

theorem updateAndSetTask_ignores_closing (k : Int) (s : State) (t : Task) (x : Int) :
    updateAndSetTask k s { t with closing := x } = updateAndSetTask k s t := rfl

/-- The import never reads the stored closing block of a task.  So the second export imports exactly as the first would. -/
theorem import_ignores_closing (k : Int) (g : Genesis) : initGenesis k (laterClosing g) = initGenesis k g := by
  unfold initGenesis laterClosing
  dsimp only
  rw [List.foldl_map]
  rfl

/-- (G3) One operation.  The original chain runs it in a block at height `e.h`, the imported chain in the block one height
    later.  Both answer the same (the same error, or success), the ledgers stay equal, and the states stay related. -/
theorem continuation_same_step (c : Int) (a b : State) (hR : Shift c a b) (e : Env) (hc : c ≤ e.h) (l : Ledger) (op : Op) :
    (step (up e) (l, b) op).1 = (step e (l, a) op).1 ∧ Shift c (step e (l, a) op).2 (step (up e) (l, b) op).2 ∧
      outcome (up e) (l, b) op = outcome e (l, a) op := step_shift hR e hc l op

/-- (G3) Export after block `h`, import, and feed both chains the same further operations, block for block (the imported
    chain counts every block one higher).  At the end the ledgers are equal: every payment was made with the same amount to
    the same recipient.  The states are related by `Shift`.  Every operation had the same outcome on both chains. -/
theorem continuation_same (h : Int) (s : State) (hx : Exportable h s) (l : Ledger) (ops : List (Env × Op))
    (hops : ∀ eo ∈ ops, h + 1 ≤ eo.1.h) :
    (runUp (l, initGenesis (h + 1) (exportGenesis h s)) ops).1 = (run (l, s) ops).1 ∧
    Shift (h + 1) (run (l, s) ops).2 (runUp (l, initGenesis (h + 1) (exportGenesis h s)) ops).2 ∧
    outcomesUp (l, initGenesis (h + 1) (exportGenesis h s)) ops = outcomes (l, s) ops :=
  run_shift_pair ops (l, s) (l, _) rfl (import_shift h s hx) hops

/-- What `Shift` means for an observer: the same operators, total and parameters; the same withdrawals (operator, coins) due
    one block later; as many tasks, each with the same key, responses, status and expiration, closing one block later. -/
theorem shift_observably_same (c : Int) (a b : State) (hR : Shift c a b) :
    b.ops = a.ops ∧ b.total = a.total ∧ b.params = a.params ∧
    b.wds.map (fun w => (w.addr, w.amt, w.due)) = a.wds.map (fun w => (w.addr, w.amt, w.due + 1)) ∧
    ∀ key, match findTask a key, findTask b key with
      | none, none => True
      | some t, some t' => t'.responses = t.responses ∧ t'.status = t.status ∧ t'.expiration = t.expiration ∧ t'.closing = t.closing + 1
      | _, _ => False := by
  refine ⟨hR.ops, hR.total, hR.params, ?_, ?_⟩
  · rw [hR.wds, List.map_map]; rfl
  · intro key
    rcases findTask_shift hR key with ⟨h1, h2⟩ | ⟨t, t', h1, h2, ht⟩ <;> rw [h1, h2]
    · trivial
    · exact ⟨ht.responses, ht.status, ht.expiration, ht.closing⟩

/-- At equal heights the one visible difference: a withdrawal that the original chain pays in the begin-blocker of block `d`
    is paid by the imported chain in the begin-blocker of block `d + 1`, not before. -/
theorem matures_one_block_later (w : Withdraw) (k : Int) : mature k (shiftWd w) = mature (k - 1) w := by
  have := mature_shift (k - 1) w
  rw [show k - 1 + 1 = k by omega] at this
  exact this

/-- (G4) The quantities of the collateral accounting C14 are those of the original state: each operator's collateral, each
    operator's pending withdrawals, and the total. -/
theorem accounting_reimported (h : Int) (s : State) (hk : (s.tasks.map Task.key).Nodup) (x : Addr) (d : Denom) :
    collAmt (initGenesis (h + 1) (exportGenesis h s)) x d = collAmt s x d ∧
    pendAmt (initGenesis (h + 1) (exportGenesis h s)) x d = pendAmt s x d ∧
    held (initGenesis (h + 1) (exportGenesis h s)) x d = held s x d ∧
    (initGenesis (h + 1) (exportGenesis h s)).total = s.total := by
  obtain ⟨i1, i2, i3, _, _, _⟩ := import_fields h s hk
  have hc : collAmt (initGenesis (h + 1) (exportGenesis h s)) x d = collAmt s x d := by
    simp [collAmt, findOp, i1]
  have hp : pendAmt (initGenesis (h + 1) (exportGenesis h s)) x d = pendAmt s x d := by
    unfold pendAmt pendList
    rw [i2]
    have : ∀ l : List Withdraw, (((l.map shiftWd).filter (fun w => w.addr == x)).map (fun w => Coins.amountOf w.amt d)) =
        ((l.filter (fun w => w.addr == x)).map (fun w => Coins.amountOf w.amt d)) := by
      intro l
      rw [filter_map_shift (fun w => w.addr == x) (fun w => w.addr == x) (fun _ => rfl), List.map_map]
      rfl
    rw [this]
  exact ⟨hc, hp, by unfold held; rw [hc, hp], i3⟩

/-- `Exportable` is kept by whole blocks.  The blocks have consecutive heights `h + 1, h + 2, ...`; each is a begin-blocker,
    any list of messages and the end-blocker; no end-blocker halts (`Good`).  After them the state is exportable at the
    last height. -/
theorem exportable_after_blocks (bs : List (Env × Shentu.C20GOrcInv.Block)) (h : Int) (ls : Ledger × State)
    (hx : Exportable h ls.2) (hg : Shentu.C20GOrcInv.Good h ls bs) :
    Exportable (h + bs.length) (Shentu.C20GOrcInv.runBlocks ls bs).2 :=
  Shentu.C20GOrcInv.exportable_runBlocks bs h ls hx hg

/-- In particular every state reached from a genesis without oracle data is exportable after each of its blocks. -/
theorem exportable_from_genesis (p : Params) (l : Ledger) (h : Int) (bs : List (Env × Shentu.C20GOrcInv.Block))
    (hg : Shentu.C20GOrcInv.Good h (l, emptyState p) bs) :
    Exportable (h + bs.length) (Shentu.C20GOrcInv.runBlocks (l, emptyState p) bs).2 :=
  Shentu.C20GOrcInv.exportable_from_empty p l h bs hg

/-- Run any blocks from genesis, export after the last one (height `H`), import at `H + 1`, and feed both chains the same
    further operations: equal ledgers, `Shift`-related states, equal outcomes. -/
theorem continuation_after_blocks (p : Params) (l : Ledger) (h : Int) (bs : List (Env × Shentu.C20GOrcInv.Block))
    (hg : Shentu.C20GOrcInv.Good h (l, emptyState p) bs) (l' : Ledger) (ops : List (Env × Op))
    (hops : ∀ eo ∈ ops, h + bs.length + 1 ≤ eo.1.h) :
    let s := (Shentu.C20GOrcInv.runBlocks (l, emptyState p) bs).2
    let H := h + bs.length
    (runUp (l', initGenesis (H + 1) (exportGenesis H s)) ops).1 = (run (l', s) ops).1 ∧
    Shift (H + 1) (run (l', s) ops).2 (runUp (l', initGenesis (H + 1) (exportGenesis H s)) ops).2 ∧
    outcomesUp (l', initGenesis (H + 1) (exportGenesis H s)) ops = outcomes (l', s) ops :=
  continuation_same _ _ (exportable_from_genesis p l h bs hg) l' ops hops

/-- the empty state is exportable at every height -/
theorem exportable_empty (h : Int) (p : Params) : Exportable h (emptyState p) := ⟨by simp [emptyState], fun _ _ => rfl⟩

/-! #### non-vacuity: an operator, a pending withdrawal, an open task and a closed one -/

def demo : State :=
  { ops := [⟨"op1", "op1", [("uctk", 50)], [("uctk", 3)]⟩],
    wds := [⟨"op2", [("uctk", 5)], 130⟩],
    total := [("uctk", 50)],
    tasks := [{ contract := "c", function := "f", begin := 90, bounty := [("uctk", 7)], expiration := 1000, creator := "x",
                responses := [⟨"op1", 80, 0, []⟩], result := 0, closing := 105, waiting := 15, status := 1 },
              { contract := "c", function := "g", begin := 80, bounty := [], expiration := 1000, creator := "x",
                responses := [], result := 50, closing := 95, waiting := 15, status := 2 }],
    closing := [(105, [("c", "f")])],
    params := { lock := 30, minColl := 10, window := 15, aggRes := 50, threshold := 50, eps1 := 1, eps2 := 100, expDur := 1000 } }

theorem demo_exportable : Exportable 100 demo := by
  refine ⟨by decide, ?_⟩
  intro k hk
  by_cases h5 : k = 105
  · subst h5; rfl
  · have h1 : (105 == k) = false := by simp; omega
    have h2 : (95 == k) = false := by simp; omega
    simp [closingAt, idsAt, ids, demo, h1, h2]

example : (initGenesis 101 (exportGenesis 100 demo)).wds.map (·.due) = [131] := by decide +kernel
example : (initGenesis 101 (exportGenesis 100 demo)).tasks.map (fun t => (t.closing, t.waiting)) = [(106, 5), (96, -5)] := by decide +kernel
example : (initGenesis 101 (exportGenesis 100 demo)).closing = [(106, [("c", "f")])] := by decide +kernel
example : ∀ eo ∈ [(({ h := 101, t := 5, bond := "uctk", modAddr := "oracle" } : Env), Op.beginBlock),
    ({ h := 105, t := 9, bond := "uctk", modAddr := "oracle" }, Op.endBlock)], (100 : Int) + 1 ≤ eo.1.h := by
  intro eo heo
  simp only [List.mem_cons, List.not_mem_nil, or_false] at heo
  rcases heo with rfl | rfl <;> decide

/-- a block at height 6 that registers an operator and creates a task: the hypotheses of `exportable_after_blocks` hold -/
def env6 : Env := { h := 6, t := 50, bond := "uctk", modAddr := "oracle" }
def ledger6 : Ledger := { posts := [("op1", "uctk", 100), ("x", "uctk", 20)], supply := [("uctk", 120)] }
def block6 : Shentu.C20GOrcInv.Block :=
  [.createOperator "op1" [("uctk", 50)] "op1", .createTask "c" "f" [("uctk", 7)] "x" 3 0, .respond "c" "f" 80 "op1"]

example : Shentu.C20GOrcInv.Good 5 (ledger6, emptyState demo.params) [(env6, block6)] := by
  refine ⟨rfl, ?_, ?_, trivial⟩
  · intro op hop
    simp only [block6, List.mem_cons, List.not_mem_nil, or_false] at hop
    rcases hop with rfl | rfl | rfl <;> exact ⟨(fun h => nomatch h), (fun h => nomatch h)⟩
  have : (match stepE env6 (Shentu.C20GOrcInv.midBlock env6 (ledger6, emptyState demo.params) block6).1
      (Shentu.C20GOrcInv.midBlock env6 (ledger6, emptyState demo.params) block6).2 .endBlock with
      | .ok _ => true | .error _ => false) = true := by decide +kernel
  revert this
  cases stepE env6 (Shentu.C20GOrcInv.midBlock env6 (ledger6, emptyState demo.params) block6).1
      (Shentu.C20GOrcInv.midBlock env6 (ledger6, emptyState demo.params) block6).2 .endBlock with
  | ok r => intro _; exact ⟨r, rfl⟩
  | error x => intro h; cases h
example : (Shentu.C20GOrcInv.runBlocks (ledger6, emptyState demo.params) [(env6, block6)]).2.closing = [(9, [("c", "f")])] := by decide +kernel

end Oracle

end Shentu.Props.C20G

#print axioms Shentu.Props.C20G.Shield.reimport_partial
#print axioms Shentu.Props.C20G.Shield.reimport_same
#print axioms Shentu.Props.C20G.Shield.reexport_same
#print axioms Shentu.Props.C20G.Shield.continuation_same
#print axioms Shentu.Props.C20G.Shield.continuation_same_outcome
#print axioms Shentu.Props.C20G.Shield.exportable_after_block
#print axioms Shentu.Props.C20G.Shield.continuation_after_block
#print axioms Shentu.Props.C20G.Shield.invariants_reimported
#print axioms Shentu.Props.C20G.Shield.early_block_fees_stay
#print axioms Shentu.Props.C20G.Shield.reimport_same_fails_block_fees
#print axioms Shentu.Props.C20G.Shield.block_fees_lost_fails
#print axioms Shentu.Props.C20G.Shield.reimport_same_fails_unsorted
#print axioms Shentu.Props.C20G.Oracle.reimport_fields
#print axioms Shentu.Props.C20G.Oracle.reimport_shift
#print axioms Shentu.Props.C20G.Oracle.reimport_identity_fails
#print axioms Shentu.Props.C20G.Oracle.reexport_partial
#print axioms Shentu.Props.C20G.Oracle.reexport_same_fails
#print axioms Shentu.Props.C20G.Oracle.updateAndSetTask_ignores_closing
#print axioms Shentu.Props.C20G.Oracle.import_ignores_closing
#print axioms Shentu.Props.C20G.Oracle.continuation_same_step
#print axioms Shentu.Props.C20G.Oracle.continuation_same
#print axioms Shentu.Props.C20G.Oracle.shift_observably_same
#print axioms Shentu.Props.C20G.Oracle.matures_one_block_later
#print axioms Shentu.Props.C20G.Oracle.accounting_reimported
#print axioms Shentu.Props.C20G.Oracle.exportable_after_blocks
#print axioms Shentu.Props.C20G.Oracle.exportable_from_genesis
#print axioms Shentu.Props.C20G.Oracle.continuation_after_blocks
#print axioms Shentu.Props.C20G.Oracle.exportable_empty
#print axioms Shentu.Props.C20G.Oracle.demo_exportable
