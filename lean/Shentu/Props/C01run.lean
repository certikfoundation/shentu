import Shentu.Proofs.VmConserveRun
import Shentu.Proofs.VmRuns
/-
  C01 at the level of the VM model, whole executions: whatever program runs — any code, input, gas, call tree up to the
  model's nesting depth, value transfers, SELFDESTRUCT, CREATE / CREATE2 with and without endowment (whatever address the
  derivation oracle `Env.fresh` answers), failing frames and failing constructors — the accounts of the interpreter's cache
  hold the same coins afterwards as before.  A created account starts with no coins (`createWorld`); its endowment reaches it by
  the same `transfer` that opens a CALL frame, inside the constructor's frame; storing the deployed code changes no balance
  (`safe_put_code`); a failed constructor's frame is dropped (`settleCreate`).  Every opcode byte is covered: the statements
  have no hypothesis on the instructions executed.  `Props/C01vm.lean` states this for each world-changing primitive; here
  the lemmas behind those statements (`Proofs/VmConserve.lean`) are composed over the interpreter loop (`step`, `run`), the
  frame (`runFrame`), the nesting (`runDepth`) and the outermost call (`execTop`).  The bound `n < 2^64` (the cache holds
  fewer than 2^64 coins: balances are uint64 in Burrow, the chain's supply is far below) is what the loop needs
  (`step_conserves`, `run_conserves`): it also runs in frames that fail, and in the overflow branch of SELFDESTRUCT a frame
  loses coins (`C01vm.selfdestruct_overflow_loses`).  Such a frame has an error in its sink and its accounts are dropped, so
  the statements about frames that report success (`runFrame_conserves`, `runDepth_conserves`, `execTop_conserves`) carry
  the bound without depending on it: `VmConserveRun.lean` proves them for every `n`.  Property theorems only; the work is in
  `Shentu/Proofs/VmKeeps.lean` and `Shentu/Proofs/VmConserveRun.lean`.
-/
namespace Shentu.Props.C01run
open Shentu Shentu.EVM

/-- what a callee frame is trusted with: started on a cache that is keyed and holds `n` coins, it hands back — when it
    reports success — a cache that is keyed and holds `n` coins -/
def ChildOK (n : Nat) (child : ChildFn) : Prop :=
  ∀ (env : Env) (g : Nat) (w : World) (rm : List Nat), env.q.selfDestructSelfKeeps = true → SafeW n w →
    (child env g w rm).status = 0 → (child env g w rm).err = none → SafeW n (child env g w rm).world

/-- one iteration of the interpreter loop conserves, given callees that do -/
theorem step_conserves (n : Nat) (hn : n < U64) (child : ChildFn) (hc : ChildOK n child) (env : Env)
    (hq : env.q.selfDestructSelfKeeps = true) (s : Frame) (hw : SafeW n s.world) :
    SafeW n (step child env s).val.2.world :=
  keeps_step hn hc env hq s hw

/-- … hence the whole loop, for any fuel -/
theorem run_conserves (n : Nat) (hn : n < U64) (child : ChildFn) (hc : ChildOK n child) (env : Env)
    (hq : env.q.selfDestructSelfKeeps = true) (fuel : Nat) (s : Frame) (hw : SafeW n s.world) :
    SafeW n (run child env fuel s).2.world :=
  run_safe hn hc env hq fuel s hw

/-- a frame (value transfer, then the code) conserves -/
theorem runFrame_conserves (n : Nat) (hn : n < U64) (child : ChildFn) (hc : ChildOK n child) : ChildOK n (runFrame child) :=
  runFrame_childKeeps hc

/-- … at every nesting depth -/
theorem runDepth_conserves (n : Nat) (hn : n < U64) : ∀ d : Nat, ChildOK n (runDepth d) :=
  runDepth_childKeeps

/-- **every execution conserves**: the accounts hold after it what they held before -/
theorem execTop_conserves (env : Env) (hq : env.q.selfDestructSelfKeeps = true) (gas : Nat) (pre : World) (depth : Nat)
    (n : Nat) (hn : n < U64) (hw : SafeW n pre) : SafeW n (execTop env gas pre depth).world :=
  execTop_safe env hq gas pre depth hw

/-- the implementation's configuration has the repair -/
example : Quirks.impl.selfDestructSelfKeeps = true := rfl

/-- a contract holding 7 coins that executes CREATE with an endowment of 3 and the one-byte init code `00` (STOP), then stops:
    `PUSH1 1 PUSH1 0 PUSH1 3 CREATE STOP`; the derivation oracle answers 0x3000 -/
def createEnv1 : Env :=
  { code := ⟨#[0x60, 0x01, 0x60, 0x00, 0x60, 0x03, 0xf0, 0x00]⟩, opBits := opcodeBits ⟨#[0x60, 0x01, 0x60, 0x00, 0x60, 0x03, 0xf0, 0x00]⟩,
    input := .empty, caller := 0x1000, callee := 0x2000, origin := 0x1000, value := 0, height := 1, time := 0, chainId := 0,
    fresh := fun _ _ => 0x3000 }
def createWorld1 : World :=
  [{ addr := 0x1000, balance := 5 }, { addr := 0x2000, balance := 7, code := ⟨#[0x60, 0x01, 0x60, 0x00, 0x60, 0x03, 0xf0, 0x00]⟩ }]

/-- non-vacuity of `execTop_conserves` on a creation: the pre-state is keyed and holds 12 coins … -/
example : SafeW 12 createWorld1 := ⟨by decide, by decide⟩

/-- … the execution succeeds, the new account exists and holds the endowment, the creator holds the rest, and the sum is 12 -/
theorem create_with_value_example :
    (execTop createEnv1 100000 createWorld1).err = none ∧
    balOf (execTop createEnv1 100000 createWorld1).world 0x3000 = 3 ∧
    balOf (execTop createEnv1 100000 createWorld1).world 0x2000 = 4 ∧
    total (execTop createEnv1 100000 createWorld1).world = 12 :=
  top_runs.1.1

/-- the same creation with an endowment the creator cannot pay (8 of 7 coins): the constructor's frame is dropped, no account
    appears, nothing moves -/
def createEnv2 : Env :=
  { createEnv1 with code := ⟨#[0x60, 0x01, 0x60, 0x00, 0x60, 0x08, 0xf0, 0x00]⟩,
                    opBits := opcodeBits ⟨#[0x60, 0x01, 0x60, 0x00, 0x60, 0x08, 0xf0, 0x00]⟩ }

theorem create_unpayable_example :
    (execTop createEnv2 100000 createWorld1).err = none ∧
    ((execTop createEnv2 100000 createWorld1).world.get 0x3000).isNone = true ∧
    total (execTop createEnv2 100000 createWorld1).world = 12 :=
  top_runs.1.2

end Shentu.Props.C01run

#print axioms Shentu.Props.C01run.step_conserves
#print axioms Shentu.Props.C01run.run_conserves
#print axioms Shentu.Props.C01run.runFrame_conserves
#print axioms Shentu.Props.C01run.runDepth_conserves
#print axioms Shentu.Props.C01run.execTop_conserves
#print axioms Shentu.Props.C01run.create_with_value_example
#print axioms Shentu.Props.C01run.create_unpayable_example
