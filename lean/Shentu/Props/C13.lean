import Shentu.Model.Gov
import Shentu.Proofs.C13HLemmas
/-
  C13 — Only certifiers certify, and the certifier set changes only by governance.
-/
namespace Shentu.Props.C13
open Shentu Shentu.Cert
open Shentu.C13H (issue_ok revoke_ok platform_ok add_ok remove_ok issue_ids add_addrs remove_addrs)

/-- the routing facts the gov model takes from the source were recognised -/
theorem tie_sites : Gen.Gov.allFound = true := rfl

/-- a certificate is issued exactly when the signer is a certifier at that moment -/
theorem issue_iff (s : State) (a : Addr) (k c : String) : (∃ s', issue s a k c = .ok s') ↔ isCertifier s a = true :=
  ⟨fun ⟨_, h⟩ => (issue_ok h).1, fun h => ⟨_, C13H.exec_issue_of_certifier k c h⟩⟩

/-- … it gets the next identifier, which then advances -/
theorem issue_fresh (s s' : State) (a : Addr) (k c : String) (h : issue s a k c = .ok s') :
    s'.certs = s.certs ++ [{ id := s.nextId, kind := k, content := c, certifier := a }] ∧ s'.nextId = s.nextId + 1 ∧
    s'.certifiers = s.certifiers ∧ s'.aliasIdx = s.aliasIdx := by
  obtain ⟨_, rfl⟩ := issue_ok h; exact ⟨rfl, rfl, rfl, rfl⟩

/-- identifiers are below the counter and pairwise distinct -/
def IdInv (s : State) : Prop := (∀ c ∈ s.certs, c.id < s.nextId) ∧ (s.certs.map (·.id)).Nodup

theorem issue_idInv (s s' : State) (a : Addr) (k c : String) (hi : IdInv s) (h : issue s a k c = .ok s') : IdInv s' :=
  issue_ids hi.1 hi.2 h

/-- a certificate is revoked exactly when it exists and the signer is a certifier; nothing else is removed -/
theorem revoke_iff (s : State) (a : Addr) (id : Nat) :
    (∃ s', revoke s a id = .ok s') ↔ (s.certs.any (·.id == id) = true ∧ isCertifier s a = true) := by
  constructor
  · intro ⟨s', h⟩; exact ⟨(revoke_ok h).1, (revoke_ok h).2.1⟩
  · intro ⟨h1, h2⟩; simp [revoke, h1, h2]

theorem revoke_keeps_others (s s' : State) (a : Addr) (id : Nat) (h : revoke s a id = .ok s') :
    (∀ c ∈ s.certs, c.id ≠ id → c ∈ s'.certs) ∧ (∀ c ∈ s'.certs, c ∈ s.certs) ∧ s'.certifiers = s.certifiers ∧ s'.nextId = s.nextId := by
  obtain ⟨_, _, rfl⟩ := revoke_ok h
  refine ⟨?_, ?_, rfl, rfl⟩
  · intro c hc hne; simp [List.mem_filter, hc, hne]
  · intro c hc; exact (List.mem_filter.mp hc).1

/-- a platform certification is accepted exactly from a certifier -/
theorem platform_iff (s : State) (a : Addr) (pk d : String) : (∃ s', certifyPlatform s a pk d = .ok s') ↔ isCertifier s a = true :=
  ⟨fun ⟨_, h⟩ => (platform_ok h).1, fun h => ⟨_, C13H.platform_of_certifier pk d h⟩⟩

/-- **No message changes the council**: issue, revoke and platform certification leave the certifier set and the alias index alone. -/
theorem messages_leave_council (s s' : State) (a : Addr) (k c pk d : String) (id : Nat) :
    (issue s a k c = .ok s' ∨ revoke s a id = .ok s' ∨ certifyPlatform s a pk d = .ok s') →
    s'.certifiers = s.certifiers ∧ s'.aliasIdx = s.aliasIdx := by
  rintro (h | h | h)
  · obtain ⟨_, rfl⟩ := issue_ok h; exact ⟨rfl, rfl⟩
  · obtain ⟨_, _, rfl⟩ := revoke_ok h; exact ⟨rfl, rfl⟩
  · obtain ⟨_, rfl⟩ := platform_ok h; exact ⟨rfl, rfl⟩

/-- certifier addresses are pairwise distinct (the store is keyed by address) -/
def AddrInv (s : State) : Prop := (s.certifiers.map (·.addr)).Nodup

theorem update_addrInv (s s' : State) (a : Addr) (al : String) (p : Addr) (add : Bool)
    (hi : AddrInv s) (h : handleUpdate s a al p add = .ok s') : AddrInv s' := by
  cases add with
  | true => exact add_addrs hi h
  | false => exact remove_addrs hi h

/-- the governance handler never empties the council -/
theorem update_keeps_nonempty (s s' : State) (a : Addr) (al : String) (p : Addr) (add : Bool)
    (hi : AddrInv s) (hne : s.certifiers ≠ []) (h : handleUpdate s a al p add = .ok s') : s'.certifiers ≠ [] := by
  cases add with
  | true => obtain ⟨_, _, rfl⟩ := add_ok h; simp
  | false =>
    obtain ⟨hlen, _, _, rfl⟩ := remove_ok h
    exact C13H.filter_ne_nil_of_two hi hne hlen a

/-- the alias index is exactly the non-empty aliases of the certifiers, and no alias is shared -/
def AliasInv (s : State) : Prop :=
  (∀ al ad, (al, ad) ∈ s.aliasIdx ↔ (al ≠ "" ∧ ∃ c ∈ s.certifiers, c.alias = al ∧ c.addr = ad)) ∧
  (∀ c1 ∈ s.certifiers, ∀ c2 ∈ s.certifiers, c1.alias ≠ "" → c1.alias = c2.alias → c1.addr = c2.addr)

/-- adding a certifier keeps aliases unique: an alias already in the index is refused -/
theorem add_keeps_alias_unique (s s' : State) (a : Addr) (al : String) (p : Addr)
    (hi : AliasInv s) (h : handleUpdate s a al p true = .ok s') :
    ∀ c1 ∈ s'.certifiers, ∀ c2 ∈ s'.certifiers, c1.alias ≠ "" → c1.alias = c2.alias → c1.addr = c2.addr := by
  obtain ⟨_, hal, rfl⟩ := add_ok h
  have hfree : ∀ c ∈ s.certifiers, c.alias ≠ "" → c.alias ≠ al := by
    intro c hc hne hca
    rcases hal with h0 | hany
    · exact hne (hca.trans h0)
    · exact List.any_eq_false.mp hany _ ((hi.1 al c.addr).mpr ⟨hca ▸ hne, c, hc, hca, rfl⟩) (beq_self_eq_true al)
  intro c1 h1 c2 h2 hne heq
  simp only [List.mem_append, List.mem_singleton] at h1 h2
  rcases h1 with h1 | rfl <;> rcases h2 with h2 | rfl
  · exact hi.2 c1 h1 c2 h2 hne heq
  · exact absurd heq (hfree c1 h1 hne)
  · exact absurd heq.symm (hfree c2 h2 fun h => hne (heq.trans h))
  · rfl

/-- removal cannot create a shared alias -/
theorem remove_keeps_alias_unique (s s' : State) (a : Addr) (al : String) (p : Addr)
    (hi : AliasInv s) (h : handleUpdate s a al p false = .ok s') :
    ∀ c1 ∈ s'.certifiers, ∀ c2 ∈ s'.certifiers, c1.alias ≠ "" → c1.alias = c2.alias → c1.addr = c2.addr := by
  obtain ⟨_, _, _, rfl⟩ := remove_ok h
  intro c1 h1 c2 h2
  exact hi.2 c1 (List.mem_filter.mp h1).1 c2 (List.mem_filter.mp h2).1

example : AddrInv { certifiers := [⟨"a", "x", "a"⟩, ⟨"b", "", "a"⟩], aliasIdx := [("x", "a")], certs := [], nextId := 1, platforms := [] } := by
  simp [AddrInv]

end Shentu.Props.C13

#print axioms Shentu.Props.C13.issue_iff
#print axioms Shentu.Props.C13.update_keeps_nonempty
#print axioms Shentu.Props.C13.add_keeps_alias_unique
