import Shentu.Model.Staking
import Shentu.Proofs.BankLemmas
import Shentu.Gen.Wiring
import Shentu.Proofs.Keys
import Shentu.Proofs.Lists
/-
  C09 — Staking takes effect: validator-set changes and unbondings are processed.

  The theorems are about the specification in Shentu/Model/Staking.lean.  It is tied to the code in three ways, all checked on
  every run: (1) `tie_wiring` — facts regenerated from x/staking/module.go and app/app.go by the translator (the wrapper's
  EndBlock calls the SDK end-blocker and returns its result; staking is in the end-blocker order, after shield, before gov);
  (2) the correspondence check compares `updates view (target …)` with the validator updates the real application returns
  from EndBlock on every block of the generated histories, and `completeUnbondings` with the observed balances;
  (3) the monitors evaluate `sameViewB` between the accumulated consensus view and the bonded set on every block.
-/
namespace Shentu.Props.C09
open Shentu Shentu.Staking Shentu.Ledger

/-- the wiring facts the translator extracts from the current source -/
theorem tie_wiring : Gen.Wiring.allFound = true ∧ Gen.Wiring.stakingEndBlockDelegates = true ∧
    Gen.Wiring.stakingInEndBlockers = true ∧ Gen.Wiring.shieldBeforeStaking = true ∧ Gen.Wiring.stakingBeforeGov = true := by decide

/-- every entry of a view is the first (hence the only relevant) one for its key -/
def Functional (w : View) : Prop := ∀ e ∈ w, lookup w e.1 = e.2

/-- every wrapper module hands every ABCI hook on to the module it wraps, with the hook's own arguments (the staking wrapper's
    `ExportGenesis` calls the SDK's export on the embedded keeper instead), and every module with a begin- or end-blocker of its own
    calls it first thing: nothing that the wrapped SDK modules do at block boundaries or at genesis is skipped -/
theorem tie_wrappers :
    Gen.Wiring.wrapperHandsOn =
      ["auth.InitGenesis", "auth.ExportGenesis", "auth.BeginBlock", "auth.EndBlock",
       "bank.InitGenesis", "bank.ExportGenesis", "bank.BeginBlock", "bank.EndBlock",
       "distribution.InitGenesis", "distribution.ExportGenesis", "distribution.BeginBlock", "distribution.EndBlock",
       "slashing.InitGenesis", "slashing.ExportGenesis", "slashing.BeginBlock", "slashing.EndBlock",
       "staking.InitGenesis", "staking.BeginBlock", "staking.EndBlock"] ∧
    Gen.Wiring.ownBlockers =
      ["mint.BeginBlock", "gov.EndBlock", "shield.EndBlock", "oracle.EndBlock", "oracle.BeginBlock", "cvm.BeginBlock", "cvm.EndBlock",
       "shield.BeginBlock", "crisis.EndBlock"] := ⟨rfl, rfl⟩

/-- a view is a keyed list: the power held for a key is that of the entry `find?` returns -/
theorem lookup_eq (w : View) (pk : String) : lookup w pk = ((w.find? (fun e => e.1 == pk)).map (·.2)).getD 0 := by
  induction w with
  | nil => rfl
  | cons x xs ih => rw [lookup, List.find?_cons, ih]; cases x.1 == pk <;> rfl

theorem lookup_none (w : View) (pk : String) (h : ∀ e ∈ w, ¬ e.1 = pk) : lookup w pk = 0 := by
  rw [lookup_eq, List.find?_eq_none.mpr fun e he => by simpa using h e he]; rfl

theorem lookup_applyOne (w : View) (u : String × Int) (pk : String) :
    lookup (applyOne w u) pk = if u.1 = pk then u.2 else lookup w pk := by
  rw [lookup_eq, lookup_eq, applyOne]
  split
  · next hz =>
    rw [Keyed.find_remove (fun e : String × Int => e.1)]
    split
    · exact (eq_of_beq hz).symm
    · rfl
  · rw [List.find?_append, Keyed.find_remove (fun e : String × Int => e.1)]
    split
    · next hk => simp [hk]
    · next hk => cases w.find? (fun e => e.1 == pk) <;> simp [hk]

theorem lookup_applyUpdates (us : View) (pk : String) (v : Int) (hv : ∀ u ∈ us, u.1 = pk → u.2 = v) (w : View) :
    lookup (applyUpdates w us) pk = if us.any (fun u => u.1 == pk) then v else lookup w pk := by
  unfold applyUpdates
  induction us generalizing w with
  | nil => simp
  | cons u us ih =>
    rw [List.forall_mem_cons] at hv
    rw [List.foldl_cons, ih hv.2, lookup_applyOne, List.any_cons]
    by_cases hk : u.1 = pk
    · simp [hk, hv.1 hk]
    · rw [if_neg hk, beq_false_of_ne hk, Bool.false_or]

/-- **Validator-set changes are reported**: whatever consensus had been told before (`last`), after applying the updates computed
    for the new set (`next`) consensus sees exactly `next` — new validators appear with their power, changed powers are
    replaced, validators that left are removed. -/
theorem updates_sync (last next : View) (hf : Functional next) :
    sameView (applyUpdates last (updates last next)) next := by
  intro pk
  have hmem : ∀ u, u ∈ updates last next ↔
      (u ∈ next ∧ lookup last u.1 ≠ u.2) ∨ ∃ e ∈ last, (∀ x ∈ next, ¬ x.1 = e.1) ∧ (e.1, 0) = u := by
    intro u
    simp only [updates, List.mem_append, List.mem_filter, List.mem_map, bne_iff_ne, Bool.not_eq_true', List.any_eq_false,
      beq_iff_eq, and_assoc]
  have hv : ∀ u ∈ updates last next, u.1 = pk → u.2 = lookup next pk := by
    intro u hu hk
    rcases (hmem u).mp hu with ⟨hm, _⟩ | ⟨e, _, hnot, rfl⟩
    · rw [← hk]; exact (hf u hm).symm
    · exact (lookup_none _ _ fun x hx hxk => hnot x hx (hxk.trans hk.symm)).symm
  rw [lookup_applyUpdates _ pk _ hv]
  split
  · rfl
  · next hany =>
    -- no update mentions pk: either it keeps its power or it was in neither view
    have hno : ∀ u ∈ updates last next, ¬ u.1 = pk :=
      fun u hu hk => hany (List.any_eq_true.mpr ⟨u, hu, beq_iff_eq.mpr hk⟩)
    by_cases hin : ∃ e ∈ next, e.1 = pk
    · obtain ⟨e, he, rfl⟩ := hin
      rw [hf e he]
      exact Classical.not_not.mp fun hch => hno e ((hmem e).mpr (.inl ⟨he, hch⟩)) rfl
    · rw [lookup_none next pk fun e he hk => hin ⟨e, he, hk⟩]
      exact lookup_none _ _ fun e he hk => hno (e.1, 0)
        ((hmem _).mpr (.inr ⟨e, he, fun x hx hxe => hin ⟨x, hx, hxe.trans hk⟩, rfl⟩)) hk

/-- consensus' view after a list of blocks: whatever it was (`v0`) followed, block by block, by the updates from the previous
    view to the block's target -/
def runBlocks (v0 : View) : List View → View
  | [] => v0
  | t :: ts => runBlocks (applyUpdates v0 (updates v0 t)) ts

/-- **At the end of every block** of any history consensus' view is the set that deserves to be bonded in that block. -/
theorem view_tracks_target (v0 : View) (targets : List View) (t : View) (hf : Functional t) :
    sameView (runBlocks v0 (targets ++ [t])) t := by
  induction targets generalizing v0 with
  | nil => exact updates_sync v0 t hf
  | cons x xs ih => exact ih _

theorem insVal_perm (v : Val) (l : List Val) : (insVal v l).Perm (v :: l) :=
  Shentu.insert_perm insVal
    (c := fun x v => ¬ (powerOf v.tokens > powerOf x.tokens || (powerOf v.tokens == powerOf x.tokens && v.op ≤ x.op)) = true)
    (fun _ => rfl) (fun v x xs => by rw [insVal, ite_not]) v l

theorem ranked_perm (l : List Val) : (ranked l).Perm l := Shentu.foldr_insert_perm insVal insVal_perm l

/-- whoever is in the target set is a validator that is not jailed, with its own non-zero power -/
theorem target_sound (vs : List Val) (maxN : Nat) (e : String × Int) (h : e ∈ target vs maxN) :
    ∃ v ∈ vs, v.pk = e.1 ∧ v.jailed = false ∧ e.2 = powerOf v.tokens ∧ 0 < e.2 := by
  unfold target at h
  obtain ⟨v, hv, rfl⟩ := List.mem_map.mp h
  have hv' := (ranked_perm _).subset (List.mem_of_mem_take hv)
  have hf := List.mem_filter.mp hv'
  have hp : v.jailed = false ∧ 0 < powerOf v.tokens := by simpa using hf.2
  exact ⟨v, hf.1, rfl, hp.1, rfl, hp.2⟩

theorem target_size (vs : List Val) (maxN : Nat) : (target vs maxN).length ≤ maxN := by
  unfold target; simp [List.length_take]; omega

theorem functional_of_nodup (w : View) (h : (w.map (·.1)).Nodup) : Functional w := fun e he => by
  rw [lookup_eq, Shentu.find_of_key h he]; rfl

/-- consensus keys are unique among validators (the SDK refuses a second validator with the same key): the target is a map -/
theorem target_functional (vs : List Val) (maxN : Nat) (h : (vs.map (·.pk)).Nodup) : Functional (target vs maxN) := by
  apply functional_of_nodup
  unfold target
  rw [List.map_map]
  have hcomp : ((fun e : String × Int => e.1) ∘ fun v : Val => (v.pk, powerOf v.tokens)) = (·.pk) := rfl
  rw [hcomp]
  have h1 : ((vs.filter (fun v => !v.jailed && powerOf v.tokens > 0)).map (·.pk)).Nodup :=
    h.sublist ((List.filter_sublist).map _)
  have h2 : ((ranked (vs.filter (fun v => !v.jailed && powerOf v.tokens > 0))).map (·.pk)).Nodup :=
    ((ranked_perm _).map _).nodup_iff.mpr h1
  exact h2.sublist ((List.take_sublist _ _).map _)

/-- **jailed or fully-unbonded validators are removed**: a key all of whose validators are jailed or without power is not in the set -/
theorem jailed_or_powerless_removed (vs : List Val) (maxN : Nat) (pk : String)
    (h : ∀ v ∈ vs, v.pk = pk → v.jailed = true ∨ powerOf v.tokens ≤ 0) : lookup (target vs maxN) pk = 0 := by
  apply lookup_none
  intro e he hk
  obtain ⟨v, hv, hpk, hj, hp, hpos⟩ := target_sound vs maxN e he
  rcases h v hv (hpk.trans hk) with h1 | h2
  · rw [hj] at h1; cases h1
  · omega

/-- **a newly created validator with enough stake becomes bonded**: while there are seats for every eligible validator, each of
    them is in the set with its power -/
theorem eligible_bonded_when_seats_free (vs : List Val) (maxN : Nat) (v : Val) (hv : v ∈ vs) (hj : v.jailed = false) (hp : 0 < powerOf v.tokens)
    (hseats : (vs.filter (fun v => !v.jailed && powerOf v.tokens > 0)).length ≤ maxN) : (v.pk, powerOf v.tokens) ∈ target vs maxN := by
  unfold target
  apply List.mem_map.mpr
  refine ⟨v, ?_, rfl⟩
  have hlen : (ranked (vs.filter (fun v => !v.jailed && powerOf v.tokens > 0))).length ≤ maxN := by
    rw [(ranked_perm _).length_eq]; exact hseats
  rw [List.take_of_length_le hlen]
  apply (ranked_perm _).symm.subset
  apply List.mem_filter.mpr
  exact ⟨hv, by simp [hj, hp]⟩

/-- **unbondings complete once the time has elapsed** — exactly those, the others stay as they are -/
theorem matured_iff (now : Int) (q : List Ubd) (u : Ubd) : u ∈ matured now q ↔ u ∈ q ∧ u.time ≤ now := by
  unfold matured; simp [List.mem_filter]
theorem pending_iff (now : Int) (q : List Ubd) (u : Ubd) : u ∈ pending now q ↔ u ∈ q ∧ now < u.time := by
  unfold pending; simp [List.mem_filter]
theorem nothing_lost (now : Int) (q : List Ubd) (u : Ubd) (h : u ∈ q) : u ∈ matured now q ∨ u ∈ pending now q := by
  by_cases ht : u.time ≤ now
  · left; exact (matured_iff now q u).mpr ⟨h, ht⟩
  · right; exact (pending_iff now q u).mpr ⟨h, by omega⟩

/-- **returning the coins to the delegator**, exactly: every account other than the pool gains the sum of its completed entries -/
theorem payBack_exact (l : Ledger) (pool : Addr) (bond : Denom) (us : List Ubd) (a : Addr) (ha : ¬ a = pool) :
    (payBack l pool bond us).balOf a bond = l.balOf a bond + returnedTo a us := by
  induction us generalizing l with
  | nil => simp [payBack, returnedTo]
  | cons u us ih =>
    unfold payBack returnedTo
    rw [ih, balOf_move, List.filter_cons, beq_false_of_ne (Ne.symm ha)]
    by_cases hd : u.del = a
    · simp [returnedTo, hd]; omega
    · simp [returnedTo, hd]

theorem payBack_supply (l : Ledger) (pool : Addr) (bond : Denom) (us : List Ubd) : (payBack l pool bond us).supply = l.supply := by
  induction us generalizing l with
  | nil => rfl
  | cons u us ih => unfold payBack; rw [ih]; rfl

theorem payBack_inv (l : Ledger) (pool : Addr) (bond : Denom) (us : List Ubd) (h : l.Inv) : (payBack l pool bond us).Inv := by
  induction us generalizing l with
  | nil => exact h
  | cons u us ih => unfold payBack; exact ih _ (inv_move l _ _ _ h)

/-- the end of a block for the unbonding queue, in one statement -/
theorem completeUnbondings_spec (l : Ledger) (pool : Addr) (bond : Denom) (now : Int) (q : List Ubd) (a : Addr) (ha : ¬ a = pool) :
    let r := completeUnbondings l pool bond now q
    r.1.balOf a bond = l.balOf a bond + returnedTo a (matured now q) ∧
    (∀ u, u ∈ r.2 ↔ u ∈ q ∧ now < u.time) := by
  refine ⟨payBack_exact l pool bond _ a ha, fun u => pending_iff now q u⟩

example : Functional (target [⟨"b", "pkB", 5000000, false⟩, ⟨"a", "pkA", 7000000, false⟩, ⟨"c", "pkC", 9000000, true⟩] 2) := by
  exact functional_of_nodup _ (by decide +kernel)
example : target [⟨"b", "pkB", 5000000, false⟩, ⟨"a", "pkA", 7000000, false⟩, ⟨"c", "pkC", 9000000, true⟩, ⟨"d", "pkD", 999999, false⟩] 2
    = [("pkA", 7), ("pkB", 5)] := by decide +kernel
example : applyUpdates [("pkB", 5), ("pkC", 9)] (updates [("pkB", 5), ("pkC", 9)] [("pkA", 7), ("pkB", 6)]) = [("pkA", 7), ("pkB", 6)] := by decide +kernel
example : (completeUnbondings ⟨[("pool", "uctk", 30)], [("uctk", 30)]⟩ "pool" "uctk" 10 [⟨"x", "v", 7, 10, 1⟩, ⟨"x", "v", 5, 11, 1⟩]).2 = [⟨"x", "v", 5, 11, 1⟩] := by decide +kernel

end Shentu.Props.C09
