import Shentu.Proofs.HaltOracle
import Shentu.Proofs.OracleStep
/-
  C14 — Oracle collateral is never lost and is released exactly at its due block.

  The model (`Shentu/Model/Oracle.lean`) consumes the guards and arithmetic regenerated from /repo
  (`Shentu/Gen/Oracle.lean`), so these statements are re-checked against what the source says on every run.
  Besides the property theorems the file holds the ghost history `Run` / `runStep` / `Conserved` with its step lemma
  `conserved_step`, and two helpers of its own (`upsertWd_mem`, `payWithdraws_bal`).
-/
namespace Shentu.Props.C14
open Shentu Shentu.Oracle

/-- every extraction site the oracle model depends on was recognised in the current source -/
theorem tie_sites : Gen.Oracle.allFound = true := by decide

/-- `IterateMatureWithdraws` selects exactly the withdrawals whose due block has been reached -/
theorem mature_iff (h : Int) (w : Withdraw) : mature h w = true ↔ w.due ≤ h := by
  simp [mature, Gen.Oracle.matureSkip]

/-- a withdrawal created at height h is due at h + lock -/
theorem due_is_height_plus_lock (h lock : Int) : Gen.Oracle.dueBlock h lock = h + lock := rfl

theorem upsertWd_mem (a : Addr) (due : Int) (amt : Coins) (l : List Withdraw) :
    ∀ w ∈ upsertWd a due amt l, w ∈ l ∨ (w.addr = a ∧ w.due = due) := by
  rw [upsertWd_eq]
  refine forall_upd (fun _ h => .inl h) (fun y _ hit => .inr ?_) (.inr ⟨rfl, rfl⟩)
  simp only [Bool.and_eq_true, beq_iff_eq] at hit
  exact ⟨hit.2, hit.1⟩

/-- every record `CreateWithdraw` adds or changes belongs to that operator and is due at h + lock -/
theorem createWithdraw_records (e : Env) (s : State) (a : Addr) (amt : Coins) :
    ∀ w ∈ (createWithdraw e s a amt).wds, w ∈ s.wds ∨ (w.addr = a ∧ w.due = e.h + s.params.lock) := by
  intro w hw
  exact upsertWd_mem a (e.h + s.params.lock) amt s.wds w hw

/-- Timing: with consecutive block heights, a withdrawal requested in block h0 is paid when the chain
    begins block `max due (h0+1)` — the next block if the lock is zero — and at no earlier block. -/
theorem paid_exactly_at_due (h0 : Int) (w : Withdraw) :
    mature (max w.due (h0 + 1)) w = true ∧ ∀ h, h0 < h → h < max w.due (h0 + 1) → mature h w = false := by
  constructor
  · rw [mature_iff]; omega
  · intro h h1 h2
    cases hm : mature h w with
    | false => rfl
    | true => rw [mature_iff] at hm; omega

example : mature 300 { addr := "a", amt := [("uctk", 5)], due := 300 } = true ∧
          mature 299 { addr := "a", amt := [("uctk", 5)], due := 300 } = false := by decide

/-- BeginBlock removes exactly the withdrawals whose due block has been reached: none stays overdue
    (not later), nothing else is touched (not earlier), and a removed record cannot be paid again. -/
theorem begin_block_exact (e : Env) (l l' : Ledger) (s s' : State)
    (h : beginBlock e l s = .ok (l', s')) :
    s'.wds = s.wds.filter (fun w => !(decide (w.due ≤ e.h))) ∧ s'.ops = s.ops := by
  obtain ⟨_, rfl⟩ := beginBlock_ok h
  simp only [← mature_iff, Bool.decide_eq_true, and_self]

-- An operator's claim is its collateral plus its pending withdrawals (`held`).

/-- reducing collateral moves the amount from collateral to a pending withdrawal of the same operator,
    however many times it is done in one block -/
theorem reduce_preserves_held (e : Env) (l l' : Ledger) (s s' : State) (a : Addr) (dec : Coins)
    (h : reduceCollateral e l s a dec = .ok (l', s')) (a' : Addr) (d : Denom) :
    held s' a' d = held s a' d := by
  rw [(stepE_opMsg (op := .reduceCollateral a dec) rfl h).held]; simp [opEff, Pay.innAt]

/-- leaving (operator removal) turns the whole collateral into a pending withdrawal -/
theorem remove_preserves_held (e : Env) (l l' : Ledger) (s s' : State) (a : Addr)
    (h : removeOperator e l s a = .ok (l', s')) (a' : Addr) (d : Denom) :
    held s' a' d = held s a' d := by
  rw [(stepE_opMsg (op := .removeOperator a) rfl h).held]; simp [opEff, Pay.innAt]

/-- becoming an operator: the claim grows by exactly the coins that moved into the module account -/
theorem create_deposits_exactly (e : Env) (l l' : Ledger) (s s' : State) (a : Addr) (c : Coins) (p : Addr)
    (h : createOperator e l s a c p = .ok (l', s')) :
    l' = l.move a e.modAddr c ∧ ∀ a' d, held s' a' d = held s a' d + (if a == a' then Coins.amountOf c d else 0) := by
  have hm := stepE_opMsg (op := .createOperator a c p) rfl h
  exact ⟨Ledger.send_ok _ _ _ _ _ hm.paid, hm.held⟩

theorem add_deposits_exactly (e : Env) (l l' : Ledger) (s s' : State) (a : Addr) (c : Coins)
    (h : addCollateral e l s a c = .ok (l', s')) :
    l' = l.move a e.modAddr c ∧ ∀ a' d, held s' a' d = held s a' d + (if a == a' then Coins.amountOf c d else 0) := by
  have hm := stepE_opMsg (op := .addCollateral a c) rfl h
  exact ⟨Ledger.send_ok _ _ _ _ _ hm.paid, hm.held⟩

/-- what the module pays out when a block begins -/
def returnedAt (e : Env) (s : State) (a : Addr) (d : Denom) : Int := pendList (s.wds.filter (mature e.h)) a d

theorem payWithdraws_bal (e : Env) : ∀ (ws : List Withdraw) (l l' : Ledger), payWithdraws e ws l = .ok l' →
    ∀ a d, a ≠ e.modAddr → l'.balOf a d = l.balOf a d + pendList ws a d := by
  intro ws l l' h a d ha
  rw [(payWithdraws_ok e ws l l' h).1, Ledger.balOf_paid, if_neg (by simpa using Ne.symm ha), pendList]; omega

/-- BeginBlock: what leaves an operator's claim arrives in that operator's account, coin for coin -/
theorem begin_returns_exactly (e : Env) (l l' : Ledger) (s s' : State)
    (h : beginBlock e l s = .ok (l', s')) (a : Addr) (d : Denom) :
    held s a d = held s' a d + returnedAt e s a d ∧
    (a ≠ e.modAddr → l'.balOf a d = l.balOf a d + returnedAt e s a d) := by
  obtain ⟨hp, rfl⟩ := beginBlock_ok h
  constructor
  · simp only [held, collAmt, pendAmt, findOp, returnedAt]
    have := pendList_split (mature e.h) s.wds a d
    omega
  · intro ha
    exact payWithdraws_bal e _ _ _ hp a d ha

/-- every other operation leaves every operator's claim untouched -/
theorem other_ops_preserve_held (e : Env) (l l' : Ledger) (s s' : State) (op : Op)
    (hop : match op with
      | .withdrawReward _ | .createTask .. | .respond .. | .deleteTask .. | .endBlock => True
      | _ => False)
    (h : stepE e l s op = .ok (l', s')) (a : Addr) (d : Denom) : held s' a d = held s a d := by
  cases op <;> simp only at hop
  case withdrawReward a0 => rw [(stepE_opMsg (op := .withdrawReward a0) rfl h).held]; simp [opEff, Pay.innAt]
  case createTask c f _ _ _ _ | respond c f _ _ | deleteTask c f _ _ =>
    obtain ⟨_, hev⟩ := stepE_taskEv (k := c ++ f) rfl h
    exact hev.msg.sameColl.held_eq a d
  case endBlock =>
    obtain ⟨rfl, hr⟩ := Except.map_pair_ok h
    exact (sameColl_endBlock e s s' hr).held_eq a d

/-- ghost accounting along a history: what each account put up and what it got back -/
structure Run where
  l : Ledger
  s : State
  deposited : Addr → Denom → Int
  returned : Addr → Denom → Int

def runStep (r : Run) (eo : Env × Op) : Run :=
  match stepE eo.1 r.l r.s eo.2 with
  | .error _ => r
  | .ok (l', s') =>
    match eo.2 with
    | .createOperator a c _ =>
      Run.mk l' s' (fun a' d => r.deposited a' d + (if a == a' then Coins.amountOf c d else 0)) r.returned
    | .addCollateral a c =>
      Run.mk l' s' (fun a' d => r.deposited a' d + (if a == a' then Coins.amountOf c d else 0)) r.returned
    | .beginBlock =>
      Run.mk l' s' r.deposited (fun a' d => r.returned a' d + returnedAt eo.1 r.s a' d)
    | _ => Run.mk l' s' r.deposited r.returned

def Conserved (r : Run) : Prop := ∀ a d, r.deposited a d = collAmt r.s a d + pendAmt r.s a d + r.returned a d

theorem conserved_step (r : Run) (eo : Env × Op) (h : Conserved r) : Conserved (runStep r eo) := by
  obtain ⟨e, op⟩ := eo
  unfold runStep
  cases hs : stepE e r.l r.s op with
  | error x => exact h
  | ok ls =>
    obtain ⟨l', s'⟩ := ls
    intro a d
    have hh := h a d
    -- `Conserved` spells `held` out as `collAmt + pendAmt`; each arm is the theorem about that operation, unfolded to that
    cases op with
    | createOperator a0 c p =>
      have := (create_deposits_exactly e r.l l' r.s s' a0 c p hs).2 a d
      simp only [held] at this; dsimp only; omega
    | addCollateral a0 c =>
      have := (add_deposits_exactly e r.l l' r.s s' a0 c hs).2 a d
      simp only [held] at this; dsimp only; omega
    | reduceCollateral a0 c =>
      have := reduce_preserves_held e r.l l' r.s s' a0 c hs a d
      simp only [held] at this; dsimp only; omega
    | removeOperator a0 =>
      have := remove_preserves_held e r.l l' r.s s' a0 hs a d
      simp only [held] at this; dsimp only; omega
    | beginBlock =>
      have := (begin_returns_exactly e r.l l' r.s s' hs a d).1
      simp only [held] at this; dsimp only; omega
    | withdrawReward a0 =>
      have := other_ops_preserve_held e r.l l' r.s s' (.withdrawReward a0) trivial hs a d
      simp only [held] at this; dsimp only; omega
    | createTask c f b cr w v =>
      have := other_ops_preserve_held e r.l l' r.s s' (.createTask c f b cr w v) trivial hs a d
      simp only [held] at this; dsimp only; omega
    | respond c f sc o =>
      have := other_ops_preserve_held e r.l l' r.s s' (.respond c f sc o) trivial hs a d
      simp only [held] at this; dsimp only; omega
    | deleteTask c f fo dl =>
      have := other_ops_preserve_held e r.l l' r.s s' (.deleteTask c f fo dl) trivial hs a d
      simp only [held] at this; dsimp only; omega
    | endBlock =>
      have := other_ops_preserve_held e r.l l' r.s s' .endBlock trivial hs a d
      simp only [held] at this; dsimp only; omega

/-- **C14, conservation.** Along every history of oracle operations, blocks and failed transactions,
    every coin an account put up as collateral is part of its collateral, part of a pending
    withdrawal of its own, or has been returned to it. -/
theorem collateral_conserved (ops : List (Env × Op)) (r0 : Run) (h0 : Conserved r0) :
    Conserved (ops.foldl runStep r0) :=
  List.foldlRecOn (motive := Conserved) ops _ h0 fun r h eo _ => conserved_step r eo h

/-- the empty oracle state satisfies the hypothesis (non-vacuity) -/
example : Conserved { l := default, s := { ops := [], wds := [], total := [], tasks := [], closing := [], params := default },
                      deposited := fun _ _ => 0, returned := fun _ _ => 0 } := by
  intro a d; simp [collAmt, pendAmt, pendList, findOp]

end Shentu.Props.C14

open Shentu.Props.C14 in
#print axioms tie_sites
#print axioms Shentu.Props.C14.mature_iff
#print axioms Shentu.Props.C14.due_is_height_plus_lock
#print axioms Shentu.Props.C14.createWithdraw_records
#print axioms Shentu.Props.C14.paid_exactly_at_due
#print axioms Shentu.Props.C14.begin_block_exact
#print axioms Shentu.Props.C14.reduce_preserves_held
#print axioms Shentu.Props.C14.remove_preserves_held
#print axioms Shentu.Props.C14.create_deposits_exactly
#print axioms Shentu.Props.C14.add_deposits_exactly
#print axioms Shentu.Props.C14.begin_returns_exactly
#print axioms Shentu.Props.C14.other_ops_preserve_held
#print axioms Shentu.Props.C14.collateral_conserved
